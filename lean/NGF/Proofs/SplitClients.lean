/-
C15, float variant: error analysis of `percentOf` (three roundings around `Floor`) and of the float remainder
accumulation in `createSplitClientDistributions`; and what the integer theorems of `NGF.Props.C15` share with it:
`Admissible` weight vectors, `commentedOut_iff`, `total_eq_sum`. Core Lean only.
-/
import NGF.Proofs.F64
import NGF.Model.SplitClients
namespace NGF.SplitClients
open NGF.F64

theorem quot_bounds {N T : Nat} (hT : 0 < T) (c : Nat) (h : N ≤ c * T) :
    0 ≤ (N : Rat) / (T : Rat) ∧ (N : Rat) / (T : Rat) ≤ (c : Rat) := by
  have Tpos : (0 : Rat) < (T : Rat) := Rat.natCast_pos.mpr hT
  refine ⟨div_nonneg' Rat.natCast_nonneg Tpos, ?_⟩
  apply Rat.le_of_mul_le_mul_right (c := (T : Rat)) _ Tpos
  rw [Rat.div_mul_cancel (Rat.ne_of_gt Tpos), ← Rat.natCast_mul]
  exact Rat.natCast_le_natCast.mpr h

theorem two_roundings (X : Rat) (h0 : 0 ≤ X) (h1 : X ≤ 10000) :
    rn (rn (X / 100) * 100) - X ≤ 1 / 100000000000 ∧ X - rn (rn (X / 100) * 100) ≤ 1 / 100000000000 := by
  have x0 : 0 ≤ X / 100 := div_nonneg' h0 (by decide)
  have e1 := rn_err (X / 100)
  rw [abs_of_nonneg x0] at e1
  have p0 := rn_nonneg x0
  have e2 := rn_err (rn (X / 100) * 100)
  rw [abs_of_nonneg (Rat.mul_nonneg p0 (by decide))] at e2
  generalize rn (rn (X / 100) * 100) = q at *
  generalize rn (X / 100) = p at *
  grind

theorem floor_of_near_frac {q g : Rat} {k : Int} (h1 : q - ((k : Rat) + g) ≤ 1 / 100000000000)
    (h2 : (k : Rat) + g - q ≤ 1 / 100000000000) (g1 : 1 / 16000000 ≤ g) (g2 : g ≤ 15999999 / 16000000) :
    q.floor = k := by
  have c : (k : Rat) ≤ q ∧ q < (k : Rat) + 1 := by grind
  have a : k ≤ q.floor := Rat.le_floor_iff.mpr c.1
  have b : q.floor < k + 1 := Rat.floor_lt_iff.mpr (by rw [Rat.intCast_add, Rat.intCast_one]; exact c.2)
  omega

theorem floor_of_near_int {q : Rat} {k : Int} (h1 : q - (k : Rat) ≤ 1 / 100000000000)
    (h2 : (k : Rat) - q ≤ 1 / 100000000000) : q.floor = k ∨ q.floor + 1 = k := by
  have c : (k : Rat) - 1 ≤ q ∧ q < (k : Rat) + 1 := by grind
  have a : k - 1 ≤ q.floor := Rat.le_floor_iff.mpr (by rw [Rat.intCast_sub, Rat.intCast_one]; exact c.1)
  have b : q.floor < k + 1 := Rat.floor_lt_iff.mpr (by rw [Rat.intCast_add, Rat.intCast_one]; exact c.2)
  omega

/-- The key lemma: a rational `N/T` with `T ≤ 1.6·10⁷` that is not an integer is at least `1/T ≥ 6.25·10⁻⁸`
away from every integer, so a value within 10⁻¹¹ of it has the same floor; if `N/T` is an integer the floor
may be one less. -/
theorem floor_of_near (q : Rat) (N T : Nat) (hT : 0 < T) (hT' : T ≤ 16000000)
    (h1 : q - (N : Rat) / (T : Rat) ≤ 1 / 100000000000)
    (h2 : (N : Rat) / (T : Rat) - q ≤ 1 / 100000000000) :
    q.floor = ((N / T : Nat) : Int) ∨ (N % T = 0 ∧ q.floor + 1 = ((N / T : Nat) : Int)) := by
  have Tpos : (0 : Rat) < (T : Rat) := Rat.natCast_pos.mpr hT
  have hH : (N : Rat) / (T : Rat) = (((N / T : Nat) : Int) : Rat) + ((N % T : Nat) : Rat) / (T : Rat) := by
    have hN := congrArg (Nat.cast : Nat → Rat) (Nat.div_add_mod N T)
    rw [Rat.natCast_add, Rat.natCast_mul] at hN
    have Tne := Rat.ne_of_gt Tpos
    rw [← hN, Rat.intCast_natCast]
    generalize ((N / T : Nat) : Rat) = k, ((N % T : Nat) : Rat) = r, (T : Rat) = t at *
    grind
  rw [hH] at h1 h2
  by_cases hr0 : N % T = 0
  · have z : ((0 : Nat) : Rat) / (T : Rat) = 0 := by rw [Rat.div_def]; exact Rat.zero_mul _
    rw [hr0, z, Rat.add_zero] at h1 h2
    exact (floor_of_near_int h1 h2).imp_right fun h => ⟨hr0, h⟩
  · have hr : N % T < T := Nat.mod_lt _ hT
    refine .inl (floor_of_near_frac h1 h2 (div_le_div_of_mul_le (by decide) Tpos ?_)
      (div_le_div_of_mul_le Tpos (by decide) ?_))
    · have := Rat.natCast_le_natCast.mpr (show 1 * T ≤ N % T * 16000000 by omega)
      rwa [Rat.natCast_mul, Rat.natCast_mul] at this
    · have := Rat.natCast_le_natCast.mpr (show N % T * 16000000 ≤ 15999999 * T by omega)
      rwa [Rat.natCast_mul, Rat.natCast_mul] at this

theorem percentOf_unfold (w T : Nat) (hw : w ≤ 16000000) (hT : T ≤ 16000000) :
    percentOf w T =
      rn (((rn (rn (((10000 * w : Nat) : Rat) / (T : Rat) / 100) * 100)).floor : Rat) / 100) := by
  have e1 : rn (w : Rat) = (w : Rat) := rn_natCast (by omega)
  have e2 : rn (T : Rat) = (T : Rat) := rn_natCast (by omega)
  have e3 : (w : Rat) * 100 = ((w * 100 : Nat) : Rat) := (Rat.natCast_mul w 100).symm
  have e4 : rn ((w * 100 : Nat) : Rat) = ((w * 100 : Nat) : Rat) := rn_natCast (by omega)
  have e5 : ((w * 100 : Nat) : Rat) / (T : Rat) = ((10000 * w : Nat) : Rat) / (T : Rat) / 100 := by
    rw [Rat.natCast_mul, Rat.natCast_mul]
    generalize (w : Rat) = x, (T : Rat) = t
    have : ((10000 : Nat) : Rat) = 10000 := rfl
    have : ((100 : Nat) : Rat) = 100 := rfl
    grind
  simp only [percentOf, fdiv, fmul, ffloor, ofNat, e1, e2, e3, e4, e5]

theorem percentOf_zero (T : Nat) (hT : T ≤ 16000000) : percentOf 0 T = 0 := by
  rw [percentOf_unfold 0 T (by omega) hT]
  have z : ((10000 * 0 : Nat) : Rat) / (T : Rat) / 100 = 0 := by
    simp [Rat.div_def, Rat.zero_mul]
  rw [z, rn_zero, Rat.zero_mul, rn_zero]
  have : ((0 : Rat).floor : Rat) / 100 = 0 := by
    have : (0 : Rat).floor = 0 := Rat.floor_intCast 0
    rw [this]; simp [Rat.div_def, Rat.zero_mul]
  rw [this, rn_zero]

theorem fmt2_cents (F : Nat) (hF : F ≤ 10000) :
    fmt2 (rn ((F : Rat) / 100)) = ⟨false, F⟩ ∧
    rn ((F : Rat) / 100) - (F : Rat) / 100 ≤ 1 / 70000000000000 ∧
    (F : Rat) / 100 - rn ((F : Rat) / 100) ≤ 1 / 70000000000000 := by
  have F1 : (F : Rat) ≤ 10000 := Rat.natCast_le_natCast.mpr hF
  have x0 : (0 : Rat) ≤ (F : Rat) / 100 := div_nonneg' Rat.natCast_nonneg (by decide)
  have e := rn_err ((F : Rat) / 100)
  rw [abs_of_nonneg x0] at e
  have s0 := rn_nonneg x0
  generalize rn ((F : Rat) / 100) = s at *
  have hb : s - (F : Rat) / 100 ≤ 1 / 70000000000000 ∧ (F : Rat) / 100 - s ≤ 1 / 70000000000000 := by grind
  refine ⟨?_, hb⟩
  clear e F1 x0
  have hr : rhe (abs s * 100) = (F : Int) := by
    rw [abs_of_nonneg s0]
    refine rhe_eq_of_near _ _ ?_
    rw [Rat.intCast_natCast]; grind
  simp [fmt2, Rat.not_lt.mpr s0, hr]

theorem percentOf_floor (w T : Nat) (hT : 0 < T) (hT' : T ≤ 16000000) (hw : w ≤ T) :
    ∃ F : Nat, percentOf w T = rn ((F : Rat) / 100) ∧
      (F = 10000 * w / T ∨ ((10000 * w) % T = 0 ∧ F + 1 = 10000 * w / T)) := by
  rw [percentOf_unfold w T (by omega) hT']
  obtain ⟨H0, H1⟩ := quot_bounds hT 10000 (show 10000 * w ≤ 10000 * T by omega)
  have tr := two_roundings _ H0 H1
  have fl := floor_of_near _ (10000 * w) T hT hT' tr.1 tr.2
  have f0 : 0 ≤ (rn (rn (((10000 * w : Nat) : Rat) / (T : Rat) / 100) * 100)).floor :=
    Rat.le_floor_iff.mpr (rn_nonneg (Rat.mul_nonneg (rn_nonneg (div_nonneg' H0 (by decide))) (by decide)))
  generalize (rn (rn (((10000 * w : Nat) : Rat) / (T : Rat) / 100) * 100)).floor = f at *
  rcases fl with h | ⟨h0, h⟩
  · exact ⟨10000 * w / T, by rw [h, Rat.intCast_natCast], .inl rfl⟩
  · refine ⟨10000 * w / T - 1, ?_, .inr ⟨h0, by omega⟩⟩
    rw [show f = ((10000 * w / T - 1 : Nat) : Int) by omega, Rat.intCast_natCast]

theorem floor_bracket {w T F : Nat} (hT : 0 < T)
    (h : F = 10000 * w / T ∨ ((10000 * w) % T = 0 ∧ F + 1 = 10000 * w / T)) :
    F * T ≤ 10000 * w ∧ 10000 * w ≤ (F + 1) * T := by
  have hdm : T * (10000 * w / T) + (10000 * w) % T = 10000 * w := Nat.div_add_mod _ _
  have hr : (10000 * w) % T < T := Nat.mod_lt _ hT
  generalize 10000 * w / T = k at *
  generalize (10000 * w) % T = r at *
  generalize 10000 * w = N at *
  rcases h with h | ⟨h0, h⟩
  · subst h
    rw [Nat.add_mul, Nat.one_mul, Nat.mul_comm F T]
    omega
  · subst h0; subst h
    rw [Nat.mul_add, Nat.mul_one] at hdm
    rw [Nat.add_mul, Nat.one_mul, Nat.mul_comm F T]
    omega

theorem floor_le_10000 {w T F : Nat} (hT : 0 < T) (hw : w ≤ T) (h : F * T ≤ 10000 * w) : F ≤ 10000 :=
  Nat.le_of_mul_le_mul_right (Nat.le_trans h (Nat.mul_le_mul_left _ hw)) hT

theorem percentOf_spec (w T : Nat) (hT : 0 < T) (hT' : T ≤ 16000000) (hw : w ≤ T) :
    ∃ F : Nat, fmt2 (percentOf w T) = ⟨false, F⟩ ∧ F ≤ 10000 ∧
      F * T ≤ 10000 * w ∧ 10000 * w ≤ (F + 1) * T ∧ (w = 0 → F = 0) ∧
      percentOf w T - (F : Rat) / 100 ≤ 1 / 70000000000000 ∧
      (F : Rat) / 100 - percentOf w T ≤ 1 / 70000000000000 := by
  obtain ⟨F, hp, hF⟩ := percentOf_floor w T hT hT' hw
  have hb := floor_bracket hT hF
  have hF' := floor_le_10000 hT hw hb.1
  rw [hp]
  refine ⟨F, (fmt2_cents F hF').1, hF', hb.1, hb.2, ?_, (fmt2_cents F hF').2⟩
  intro h0
  subst h0
  rcases Nat.mul_eq_zero.mp (Nat.le_zero.mp hb.1) with h | h <;> omega

/-- relation between a weight and the hundredths printed for it (non-last backends) -/
def Floors (T w F : Nat) : Prop :=
  F * T ≤ 10000 * w ∧ 10000 * w ≤ (F + 1) * T ∧ (w = 0 → F = 0)

def AllFloors (T : Nat) : List Nat → List Nat → Prop
  | [], [] => True
  | w :: ws, F :: Fs => Floors T w F ∧ AllFloors T ws Fs
  | _, _ => False

/-- one step of `availablePercentage -= percentage` on the numbers: the remainder `avail ≈ c/100` (error `jj·10⁻¹²`)
minus a share `p ≈ f/100` is, after rounding, within `(jj+1)·10⁻¹²` of `(c − f)/100` -/
theorem fsub_near {avail p c f jj : Rat} (hj : jj ≤ 15) (hf0 : 0 ≤ f) (hf : f ≤ 10000)
    (c1 : -150000 ≤ c) (c2 : c ≤ 10000)
    (ha : avail - c / 100 ≤ jj * (1 / 1000000000000) ∧ c / 100 - avail ≤ jj * (1 / 1000000000000))
    (hp : p - f / 100 ≤ 1 / 70000000000000 ∧ f / 100 - p ≤ 1 / 70000000000000) :
    fsub avail p - (c - f) / 100 ≤ (jj + 1) * (1 / 1000000000000) ∧
    (c - f) / 100 - fsub avail p ≤ (jj + 1) * (1 / 1000000000000) := by
  have e := rn_err (avail - p)
  have hab : avail - p ≤ 2048 ∧ -2048 ≤ avail - p := by grind
  have hA := abs_le_of hab.1 hab.2
  unfold fsub
  generalize rn (avail - p) = r at *
  generalize abs (avail - p) = A at *
  clear hab c1 c2 hf0 hf
  grind

/-- the same with the integer bookkeeping of the loop: `C` hundredths are left after `j` steps -/
theorem fsub_step (avail p : Rat) (C : Int) (F j : Nat) (hj : j ≤ 15) (hF : F ≤ 10000)
    (hC1 : 10000 - 10000 * (j : Int) ≤ C) (hC2 : C ≤ 10000)
    (ha : avail - (C : Rat) / 100 ≤ (j : Rat) * (1 / 1000000000000) ∧
      (C : Rat) / 100 - avail ≤ (j : Rat) * (1 / 1000000000000))
    (hp : p - (F : Rat) / 100 ≤ 1 / 70000000000000 ∧ (F : Rat) / 100 - p ≤ 1 / 70000000000000) :
    fsub avail p - ((C - (F : Int) : Int) : Rat) / 100 ≤ ((j + 1 : Nat) : Rat) * (1 / 1000000000000) ∧
    ((C - (F : Int) : Int) : Rat) / 100 - fsub avail p ≤ ((j + 1 : Nat) : Rat) * (1 / 1000000000000) := by
  rw [Rat.intCast_sub, Rat.intCast_natCast, Rat.natCast_add]
  exact fsub_near (Rat.natCast_le_natCast.mpr hj) Rat.natCast_nonneg
    (Rat.natCast_le_natCast.mpr hF) (Rat.intCast_le_intCast.mpr (show (-150000 : Int) ≤ C by omega))
    (Rat.intCast_le_intCast.mpr hC2) ha hp

/-- the loop of `createSplitClientDistributions`: every non-last value prints as the floor hundredths `Fs`,
and the float remainder `a` is within 1.5·10⁻¹¹ of the exact remainder `(C − ΣFs)/100` -/
theorem shareVals_spec (T : Nat) (hT : 0 < T) (hT' : T ≤ 16000000) :
    ∀ (ws : List Nat) (avail : Rat) (C : Int) (j : Nat),
      (∀ w ∈ ws, w ≤ T) → j + ws.length ≤ 16 → ws ≠ [] →
      10000 - 10000 * (j : Int) ≤ C → C ≤ 10000 →
      (avail - (C : Rat) / 100 ≤ (j : Rat) * (1 / 1000000000000) ∧
        (C : Rat) / 100 - avail ≤ (j : Rat) * (1 / 1000000000000)) →
      ∃ (Fs : List Nat) (a : Rat),
        (shareVals T avail ws).map fmt2 = Fs.map (fun F => (⟨false, F⟩ : Dec2)) ++ [fmt2 a] ∧
        AllFloors T ws.dropLast Fs ∧
        a - ((C - (Fs.sum : Int) : Int) : Rat) / 100 ≤ 15 * (1 / 1000000000000) ∧
        ((C - (Fs.sum : Int) : Int) : Rat) / 100 - a ≤ 15 * (1 / 1000000000000) := by
  intro ws
  induction ws with
  | nil => intro _ _ _ _ _ h; exact absurd rfl h
  | cons w rest ih =>
    intro avail C j hws hlen _ hC1 hC2 ha
    cases rest with
    | nil =>
      refine ⟨[], avail, by simp [shareVals], by simp [AllFloors], ?_⟩
      have hjR : (j : Rat) * (1 / 1000000000000) ≤ 15 * (1 / 1000000000000) :=
        Rat.mul_le_mul_of_nonneg_right (Rat.natCast_le_natCast.mpr (show j ≤ 15 by simp at hlen; omega))
          (Rat.le_of_lt (div_pos' (by decide) (by decide)))
      simp only [List.sum_nil, Int.natCast_zero, Int.sub_zero]
      exact ⟨Rat.le_trans ha.1 hjR, Rat.le_trans ha.2 hjR⟩
    | cons w' rest' =>
      obtain ⟨F, hfmt, hF, hb1, hb2, hz, hp⟩ := percentOf_spec w T hT hT' (hws w (by simp))
      have hj : j ≤ 14 := by simp at hlen; omega
      obtain ⟨Fs, a, h1, h2, h3⟩ := ih (fsub avail (percentOf w T)) (C - (F : Int)) (j + 1)
        (fun x hx => hws x (List.mem_cons_of_mem _ hx))
        (by simp at hlen ⊢; omega) (by simp) (by omega) (by omega)
        (fsub_step avail (percentOf w T) C F j (by omega) hF hC1 hC2 ha hp)
      refine ⟨F :: Fs, a, ?_, ⟨⟨hb1, hb2, hz⟩, h2⟩, ?_⟩
      · simp only [shareVals, List.map_cons, hfmt, h1, List.cons_append]
      · have e : C - ((F :: Fs).sum : Nat) = C - (F : Int) - (Fs.sum : Int) := by
          simp only [List.sum_cons, Int.natCast_add]; omega
        rw [e]; exact h3

theorem le_sum_of_mem {ws : List Nat} {w : Nat} (h : w ∈ ws) : w ≤ ws.sum := by
  induction ws with
  | nil => simp at h
  | cons a t ih =>
    simp only [List.mem_cons] at h
    simp only [List.sum_cons]
    rcases h with h | h
    · omega
    · have := ih h; omega

theorem sum_le_length_mul {ws : List Nat} {m : Nat} (h : ∀ w ∈ ws, w ≤ m) : ws.sum ≤ ws.length * m := by
  induction ws with
  | nil => simp
  | cons a t ih =>
    have h1 : a ≤ m := h a (by simp)
    have h2 := ih (fun w hw => h w (by simp [hw]))
    simp only [List.sum_cons, List.length_cons, Nat.add_mul, Nat.one_mul]
    omega

theorem sum_dropLast_add_getLast (ws : List Nat) (h : ws ≠ []) :
    ws.dropLast.sum + ws.getLast h = ws.sum := by
  have := congrArg List.sum (List.dropLast_concat_getLast h)
  simpa [List.sum_append_nat] using this

theorem allFloors_sum {T : Nat} : ∀ {ws Fs : List Nat}, AllFloors T ws Fs →
    Fs.sum * T ≤ 10000 * ws.sum ∧ 10000 * ws.sum ≤ (Fs.sum + Fs.length) * T ∧ Fs.length = ws.length
  | [], [], _ => by simp
  | w :: ws, F :: Fs, h => by
    obtain ⟨⟨h1, h2, _⟩, hr⟩ := h
    obtain ⟨i1, i2, i3⟩ := allFloors_sum hr
    simp only [List.sum_cons, List.length_cons, Nat.add_mul, Nat.mul_add, Nat.one_mul] at *
    omega
  | [], _ :: _, h => by simp [AllFloors] at h
  | _ :: _, [], h => by simp [AllFloors] at h

theorem fmt2_near (L : Nat) (a : Rat)
    (h : a - ((L : Int) : Rat) / 100 ≤ 15 * (1 / 1000000000000) ∧
      ((L : Int) : Rat) / 100 - a ≤ 15 * (1 / 1000000000000)) :
    (fmt2 a).cents = L ∧ (1 ≤ L → (fmt2 a).neg = false) := by
  rw [Rat.intCast_natCast] at h
  have L0 : (0 : Rat) ≤ (L : Rat) := Rat.natCast_nonneg
  constructor
  · have hr : rhe (abs a * 100) = (L : Int) := by
      refine rhe_eq_of_near _ _ ?_
      rw [Rat.intCast_natCast]; unfold abs; split <;> grind
    simp [fmt2, hr]
  · intro hL
    have L1 : (1 : Rat) ≤ (L : Rat) := Rat.natCast_le_natCast.mpr hL
    simp only [fmt2, decide_eq_false_iff_not]
    grind

/-- the last share `L = 10⁴ − ΣF` against the last weight `G`, from the floor brackets `S = ΣF` of the other weights
(sum `D`) -/
theorem last_share_bounds {S D G T m L : Nat} (s1 : S * T ≤ 10000 * D) (s2 : 10000 * D ≤ S * T + m * T)
    (hd : D + G = T) (hL : L + S = 10000) : 10000 * G ≤ L * T ∧ L * T ≤ 10000 * G + m * T := by
  have e1 : L * T + S * T = 10000 * T := by rw [← Nat.add_mul, hL]
  have e2 : 10000 * D + 10000 * G = 10000 * T := by rw [← Nat.mul_add, hd]
  omega

/-- hypotheses of the quantifier of C15: 2..16 backends, weights in 0..10⁶, not all zero -/
structure Admissible (ws : List Nat) : Prop where
  two : 2 ≤ ws.length
  sixteen : ws.length ≤ 16
  range : ∀ w ∈ ws, w ≤ 1000000
  pos : 0 < ws.sum

theorem Admissible.ne_nil {ws : List Nat} (h : Admissible ws) : ws ≠ [] := by
  intro e; have := h.two; simp [e] at this

theorem Admissible.sum_le {ws : List Nat} (h : Admissible ws) : ws.sum ≤ 16000000 := by
  have := sum_le_length_mul h.range
  have : ws.length * 1000000 ≤ 16 * 1000000 := Nat.mul_le_mul_right _ h.sixteen
  omega

theorem floatShares_main (ws : List Nat) (h : Admissible ws) :
    ∃ (Fs : List Nat) (last : Dec2),
      floatShares ws = Fs.map (fun F => (⟨false, F⟩ : Dec2)) ++ [last] ∧
      AllFloors ws.sum ws.dropLast Fs ∧
      last.cents + Fs.sum = 10000 ∧
      (1 ≤ last.cents → last.neg = false) ∧
      10000 * ws.getLast h.ne_nil ≤ last.cents * ws.sum ∧
      last.cents * ws.sum ≤ 10000 * ws.getLast h.ne_nil + (ws.length - 1) * ws.sum := by
  have hT' := h.sum_le
  have h100 : ofNat 100 = 100 := by
    have := rn_natCast (n := 100) (by decide); simpa [ofNat] using this
  obtain ⟨Fs, a, e1, e2, e3⟩ := shareVals_spec ws.sum h.pos hT' ws (ofNat 100) 10000 0
    (fun w hw => le_sum_of_mem hw) (by have := h.sixteen; omega) h.ne_nil (by simp) (by simp)
    (by rw [h100]; simp <;> grind)
  obtain ⟨s1, s2, s3⟩ := allFloors_sum e2
  have hd := sum_dropLast_add_getLast ws h.ne_nil
  have hle : Fs.sum ≤ 10000 :=
    Nat.le_of_mul_le_mul_right (Nat.le_trans s1 (Nat.mul_le_mul_left _ (by omega))) h.pos
  rw [show (10000 : Int) - (Fs.sum : Int) = ((10000 - Fs.sum : Nat) : Int) by omega] at e3
  obtain ⟨f1, f2⟩ := fmt2_near (10000 - Fs.sum) a e3
  have hL : (fmt2 a).cents + Fs.sum = 10000 := by omega
  rw [Nat.add_mul, s3, List.length_dropLast] at s2
  obtain ⟨b1, b2⟩ := last_share_bounds s1 s2 hd hL
  exact ⟨Fs, fmt2 a, e1, e2, hL, fun hc => f2 (by omega), b1, b2⟩

theorem allFloors_get {T : Nat} : ∀ {ws Fs : List Nat}, AllFloors T ws Fs →
    ∀ (i : Nat) (hi : i < ws.length), ∃ F, Fs[i]? = some F ∧ Floors T ws[i] F
  | w :: ws, F :: Fs, h, 0, _ => ⟨F, by simp, h.1⟩
  | w :: ws, F :: Fs, h, i + 1, hi => by
    obtain ⟨F', h1, h2⟩ := allFloors_get h.2 i (by simpa using hi)
    exact ⟨F', by simpa using h1, by simpa using h2⟩
  | [], [], _, i, hi => by simp at hi
  | [], _ :: _, h, _, _ => by simp [AllFloors] at h
  | _ :: _, [], h, _, _ => by simp [AllFloors] at h

theorem allFloors_dropLast_get {T : Nat} {ws Fs : List Nat} (hF : AllFloors T ws.dropLast Fs) (last : Dec2)
    (i : Nat) (hi : i + 1 < ws.length) :
    ∃ F, (Fs.map (fun F => (⟨false, F⟩ : Dec2)) ++ [last])[i]? = some ⟨false, F⟩ ∧
      Floors T (ws[i]'(by omega)) F := by
  obtain ⟨F, g1, g2⟩ := allFloors_get hF i (by rw [List.length_dropLast]; omega)
  rw [List.getElem_dropLast] at g2
  obtain ⟨hlt, _⟩ := List.getElem?_eq_some_iff.mp g1
  refine ⟨F, ?_, g2⟩
  rw [List.getElem?_append_left (by rw [List.length_map]; exact hlt), List.getElem?_map, g1]
  rfl

theorem getElem?_concat_last {ws : List Nat} {Fs : List Nat} (last : Dec2) (hlen : Fs.length = ws.length - 1)
    (hne : ws ≠ []) {i : Nat} (hi : i < ws.length) (hn : ¬ i + 1 < ws.length) :
    (Fs.map (fun F => (⟨false, F⟩ : Dec2)) ++ [last])[i]? = some last ∧ ws[i] = ws.getLast hne := by
  have hi' : i = (Fs.map (fun F => (⟨false, F⟩ : Dec2))).length := by rw [List.length_map]; omega
  refine ⟨by rw [hi']; exact List.getElem?_concat_length, ?_⟩
  rw [List.getLast_eq_getElem]; congr 1; omega

theorem cents_sum_map (Fs : List Nat) :
    ((Fs.map (fun F => (⟨false, F⟩ : Dec2))).map (·.cents)).sum = Fs.sum := by
  induction Fs with
  | nil => rfl
  | cons a t ih => simp only [List.map_cons, List.sum_cons, ih]

theorem zero_renders : (Pct.dec ⟨false, 0⟩).commentedOut = true := by decide +kernel

theorem digitChar_eq_zero (d : Nat) : digitChar d = '0' ↔ d % 10 = 0 := by
  have h : ∀ k : Fin 10, (Char.ofNat (48 + k.val) = '0' ↔ k.val = 0) := by decide
  have := h ⟨d % 10, Nat.mod_lt _ (by decide)⟩
  simpa [digitChar] using this

theorem natDigitsAux_length (fuel n : Nat) (acc : List Char) (h : 0 < fuel) :
    acc.length + 1 ≤ (natDigitsAux fuel n acc).length := by
  induction fuel generalizing n acc with
  | zero => omega
  | succ f ih =>
    simp only [natDigitsAux]
    split
    · simp
    · cases f with
      | zero => simp [natDigitsAux]
      | succ f' =>
        have := ih (n / 10) (digitChar n :: acc) (by omega)
        simp only [List.length_cons] at this
        omega

theorem natDigits_eq_zero {n : Nat} (h : natDigits n = ['0']) : n = 0 := by
  unfold natDigits at h
  simp only [natDigitsAux] at h
  split at h
  · rename_i hn
    have : digitChar n = '0' := by simpa using h
    have := (digitChar_eq_zero n).mp this
    omega
  · rename_i hn
    have := natDigitsAux_length n (n / 10) [digitChar n] (by omega)
    rw [h] at this
    simp at this

theorem chars_eq_zero {d : Dec2} (h : d.chars = ['0', '.', '0', '0']) : d = ⟨false, 0⟩ := by
  obtain ⟨neg, c⟩ := d
  cases neg with
  | true => simp [Dec2.chars] at h
  | false =>
    simp only [Dec2.chars, Bool.false_eq_true, if_false, List.nil_append] at h
    have hl := congrArg List.length h
    simp only [List.length_append, List.length_cons, List.length_nil] at hl
    have hlen : (natDigits (c / 100)).length = 1 := by omega
    match hd : natDigits (c / 100), hlen with
    | [x], _ =>
      rw [hd] at h
      simp only [List.cons_append, List.nil_append, List.cons.injEq, and_true, true_and] at h
      obtain ⟨hx, h1, h2⟩ := h
      subst hx
      have e := digits_recombine c
      rw [natDigits_eq_zero hd, (digitChar_eq_zero _).mp h1, ← Nat.mod_mod c 10, (digitChar_eq_zero _).mp h2] at e
      rw [← e]

theorem commentedOut_iff (d : Dec2) : (Pct.dec d).commentedOut = true ↔ d = ⟨false, 0⟩ := by
  constructor
  · intro h
    simp only [Pct.commentedOut, Pct.render, Dec2.render, beq_iff_eq] at h
    have : "0.00" = String.ofList ['0', '.', '0', '0'] := by decide
    rw [this] at h
    exact chars_eq_zero (String.ofList_injective h)
  · rintro rfl; exact zero_renders

theorem total_eq_sum : ∀ (bs : List Backend), total bs = (bs.map (·.weight)).sum
  | [] => rfl
  | b :: bs => by simp [total, total_eq_sum bs]

theorem floatDistLoop_spec (T : Nat) : ∀ (bs : List Backend) (avail : Rat),
    (floatDistLoop T avail bs).map (·.value) = bs.map value ∧
    (floatDistLoop T avail bs).map (·.pct) = ((shareVals T avail (bs.map (·.weight))).map fmt2).map Pct.dec
  | [], _ => by simp [floatDistLoop, shareVals]
  | [b], _ => by simp [floatDistLoop, shareVals]
  | b :: b' :: bs, avail => by
    have ih := floatDistLoop_spec T (b' :: bs) (fsub avail (percentOf b.weight T))
    simp only [floatDistLoop, shareVals, List.map_cons] at ih ⊢
    exact ⟨by rw [ih.1], by rw [ih.2]⟩

end NGF.SplitClients
