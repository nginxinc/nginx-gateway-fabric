import NGF.Model.Order
import NGF.Proofs.ListBasics
/-
C14 helper: the closure returned by createPortConflictResolver, folded over the listeners, keeps an invariant `LInv` that
says what each piece of its state is in terms of the listeners seen so far. One lemma (`LInv.snoc`) turns a description
of how a call changes the state into the invariant for one more listener; the four branches of the closure only supply
that description. The order-free characterisation of the final Valid flags (`resolveListeners_spec`) is the invariant's
`inv` field after the last call. It asks for a symmetric overlap relation; the executable `haveOverlap` is one
(`haveOverlap_symm`).
-/
namespace NGF.Order

theorem group_ne_proto_ne {a b : Lis} (h : a.proto.group ≠ b.proto.group) : a.proto ≠ b.proto := by
  intro e; rw [e] at h; exact h rfl

theorem clash_self (ov : Lis → Lis → Bool) (a : Lis) : clash ov a a = false := by
  simp [clash]

theorem clash_symm (ov : Lis → Lis → Bool) (hsym : ∀ a b, ov a b = ov b a) (a b : Lis) :
    clash ov a b = clash ov b a := by
  unfold clash
  rw [hsym a b]
  have e1 : (a.port == b.port) = (b.port == a.port) := BEq.comm
  have e2 : (a.proto.group != b.proto.group) = (b.proto.group != a.proto.group) := by
    unfold bne; rw [BEq.comm]
  have e3 : (a.proto != b.proto) = (b.proto != a.proto) := by
    unfold bne; rw [BEq.comm]
  rw [e1, e2, e3]

theorem clash_port {ov : Lis → Lis → Bool} {a b : Lis} (h : clash ov a b = true) : a.port = b.port :=
  beq_iff_eq.mp (Bool.and_eq_true_iff.mp h).1

theorem clash_of_group {ov : Lis → Lis → Bool} {a b : Lis} (hp : a.port = b.port)
    (hg : a.proto.group ≠ b.proto.group) : clash ov a b = true := by
  unfold clash; simp [hp, hg]

/-- two of the listeners on port `p` belong to different protocol groups -/
def MixedPort (seen : List Lis) (p : Nat) : Prop :=
  ∃ a ∈ seen, ∃ b ∈ seen, a.port = p ∧ b.port = p ∧ a.proto.group ≠ b.proto.group

theorem mixed_snoc {seen : List Lis} {l : Lis} {p : Nat} :
    MixedPort (seen ++ [l]) p ↔
      MixedPort seen p ∨ (p = l.port ∧ ∃ a ∈ seen, a.port = l.port ∧ a.proto.group ≠ l.proto.group) := by
  have snoc : ∀ {x}, x ∈ seen ++ [l] → x ∈ seen ∨ x = l := fun h =>
    (List.mem_append.mp h).imp_right List.mem_singleton.mp
  constructor
  · rintro ⟨a, ha, b, hb, pa, pb, hg⟩
    rcases snoc ha with ha | ea <;> rcases snoc hb with hb | eb
    · exact Or.inl ⟨a, ha, b, hb, pa, pb, hg⟩
    · exact Or.inr ⟨eb ▸ pb.symm, a, ha, eb ▸ pa.trans pb.symm, eb ▸ hg⟩
    · exact Or.inr ⟨ea ▸ pa.symm, b, hb, ea ▸ pb.trans pa.symm, ea ▸ fun e => hg e.symm⟩
    · exact absurd (ea.trans eb.symm ▸ rfl) hg
  · rintro (⟨a, ha, b, hb, r⟩ | ⟨rfl, a, ha, pa, hg⟩)
    · exact ⟨a, List.mem_append_left _ ha, b, List.mem_append_left _ hb, r⟩
    · exact ⟨a, List.mem_append_left _ ha, l, List.mem_append_right _ List.mem_cons_self, pa, rfl, hg⟩

/-- a port with two protocol groups: every listener on it clashes with one of the two -/
theorem clash_on_mixed {ov : Lis → Lis → Bool} {seen : List Lis} {x : Lis} (h : MixedPort seen x.port) :
    seen.any (clash ov x) = true := by
  obtain ⟨a, ha, b, hb, pa, pb, hg⟩ := h
  rw [List.any_eq_true]
  by_cases e : x.proto.group = a.proto.group
  · exact ⟨b, hb, clash_of_group pb.symm (fun e' => hg (e.symm.trans e'))⟩
  · exact ⟨a, ha, clash_of_group pa.symm e⟩

/-- what the resolver's state is after the listeners `seen`: a port is conflicted iff it is mixed, its owner is the protocol
group of the first listener on it, `listenersByPort` of a port that is not conflicted holds the listeners on it, and a
listener is invalid iff another one clashes with it -/
structure LInv (ov : Lis → Lis → Bool) (seen : List Lis) (s : LState) : Prop where
  cp : ∀ p, s.conflictedPorts.contains p = true ↔ MixedPort seen p
  own : ∀ p, s.owner.lookup p = (seen.find? (·.port == p)).map (·.proto.group)
  byPort : ∀ p, s.conflictedPorts.contains p = false →
    (s.byPort.filter (·.1 == p)).map (·.2) = seen.filter (·.port == p)
  inv : ∀ x ∈ seen, (x.id ∈ s.invalid ↔ seen.any (clash ov x) = true)
  invIds : ∀ i ∈ s.invalid, ∃ x ∈ seen, x.id = i

theorem LInv.init (ov : Lis → Lis → Bool) : LInv ov [] {} where
  cp := fun _ => ⟨fun h => (by cases h), fun h => (by obtain ⟨_, h, _⟩ := h; cases h)⟩
  own := fun _ => rfl
  byPort := fun _ _ => rfl
  inv := fun _ h => by cases h
  invIds := fun _ h => by cases h

section derived
variable {ov : Lis → Lis → Bool} {seen : List Lis} {s : LState}

theorem LInv.owner_some (I : LInv ov seen s) {a : Lis} (ha : a ∈ seen) : ∃ g, s.owner.lookup a.port = some g := by
  rw [I.own]
  cases h : seen.find? (·.port == a.port) with
  | none => exact absurd (beq_self_eq_true _) (List.find?_eq_none.mp h a ha)
  | some b => exact ⟨_, rfl⟩

theorem LInv.group_eq (I : LInv ov seen s) {p g : Nat} (hl : s.owner.lookup p = some g)
    (hc : s.conflictedPorts.contains p = false) :
    (∃ a ∈ seen, a.port = p ∧ a.proto.group = g) ∧ ∀ a ∈ seen, a.port = p → a.proto.group = g := by
  rw [I.own] at hl
  cases hf : seen.find? (·.port == p) with
  | none => rw [hf] at hl; cases hl
  | some f =>
    rw [hf] at hl
    have hg : f.proto.group = g := Option.some.inj hl
    have hfm := List.mem_of_find?_eq_some hf
    have hfp : f.port = p := beq_iff_eq.mp (List.find?_some (p := fun x : Lis => x.port == p) hf)
    refine ⟨⟨f, hfm, hfp, hg⟩, fun a ha hap => ?_⟩
    apply Decidable.byContradiction
    intro hne
    have := (I.cp p).mpr ⟨a, ha, f, hfm, hap, hfp, fun e => hne (e.trans hg)⟩
    rw [hc] at this; cases this

end derived

/-- One more listener. The four hypotheses say what a call of the closure does to the state in terms of the listeners seen
before: the port of `l` becomes conflicted iff an earlier listener on it has another group, `l` owns its port if nobody
did, `l` is filed under its port, and invalid become (besides `l` itself, if something clashes with it) the earlier
listeners that clash with `l`. -/
theorem LInv.snoc {ov : Lis → Lis → Bool} {seen : List Lis} {s s' : LState} {l : Lis} (I : LInv ov seen s)
    (hnew : ∀ x ∈ seen, x.id ≠ l.id) (hinj : ∀ x ∈ seen, ∀ y ∈ seen, x.id = y.id → x = y)
    (d1 : ∀ p, s'.conflictedPorts.contains p = true ↔ s.conflictedPorts.contains p = true ∨
      (p = l.port ∧ ∃ a ∈ seen, a.port = l.port ∧ a.proto.group ≠ l.proto.group))
    (d2 : ∀ p, s'.owner.lookup p = (s.owner.lookup p).or (if l.port == p then some l.proto.group else none))
    (d3 : ∀ p, s'.conflictedPorts.contains p = false →
      (s'.byPort.filter (·.1 == p)).map (·.2) =
        (s.byPort.filter (·.1 == p)).map (·.2) ++ (if l.port == p then [l] else []))
    (d4 : ∀ i, i ∈ s'.invalid ↔ i ∈ s.invalid ∨ (∃ x ∈ seen, x.id = i ∧ clash ov x l = true) ∨
      (i = l.id ∧ seen.any (clash ov l) = true)) :
    LInv ov (seen ++ [l]) s' where
  cp := fun p => by rw [d1, I.cp, mixed_snoc]
  own := fun p => by
    rw [d2, I.own, List.find?_append, List.find?_singleton]
    cases seen.find? (·.port == p) <;> cases (l.port == p) <;> rfl
  byPort := fun p hp => by
    have hp' : s.conflictedPorts.contains p = false := by
      cases h : s.conflictedPorts.contains p with
      | false => rfl
      | true => rw [(d1 p).mpr (Or.inl h)] at hp; cases hp
    rw [d3 p hp, I.byPort p hp', List.filter_append, List.filter_cons, List.filter_nil]
  inv := fun x hx => by
    rw [d4, List.any_append, List.any_cons, List.any_nil, Bool.or_false, Bool.or_eq_true]
    rcases List.mem_append.mp hx with hx | hx
    · rw [I.inv x hx]
      constructor
      · rintro (h | ⟨y, hy, e, hc⟩ | ⟨e, _⟩)
        · exact Or.inl h
        · exact Or.inr (hinj y hy x hx e ▸ hc)
        · exact absurd e (hnew x hx)
      · rintro (h | h)
        · exact Or.inl h
        · exact Or.inr (Or.inl ⟨x, hx, rfl, h⟩)
    · rw [List.mem_singleton.mp hx, clash_self]
      constructor
      · rintro (h | ⟨y, hy, e, _⟩ | ⟨_, h⟩)
        · obtain ⟨y, hy, e⟩ := I.invIds _ h; exact absurd e (hnew y hy)
        · exact absurd e (hnew y hy)
        · exact Or.inl h
      · rintro (h | h)
        · exact Or.inr (Or.inr ⟨rfl, h⟩)
        · cases h
  invIds := fun i hi => by
    rcases (d4 i).mp hi with h | ⟨x, hx, e, _⟩ | ⟨e, _⟩
    · obtain ⟨x, hx, e⟩ := I.invIds i h
      exact ⟨x, List.mem_append_left _ hx, e⟩
    · exact ⟨x, List.mem_append_left _ hx, e⟩
    · exact ⟨l, List.mem_append_right _ List.mem_cons_self, e.symm⟩

theorem owner_kept {s : LState} {l : Lis} {g : Nat} (hl : s.owner.lookup l.port = some g) (p : Nat) :
    s.owner.lookup p = (s.owner.lookup p).or (if l.port == p then some l.proto.group else none) := by
  by_cases h : l.port = p
  · rw [← h, hl]; rfl
  · rw [if_neg (fun e => h (beq_iff_eq.mp e)), Option.or_none]

/-- `listenersByPort[port] = append(listenersByPort[port], l)`, read per port -/
theorem byPort_snoc (bp : List (Nat × Lis)) (l : Lis) (p : Nat) :
    ((bp ++ [(l.port, l)]).filter (·.1 == p)).map (·.2) =
      (bp.filter (·.1 == p)).map (·.2) ++ (if l.port == p then [l] else []) := by
  rw [List.filter_append, List.map_append, List.filter_cons, List.filter_nil]
  cases (l.port == p) <;> rfl

/-- the closure invalidates `l` together with a list `hit` of earlier listeners: the description `LInv.snoc` asks for, when
`hit` holds the earlier listeners that clash with `l` and is not empty -/
theorem invalid_with_hit {ov : Lis → Lis → Bool} {seen hit : List Lis} {l : Lis} {inv : List Nat}
    (hhit : ∀ x, x ∈ hit ↔ x ∈ seen ∧ clash ov x l = true) (hany : seen.any (clash ov l) = true) (i : Nat) :
    i ∈ l.id :: (hit.map (·.id) ++ inv) ↔
      i ∈ inv ∨ (∃ x ∈ seen, x.id = i ∧ clash ov x l = true) ∨ (i = l.id ∧ seen.any (clash ov l) = true) := by
  rw [List.mem_cons, List.mem_append, List.mem_map]
  constructor
  · rintro (h | ⟨x, hx, e⟩ | h)
    · exact Or.inr (Or.inr ⟨h, hany⟩)
    · exact Or.inr (Or.inl ⟨x, ((hhit x).mp hx).1, e, ((hhit x).mp hx).2⟩)
    · exact Or.inl h
  · rintro (h | ⟨x, hx, e, hcl⟩ | ⟨e, _⟩)
    · exact Or.inr (Or.inr h)
    · exact Or.inr (Or.inl ⟨x, (hhit x).mpr ⟨hx, hcl⟩, e⟩)
    · exact Or.inl e

section branches
variable {ov : Lis → Lis → Bool} {seen : List Lis} {s s' : LState} {l : Lis}
  (I : LInv ov seen s) (hnew : ∀ x ∈ seen, x.id ≠ l.id) (hinj : ∀ x ∈ seen, ∀ y ∈ seen, x.id = y.id → x = y)
include I hnew hinj

/-- branch 1 of the closure: the port is already conflicted -/
theorem stepA (hc : s.conflictedPorts.contains l.port = true)
    (e1 : s'.conflictedPorts = s.conflictedPorts) (e2 : s'.owner = s.owner) (e3 : s'.byPort = s.byPort)
    (e4 : s'.invalid = l.id :: s.invalid) : LInv ov (seen ++ [l]) s' := by
  have hw : MixedPort seen l.port := (I.cp l.port).mp hc
  obtain ⟨a, ha, _, _, pa, _, _⟩ := id hw
  obtain ⟨g, hl⟩ := I.owner_some ha
  rw [pa] at hl
  refine I.snoc hnew hinj (fun p => ?_) (fun p => ?_) (fun p hp => ?_) (fun i => ?_)
  · rw [e1]; exact ⟨Or.inl, fun h => h.elim id (fun h => h.1 ▸ hc)⟩
  · rw [e2]; exact owner_kept hl p
  · have : ¬ (l.port == p) = true := fun e => by rw [e1, ← beq_iff_eq.mp e, hc] at hp; cases hp
    rw [e3, if_neg this, List.append_nil]
  · rw [e4, List.mem_cons]
    constructor
    · rintro (h | h)
      · exact Or.inr (Or.inr ⟨h, clash_on_mixed hw⟩)
      · exact Or.inl h
    · rintro (h | ⟨x, hx, e, hcl⟩ | ⟨e, _⟩)
      · exact Or.inr h
      · exact Or.inr (e ▸ (I.inv x hx).mpr (clash_on_mixed (clash_port hcl ▸ hw)))
      · exact Or.inl e

/-- branch 2: first listener on its port -/
theorem stepB (hl : s.owner.lookup l.port = none)
    (e1 : s'.conflictedPorts = s.conflictedPorts) (e2 : s'.owner = (l.port, l.proto.group) :: s.owner)
    (e3 : s'.byPort = s.byPort ++ [(l.port, l)]) (e4 : s'.invalid = s.invalid) : LInv ov (seen ++ [l]) s' := by
  have hnone : ∀ a ∈ seen, a.port ≠ l.port := fun a ha e => by
    obtain ⟨g, h⟩ := I.owner_some ha
    rw [e, hl] at h; cases h
  refine I.snoc hnew hinj (fun p => ?_) (fun p => ?_) (fun p _ => ?_) (fun i => ?_)
  · rw [e1]
    refine ⟨Or.inl, fun h => ?_⟩
    rcases h with h | ⟨_, a, ha, pa, _⟩
    · exact h
    · exact absurd pa (hnone a ha)
  · rw [e2, List.lookup_cons]
    by_cases h : l.port = p
    · rw [← h, beq_self_eq_true, hl]; rfl
    · have h' : (p == l.port) = false := beq_eq_false_iff_ne.mpr fun e => h e.symm
      rw [h', if_neg (fun e => h (beq_iff_eq.mp e)), Option.or_none]
  · rw [e3]; exact byPort_snoc _ _ _
  · rw [e4]
    refine ⟨Or.inl, fun h => ?_⟩
    rcases h with h | ⟨x, hx, _, hcl⟩ | ⟨_, h⟩
    · exact h
    · exact absurd (clash_port hcl) (hnone x hx)
    · obtain ⟨y, hy, hcl⟩ := List.any_eq_true.mp h
      exact absurd (clash_port hcl).symm (hnone y hy)

/-- branch 3: the port is owned by the other protocol group -/
theorem stepC {g : Nat} (hc : s.conflictedPorts.contains l.port = false)
    (hl : s.owner.lookup l.port = some g)
    (hg : g ≠ l.proto.group)
    (e1 : s'.conflictedPorts = l.port :: s.conflictedPorts) (e2 : s'.owner = s.owner)
    (e3 : s'.byPort = s.byPort ++ [(l.port, l)])
    (e4 : s'.invalid = l.id :: (((s.byPort.filter (·.1 == l.port)).map (·.2)).map (·.id) ++ s.invalid)) :
    LInv ov (seen ++ [l]) s' := by
  obtain ⟨⟨a0, ha0, pa0, ga0⟩, allg⟩ := I.group_eq hl hc
  have clashL : ∀ x ∈ seen, (clash ov x l = true ↔ x.port = l.port) := fun x hx =>
    ⟨clash_port, fun hp => clash_of_group hp (allg x hx hp ▸ hg)⟩
  refine I.snoc hnew hinj (fun p => ?_) (fun p => ?_) (fun p _ => ?_) (fun i => ?_)
  · rw [e1, List.contains_cons, Bool.or_eq_true, beq_iff_eq, Or.comm]
    exact or_congr_right ⟨fun h => ⟨h, a0, ha0, pa0, ga0 ▸ hg⟩, fun h => h.1⟩
  · rw [e2]; exact owner_kept hl p
  · rw [e3]; exact byPort_snoc _ _ _
  · rw [e4, I.byPort _ hc]
    refine invalid_with_hit (fun x => ?_) (List.any_eq_true.mpr ⟨a0, ha0, clash_of_group pa0.symm (ga0 ▸ hg.symm)⟩) i
    rw [List.mem_filter, beq_iff_eq]
    exact and_congr_right fun hx => (clashL x hx).symm

/-- branch 4: same protocol group; HTTPS/TLS listeners with overlapping hostnames invalidate each other -/
theorem stepD (hsym : ∀ a b, ov a b = ov b a) {g : Nat} (hc : s.conflictedPorts.contains l.port = false)
    (hl : s.owner.lookup l.port = some g)
    (hg : g = l.proto.group)
    (hit : List Lis)
    (ehit : hit = ((s.byPort.filter (·.1 == l.port)).map (·.2)).filter (fun x => x.proto != l.proto && ov l x))
    (e1 : s'.conflictedPorts = s.conflictedPorts) (e2 : s'.owner = s.owner)
    (e3 : s'.byPort = s.byPort ++ [(l.port, l)])
    (e4 : s'.invalid = if hit.isEmpty then s.invalid else l.id :: (hit.map (·.id) ++ s.invalid)) :
    LInv ov (seen ++ [l]) s' := by
  have allg : ∀ a ∈ seen, a.port = l.port → a.proto.group = l.proto.group := hg ▸ (I.group_eq hl hc).2
  have memHit : ∀ x, x ∈ hit ↔ x ∈ seen ∧ clash ov x l = true := by
    intro x
    rw [ehit, I.byPort _ hc, List.mem_filter, List.mem_filter, and_assoc]
    refine and_congr_right fun hx => ?_
    have key : ∀ hp : (x.port == l.port) = true, clash ov x l = (x.proto != l.proto && ov l x) := fun hp => by
      unfold clash
      rw [hsym x l, hp, allg x hx (beq_iff_eq.mp hp), bne_self_eq_false, Bool.false_or, Bool.true_and]
    exact ⟨fun h => key h.1 ▸ h.2, fun h => ⟨beq_iff_eq.mpr (clash_port h), key (beq_iff_eq.mpr (clash_port h)) ▸ h⟩⟩
  have anyL : seen.any (clash ov l) = true ↔ hit ≠ [] := by
    rw [List.any_eq_true]
    constructor
    · rintro ⟨y, hy, hcl⟩ e
      have := (memHit y).mpr ⟨hy, clash_symm ov hsym l y ▸ hcl⟩
      rw [e] at this; cases this
    · intro h
      obtain ⟨y, hy⟩ := List.exists_mem_of_ne_nil _ h
      exact ⟨y, ((memHit y).mp hy).1, clash_symm ov hsym l y ▸ ((memHit y).mp hy).2⟩
  refine I.snoc hnew hinj (fun p => ?_) (fun p => ?_) (fun p _ => ?_) (fun i => ?_)
  · rw [e1]
    refine ⟨Or.inl, fun h => ?_⟩
    rcases h with h | ⟨_, a, ha, pa, hne⟩
    · exact h
    · exact absurd (allg a ha pa) hne
  · rw [e2]; exact owner_kept hl p
  · rw [e3]; exact byPort_snoc _ _ _
  · rw [e4]
    by_cases he : hit = []
    · rw [he]
      refine ⟨Or.inl, fun h => ?_⟩
      rcases h with h | ⟨x, hx, _, hcl⟩ | ⟨_, h⟩
      · exact h
      · have := (memHit x).mpr ⟨hx, hcl⟩
        rw [he] at this; cases this
      · exact absurd he (anyL.mp h)
    · rw [if_neg (fun e => he (List.isEmpty_iff.mp e))]
      exact invalid_with_hit memHit (anyL.mpr he) i

omit s' in
theorem step (hsym : ∀ a b, ov a b = ov b a) : LInv ov (seen ++ [l]) (resolveOne ov s l) := by
  unfold resolveOne
  by_cases hc : s.conflictedPorts.contains l.port = true
  · rw [if_pos hc]; exact stepA I hnew hinj hc rfl rfl rfl rfl
  · have hc' : s.conflictedPorts.contains l.port = false := Bool.eq_false_iff.mpr hc
    rw [if_neg hc]
    split
    · next hl => exact stepB I hnew hinj hl rfl rfl rfl rfl
    · next g hl =>
      by_cases hg : (g != l.proto.group) = true
      · rw [if_pos hg]
        exact stepC I hnew hinj hc' hl (bne_iff_ne.mp hg) rfl rfl rfl rfl
      · rw [if_neg hg]
        have hg' : g = l.proto.group := Decidable.not_not.mp fun h => hg (bne_iff_ne.mpr h)
        by_cases he : (List.filter (fun x => x.proto != l.proto && ov l x)
            (List.map (fun x => x.2) (List.filter (fun x => x.1 == l.port) s.byPort))).isEmpty = true
        · rw [if_pos he]
          exact stepD I hnew hinj hsym hc' hl hg' _ rfl rfl rfl rfl (by rw [if_pos he])
        · rw [if_neg he]
          exact stepD I hnew hinj hsym hc' hl hg' _ rfl rfl rfl rfl (by rw [if_neg he])

end branches

theorem resolve_inv {ov : Lis → Lis → Bool} (hsym : ∀ a b, ov a b = ov b a) (rest seen : List Lis) (s : LState)
    (I : LInv ov seen s) (hnd : List.Pairwise (fun a b => a.id ≠ b.id) (seen ++ rest)) :
    LInv ov (seen ++ rest) (rest.foldl (resolveOne ov) s) := by
  induction rest generalizing seen s with
  | nil => rw [List.append_nil]; exact I
  | cons l rest ih =>
    have h := List.pairwise_append.mp hnd
    have I' := step I (fun x hx => h.2.2 x hx l List.mem_cons_self) (NGF.inj_of_nodup_map (List.pairwise_map.mpr h.1)) hsym
    rw [List.append_cons] at hnd ⊢
    exact ih (seen ++ [l]) _ I' hnd

/-- `createPortConflictResolver`: after all listeners have been processed (in ANY order), a listener is invalid
exactly when some other listener clashes with it. -/
theorem resolveListeners_spec (ov : Lis → Lis → Bool) (hsym : ∀ a b, ov a b = ov b a) (ls : List Lis)
    (hid : List.Pairwise (fun a b => a.id ≠ b.id) ls) (l : Lis) (hl : l ∈ ls) :
    (l.id ∈ (resolveListeners ov ls).invalid ↔ lisValidSpec ov ls l = false) := by
  have I := resolve_inv hsym ls [] {} (LInv.init ov) hid
  rw [List.nil_append] at I
  unfold resolveListeners lisValidSpec
  rw [I.inv l hl, Bool.not_eq_false']

theorem haveOverlap_symm (a b : Option String) : haveOverlap a b = haveOverlap b a := by
  cases a with
  | none => cases b <;> rfl
  | some a =>
    cases b with
    | none => rfl
    | some b =>
      show (a == b || mw a b || mw b a) = (b == a || mw b a || mw a b)
      rw [show (a == b) = (b == a) from BEq.comm, Bool.or_assoc, Bool.or_assoc, Bool.or_comm (mw a b)]

theorem lisOverlap_symm (a b : Lis) : lisOverlap a b = lisOverlap b a := haveOverlap_symm _ _

end NGF.Order
