/-
Helper lemmas for the C03 name-mangling theorems (NGF.Props.C03).
-/
import NGF.Model.Mangle
import NGF.Proofs.CharLits
import NGF.Proofs.ListBasics

namespace NGF.Mangle

theorem digits_injective {a b : Nat} (h : digits a = digits b) : a = b := by
  have h2 := congrArg (fun l => Nat.ofDigitChars 10 l 0) h
  simpa [digits, Nat.ofDigitChars_ten_toDigits] using h2

theorem digits_isDigit {n : Nat} {c : Char} (hc : c ∈ digits n) : c.isDigit = true :=
  Nat.isDigit_of_mem_toDigits (by decide) (by decide) hc

theorem digits_ne_nil (n : Nat) : digits n ≠ [] := Nat.toDigits_ne_nil

theorem not_mem_digits_of_not_isDigit {n : Nat} {c : Char} (h : c.isDigit = false) : c ∉ digits n := by
  intro hc
  have := digits_isDigit hc
  simp [h] at this

/-- names of the shape `<prefix><ns>_<name><suffix>` determine `ns` and `name` when `ns` has no underscore
(key pair, certificate bundle and policy include files) -/
theorem affix_sep_inj {pre suf ns ns' name name' : List Char} (hns : '_' ∉ ns) (hns' : '_' ∉ ns')
    (h : pre ++ (ns ++ (lit "_" ++ (name ++ suf))) = pre ++ (ns' ++ (lit "_" ++ (name' ++ suf)))) :
    ns = ns' ∧ name = name' := by
  obtain ⟨a1, a2⟩ := append_sep_inj hns hns' (List.append_cancel_left h)
  exact ⟨a1, List.append_cancel_right a2⟩

theorem safeVar_append (a b : List Char) : safeVar (a ++ b) = safeVar a ++ safeVar b := by
  simp [safeVar]

theorem safeVar_id_of_no_hyphen {s : List Char} (h : '-' ∉ s) : safeVar s = s :=
  (List.map_congr_left fun c hc => if_neg fun (e : c = '-') => h (e ▸ hc)).trans (List.map_id s)

theorem safeVar_digits (n : Nat) : safeVar (digits n) = digits n :=
  safeVar_id_of_no_hyphen (not_mem_digits_of_not_isDigit (by decide))

/-- `-`→`_` is injective on strings that contain no underscore (all Kubernetes names). -/
theorem safeVar_injective_of_no_underscore {a b : List Char} (ha : '_' ∉ a) (hb : '_' ∉ b)
    (h : safeVar a = safeVar b) : a = b := by
  -- `_` ↦ `-` undoes the mangling of a string without `_`
  have inv : ∀ l : List Char, '_' ∉ l → (safeVar l).map (fun c => if c = '_' then '-' else c) = l := fun l hl => by
    rw [safeVar, List.map_map]
    refine (List.map_congr_left fun c hc => ?_).trans (List.map_id l)
    have hc' : c ≠ '_' := fun e => hl (e ▸ hc)
    by_cases e : c = '-' <;> simp [e, hc']
  rw [← inv a ha, ← inv b hb, h]

/-- no two adjacent `s`, and the string does not end in `s` -/
def GoodFor (s : Char) : List Char → Bool
  | [] => true
  | [c] => c != s
  | c :: d :: r => !(c == s && d == s) && GoodFor s (d :: r)

/-- split at the first occurrence of `__` -/
def splitDU : List Char → Option (List Char × List Char)
  | [] => none
  | [_] => none
  | c :: d :: r =>
    if c = '_' ∧ d = '_' then some ([], r)
    else (splitDU (d :: r)).map fun p => (c :: p.1, p.2)

theorem splitDU_append : ∀ (a b : List Char), GoodFor '_' a = true →
    splitDU (a ++ '_' :: '_' :: b) = some (a, b)
  | [], b, _ => by simp [splitDU]
  | [c], b, h => by
    have hc : c ≠ '_' := by simpa [GoodFor] using h
    simp [splitDU, hc]
  | c :: d :: r, b, h => by
    simp only [GoodFor, Bool.and_eq_true, Bool.not_eq_true', Bool.and_eq_false_iff, beq_eq_false_iff_ne] at h
    have ih := splitDU_append (d :: r) b h.2
    have hn : ¬(c = '_' ∧ d = '_') := by
      rcases h.1 with h1 | h1
      · exact fun e => h1 e.1
      · exact fun e => h1 e.2
    simp only [List.cons_append] at ih ⊢
    simp [splitDU, hn, ih]

theorem dsep_inj {a a' b b' : List Char} (ha : GoodFor '_' a = true) (ha' : GoodFor '_' a' = true)
    (h : a ++ '_' :: '_' :: b = a' ++ '_' :: '_' :: b') : a = a' ∧ b = b' := by
  have h1 := splitDU_append a b ha
  have h2 := splitDU_append a' b' ha'
  rw [h] at h1
  rw [h1] at h2
  simpa using h2

theorem goodFor_safeVar : ∀ {s : List Char}, '_' ∉ s → GoodFor '-' s = true → GoodFor '_' (safeVar s) = true
  | [], _, _ => rfl
  | [c], hu, h => by
    have hc : c ≠ '-' := by simpa [GoodFor] using h
    have hu' : c ≠ '_' := fun e => hu (e ▸ List.mem_cons_self)
    simp [safeVar, GoodFor, hc, hu']
  | c :: d :: r, hu, h => by
    simp only [GoodFor, Bool.and_eq_true, Bool.not_eq_true', Bool.and_eq_false_iff, beq_eq_false_iff_ne] at h
    have hu2 : '_' ∉ d :: r := fun m => hu (List.mem_cons_of_mem _ m)
    have ih := goodFor_safeVar hu2 h.2
    have hcu : c ≠ '_' := fun e => hu (e ▸ List.mem_cons_self)
    have hdu : d ≠ '_' := fun e => hu2 (e ▸ List.mem_cons_self)
    simp only [safeVar, List.map_cons] at ih ⊢
    simp only [GoodFor, Bool.and_eq_true, Bool.not_eq_true', Bool.and_eq_false_iff, beq_eq_false_iff_ne]
    refine ⟨?_, ih⟩
    rcases h.1 with h1 | h1
    · left; simp [h1, hcu]
    · right; simp [h1, hdu]

def isNameChar (c : Char) : Bool := c.isAlphanum || c == '-'

theorem isVarChar_safeVar {s : List Char} (h : s.all isNameChar = true) : (safeVar s).all isVarChar = true := by
  induction s with
  | nil => rfl
  | cons c cs ih =>
    simp only [List.all_cons, Bool.and_eq_true] at h
    simp only [safeVar, List.map_cons, List.all_cons, Bool.and_eq_true] at ih ⊢
    refine ⟨?_, ih h.2⟩
    by_cases e : c = '-'
    · subst e; decide
    · have := h.1
      simp only [isNameChar, Bool.or_eq_true, beq_iff_eq, e, or_false] at this
      simp [e, isVarChar, this]

theorem isVarChar_digits (n : Nat) : (digits n).all isVarChar = true := by
  rw [List.all_eq_true]
  intro c hc
  have := digits_isDigit hc
  simp only [isVarChar, Char.isAlphanum, Bool.or_eq_true]
  exact Or.inl (Or.inr this)

theorem mem_externalLocs {ex : List Char → PathType → Bool} {p : List Char} {t : PathType} {k : LocKey}
    (h : k ∈ externalLocs ex p t) :
    (t = .exact ∧ k = (true, p)) ∨
    (t = .prefix ∧ p.getLast? = some '/' ∧ k = (false, p)) ∨
    (t = .prefix ∧ p.getLast? ≠ some '/' ∧ ex (p ++ ['/']) .prefix = false ∧ k = (false, p ++ ['/'])) ∨
    (t = .prefix ∧ p.getLast? ≠ some '/' ∧ ex p .exact = false ∧ k = (true, p)) := by
  cases t with
  | exact => left; simpa [externalLocs] using h
  | «prefix» =>
    right
    simp only [externalLocs] at h
    by_cases hs : p.getLast? = some '/'
    · left; simp only [hs, if_true, List.mem_singleton] at h; exact ⟨rfl, hs, h⟩
    · right
      simp only [hs, if_false, List.mem_append] at h
      rcases h with h | h
      · left
        by_cases e : ex (p ++ ['/']) .prefix = true
        · simp [e] at h
        · simp only [e] at h
          simp only [Bool.false_eq_true, if_false, List.mem_singleton] at h
          exact ⟨rfl, hs, by simpa using e, h⟩
      · right
        by_cases e : ex p .exact = true
        · simp [e] at h
        · simp only [e] at h
          simp only [Bool.false_eq_true, if_false, List.mem_singleton] at h
          exact ⟨rfl, hs, by simpa using e, h⟩

theorem groupVar_inj {ns ns' name name' : List Char} {i j : Nat}
    (hns : '_' ∉ ns) (hns' : '_' ∉ ns') (hn : '_' ∉ name) (hn' : '_' ∉ name')
    (hg : GoodFor '_' (safeVar ns) = true) (hg' : GoodFor '_' (safeVar ns') = true)
    (h : groupVar ns name i = groupVar ns' name' j) : ns = ns' ∧ name = name' ∧ i = j := by
  simp only [groupVar, groupName, lit, safeVar_append, safeVar_digits] at h
  have e0 : safeVar "group_".toList = "group_".toList := by rw [String.toList_ofList]; rfl
  have e1 : safeVar "__".toList = ['_', '_'] := by rw [String.toList_ofList]; rfl
  have e2 : safeVar "_rule".toList = "_rule".toList := by rw [String.toList_ofList]; rfl
  rw [e0, e1, e2] at h
  simp only [List.append_assoc] at h
  have h1 := List.append_cancel_left h
  simp only [List.cons_append, List.nil_append] at h1
  obtain ⟨a1, a2⟩ := dsep_inj hg hg' h1
  -- a2 : safeVar name ++ "_rule" ++ digits i = safeVar name' ++ "_rule" ++ digits j ; split from the right
  have r := congrArg List.reverse a2
  simp only [List.reverse_append] at r
  have e3 : "_rule".toList.reverse = 'e' :: "lur_".toList := by
    repeat rw [String.toList_ofList]
    rfl
  rw [e3] at r
  simp only [List.cons_append, List.append_assoc] at r
  have nd : ∀ n, 'e' ∉ (digits n).reverse := fun n m =>
    not_mem_digits_of_not_isDigit (c := 'e') (by decide) (List.mem_reverse.mp m)
  obtain ⟨c1, c2⟩ := append_sep_inj (nd i) (nd j) r
  have c3 := List.append_cancel_left c2
  have c4 : safeVar name = safeVar name' := by simpa using congrArg List.reverse c3
  have c5 : digits i = digits j := by simpa using congrArg List.reverse c1
  exact ⟨safeVar_injective_of_no_underscore hns hns' a1, safeVar_injective_of_no_underscore hn hn' c4,
    digits_injective c5⟩

theorem groupVar_all_isVarChar {ns name : List Char} (idx : Nat)
    (hns : ns.all isNameChar = true) (hn : name.all isNameChar = true) :
    (groupVar ns name idx).all isVarChar = true := by
  simp only [groupVar, groupName, lit, safeVar_append, safeVar_digits, List.all_append, Bool.and_eq_true]
  exact ⟨⟨⟨⟨⟨by decide_chars, isVarChar_safeVar hns⟩, by decide_chars⟩, isVarChar_safeVar hn⟩, by decide_chars⟩,
    isVarChar_digits idx⟩

/-- Two path rules of a server never produce the same location key. The key `= x` comes from the exact rule `x`, or
from the prefix rule `x` when there is no exact one; the prefix location `y/` comes from the prefix rule `y/`, or from
`y` when there is no rule `y/`. -/
theorem externalLocs_origin {rules : List (List Char × PathType)} {p q : List Char} {t u : PathType} {k : LocKey}
    (hr : (p, t) ∈ rules) (hs : (q, u) ∈ rules) (hx : k ∈ externalLocs (fun p t => decide ((p, t) ∈ rules)) p t)
    (hy : k ∈ externalLocs (fun p t => decide ((p, t) ∈ rules)) q u) : (p, t) = (q, u) := by
  have hx' := mem_externalLocs hx
  have hy' := mem_externalLocs hy
  simp only [decide_eq_false_iff_not] at hx' hy'
  -- the keys of different shape are told apart by `simp`; eight cases remain
  rcases hx' with ⟨rfl, rfl⟩ | ⟨rfl, h1, rfl⟩ | ⟨rfl, h1, h2, rfl⟩ | ⟨rfl, h1, h2, rfl⟩ <;>
  rcases hy' with ⟨rfl, e⟩ | ⟨rfl, g1, e⟩ | ⟨rfl, g1, g2, e⟩ | ⟨rfl, g1, g2, e⟩ <;>
  simp only [Prod.mk.injEq, true_and, Bool.true_eq_false, Bool.false_eq_true, false_and] at e
  · rw [e]
  · subst e; exact absurd hr g2
  · rw [e]
  · subst e; exact absurd hr g2
  · subst e; exact absurd hs h2
  · rw [List.append_cancel_right e]
  · subst e; exact absurd hs h2
  · rw [e]

theorem serverExternalLocs_nodup (rules : List (List Char × PathType)) (hnd : rules.Nodup) :
    (serverExternalLocs rules).Nodup := by
  unfold serverExternalLocs
  rw [List.nodup_iff_pairwise_ne, List.pairwise_flatMap]
  constructor
  · intro r _
    rcases r with ⟨p, t⟩
    cases t with
    | exact => simp [externalLocs]
    | «prefix» =>
      simp only [externalLocs]
      split
      · simp
      · split <;> split <;> simp
  · refine List.Pairwise.imp_of_mem ?_ hnd
    intro r s hr hs hne x hx y hy hxy
    exact hne (externalLocs_origin hr hs hx (hxy ▸ hy))

/-- internal location paths end in a digit -/
theorem internalLocPath_last (i j : Nat) : (internalLocPath i j).getLast? ≠ some '/' := by
  unfold internalLocPath
  rw [List.getLast?_append]
  intro e
  cases hd : (digits j).getLast? with
  | none => exact digits_ne_nil j (List.getLast?_eq_none_iff.mp hd)
  | some c =>
    rw [hd, Option.some_or] at e
    cases e
    exact not_mem_digits_of_not_isDigit (by decide) (List.mem_of_getLast? hd)

theorem internalLocPath_inj {a b c d : Nat} (e : internalLocPath a b = internalLocPath c d) : a = c ∧ b = d := by
  simp only [internalLocPath, lit, List.append_assoc] at e
  have e1 := List.append_cancel_left (List.append_cancel_left e)
  have hr : "-route".toList = '-' :: "route".toList := by repeat rw [String.toList_ofList]
  rw [hr] at e1
  simp only [List.cons_append] at e1
  obtain ⟨h1, h2⟩ := append_sep_inj (not_mem_digits_of_not_isDigit (by decide)) (not_mem_digits_of_not_isDigit (by decide)) e1
  exact ⟨digits_injective h1, digits_injective (List.append_cancel_left h2)⟩

theorem internalLoc_not_external (rules : List (List Char × PathType)) (i j : Nat) :
    (false, internalLocPath i j) ∉ serverExternalLocs rules := by
  intro h
  simp only [serverExternalLocs, List.mem_flatMap] at h
  obtain ⟨⟨p, t⟩, _, hk⟩ := h
  have hlast := internalLocPath_last i j
  rcases mem_externalLocs hk with ⟨_, e⟩ | ⟨_, h1, e⟩ | ⟨_, _, _, e⟩ | ⟨_, _, _, e⟩
  · simp at e
  · simp only [Prod.mk.injEq, true_and] at e; rw [e] at hlast; exact hlast h1
  · simp only [Prod.mk.injEq, true_and] at e; rw [e] at hlast; simp at hlast
  · simp at e

end NGF.Mangle
