/-
Lexical lemmas about the arguments NGF composes in Go (Model/InjCompose): concatenation of inert
pieces, literals, decimal numbers. Core Lean only.
-/
import NGF.Model.InjCompose
import NGF.Proofs.NginxLexHoles
import NGF.Proofs.InjBridge

namespace NGF.Inj
open NGF.Nginx

theorem inert_append {m : Mode} {a b : List Char} (ha : Inert m a) (hb : Inert m b) : Inert m (a ++ b) := by
  induction ha with
  | nil => simpa using hb
  | plain h1 h2 _ ih => exact .plain h1 h2 ih
  | esc _ ih => exact .esc ih

def allPlainFor (m : Mode) (v : List Char) : Bool := v.all (fun c => !isTerm m c && c != '\\')

theorem of_allPlainFor {m : Mode} {v : List Char} (h : allPlainFor m v = true) :
    ∀ c ∈ v, isTerm m c = false ∧ c ≠ '\\' := by
  intro c hc
  simpa using List.all_eq_true.mp h c hc

theorem inert_of_allPlainFor {m : Mode} {v : List Char} (h : allPlainFor m v = true) : Inert m v :=
  inert_of_all_plain (of_allPlainFor h)

theorem no_backslash_of_allPlainFor {m : Mode} {v : List Char} (h : allPlainFor m v = true) : '\\' ∉ v :=
  fun hc => (of_allPlainFor h _ hc).2 rfl

theorem digits_plain (n : Nat) : ∀ c ∈ natDigits n, Plain c := by
  intro c hc
  have hd : c.isDigit = true := by
    apply Nat.isDigit_of_mem_toDigits (b := 10) (n := n) (by decide) (by decide)
    simpa [natDigits, toString, Nat.repr] using hc
  simp only [Char.isDigit, Bool.and_eq_true, decide_eq_true_eq] at hd
  intro hs
  have h1 : 48 ≤ c.toNat := hd.1
  have h2 : c.toNat ≤ 57 := hd.2
  simp only [specials, List.mem_cons, List.not_mem_nil, or_false] at hs
  omega

end NGF.Inj
