/-
C01 — the change-tracking store model (`NGF.Model.Store`): the hypotheses `Sound` under which the controller
converges, the invariant `Inv` that every reachable state satisfies (`inv_reachable`), and the shapes most instances of
`Sound` share (deleting an absent object is a no-op, so `storeAfter` is `store`; a store that is a faithful copy).
-/
import NGF.Model.Store

namespace NGF.Store

variable {K Key Obj C G : Type}

theorem setCT_none {ct : ChangeType} {ep v : Bool} (h : setCT ct ep v = .none) :
    ct = .none ∧ v = false := by
  unfold setCT at h
  cases v <;> cases ct <;> cases ep <;> simp_all

theorem setCT_unchanged (ct : ChangeType) (ep : Bool) : setCT ct ep false = ct := by
  simp [setCT]

theorem setCT_cluster (ep v : Bool) : setCT .cluster ep v = .cluster := by
  cases v <;> simp [setCT]

theorem setCT_mono (ct : ChangeType) (ep v : Bool) : ct.toNat ≤ (setCT ct ep v).toNat := by
  cases ct <;> cases ep <;> cases v <;> decide

/-- The hypotheses under which the controller converges (see `NGF.Props.C01`).
`adm t e`: the mutations the statement is about (`fun _ _ => true` for the full-strength statement;
a decidable exclusion for a `_partial` one). `R s t`: the (possibly stale) store `s` stands in for the cluster `t`. -/
structure Sound (O : Ops K Key Obj C) (build : C → G)
    (rel : Option G → Option Obj → Event K Key Obj → Bool) (watch : C → Event K Key Obj → Bool)
    (R : C → C → Prop) (adm : C → Event K Key Obj → Bool) : Prop where
  /-- a complete start-up listing makes the store the cluster -/
  refl : ∀ c, R c c
  /-- a stand-in is built like the cluster -/
  build_eq : ∀ s t, R s t → build s = build t
  /-- delivered events keep the store a stand-in for the cluster -/
  sim_delivered : ∀ s t e, R s t → adm t e = true → watch t e = true →
    R (storeAfter O (O.cache e s) e) (applyW O e t)
  /-- a mutation suppressed by the watch predicates leaves the (then stale) store a stand-in -/
  sim_filtered : ∀ s t e, R s t → adm t e = true → watch t e = false → R (O.cache e s) (applyW O e t)
  /-- a mutation suppressed by the watch predicates does not change what a fresh controller derives -/
  watch_inert : ∀ t e, adm t e = true → watch t e = false → build (applyW O e t) = build t
  /-- an event judged irrelevant against the graph built from the store does not change what is
  built from the store (and the cache) after it -/
  rel_sound : ∀ s t e, R s t → adm t e = true → watch t e = true →
    verdict O rel (some (build s)) (O.cache e s) e = false →
    build (storeAfter O (O.cache e s) e) = build s

def Admissible (O : Ops K Key Obj C) (adm : C → Event K Key Obj → Bool) : C → List (Step K Key Obj) → Prop
  | _, [] => True
  | w, .mutate e :: ss => adm w e = true ∧ Admissible O adm (applyW O e w) ss
  | w, _ :: ss => Admissible O adm w ss

section
variable (O : Ops K Key Obj C) (build : C → G) (rel : Option G → Option Obj → Event K Key Obj → Bool)
  (watch adm : C → Event K Key Obj → Bool) (w : C) (σ : Sim C G) (s : Step K Key Obj) (ss : List (Step K Key Obj))

theorem step_world : (step O build rel watch σ s).world = finalWorld O σ.world [s] := by
  cases s <;> rfl

theorem finalWorld_cons : finalWorld O w (s :: ss) = finalWorld O (finalWorld O w [s]) ss := by
  cases s <;> rfl

theorem admissible_cons :
    Admissible O adm w (s :: ss) ↔
      (∀ e, s = .mutate e → adm w e = true) ∧ Admissible O adm (finalWorld O w [s]) ss := by
  cases s with
  | mutate e => exact ⟨fun h => ⟨fun _ he => by cases he; exact h.1, h.2⟩, fun h => ⟨h.1 e rfl, h.2⟩⟩
  | cut => exact ⟨fun h => ⟨fun _ he => (nomatch he), h⟩, fun h => h.2⟩
  | restart => exact ⟨fun h => ⟨fun _ he => (nomatch he), h⟩, fun h => h.2⟩

theorem admissible_of_forall {adm : C → Event K Key Obj → Bool} :
    ∀ (ss : List (Step K Key Obj)), (∀ e, .mutate e ∈ ss → ∀ w, adm w e = true) → ∀ w, Admissible O adm w ss
  | [], _, _ => trivial
  | s :: ss, h, w => (admissible_cons O adm w s ss).2
      ⟨fun e he => h e (he ▸ List.mem_cons_self) w,
       admissible_of_forall ss (fun e he => h e (List.mem_cons_of_mem _ he)) _⟩

theorem admissible_true : Admissible O (fun _ _ => true) w ss :=
  admissible_of_forall O ss (fun _ _ _ => rfl) w

theorem cut_drains : (step O build rel watch σ .cut).proc.ct = .none := by
  simp only [step, process]
  by_cases h : σ.proc.ct = .none <;> simp [h]

end

structure Inv (build : C → G) (R : C → C → Prop) (σ : Sim C G) : Prop where
  sim     : R σ.proc.store σ.world
  latest  : σ.proc.latest = σ.applied
  drained : σ.proc.ct = .none → σ.applied = some (build σ.world)

theorem inv_start (O : Ops K Key Obj C) {build : C → G} {rel watch} {R : C → C → Prop} {adm}
    (hs : Sound O build rel watch R adm) (w : C) : Inv build R (start build w) :=
  ⟨hs.refl w, rfl, fun _ => rfl⟩

theorem inv_step (O : Ops K Key Obj C) {build : C → G} {rel watch} {R : C → C → Prop} {adm}
    (hs : Sound O build rel watch R adm) {σ : Sim C G} (hi : Inv build R σ) (s : Step K Key Obj)
    (ha : ∀ e, s = .mutate e → adm σ.world e = true) :
    Inv build R (step O build rel watch σ s) := by
  obtain ⟨hsim, hlat, hdr⟩ := hi
  cases s with
  | restart => exact inv_start O hs σ.world
  | cut =>
    simp only [step, process]
    by_cases hct : σ.proc.ct = .none
    · simp only [hct, if_true]
      exact ⟨hsim, hlat, fun _ => hdr hct⟩
    · simp only [hct, if_false]
      refine ⟨hsim, rfl, fun _ => ?_⟩
      simp [hs.build_eq _ _ hsim]
  | mutate e =>
    have ha := ha e rfl
    simp only [step]
    by_cases hw : watch σ.world e = true
    · simp only [hw, if_true, capture]
      refine ⟨hs.sim_delivered _ _ e hsim ha hw, hlat, fun hnone => ?_⟩
      -- still nothing pending: nothing was pending before, so the applied output was the fresh one, and the event was
      -- judged irrelevant against the latest graph, which is then the build of the store
      obtain ⟨hct, hv⟩ := setCT_none hnone
      have happ := hdr hct
      have hb : build σ.proc.store = build σ.world := hs.build_eq _ _ hsim
      have hv' : verdict O rel (some (build σ.proc.store)) (O.cache e σ.proc.store) e = false := by
        have : σ.proc.latest = some (build σ.proc.store) := by rw [hlat, happ, hb]
        simpa [this] using hv
      have h1 := hs.rel_sound _ _ e hsim ha hw hv'
      have h2 := hs.build_eq _ _ (hs.sim_delivered _ _ e hsim ha hw)
      simp only [happ]
      rw [← h2, h1, hb]
    · have hw' : watch σ.world e = false := by simpa using hw
      simp only [hw', Bool.false_eq_true, if_false]
      refine ⟨hs.sim_filtered _ _ e hsim ha hw', hlat, fun hnone => ?_⟩
      simp only [hdr hnone, hs.watch_inert _ _ ha hw']

theorem inv_run (O : Ops K Key Obj C) {build : C → G} {rel watch} {R : C → C → Prop} {adm}
    (hs : Sound O build rel watch R adm) :
    ∀ (ss : List (Step K Key Obj)) (σ : Sim C G), Inv build R σ → Admissible O adm σ.world ss →
      Inv build R (run O build rel watch σ ss)
  | [], _, hi, _ => hi
  | s :: ss, σ, hi, ha =>
      have ⟨h1, h2⟩ := (admissible_cons O adm σ.world s ss).1 ha
      inv_run O hs ss _ (inv_step O hs hi s h1) (step_world O build rel watch σ s ▸ h2)

/-- **Every reachable state satisfies the invariant**: whatever the history, the store stands in for the cluster, the
latest graph is the applied one, and with nothing pending the applied output is the fresh one. -/
theorem inv_reachable (O : Ops K Key Obj C) {build : C → G} {rel watch} {R : C → C → Prop} {adm}
    (hs : Sound O build rel watch R adm) (w₀ : C) (hist : List (Step K Key Obj)) (ha : Admissible O adm w₀ hist) :
    Inv build R (run O build rel watch (start build w₀) hist) :=
  inv_run O hs hist _ (inv_start O hs w₀) ha

theorem run_append (O : Ops K Key Obj C) (build : C → G) (rel watch) :
    ∀ (a b : List (Step K Key Obj)) (σ : Sim C G),
      run O build rel watch σ (a ++ b) = run O build rel watch (run O build rel watch σ a) b
  | [], _, _ => rfl
  | s :: a, b, σ => by simp [run, run_append O build rel watch a b]

theorem world_run (O : Ops K Key Obj C) (build : C → G) (rel watch) :
    ∀ (ss : List (Step K Key Obj)) (σ : Sim C G),
      (run O build rel watch σ ss).world = finalWorld O σ.world ss
  | [], _ => rfl
  | s :: ss, σ => by rw [run, world_run O build rel watch ss, step_world, ← finalWorld_cons]

section
variable (O : Ops K Key Obj C) (s : C) (e : Event K Key Obj)

/-- the early return of `delete` -/
theorem storeAfter_delete_absent (hp : O.persisted e.kind = true) (ho : e.obj = none)
    (hn : (O.get s e.kind e.key).isNone = true) : storeAfter O s e = s := by
  simp [storeAfter, hp, ho, hn]

theorem storeAfter_cases : storeAfter O s e = s ∨ storeAfter O s e = O.store e s := by
  unfold storeAfter
  split
  · split
    · exact .inr rfl
    · split
      · exact .inl rfl
      · exact .inr rfl
  · exact .inl rfl

/-- Where deleting what the store does not hold leaves the store alone (and kinds without a store have nothing to
store), the early return of `delete` is invisible: `storeAfter` is `store`. -/
theorem storeAfter_eq_store (hnp : O.persisted e.kind = false → O.store e s = s)
    (habs : e.obj = none → (O.get s e.kind e.key).isNone = true → O.store e s = s) :
    storeAfter O s e = O.store e s := by
  unfold storeAfter
  cases hp : O.persisted e.kind with
  | false => simpa using (hnp hp).symm
  | true =>
    cases ho : e.obj with
    | some _ => rfl
    | none =>
      cases hn : (O.get s e.kind e.key).isNone with
      | true => simpa using (habs ho hn).symm
      | false => simp

end

theorem verdict_false {O : Ops K Key Obj C} (hp : ∀ k, O.persisted k = true) (hd : O.delSeesOld = true)
    {rel : Option G → Option Obj → Event K Key Obj → Bool} {latest : Option G} {s : C} {e : Event K Key Obj}
    (hv : verdict O rel latest s e = false) :
    (e.obj = none ∧ (O.get s e.kind e.key).isNone = true) ∨
    (O.hasPred e.kind = true ∧ rel latest (O.get s e.kind e.key) e = false) := by
  unfold verdict at hv
  simp only [hp, hd, if_true, Bool.true_and] at hv
  cases ho : e.obj with
  | some _ =>
    simp only [ho] at hv
    cases hh : O.hasPred e.kind <;> simp_all
  | none =>
    simp only [ho] at hv
    cases hn : (O.get s e.kind e.key).isNone with
    | true => exact .inl ⟨rfl, rfl⟩
    | false => cases hh : O.hasPred e.kind <;> simp_all

/-- An instance in which every mutation is delivered and the store is a faithful copy of the cluster: `Sound` comes
down to the soundness of the relevance predicates. -/
theorem sound_of_copy (O : Ops K Key Obj C) (build : C → G) (rel : Option G → Option Obj → Event K Key Obj → Bool)
    (adm : C → Event K Key Obj → Bool)
    (hstore : ∀ s e, storeAfter O (O.cache e s) e = applyW O e s)
    (hrel : ∀ s e, adm s e = true → verdict O rel (some (build s)) (O.cache e s) e = false →
      build (applyW O e s) = build s) :
    Sound O build rel (fun _ _ => true) Eq adm where
  refl _ := rfl
  build_eq _ _ h := h ▸ rfl
  sim_delivered s _ e h _ _ := h ▸ hstore s e
  sim_filtered _ _ _ _ _ hw := nomatch hw
  watch_inert _ _ _ hw := nomatch hw
  rel_sound s _ e h ha _ hv := by subst h; rw [hstore]; exact hrel s e ha hv

end NGF.Store
