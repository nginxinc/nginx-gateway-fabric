/-
The reference lexer (`NGF.Model.SnippetLex`) is lossless, and what it does inside comments, inside bare words and on
tidy statement text.  For each character class given by a predicate (`isNgxSpace`, `inBare`, `wordChar`, "not LF")
`step` is stated as one equation; on the literal characters `;`, `$`, `#` and LF it simply computes (`rfl`, or `simp`
with `step`).  The statements about `run` are inductions over the text on top of these.

"Tidy statement" is the vocabulary of `TidyStmt` (Model/Telemetry, which this file does not need): indentation `lead`,
a `name` of `wordChar`s, and an argument part `rest` of `restChar`s that is empty or begins with a space — the shape
`rest = [] ∨ ∃ r, rest = ' ' :: r` is what `ok_parts` (Proofs/Telemetry) extracts from `TidyStmt.ok`.
-/
import NGF.Model.SnippetLex

namespace NGF.SnippetLex

/-- the text a mode has read and not yet put into a token -/
def pending : Mode → List Char
  | .gap => []
  | .comment acc => acc.reverse
  | .bare acc _ _ => acc.reverse
  | .quoted dq acc _ => quoteChar dq :: acc.reverse

def rawOf (ts : List Tok) : List Char := ts.flatMap Tok.raw

theorem rawOf_append (a b : List Tok) : rawOf (a ++ b) = rawOf a ++ rawOf b := by
  simp [rawOf]

theorem step_raw (m : Mode) (c : Char) :
    rawOf (step m c).2 ++ pending (step m c).1 = pending m ++ [c] := by
  -- the characters a mode tests for are taken one by one: `split` on the nested `if`s of `step` is very slow to check
  cases m with
  | gap =>
    by_cases hs : isNgxSpace c = true
    · simp [step, hs, rawOf, Tok.raw, pending]
    by_cases h : c = ';' ∨ c = '{' ∨ c = '}' ∨ c = '#' ∨ c = '"' ∨ c = '\'' ∨ c = '\\' ∨ c = '$'
    · rcases h with rfl | rfl | rfl | rfl | rfl | rfl | rfl | rfl <;> rfl
    · simp only [not_or] at h
      simp [step, hs, h, rawOf, pending]
  | comment acc => by_cases h : c = '\n' <;> simp [step, h, rawOf, Tok.raw, pending]
  | bare acc esc var =>
    cases esc
    · by_cases h : c = '{' ∨ c = '\\' ∨ c = '$' ∨ c = ';'
      · rcases h with rfl | rfl | rfl | rfl
        · cases var <;> simp [step, isNgxSpace, rawOf, Tok.raw, pending]
        all_goals simp [step, isNgxSpace, rawOf, Tok.raw, pending]
      · simp only [not_or] at h
        by_cases hs : isNgxSpace c = true <;> simp [step, hs, h, rawOf, Tok.raw, pending]
    · simp [step, rawOf, pending]
  | quoted dq acc esc =>
    cases esc
    · by_cases h : c = '\\'
      · simp [step, h, rawOf, pending]
      · by_cases hq : (c == quoteChar dq) = true <;> simp [step, h, hq, rawOf, Tok.raw, pending]
    · simp [step, rawOf, pending]

theorem flush_raw (m : Mode) : rawOf (flush m) = pending m := by
  cases m <;> simp [flush, rawOf, Tok.raw, pending]

theorem run_raw (s : List Char) : ∀ m, rawOf (run m s) = pending m ++ s := by
  induction s with
  | nil => intro m; simp [run, flush_raw]
  | cons c cs ih =>
    intro m
    simp only [run, rawOf_append, ih]
    rw [← List.append_assoc, step_raw]
    simp

theorem lex_lossless (s : List Char) : rawOf (lex s) = s := by
  simp [lex, run_raw, pending]

/-- characters that continue an unescaped bare word: everything except NGINX white space, `;`, `{`, `\` and `$` — in
particular both quote characters, `}` and `#` -/
def inBare (c : Char) : Bool := !isNgxSpace c && c != ';' && c != '{' && c != '\\' && c != '$'

/-- characters of a tidy word: those that continue a bare word and would also start one without any special meaning -/
def wordChar (c : Char) : Bool := inBare c && c != '}' && c != '"' && c != '\'' && c != '#'

/-- characters of the argument part of a tidy statement -/
def restChar (c : Char) : Bool := wordChar c || c == '$' || isNgxSpace c

theorem wordChar_inBare {c : Char} (h : wordChar c = true) : inBare c = true := by
  simp only [wordChar, Bool.and_eq_true] at h
  exact h.1.1.1.1

theorem inBare_ne_backslash {c : Char} (h : inBare c = true) : c ≠ '\\' := by
  simp only [inBare, Bool.and_eq_true, bne_iff_ne, ne_eq] at h
  exact h.1.2

theorem step_gap_space {c : Char} (h : isNgxSpace c = true) : step .gap c = (.gap, [.ws c]) := by
  simp [step, h]

theorem step_gap_word {c : Char} (h : wordChar c = true) : step .gap c = (.bare [c] false false, []) := by
  simp only [wordChar, inBare, Bool.and_eq_true, Bool.not_eq_true', bne_iff_ne, ne_eq] at h
  simp [step, h]

theorem step_bare_space (acc : List Char) (v : Bool) {c : Char} (h : isNgxSpace c = true) :
    step (.bare acc false v) c = (.gap, [.word acc.reverse .none, .ws c]) := by
  simp only [isNgxSpace, Bool.or_eq_true, beq_iff_eq] at h
  rcases h with ((rfl | rfl) | rfl) | rfl <;> rfl

theorem step_bare_semi (acc : List Char) (v : Bool) :
    step (.bare acc false v) ';' = (.gap, [.word acc.reverse .none, .semi]) := rfl

theorem step_comment_stay (acc : List Char) {c : Char} (h : c ≠ '\n') :
    step (.comment acc) c = (.comment (c :: acc), []) := by
  simp [step, h]

theorem step_bare_stay (acc : List Char) (v : Bool) {c : Char} (h : inBare c = true) :
    step (.bare acc false v) c = (.bare (c :: acc) false false, []) := by
  simp only [inBare, Bool.and_eq_true, Bool.not_eq_true', bne_iff_ne, ne_eq] at h
  simp [step, h]

/-- the `variable` flag survives only an empty run -/
theorem run_bare_stay : ∀ (w : List Char), (∀ c ∈ w, inBare c = true) → ∀ (acc : List Char) (v : Bool) (x : List Char),
    run (.bare acc false v) (w ++ x) = run (.bare (w.reverse ++ acc) false (v && w.isEmpty)) x := by
  intro w
  induction w with
  | nil => intros; simp
  | cons c cs ih =>
    intro h acc v x
    simp only [List.cons_append, run, step_bare_stay acc v (h c List.mem_cons_self), List.nil_append]
    rw [ih (fun y hy => h y (List.mem_cons_of_mem _ hy))]
    simp

theorem run_gap_word {c : Char} (hc : wordChar c = true) {w : List Char} (hw : ∀ x ∈ w, inBare x = true)
    (x : List Char) : run .gap (c :: w ++ x) = run (.bare (c :: w).reverse false false) x := by
  simp only [List.cons_append, run, step_gap_word hc, List.nil_append]
  rw [run_bare_stay w hw]
  simp

theorem lex_word_semi {c : Char} (hc : wordChar c = true) {w : List Char} (hw : ∀ x ∈ w, inBare x = true)
    (rest : List Char) : lex (c :: w ++ ';' :: rest) = .word (c :: w) .none :: .semi :: lex rest := by
  show run .gap (c :: w ++ ';' :: rest) = _
  rw [run_gap_word hc hw, run, step_bare_semi, List.reverse_reverse]
  rfl

theorem run_comment_body : ∀ (body : List Char), '\n' ∉ body → ∀ (acc x : List Char),
    run (.comment acc) (body ++ x) = run (.comment (body.reverse ++ acc)) x := by
  intro body
  induction body with
  | nil => intros; rfl
  | cons c cs ih =>
    intro h acc x
    simp only [List.cons_append, run, step_comment_stay acc fun e => h (e ▸ List.mem_cons_self), List.nil_append]
    rw [ih (fun m => h (List.mem_cons_of_mem _ m))]
    simp

theorem lex_comment (body rest : List Char) (h : '\n' ∉ body) :
    lex ('#' :: body ++ '\n' :: rest) = .comment ('#' :: body) :: .ws '\n' :: lex rest := by
  show run (.comment ['#']) (body ++ '\n' :: rest) = _
  rw [run_comment_body body h]
  simp [run, step, lex]

theorem lex_comment_end (body : List Char) (h : '\n' ∉ body) : lex ('#' :: body) = [.comment ('#' :: body)] := by
  show run (.comment ['#']) body = _
  rw [← List.append_nil body, run_comment_body body h]
  simp [run, flush]

theorem unescape_plain : ∀ l : List Char, (∀ c ∈ l, c ≠ '\\') → unescape l = l := by
  intro l
  induction l with
  | nil => intro _; rfl
  | cons c cs ih =>
    intro h
    have hc : c ≠ '\\' := h c List.mem_cons_self
    rw [unescape.eq_2 c cs (fun _ _ e _ => hc e), ih (fun x hx => h x (List.mem_cons_of_mem _ hx))]

theorem wordValue_plain {name : List Char} (h : ∀ x ∈ name, wordChar x = true) :
    wordValue name .none = name :=
  unescape_plain name (fun c hc => inBare_ne_backslash (wordChar_inBare (h c hc)))

theorem namesFrom_ws (d : Nat) (st : Bool) (c : Char) (ts : List Tok) :
    namesFrom d st (.ws c :: ts) = namesFrom d st ts := rfl

/-- between tokens, or inside an unescaped bare word -/
def Quiet (m : Mode) : Prop := m = .gap ∨ ∃ acc v, m = .bare acc false v

theorem quiet_step {m : Mode} (hm : Quiet m) {c : Char} (hc : restChar c = true) (ts : List Tok) :
    Quiet (step m c).1 ∧ namesFrom 0 false ((step m c).2 ++ ts) = namesFrom 0 false ts := by
  simp only [restChar, Bool.or_eq_true, beq_iff_eq] at hc
  rcases hm with rfl | ⟨acc, v, rfl⟩
  · rcases hc with (hc | rfl) | hc
    · rw [step_gap_word hc]; exact ⟨.inr ⟨_, _, rfl⟩, rfl⟩
    · exact ⟨.inr ⟨_, _, rfl⟩, rfl⟩
    · rw [step_gap_space hc]; exact ⟨.inl rfl, rfl⟩
  · rcases hc with (hc | rfl) | hc
    · rw [step_bare_stay acc v (wordChar_inBare hc)]; exact ⟨.inr ⟨_, _, rfl⟩, rfl⟩
    · exact ⟨.inr ⟨_, _, rfl⟩, rfl⟩
    · rw [step_bare_space acc v hc]; exact ⟨.inl rfl, rfl⟩

theorem quiet_semi {m : Mode} (hm : Quiet m) (ts : List Tok) :
    (step m ';').1 = .gap ∧ namesFrom 0 false ((step m ';').2 ++ ts) = namesFrom 0 true ts := by
  rcases hm with rfl | ⟨acc, v, rfl⟩ <;> exact ⟨rfl, rfl⟩

theorem quiet_flush {m : Mode} (hm : Quiet m) : namesFrom 0 false (flush m) = [] := by
  rcases hm with rfl | ⟨acc, v, rfl⟩ <;> rfl

theorem names_rest : ∀ (rest : List Char) (m : Mode), Quiet m → (∀ c ∈ rest, restChar c = true) → ∀ x,
    ∃ m', Quiet m' ∧ namesFrom 0 false (run m (rest ++ x)) = namesFrom 0 false (run m' x) := by
  intro rest
  induction rest with
  | nil => intro m hm _ x; exact ⟨m, hm, rfl⟩
  | cons c cs ih =>
    intro m hm hr x
    have h := quiet_step hm (hr c List.mem_cons_self) (run (step m c).1 (cs ++ x))
    simp only [List.cons_append, run]
    rw [h.2]
    exact ih _ h.1 (fun y hy => hr y (List.mem_cons_of_mem _ hy)) x

theorem names_rest_semi (rest : List Char) (m : Mode) (hm : Quiet m) (hr : ∀ c ∈ rest, restChar c = true)
    (more : List Char) :
    namesFrom 0 false (run m (rest ++ ';' :: more)) = namesFrom 0 true (run .gap more) := by
  obtain ⟨m', hm', h⟩ := names_rest rest m hm hr (';' :: more)
  have hs := quiet_semi hm' (run (step m' ';').1 more)
  rw [h, run, hs.2, hs.1]

theorem names_rest_end (rest : List Char) (m : Mode) (hm : Quiet m) (hr : ∀ c ∈ rest, restChar c = true) :
    namesFrom 0 false (run m rest) = [] := by
  obtain ⟨m', hm', h⟩ := names_rest rest m hm hr []
  rw [List.append_nil] at h
  rw [h, run, quiet_flush hm']

theorem names_lead : ∀ (lead : List Char), (∀ c ∈ lead, isNgxSpace c = true) → ∀ (d : Nat) (st : Bool) x,
    namesFrom d st (run .gap (lead ++ x)) = namesFrom d st (run .gap x) := by
  intro lead
  induction lead with
  | nil => intros; rfl
  | cons c cs ih =>
    intro h d st x
    simp only [List.cons_append, run, step_gap_space (h c List.mem_cons_self), List.cons_append, List.nil_append,
      namesFrom_ws]
    exact ih (fun y hy => h y (List.mem_cons_of_mem _ hy)) d st x

theorem names_space_only (l : List Char) (h : ∀ c ∈ l, isNgxSpace c = true) (d : Nat) (st : Bool) :
    namesFrom d st (run .gap l) = [] := by
  have := names_lead l h d st []
  rwa [List.append_nil] at this

theorem names_word {name : List Char} (hn : ∀ x ∈ name, wordChar x = true) (ts : List Tok) :
    namesFrom 0 true (.word name .none :: ts) = name :: namesFrom 0 false ts := by
  simp [namesFrom, wordValue_plain hn]

theorem names_stmt_semi {name rest : List Char} (hne : name ≠ []) (hn : ∀ x ∈ name, wordChar x = true)
    (hr0 : rest = [] ∨ ∃ r, rest = ' ' :: r) (hr : ∀ c ∈ rest, restChar c = true) (more : List Char) :
    namesFrom 0 true (run .gap (name ++ (rest ++ ';' :: more))) = name :: namesFrom 0 true (run .gap more) := by
  obtain ⟨c, cs, rfl⟩ := List.exists_cons_of_ne_nil hne
  rw [run_gap_word (hn c List.mem_cons_self) (fun x hx => wordChar_inBare (hn x (List.mem_cons_of_mem _ hx)))]
  rcases hr0 with rfl | ⟨r, rfl⟩
  · show namesFrom 0 true (.word (c :: cs).reverse.reverse .none :: .semi :: run .gap more) = _
    rw [List.reverse_reverse, names_word hn]
    rfl
  · show namesFrom 0 true (.word (c :: cs).reverse.reverse .none :: .ws ' ' :: run .gap (r ++ ';' :: more)) = _
    rw [List.reverse_reverse, names_word hn, namesFrom_ws,
      names_rest_semi r .gap (.inl rfl) (fun x hx => hr x (List.mem_cons_of_mem _ hx))]

theorem names_stmt_end {name rest : List Char} (hne : name ≠ []) (hn : ∀ x ∈ name, wordChar x = true)
    (hr0 : rest = [] ∨ ∃ r, rest = ' ' :: r) (hr : ∀ c ∈ rest, restChar c = true) :
    namesFrom 0 true (run .gap (name ++ rest)) = [name] := by
  obtain ⟨c, cs, rfl⟩ := List.exists_cons_of_ne_nil hne
  rw [run_gap_word (hn c List.mem_cons_self) (fun x hx => wordChar_inBare (hn x (List.mem_cons_of_mem _ hx)))]
  rcases hr0 with rfl | ⟨r, rfl⟩
  · show namesFrom 0 true [.word (c :: cs).reverse.reverse .none] = _
    rw [List.reverse_reverse, names_word hn]
    rfl
  · show namesFrom 0 true (.word (c :: cs).reverse.reverse .none :: .ws ' ' :: run .gap r) = _
    rw [List.reverse_reverse, names_word hn, namesFrom_ws,
      names_rest_end r .gap (.inl rfl) (fun x hx => hr x (List.mem_cons_of_mem _ hx))]

end NGF.SnippetLex
