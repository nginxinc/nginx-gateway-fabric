/-
C08 — the retry loop against a changing object: the finally stored status is computed from the object the LAST Get
returned, element `gets - 1` of `liveSeq`, which the initial store and the other writers' script determine alone.
(Loop rule and per-submission facts for `runLive`: `NGF.Proofs.StatusRetry`.)
-/
import NGF.Proofs.StatusRetry

namespace NGF.StatusWrite

theorem liveSeq_succ (n : Nat) (store : Status) (script : List Step) :
    liveSeq (n + 1) store script =
      (script.headD .quiet).live store ::
        liveSeq n (afterAttempt ((script.headD .quiet).live store) (script.headD .quiet).op) script.tail := rfl

theorem liveSeq_length : ∀ (n : Nat) (store : Status) (script : List Step), (liveSeq n store script).length = n
  | 0, _, _ => rfl
  | n + 1, store, script => by rw [liveSeq_succ, List.length_cons, liveSeq_length n]

theorem afterAttempt_updFail (live : Status) (poke : Option Status) :
    afterAttempt live (.updFail poke) = poke.getD live := by cases poke <;> rfl

/-- a successful write stores what was submitted for element `i` of `liveSeq`, fetched by Get number `i + 1` -/
def LastFetched (n : Nat) (r : Run) (script : List Step) (r' : Run) : Prop :=
  r'.writes = 1 →
    ∃ i live, (liveSeq n r.store script)[i]? = some live ∧ r'.gets = r.gets + i + 1 ∧
      r'.calls.getLast? = some (.update live r'.store true)

theorem lastFetched_step (inv : Invoke) (n : Nat) (r : Run) (live : Status) (op : Op) (tail : List Step)
    (h0 : r.writes = 0)
    (ih : ∀ r1 : Run, r1.writes = 0 → LastFetched n r1 tail (runLive inv n r1 tail))
    (r' : Run)
    (hr' : r' = if (attempt inv { r with store := live } op).2 then (attempt inv { r with store := live } op).1
                else runLive inv n (attempt inv { r with store := live } op).1 tail)
    (h1 : r'.writes = 1) :
    ∃ i lv, (live :: liveSeq n (afterAttempt live op) tail)[i]? = some lv ∧ r'.gets = r.gets + i + 1 ∧
      r'.calls.getLast? = some (.update lv r'.store true) := by
  have hg : (attempt inv { r with store := live } op).1.gets = r.gets + 1 :=
    attempt_gets inv { r with store := live } op
  cases hd : (attempt inv { r with store := live } op).2 with
  | true =>
    rw [hd] at hr'
    simp only [if_true] at hr'
    subst hr'
    refine ⟨0, live, rfl, by omega, ?_⟩
    revert h1
    apply attempt_cases inv { r with store := live } op (fun x => x.1.writes = 1 →
      x.1.calls.getLast? = some (.update live x.1.store true))
    · intro _ h; simp [h0] at h
    · intro _ h; simp [h0] at h
    · intro _ ok _ h
      cases ok with
      | true => simp
      | false => simp [h0] at h
  | false =>
    rw [hd] at hr'
    simp only [Bool.false_eq_true, if_false] at hr'
    subst hr'
    have hw0 : (attempt inv { r with store := live } op).1.writes = 0 := by
      revert hd
      apply attempt_cases inv { r with store := live } op (fun x => x.2 = false → x.1.writes = 0)
      · exact fun _ _ => h0
      · exact fun _ h => nomatch h
      · intro _ ok _ h
        subst h; exact h0
    have hst : (attempt inv { r with store := live } op).1.store = afterAttempt live op := by
      -- by cases on `op` itself: `attempt_cases` forgets `op`, which `afterAttempt` needs
      revert hd
      cases op with
      | getErr => intro _; rfl
      | notFound => intro h; simp [attempt] at h
      | ok =>
        cases hw : (inv ({ r with store := live } : Run).setter ({ r with store := live } : Run).store).2.2 with
        | false => rw [attempt_noop inv _ .ok (Or.inl rfl) hw]; intro h; simp at h
        | true => rw [attempt_ok_set inv _ hw]; intro h; simp at h
      | updFail poke =>
        cases hw : (inv ({ r with store := live } : Run).setter ({ r with store := live } : Run).store).2.2 with
        | false => rw [attempt_noop inv _ _ (Or.inr ⟨poke, rfl⟩) hw]; intro h; simp at h
        | true => rw [attempt_updFail_set inv _ poke hw, afterAttempt_updFail]; intro _; rfl
    obtain ⟨i, lv, hi, hgets, hlast⟩ := ih _ hw0 h1
    rw [hst] at hi
    exact ⟨i + 1, lv, by simpa using hi, by omega, hlast⟩

theorem live_last_fetched (inv : Invoke) : ∀ (n : Nat) (r : Run) (script : List Step), r.writes = 0 →
    LastFetched n r script (runLive inv n r script)
  | 0, r, _, h0 => by intro h1; simp [runLive, h0] at h1
  | n + 1, r, script, h0 => by
    intro h1
    exact lastFetched_step inv n r ((script.headD .quiet).live r.store) (script.headD .quiet).op script.tail h0
      (fun r1 h => live_last_fetched inv n r1 script.tail h) _ (runLive_succ inv n r script) h1

end NGF.StatusWrite
