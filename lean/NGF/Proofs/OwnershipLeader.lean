import NGF.Model.OwnershipLeader
import NGF.Proofs.Ownership
import NGF.Proofs.Leader
/-
C17 over leadership — what the ownership model's batches leave in the leader-aware updater (`latest_opsOf`:
the requests of the last batch), and that an own target is none of the specification's foreign objects.
-/
namespace NGF.Ownership
open NGF.Leader

theorem opsOf_cons (b : Batch) (bs : List Batch) :
    opsOf (b :: bs) = .update 0 b.r0 :: .update 1 b.r1 :: opsOf bs := by
  simp [opsOf, batchOps]

theorem opsOf_length (bs : List Batch) : (opsOf bs).length = 2 * bs.length := by
  induction bs with
  | nil => rfl
  | cons b bs ih => rw [opsOf_cons]; simp [ih]; omega

theorem noEnable_opsOf (bs : List Batch) : NoEnable (opsOf bs) := by
  unfold NoEnable
  induction bs with
  | nil => rfl
  | cons b bs ih => rw [opsOf_cons]; simpa [Op.isEnable] using ih

/-- every batch submits to both groups, so the last submission of each group is the LAST batch's -/
theorem latest_opsOf : ∀ bs : List Batch, latest (opsOf bs) = lastWrites bs
  | [] => rfl
  | [b] => by
    cases h0 : b.r0.isEmpty <;> cases h1 : b.r1.isEmpty <;>
      simp [opsOf, batchOps, latest, superseded, lastWrites, batchWrites, h0, h1]
  | b :: b' :: bs => by
    have ih := latest_opsOf (b' :: bs)
    rw [opsOf_cons, opsOf_cons]
    rw [opsOf_cons] at ih
    have e : lastWrites (b :: b' :: bs) = lastWrites (b' :: bs) := by
      simp [lastWrites, List.getLast?_cons_cons]
    rw [e, ← ih]
    simp [latest, superseded]

theorem map_after_opsOf (bs : List Batch) : (opsOf bs).map after = bs.flatMap batchOuts := by
  induction bs with
  | nil => rfl
  | cons b bs ih => rw [opsOf_cons]; simp [after, batchOuts, ih]

theorem mem_batchWrites (b : Batch) (w : Write) (h : w ∈ batchWrites b) : ∀ q ∈ w.2, q ∈ b.r0 ++ b.r1 := by
  intro q hq
  unfold batchWrites at h
  rcases List.mem_append.mp h with h | h
  · split at h
    · cases h
    · simp at h; subst h; exact List.mem_append_left _ hq
  · split at h
    · cases h
    · simp at h; subst h; exact List.mem_append_right _ hq

theorem batch_requests_own (cfg : Cfg) (tgt : Req → Target) (b : Batch) (h : b.Ok cfg tgt) :
    ∀ q ∈ b.r0 ++ b.r1, tgt q ∈ targets (buildGraph cfg b.st) ∧ (tgt q).OwnIn cfg b.st := by
  intro q hq
  have hm : tgt q ∈ targets (buildGraph cfg b.st) := by
    rcases List.mem_append.mp hq with hq | hq
    · have : tgt q ∈ b.r0.map tgt := List.mem_map.mpr ⟨q, hq, rfl⟩
      rw [h.1] at this; exact (List.mem_filter.mp this).1
    · have : tgt q ∈ b.r1.map tgt := List.mem_map.mpr ⟨q, hq, rfl⟩
      rw [h.2] at this; exact (List.mem_filter.mp this).1
  exact ⟨hm, targets_own cfg b.st _ hm⟩

theorem ownIn_not_foreign (cfg : Cfg) (s : State) (hu : KeysUnique s) (tg : Target) (h : tg.OwnIn cfg s) :
    tg ∉ foreignTargets cfg s := by
  obtain ⟨u1, u2, u3, u4, u5⟩ := hu
  intro hin
  unfold foreignTargets at hin
  simp only [List.mem_append, List.mem_map, List.mem_filter] at hin
  rcases hin with (((⟨c, ⟨hc, hf⟩, rfl⟩ | ⟨g, ⟨hg, hf⟩, rfl⟩) | ⟨r, ⟨hr, hf⟩, rfl⟩) | ⟨p, ⟨hp, hf⟩, rfl⟩) | ⟨b, ⟨hb, hf⟩, rfl⟩
  · obtain ⟨c', hc', hn, hf'⟩ := h
    have := unique_of_pairwise (fun c : GwClass => c.name) _ u1 c' hc' c hc hn
    subst this; simp [hf] at hf'
  · obtain ⟨g', hg', hn, hf'⟩ := h
    have := unique_of_pairwise (fun g : Gw => g.nn) _ u2 g' hg' g hg hn
    subst this; simp [hf] at hf'
  · obtain ⟨r', hr', hk, hn, hf'⟩ := h
    have := unique_of_pairwise (fun r : Route => (r.kind, r.nn)) _ u3 r' hr' r hr (by simp [hk, hn])
    subst this; simp [hf] at hf'
  · obtain ⟨p', hp', hk, hn, hf'⟩ := h
    have := unique_of_pairwise (fun p : Policy => (p.gvk, p.nn)) _ u4 p' hp' p hp (by simp [hk, hn])
    subst this; simp [hf] at hf'
  · obtain ⟨b', hb', hn, hf'⟩ := h
    have := unique_of_pairwise (fun b : Btp => b.nn) _ u5 b' hb' b hb hn
    subst this; simp [hf] at hf'

end NGF.Ownership
