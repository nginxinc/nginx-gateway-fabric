/-
C13 §7, EndpointSlices inside the pipeline model (`NGF.Model.PipelineEndpoints`): every backendRef `buildUpstreams` visits
comes from a reference of an attached valid route, and `upstreamsOf` reads the slices only through `listSlices` of such a
Service. Core Lean only.
-/
import NGF.Model.PipelineEndpoints
import NGF.Proofs.PipelineRefs
import NGF.Proofs.Resolver

namespace NGF.PipelineEndpoints
open NGF.Pipeline NGF.PipelineRefs
open NGF.RefGrant (GBackendRef)
open NGF.Resolver (Slice SvcPort Up)

theorem dedupByName_eq : ∀ (l : List Up) (seen : List String), dedupByName l seen = Resolver.dedupUps l seen
  | [], _ => rfl
  | u :: r, seen => by rw [dedupByName, Resolver.dedupUps, dedupByName_eq r, dedupByName_eq r]

theorem dedupByName_congr {f g : GBackendRef → Up} : ∀ (l : List GBackendRef) (seen : List String),
    (∀ b ∈ l, f b = g b) → dedupByName (l.map f) seen = dedupByName (l.map g) seen
  | [], _, _ => rfl
  | b :: r, seen, h => by
    have hb := h b (List.mem_cons_self ..)
    have hr := fun s => dedupByName_congr r s (fun x hx => h x (List.mem_cons_of_mem _ hx))
    simp only [List.map_cons, dedupByName, hb, hr]

theorem servicePort_port (c : ScenarioE) (ns name : String) (port : Nat) : (servicePort c ns name port).port = port := by
  unfold servicePort
  cases h : c.ports.find? (fun i => i.ns == ns && i.name == name && i.sp.port == port) with
  | none => rfl
  | some i =>
    have := List.find?_some h
    simp only [Bool.and_eq_true, beq_iff_eq] at this
    exact this.2

theorem mem_routeBackends {c : ScenarioE} {r : RouteR} {b : GBackendRef} :
    b ∈ routeBackends c r ↔ ∃ ru ∈ r.rules, ∃ refs, ru.action = .forward refs ∧ ∃ ref ∈ refs,
      b = resolveRef c.base.grants c.base.services r.ns ref ∧ b.valid = true := by
  simp only [routeBackends, List.mem_flatMap]
  constructor
  · rintro ⟨ru, hru, hb⟩
    cases hact : ru.action with
    | redirect a b' c' d => simp [hact] at hb
    | forward refs =>
      simp only [hact, List.mem_filter, List.mem_map] at hb
      obtain ⟨⟨ref, href, rfl⟩, hv⟩ := hb
      exact ⟨ru, hru, refs, hact, ref, href, rfl, hv⟩
  · rintro ⟨ru, hru, refs, hact, ref, href, rfl, hv⟩
    refine ⟨ru, hru, ?_⟩
    simp only [hact, List.mem_filter, List.mem_map]
    exact ⟨⟨ref, href, rfl⟩, hv⟩

theorem mem_backends {c : ScenarioE} {b : GBackendRef} :
    b ∈ backends c ↔ ∃ g, winner (resolve c.base) = some g ∧ ∃ l ∈ g.listeners, ∃ r ∈ c.base.routes,
      attachedAt g l r = true ∧ b ∈ routeBackends c r := by
  unfold backends
  cases hw : winner (resolve c.base) with
  | none => simp
  | some g =>
    simp only [List.mem_flatMap, List.mem_filter, Option.some.injEq, exists_eq_left']
    constructor
    · rintro ⟨l, hl, r, ⟨hr, ha⟩, hb⟩; exact ⟨l, hl, r, hr, ha, hb⟩
    · rintro ⟨l, hl, r, hr, ha, hb⟩; exact ⟨l, hl, r, ⟨hr, ha⟩, hb⟩

theorem attached_iff {g : Gateway} {r : RouteR} :
    attached g r = true ↔ ∃ l ∈ g.listeners, attachedAt g l r = true := by
  simp only [attached, attachedAt, Bool.and_eq_true, List.any_eq_true]
  constructor
  · rintro ⟨hv, l, hl, ha⟩; exact ⟨l, hl, hv, ha⟩
  · rintro ⟨l, hl, hv, ha⟩; exact ⟨hv, l, hl, ha⟩

theorem servicePortReference_valid {b : GBackendRef} (hv : b.valid = true) :
    (RefGrant.servicePortReference b).toList = upstreamOf b.svcNs b.svcName b.port := by
  simp [upstreamOf, RefGrant.servicePortReference, hv]

theorem backends_provenance {c : ScenarioE} {b : GBackendRef} (hb : b ∈ backends c) :
    b.valid = true ∧ ∃ g, winner (resolve c.base) = some g ∧ ∃ r ∈ c.base.routes, attached g r = true ∧
      ∃ ru ∈ r.rules, ∃ refs, ru.action = .forward refs ∧ ∃ ref ∈ refs,
        b.svcNs = RefGrant.refNs ref r.ns ∧ b.svcName = ref.name ∧
        RefGrant.routeRefVerdict c.base.grants .http r.ns ref = .ok ∧
        findPort c.base.services r.ns ref = some b.port := by
  obtain ⟨g, hw, l, hl, r, hr, ha, hrb⟩ := mem_backends.mp hb
  obtain ⟨ru, hru, refs, hact, ref, href, rfl, hv⟩ := mem_routeBackends.mp hrb
  obtain ⟨hok, p, hf, heq⟩ := resolveRef_valid hv
  refine ⟨hv, g, hw, r, hr, attached_iff.mpr ⟨l, hl, ha⟩, ru, hru, refs, hact, ref, href, ?_, ?_, hok, ?_⟩
  · rw [heq]
  · rw [heq]
  · rw [heq]; exact hf

theorem backends_referenced {c : ScenarioE} {b : GBackendRef} (hb : b ∈ backends c) :
    Referenced c b.svcNs b.svcName := by
  obtain ⟨_, g, hw, r, hr, hatt, ru, hru, refs, hact, ref, href, hns, hname, _, _⟩ := backends_provenance hb
  exact ⟨g, hw, r, hr, hatt, ru, hru, refs, hact, ref, href, hns.symm, hname.symm⟩

theorem target_has_backend {c : ScenarioE} {t : Str} {share : Nat}
    (ht : (t, share) ∈ confTargets (genR c.base)) (hne : t ≠ invalidBackendRef) :
    ∃ b ∈ backends c, (RefGrant.servicePortReference b).toList = t := by
  simp only [confTargets, List.mem_flatMap] at ht
  obtain ⟨a, ha, hta⟩ := ht
  rcases genR_acts ha with rfl | ⟨g, hw, r, hr, hatt, ru, hru, port, rfl⟩
  · simp [actTargets] at hta
  · obtain ⟨refs, hact, ref, href, p, htp, hok, hf⟩ := resolveAction_targets hta hne
    obtain ⟨l, hl, hal⟩ := attached_iff.mp hatt
    have hres : resolveRef c.base.grants c.base.services r.ns ref =
        { valid := true, svcNs := RefGrant.refNs ref r.ns, svcName := ref.name, port := p, weight := refWeight ref } := by
      simp [resolveRef, RefGrant.createBackendRef, hok, hf]
    refine ⟨resolveRef c.base.grants c.base.services r.ns ref, ?_, ?_⟩
    · refine mem_backends.mpr ⟨g, hw, l, hl, r, hr, hal, mem_routeBackends.mpr ⟨ru, hru, refs, hact, ref, href, rfl, ?_⟩⟩
      rw [hres]
    · rw [servicePortReference_valid (by rw [hres]), hres]; exact htp.symm

theorem mem_upstreamsOf {c : ScenarioE} {u : Up} (hu : u ∈ upstreamsOf c) : ∃ b ∈ backends c, u = toUp c b := by
  rw [upstreamsOf, dedupByName_eq] at hu
  obtain ⟨h, _⟩ := Resolver.mem_dedupUps hu
  obtain ⟨b, hb, rfl⟩ := List.mem_map.mp h
  exact ⟨b, hb, rfl⟩

theorem name_mem_upstreamsOf {c : ScenarioE} {b : GBackendRef} (hb : b ∈ backends c) :
    RefGrant.servicePortReference b ∈ (upstreamsOf c).map (·.name) := by
  rw [upstreamsOf, dedupByName_eq]
  apply Resolver.name_mem_dedupUps _ (by simp)
  exact List.mem_map.mpr ⟨toUp c b, List.mem_map.mpr ⟨b, hb, rfl⟩, rfl⟩

theorem nodup_upstreamsOf (c : ScenarioE) : ((upstreamsOf c).map (·.name)).Nodup := by
  rw [upstreamsOf, dedupByName_eq]; exact Resolver.nodup_dedupUps _ _

theorem listSlices_insert {l1 l2 : List Slice} {s : Slice} {ns name : String}
    (h : ¬ (s.ns = ns ∧ s.svcLabel = some name)) :
    Resolver.listSlices (l1 ++ s :: l2) ns name = Resolver.listSlices (l1 ++ l2) ns name := by
  unfold Resolver.listSlices
  rw [List.filter_append, List.filter_append, List.filter_cons]
  have : (decide (s.ns = ns) && decide (Resolver.indexKey s = some name)) = false := by
    simp only [Bool.and_eq_false_iff, decide_eq_false_iff_not, Resolver.indexKey_eq_some]
    by_cases h1 : s.ns = ns
    · exact .inr fun e => h ⟨h1, e.1⟩
    · exact .inl h1
  simp [this]

theorem upstreamEndpoints_insert {l1 l2 : List Slice} {s : Slice} {ns name : String} (sp : SvcPort)
    (fam : Resolver.IPFamily) (h : ¬ (s.ns = ns ∧ s.svcLabel = some name)) :
    Resolver.upstreamEndpoints (l1 ++ s :: l2) ns name sp fam = Resolver.upstreamEndpoints (l1 ++ l2) ns name sp fam :=
  Resolver.upstreamEndpoints_congr sp fam (listSlices_insert h)

end NGF.PipelineEndpoints
