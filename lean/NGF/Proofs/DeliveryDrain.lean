/-
C10 — a live system can always drain: every `[begin k, deliver k]` pair lowers the work left for worker
`k` (`Rec.mu`) and leaves the other workers alone (`Frame`), so `Sys.work` rounds of `drainRound` leave
every worker quiet.  Also: runs compose, and what the harness replays is a run.
-/
import NGF.Proofs.Delivery
namespace NGF.Delivery
open NGF.Loop

theorem runCount_fst (d : Bool) : ∀ (as : List SAct) (s : Sys) (n m : Nat),
    (runCount d s n as).1 = (runCount d s m as).1
  | [], _, _, _ => rfl
  | a :: as, s, n, m => by
    simp only [runCount]
    split
    · exact runCount_fst d as _ _ _
    · exact runCount_fst d as _ _ _

theorem run_nil (d : Bool) (s : Sys) : run d s [] = s := rfl

theorem run_cons (d : Bool) (s : Sys) (a : SAct) (as : List SAct) :
    run d s (a :: as) = if enabled d s a then run d (step s a) as else run d s as := by
  simp only [run, runCount]
  split
  · rfl
  · exact runCount_fst d as s 1 0

theorem run_append (d : Bool) : ∀ (as bs : List SAct) (s : Sys),
    run d s (as ++ bs) = run d (run d s as) bs
  | [], _, _ => rfl
  | a :: as, bs, s => by
    rw [List.cons_append, run_cons, run_cons]
    split
    · exact run_append d as bs _
    · exact run_append d as bs _

theorem runOps_is_run : ∀ (ops : List DOp) (s : Sys) (n : Nat), ∃ as, (runOps s n ops).1 = run false s as
  | [], s, _ => ⟨[], rfl⟩
  | .act a :: t, s, n => by
    simp only [runOps]
    split
    · next he =>
      obtain ⟨as, h⟩ := runOps_is_run t (step s a) n
      exact ⟨a :: as, by rw [run_cons, if_pos he]; exact h⟩
    · exact runOps_is_run t s (n + 1)
  | .deliverEv i e :: t, s, n => by
    simp only [runOps]
    split
    · next he =>
      simp only [Bool.and_eq_true] at he
      obtain ⟨as, h⟩ := runOps_is_run t (step s (.deliver i)) n
      exact ⟨.deliver i :: as, by rw [run_cons, if_pos he.1]; exact h⟩
    · exact runOps_is_run t s (n + 1)

/-- work left for one worker -/
def Rec.mu (r : Rec) : Nat := 2 * r.todo.length + (if r.offering.isSome then 1 else 0)

def Live (s : Sys) : Prop := s.ctxDone = false ∧ s.loop.phase = .select

theorem quiet_of_mu_zero {r : Rec} (h : r.mu = 0) : r.quiet = true := by
  unfold Rec.mu at h
  cases ho : r.offering with
  | some e => simp [ho] at h
  | none =>
    cases ht : r.todo with
    | nil => simp [Rec.quiet, ho, ht]
    | cons x t => simp [ho, ht] at h

/-- What one worker step leaves untouched. -/
structure Frame (s s' : Sys) (k : Nat) : Prop where
  live  : Live s → Live s'
  len   : s'.recs.length = s.recs.length
  other : ∀ j, j ≠ k → s'.recs[j]? = s.recs[j]?

theorem Frame.refl (s : Sys) (k : Nat) : Frame s s k := ⟨id, rfl, fun _ _ => rfl⟩

theorem Frame.trans {s s1 s2 : Sys} {k : Nat} (a : Frame s s1 k) (b : Frame s1 s2 k) : Frame s s2 k :=
  ⟨fun h => b.live (a.live h), b.len.trans a.len, fun j hj => (b.other j hj).trans (a.other j hj)⟩

theorem begin_frame (s : Sys) (k : Nat) (r : Rec) (hk : s.recs[k]? = some r) :
    Frame s (step s (.begin k)) k ∧ (step s (.begin k)).recs[k]? = some r.begin := by
  refine ⟨⟨fun h => h, by simp [step, updAt_length], fun j hj => by simp [step, getElem?_updAt_ne _ _ hj]⟩, ?_⟩
  simp [step, getElem?_updAt_eq, hk]

theorem deliver_frame (s : Sys) (k : Nat) (r : Rec) (e : Ev) (hk : s.recs[k]? = some r)
    (ho : r.offering = some e) :
    Frame s (step s (.deliver k)) k ∧ (step s (.deliver k)).recs[k]? = some (r.finish true) := by
  rw [step_deliver (offering_eq_some.2 ⟨r, hk, ho⟩)]
  refine ⟨⟨fun h => ⟨h.1, by simpa [phase_recv] using h.2⟩, by simp [updAt_length],
    fun j hj => by simp [getElem?_updAt_ne _ _ hj]⟩, ?_⟩
  simp [getElem?_updAt_eq, hk]

theorem mu_finish (r : Rec) (e : Ev) (ho : r.offering = some e) (b : Bool) : (r.finish b).mu = r.mu - 1 := by
  simp [Rec.mu, Rec.finish, ho]

theorem pair_progress (s : Sys) (k : Nat) (hl : Live s) :
    Frame s (run false s [.begin k, .deliver k]) k ∧
    (∀ r, s.recs[k]? = some r →
      ∃ r', (run false s [.begin k, .deliver k]).recs[k]? = some r' ∧ r'.mu ≤ r.mu - 1) := by
  cases hk : s.recs[k]? with
  | none =>
    have : run false s [.begin k, .deliver k] = s := by
      simp [run_cons, run_nil, enabled, hk, Sys.offering]
    rw [this]
    exact ⟨Frame.refl s k, fun r hr => by cases hr⟩
  | some r =>
    cases ho : r.offering with
    | some e =>
      have hoff : s.offering k = some e := by simp [Sys.offering, hk, ho]
      have : run false s [.begin k, .deliver k] = step s (.deliver k) := by
        simp [run_cons, run_nil, enabled, hk, ho, hoff, hl.2]
      rw [this]
      obtain ⟨hf, hr⟩ := deliver_frame s k r e hk ho
      exact ⟨hf, fun r0 hr0 => by cases hr0; exact ⟨_, hr, by rw [mu_finish r e ho]; exact Nat.le_refl _⟩⟩
    | none =>
      have hoff : s.offering k = none := by simp [Sys.offering, hk, ho]
      cases ht : r.todo with
      | nil =>
        have : run false s [.begin k, .deliver k] = s := by
          simp [run_cons, run_nil, enabled, hk, ho, ht, hoff]
        rw [this]
        exact ⟨Frame.refl s k, fun r0 hr0 => ⟨r0, by cases hr0; exact hk, by cases hr0; simp [Rec.mu, ho, ht]⟩⟩
      | cons x t =>
        have hb : enabled false s (.begin k) = true := by simp [enabled, hk, ho, ht]
        obtain ⟨hf1, hr1⟩ := begin_frame s k r hk
        generalize hs1 : step s (.begin k) = s1 at hf1 hr1
        have hrun1 : run false s [.begin k, .deliver k] = run false s1 [.deliver k] := by
          rw [run_cons, if_pos hb, hs1]
        rw [hrun1]
        cases hpre : x.pre with
        | offer e =>
          have hrb : r.begin.offering = some e := by simp [Rec.begin, ht, hpre]
          have hmu : r.begin.mu ≤ r.mu := by simp [Rec.mu, Rec.begin, ht, hpre, ho]; omega
          have hoff1 : s1.offering k = some e := by simp [Sys.offering, hr1, hrb]
          have hen : enabled false s1 (.deliver k) = true := by
            simp [enabled, hoff1]; exact (hf1.live hl).2
          rw [run_cons, if_pos hen, run_nil]
          obtain ⟨hf2, hr2⟩ := deliver_frame s1 k r.begin e hr1 hrb
          exact ⟨hf1.trans hf2, fun r0 hr0 => by
            cases hr0; exact ⟨_, hr2, by rw [mu_finish _ e hrb]; omega⟩⟩
        | _ =>
          -- no event (name filtered out, or the Get failed): the request is done, nothing is offered
          have hrb : r.begin.offering = none := by simp [Rec.begin, ht, hpre, ho]
          have hmu : r.begin.mu ≤ r.mu - 1 := by simp [Rec.mu, Rec.begin, ht, hpre, ho]; omega
          have hoff1 : s1.offering k = none := by simp [Sys.offering, hr1, hrb]
          have hen : enabled false s1 (.deliver k) = false := by simp [enabled, hoff1]
          rw [run_cons, hen]
          exact ⟨hf1, fun r0 hr0 => by cases hr0; exact ⟨_, hr1, hmu⟩⟩

theorem round_progress : ∀ (n : Nat) (s : Sys), Live s →
    Live (run false s (drainRound n)) ∧ (run false s (drainRound n)).recs.length = s.recs.length ∧
    (∀ j, n ≤ j → (run false s (drainRound n)).recs[j]? = s.recs[j]?) ∧
    (∀ j r, j < n → s.recs[j]? = some r →
      ∃ r', (run false s (drainRound n)).recs[j]? = some r' ∧ r'.mu ≤ r.mu - 1)
  | 0, s, hl => ⟨hl, rfl, fun _ _ => rfl, fun _ _ h => absurd h (Nat.not_lt_zero _)⟩
  | n + 1, s, hl => by
    obtain ⟨hl1, hlen1, hge1, hlt1⟩ := round_progress n s hl
    have hrun : run false s (drainRound (n + 1)) =
        run false (run false s (drainRound n)) [.begin n, .deliver n] := by
      simp only [drainRound]; rw [run_append]
    rw [hrun]
    generalize run false s (drainRound n) = s1 at hl1 hlen1 hge1 hlt1
    obtain ⟨hf, hp⟩ := pair_progress s1 n hl1
    refine ⟨hf.live hl1, hf.len.trans hlen1, ?_, ?_⟩
    · intro j hj
      rw [hf.other j (by omega), hge1 j (by omega)]
    · intro j r hj hr
      by_cases hjn : j = n
      · subst hjn
        exact hp r (by rw [hge1 j (Nat.le_refl _)]; exact hr)
      · obtain ⟨r1, hr1, hm1⟩ := hlt1 j r (by omega) hr
        exact ⟨r1, by rw [hf.other j hjn]; exact hr1, hm1⟩

theorem drainSchedule_succ (w m : Nat) : drainSchedule w (m + 1) = drainRound w ++ drainSchedule w m := by
  simp [drainSchedule, List.replicate_succ]

theorem drain_quiet : ∀ (m : Nat) (s : Sys), Live s → (∀ (j : Nat) (r : Rec), s.recs[j]? = some r → r.mu ≤ m) →
    Live (run false s (drainSchedule s.recs.length m)) ∧
    (run false s (drainSchedule s.recs.length m)).quiet = true
  | 0, s, hl, hm => by
    refine ⟨hl, ?_⟩
    show s.recs.all Rec.quiet = true
    rw [List.all_eq_true]
    intro r hr
    obtain ⟨j, hj⟩ := List.mem_iff_getElem?.mp hr
    exact quiet_of_mu_zero (Nat.le_zero.mp (hm j r hj))
  | m + 1, s, hl, hm => by
    rw [drainSchedule_succ, run_append]
    obtain ⟨hl1, hlen1, _, hlt1⟩ := round_progress s.recs.length s hl
    generalize run false s (drainRound s.recs.length) = s1 at hl1 hlen1 hlt1
    rw [← hlen1]
    apply drain_quiet m s1 hl1
    intro j r1 hr1
    have hj : j < s.recs.length := by
      rw [← hlen1]; exact (List.getElem?_eq_some_iff.mp hr1).1
    obtain ⟨r', hr', hmu⟩ := hlt1 j s.recs[j] hj (List.getElem?_eq_getElem hj)
    rw [hr1] at hr'; cases hr'
    have := hm j s.recs[j] (List.getElem?_eq_getElem hj)
    omega

/-- an upper bound of the work left in a state -/
def Sys.work (s : Sys) : Nat := (s.recs.map Rec.mu).foldl max 0

theorem le_foldl_max (l : List Nat) (a x : Nat) (h : x ≤ a ∨ x ∈ l) : x ≤ l.foldl max a := by
  induction l generalizing a with
  | nil => rcases h with h | h; exact h; cases h
  | cons y t ih =>
    simp only [List.foldl_cons]
    apply ih
    rcases h with h | h
    · exact .inl (by omega)
    · rcases List.mem_cons.mp h with h | h
      · exact .inl (by omega)
      · exact .inr h

theorem mu_le_work (s : Sys) (j : Nat) (r : Rec) (h : s.recs[j]? = some r) : r.mu ≤ s.work :=
  le_foldl_max _ 0 _ (.inr (List.mem_map.mpr ⟨r, List.mem_iff_getElem?.mpr ⟨j, h⟩, rfl⟩))

end NGF.Delivery
