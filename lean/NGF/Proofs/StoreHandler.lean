/-
C01 — helper lemmas for the handler layer (`NGF.Model.StoreHandler`): `parseAndCaptureEvent` is
"`capture` iff the event is forwarded", a run through the handler is a run of the store machine whose watch
predicate is `watch ∧ forwards`, and `Sound` is inherited when what the handler swallows is invisible to the build.
-/
import NGF.Model.StoreHandler
import NGF.Proofs.Store

namespace NGF.Store

variable {K Key Obj C G : Type}

variable (H : Handler K Key) (O : Ops K Key Obj C) (build : C → G)
  (rel : Option G → Option Obj → Event K Key Obj → Bool) (watch : C → Event K Key Obj → Bool)
  (R : C → C → Prop) (adm : C → Event K Key Obj → Bool)

/-- `parseAndCaptureEvent` in one line: capture iff the event is forwarded; the callback of the matching filter. -/
theorem parseAndCapture_eq (p : Proc C G) (e : Event K Key Obj) :
    parseAndCapture H O rel p e = (if H.forwards e then capture O rel p e else p, H.callback e) := by
  obtain ⟨kind, key, obj, orc⟩ := e
  cases obj with
  | some o =>
    rcases hf : H.filters kind key with _ | f
    · simp [parseAndCapture, Handler.forwards, Handler.callback, Handler.filterOf, hf]
    · cases hb : H.branches.upsertForwards f <;>
        simp [parseAndCapture, Handler.forwards, Handler.callback, Handler.filterOf, hf, hb]
  | none =>
    rcases hf : H.filters kind key with _ | f
    · simp [parseAndCapture, Handler.forwards, Handler.callback, Handler.filterOf, hf]
    · cases hb : H.branches.deleteForwards f <;>
        simp [parseAndCapture, Handler.forwards, Handler.callback, Handler.filterOf, hf, hb]

theorem parseAndCapture_fst (p : Proc C G) (e : Event K Key Obj) :
    (parseAndCapture H O rel p e).1 = if H.forwards e then capture O rel p e else p :=
  congrArg Prod.fst (parseAndCapture_eq H O rel p e)

theorem parseAndCapture_snd (p : Proc C G) (e : Event K Key Obj) :
    (parseAndCapture H O rel p e).2 = H.callback e :=
  congrArg Prod.snd (parseAndCapture_eq H O rel p e)

theorem forwards_tree (hb : H.branches = treeBranches) (e : Event K Key Obj) :
    H.forwards e = match H.filterOf e with
      | none => true
      | some f => f.captureChangeInGraph := by
  unfold Handler.forwards
  rw [hb]
  cases H.filterOf e with
  | none => rfl
  | some f => cases e.obj <;> rfl

theorem stepH_eq_step (σ : Sim C G) (s : Step K Key Obj) :
    stepH H O build rel watch σ s = step O build rel (watchH H watch) σ s := by
  cases s with
  | cut => rfl
  | restart => rfl
  | mutate e =>
    simp only [stepH, step, watchH, parseAndCapture_fst]
    by_cases hw : watch σ.world e = true <;> by_cases hf : H.forwards e = true <;> simp [hw, hf]

theorem runH_eq_run :
    ∀ (ss : List (Step K Key Obj)) (σ : Sim C G),
      runH H O build rel watch σ ss = run O build rel (watchH H watch) σ ss
  | [], _ => rfl
  | s :: ss, σ => by
      simp only [runH, run, stepH_eq_step]
      exact runH_eq_run ss _

/-- What the handler may swallow: events that do not change what is built and keep the store a stand-in. -/
structure SwallowOK (H : Handler K Key) (O : Ops K Key Obj C) (build : C → G) (R : C → C → Prop)
    (adm : C → Event K Key Obj → Bool) : Prop where
  inert : ∀ t e, adm t e = true → H.forwards e = false → build (applyW O e t) = build t
  sim   : ∀ s t e, R s t → adm t e = true → H.forwards e = false → R (O.cache e s) (applyW O e t)

theorem sound_through_handler (hs : Sound O build rel watch R adm) (hw : SwallowOK H O build R adm) :
    Sound O build rel (watchH H watch) R adm where
  refl := hs.refl
  build_eq := hs.build_eq
  sim_delivered s t e hR ha hd := hs.sim_delivered s t e hR ha (Bool.and_eq_true_iff.1 hd).1
  sim_filtered s t e hR ha hd :=
    (Bool.and_eq_false_iff.1 hd).elim (hs.sim_filtered s t e hR ha) (hw.sim s t e hR ha)
  watch_inert t e ha hd := (Bool.and_eq_false_iff.1 hd).elim (hs.watch_inert t e ha) (hw.inert t e ha)
  rel_sound s t e hR ha hd hv := hs.rel_sound s t e hR ha (Bool.and_eq_true_iff.1 hd).1 hv

/-- What the handler keeps to itself is of kinds the cluster state has no component for (`store` and `cache` leave
the state alone — NginxGateway: no entry in `NewChangeProcessorImpl`, not read by `BuildGraph`): then it is invisible to
every build and every stand-in relation. -/
theorem swallowOK_of_untracked
    (hu : ∀ (e : Event K Key Obj) (c : C), H.forwards e = false → O.store e c = c ∧ O.cache e c = c) :
    SwallowOK H O build R adm where
  inert t e _ hf := by rw [applyW, (hu e t hf).2, (hu e t hf).1]
  sim s t e hR _ hf := by rw [applyW, (hu e s hf).2, (hu e t hf).2, (hu e t hf).1]; exact hR

theorem forwards_of_capture (hb : H.branches = treeBranches) (e : Event K Key Obj)
    (h : ∀ f, H.filterOf e = some f → f.captureChangeInGraph = true) : H.forwards e = true := by
  rw [forwards_tree H hb]
  cases hf : H.filterOf e with
  | none => rfl
  | some f => exact h f hf

theorem swallowOK_of_all_capture (hb : H.branches = treeBranches)
    (hall : ∀ k key f, H.filters k key = some f → f.captureChangeInGraph = true) :
    SwallowOK H O build R adm where
  inert _ e _ hf := by rw [forwards_of_capture H hb e fun f => hall _ _ f] at hf; cases hf
  sim _ _ e _ _ hf := by rw [forwards_of_capture H hb e fun f => hall _ _ f] at hf; cases hf

theorem capture_of_single {c : Prop} [Decidable c] {f₀ f : Filter} (h₀ : f₀.captureChangeInGraph = true)
    (hf : (if c then some f₀ else none) = some f) : f.captureChangeInGraph = true := by
  split at hf
  · cases hf; exact h₀
  · cases hf

end NGF.Store
