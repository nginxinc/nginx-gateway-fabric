/-
Which directives `render` / `renderT` produce where, as the small judge `wfDirs` reads them. The plain and the SSL
servers are both blocks of the shape `head; server_name; locations`, and their locations are one list `locsK`; what the
judge reads of such a block is said once.

Directive names are compared as `String`s (`String.toList` is injective) and the filter lemmas are about variable names,
so that no literal is turned into its characters (Proofs/CharLits says why).
-/
import NGF.Model.RenderTls
import NGF.Proofs.RenderSplit
import NGF.Proofs.RenderPos

namespace NGF.Render
open NGF.Pipeline NGF.Nginx NGF.Mangle NGF.RenderTls

theorem toList_ne {a b : String} (h : a ≠ b) : a.toList ≠ b.toList := fun e => h (String.toList_inj.mp e)

theorem named_append (n : String) (a b : List Dir) : named n (a ++ b) = named n a ++ named n b :=
  List.filter_append ..

theorem blocksNamed_append (n : String) (a b : List Dir) : blocksNamed n (a ++ b) = blocksNamed n a ++ blocksNamed n b :=
  List.filter_append ..

section
variable {m n : String} {l : List Dir}

theorem named_eq_nil (hne : m ≠ n) (h : ∀ d ∈ l, d.name = m.toList) : named n l = [] :=
  List.filter_eq_nil_iff.mpr fun d hd => by rw [h d hd]; simpa using toList_ne hne

theorem named_eq_self (h : ∀ d ∈ l, d.name = n.toList) : named n l = l :=
  List.filter_eq_self.mpr fun d hd => by rw [h d hd]; exact beq_self_eq_true _

theorem blocksNamed_eq_nil (hne : m ≠ n) (h : ∀ d ∈ l, d.name = m.toList) : blocksNamed n l = [] :=
  List.filter_eq_nil_iff.mpr fun d hd => by rw [h d hd]; simpa using fun e => absurd e (toList_ne hne)

theorem blocksNamed_eq_self (h : ∀ d ∈ l, d.name = n.toList ∧ d.block.isSome = true) : blocksNamed n l = l :=
  List.filter_eq_self.mpr fun d hd => by rw [(h d hd).1, (h d hd).2, Bool.and_true]; exact beq_self_eq_true _

end

@[simp] theorem dir_name (n : String) (a : List Arg) : (dir n a).name = n.toList := rfl
@[simp] theorem dir_args (n : String) (a : List Arg) : (dir n a).args = a := rfl
@[simp] theorem dir_block (n : String) (a : List Arg) : (dir n a).block = none := rfl
@[simp] theorem blk_name (n : String) (a : List Arg) (ch : List Dir) : (blk n a ch).name = n.toList := rfl
@[simp] theorem blk_args (n : String) (a : List Arg) (ch : List Dir) : (blk n a ch).args = a := rfl
@[simp] theorem blk_block (n : String) (a : List Arg) (ch : List Dir) : (blk n a ch).block = some ch := rfl
@[simp] theorem body_blk (n : String) (a : List Arg) (ch : List Dir) : body (blk n a ch) = ch := rfl
theorem arg0_cons (n : String) (a : Arg) (as : List Arg) : arg0 (dir n (a :: as)) = a.1 := rfl

/-! On an explicit list the filters are computed by `simp` with the following lemmas (`simp` decides `m ≠ n` for literals). -/

@[simp] theorem named_nil (n : String) : named n [] = [] := rfl
@[simp] theorem blocksNamed_nil (n : String) : blocksNamed n [] = [] := rfl

section
variable {m n : String} {a : List Arg} {ch l : List Dir}

theorem named_cons_ne {d : Dir} (h : d.name ≠ n.toList) : named n (d :: l) = named n l :=
  List.filter_cons_of_neg (by simpa using h)

theorem named_cons_self {d : Dir} (h : d.name = n.toList) : named n (d :: l) = d :: named n l :=
  List.filter_cons_of_pos (by simpa using h)

theorem named_dir_ne (h : m ≠ n) : named n (dir m a :: l) = named n l :=
  named_cons_ne (d := dir m a) (toList_ne h)

theorem named_dir_self : named n (dir n a :: l) = dir n a :: named n l :=
  named_cons_self (d := dir n a) rfl

theorem named_blk_ne (h : m ≠ n) : named n (blk m a ch :: l) = named n l :=
  named_cons_ne (d := blk m a ch) (toList_ne h)

theorem blocksNamed_dir : blocksNamed n (dir m a :: l) = blocksNamed n l :=
  List.filter_cons_of_neg (by rw [dir_block, Option.isSome_none, Bool.and_false]; exact Bool.false_ne_true)

theorem blocksNamed_blk_ne (h : m ≠ n) : blocksNamed n (blk m a ch :: l) = blocksNamed n l :=
  List.filter_cons_of_neg (by simpa using fun e => absurd e (toList_ne h))

end

theorem renderRule_eq (sid : Nat) : renderRule sid = renderRuleK (matchKey sid) := by
  funext r
  unfold renderRule renderRuleK njsDirs njsDirsK
  rfl

theorem renderRuleK_loc {key : Nat → List Char} {r : RRule} {d : Dir} (h : d ∈ renderRuleK key r) :
    d.name = "location".toList ∧ d.block.isSome = true := by
  unfold renderRuleK at h
  cases hact : r.act with
  | direct a =>
    simp only [hact, List.mem_map] at h
    obtain ⟨k, _, rfl⟩ := h
    exact ⟨rfl, rfl⟩
  | njs ms =>
    simp only [hact, List.mem_append, List.mem_map] at h
    rcases h with ⟨k, _, rfl⟩ | ⟨jm, _, rfl⟩ <;> exact ⟨rfl, rfl⟩

theorem rootLoc_loc : rootLoc.name = "location".toList ∧ rootLoc.block.isSome = true := ⟨rfl, rfl⟩

/-- the locations of a server (plain or SSL) whose `$match_key` values are `key <pathRuleIdx>` -/
def locsK (key : Nat → List Char) (rules : List RRule) (root404 : Bool) : List Dir :=
  (sortRules rules).flatMap (renderRuleK key) ++ (if root404 then [rootLoc] else [])

section
variable {key : Nat → List Char} {rules : List RRule} {root404 : Bool} {d : Dir}

theorem mem_locsK (h : d ∈ locsK key rules root404) :
    (∃ r ∈ rules, d ∈ renderRuleK key r) ∨ (root404 = true ∧ d = rootLoc) := by
  rcases List.mem_append.mp h with h | h
  · obtain ⟨r, hr, hd⟩ := List.mem_flatMap.mp h
    exact Or.inl ⟨r, (List.mergeSort_perm _ _).mem_iff.mp hr, hd⟩
  · cases root404 with
    | true => exact Or.inr ⟨rfl, List.mem_singleton.mp h⟩
    | false => cases h

theorem mem_locsK_loc (h : d ∈ locsK key rules root404) : d.name = "location".toList ∧ d.block.isSome = true := by
  rcases mem_locsK h with ⟨_, _, hd⟩ | ⟨_, rfl⟩
  · exact renderRuleK_loc hd
  · exact rootLoc_loc

end

def serverLocs (sv : RServer) : List Dir := locsK (matchKey sv.sid) sv.rules sv.root404

theorem mem_serverLocs_loc {sv : RServer} {d : Dir} (h : d ∈ serverLocs sv) :
    d.name = "location".toList ∧ d.block.isSome = true := mem_locsK_loc h

/-! ### a server block `head; server_name; locations` -/

section serverBody
variable {hd locs : List Dir} {nm : Str}

theorem serverBody_locs (hhd : blocksNamed "location" hd = [])
    (hl : ∀ d ∈ locs, d.name = "location".toList ∧ d.block.isSome = true) :
    blocksNamed "location" (hd ++ [dir "server_name" [wl nm]] ++ locs) = locs := by
  rw [blocksNamed_append, blocksNamed_append, hhd, blocksNamed_dir, blocksNamed_nil, blocksNamed_eq_self hl]
  rfl

theorem serverBody_named {n : String} (h1 : "server_name" ≠ n) (h2 : "location" ≠ n)
    (hl : ∀ d ∈ locs, d.name = "location".toList ∧ d.block.isSome = true) :
    named n (hd ++ [dir "server_name" [wl nm]] ++ locs) = named n hd := by
  rw [named_append, named_append, named_dir_ne h1, named_nil, named_eq_nil h2 (fun d hd => (hl d hd).1),
    List.append_nil, List.append_nil]

theorem serverBody_names (hhd : named "server_name" hd = [])
    (hl : ∀ d ∈ locs, d.name = "location".toList ∧ d.block.isSome = true) :
    named "server_name" (hd ++ [dir "server_name" [wl nm]] ++ locs) = [dir "server_name" [wl nm]] := by
  rw [named_append, named_append, hhd, named_dir_self, named_nil,
    named_eq_nil (by simp) (fun d hd => (hl d hd).1)]
  rfl

end serverBody

theorem listenDirs_names (p : Nat) (extra : List String) : ∀ d ∈ listenDirs p extra, d.name = "listen".toList := by
  intro d hd
  simp only [listenDirs, List.mem_cons, List.mem_nil_iff, or_false] at hd
  rcases hd with rfl | rfl <;> rfl

theorem renderServer_body (sv : RServer) :
    body (renderServer sv) = listenDirs sv.port [] ++ [dir "server_name" [wl sv.name]] ++ serverLocs sv := by
  simp only [renderServer, body_blk, serverLocs, locsK, renderRule_eq, List.append_assoc]

theorem locs_of_renderServer (sv : RServer) : blocksNamed "location" (body (renderServer sv)) = serverLocs sv := by
  rw [renderServer_body]
  exact serverBody_locs (blocksNamed_eq_nil (by simp) (listenDirs_names _ _)) fun _ => mem_serverLocs_loc

theorem listens_of_renderServer (sv : RServer) : named "listen" (body (renderServer sv)) = listenDirs sv.port [] := by
  rw [renderServer_body, serverBody_named (by simp) (by simp) fun _ => mem_serverLocs_loc, named_eq_self (listenDirs_names _ _)]

theorem names_of_renderServer (sv : RServer) :
    named "server_name" (body (renderServer sv)) = [dir "server_name" [wl sv.name]] := by
  rw [renderServer_body]
  exact serverBody_names (named_eq_nil (by simp) (listenDirs_names _ _)) fun _ => mem_serverLocs_loc

theorem blocks_of_http {servers splits : List Dir} (hs : ∀ d ∈ servers, d.name = "server".toList ∧ d.block.isSome = true)
    (hp : ∀ d ∈ splits, d.name = "split_clients".toList ∧ d.block.isSome = true) :
    blocksNamed "server" (preload :: servers ++ splits) = servers ∧
    blocksNamed "split_clients" (preload :: servers ++ splits) = splits := by
  unfold preload
  rw [List.cons_append, blocksNamed_dir, blocksNamed_dir, blocksNamed_append, blocksNamed_append, blocksNamed_eq_self hs,
    blocksNamed_eq_self hp, blocksNamed_eq_nil (by simp) fun d hd => (hp d hd).1,
    blocksNamed_eq_nil (by simp) fun d hd => (hs d hd).1]
  exact ⟨List.append_nil _, List.nil_append _⟩

/-- the entries of `serverDirs` before sorting -/
def serverItems (c : ConfR) : List (Nat × Dir) :=
  (c.dports.map fun d => (d.2, renderDefault d.1)) ++ (c.servers.map fun sv => (sv.sid, renderServer sv))

theorem serverDirs_perm (c : ConfR) : (serverDirs c).Perm ((serverItems c).map (·.2)) := by
  unfold serverDirs
  exact (List.mergeSort_perm _ _).map _

theorem mem_serverDirs {c : ConfR} {d : Dir} :
    d ∈ serverDirs c ↔ (∃ p ∈ c.dports, d = renderDefault p.1) ∨ (∃ sv ∈ c.servers, d = renderServer sv) := by
  rw [(serverDirs_perm c).mem_iff]
  simp only [serverItems, List.map_append, List.map_map, List.mem_append, List.mem_map, Function.comp_def, eq_comm]

theorem serverDirs_server {c : ConfR} {d : Dir} (h : d ∈ serverDirs c) :
    d.name = "server".toList ∧ d.block.isSome = true := by
  rcases mem_serverDirs.mp h with ⟨_, _, rfl⟩ | ⟨_, _, rfl⟩ <;> exact ⟨rfl, rfl⟩

theorem tailServers_server {d : Dir} (h : d ∈ tailServers) : d.name = "server".toList ∧ d.block.isSome = true := by
  simp only [tailServers, List.mem_cons, List.mem_nil_iff, or_false] at h
  rcases h with rfl | rfl <;> exact ⟨rfl, rfl⟩

theorem splitBlocks_split {gs : List (Src × List Backend)} {d : Dir} (h : d ∈ gs.map splitBlock) :
    d.name = "split_clients".toList ∧ d.block.isSome = true := by
  obtain ⟨g, _, rfl⟩ := List.mem_map.mp h
  exact ⟨rfl, rfl⟩

theorem http_servers {c : ConfR} {d : Dir} (h : d ∈ serverDirs c ++ tailServers) :
    d.name = "server".toList ∧ d.block.isSome = true :=
  (List.mem_append.mp h).elim serverDirs_server tailServers_server

theorem servers_of_render (c : ConfR) : blocksNamed "server" (render c) = serverDirs c ++ tailServers :=
  (blocks_of_http (fun _ => http_servers) fun _ => splitBlocks_split).1

theorem splits_of_render (c : ConfR) : blocksNamed "split_clients" (render c) = splitDirs c :=
  (blocks_of_http (fun _ => http_servers) fun _ => splitBlocks_split).2

end NGF.Render
