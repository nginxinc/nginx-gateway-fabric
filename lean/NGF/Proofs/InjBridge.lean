/-
From character-set facts about a regex to the lexical shapes of Proofs/NginxLexHoles, and `unescape` on
backslash-free strings (used by Props/C04 and by the Print proofs); at the end, the soundness of the token judge of
Model/InjJudge.
Core Lean only.
-/
import NGF.Model.InjJudge
import NGF.Proofs.Regex
import NGF.Proofs.NginxLexHoles

namespace NGF.Inj
open NGF.Rx NGF.Nginx

/-- code points that are special somewhere in an NGINX token: white space ; { } \ $ " ' # -/
def specials : List Nat := [9, 10, 13, 32, 59, 123, 125, 92, 36, 34, 39, 35]

def Plain (c : Char) : Prop := c.toNat ∉ specials

theorem ne_of_not_mem {c : Char} {bad : List Nat} (h : c.toNat ∉ bad) (d : Char) (hd : d.toNat ∈ bad) : c ≠ d :=
  fun e => h (e ▸ hd)

theorem not_ws_of_not_mem {c : Char} {bad : List Nat} (h : c.toNat ∉ bad) (hb : ∀ n ∈ [32, 9, 13, 10], n ∈ bad) :
    isWs c = false := by
  have hne := ne_of_not_mem h
  simp [isWs, hne ' ' (hb _ (by decide)), hne '\t' (hb _ (by decide)), hne '\r' (hb _ (by decide)),
    hne '\n' (hb _ (by decide))]

theorem plain_facts {c : Char} (h : Plain c) :
    isWs c = false ∧ c ≠ ';' ∧ c ≠ '{' ∧ c ≠ '}' ∧ c ≠ '\\' ∧ c ≠ '$' ∧ c ≠ '"' ∧ c ≠ '\'' ∧ c ≠ '#' :=
  have hne := ne_of_not_mem h
  ⟨not_ws_of_not_mem h (by decide), hne _ (by decide), hne _ (by decide), hne _ (by decide), hne _ (by decide),
    hne _ (by decide), hne _ (by decide), hne _ (by decide), hne _ (by decide)⟩

theorem plain_startOK {c : Char} (h : Plain c) : startOK c = true := by
  obtain ⟨h1, h2, h3, h4, h5, _, h7, h8, h9⟩ := plain_facts h
  simp [startOK, h1, h2, h3, h4, h5, h7, h8, h9]

theorem plain_not_term {m : Mode} (hm : tokenMode m) {c : Char} (h : Plain c) :
    isTerm m c = false ∧ c ≠ '\\' := by
  obtain ⟨h1, h2, h3, _, h5, _, h7, h8, _⟩ := plain_facts h
  rcases hm with rfl | rfl | rfl <;> simp [isTerm, h1, h2, h3, h5, h7, h8]

theorem inert_of_plain {m : Mode} (hm : tokenMode m) {v : List Char} (h : ∀ c ∈ v, Plain c) : Inert m v :=
  inert_of_all_plain (fun c hc => plain_not_term hm (h c hc))

theorem plain_arg {v : List Char} (hne : v ≠ []) (hp : ∀ c ∈ v, Plain c) :
    ∃ c t, v = c :: t ∧ startOK c = true ∧ Inert .bare t := by
  cases v with
  | nil => exact absurd rfl hne
  | cons c t =>
    exact ⟨c, t, rfl, plain_startOK (hp c (List.mem_cons_self ..)),
      inert_of_plain tokenMode_bare (fun c' h' => hp c' (List.mem_cons_of_mem _ h'))⟩

theorem plain_of_matches {r : Regex} (hav : avoids (Regex.alphabet r) specials = true) {s : List Char}
    (h : r.Matches s) : ∀ c ∈ s, Plain c :=
  fun c hc => not_bad_of_avoids hav (Regex.alphabet_of_matches h c hc)

theorem ne_nil_of_matches {r : Regex} (hn : Re.nullable r.toRe = false) {s : List Char} (h : r.Matches s) :
    s ≠ [] := by
  intro hs; subst hs
  have := Re.nullable_iff.mpr h
  simp [hn] at this

theorem unescape_of_no_backslash : ∀ (s : List Char), '\\' ∉ s → unescape s = s := by
  intro s
  induction s with
  | nil => intro _; rfl
  | cons c t ih =>
    intro h
    have hc : c ≠ '\\' := fun e => h (e ▸ List.mem_cons_self ..)
    have ht : '\\' ∉ t := fun e => h (List.mem_cons_of_mem _ e)
    rw [unescape.eq_3 _ _ (fun c1 r1 e _ => hc e), ih ht]

theorem no_backslash_of_plain {s : List Char} (h : ∀ c ∈ s, Plain c) : '\\' ∉ s :=
  fun hm => h _ hm (by decide)

theorem no_dollar_of_plain {s : List Char} (h : ∀ c ∈ s, Plain c) : '$' ∉ s :=
  fun hm => h _ hm (by decide)

theorem plain_hole_semi {st : LexSt} {v post : List Char} (hm : st.mode = .space) (he : st.esc = false)
    (hne : v ≠ []) (hp : ∀ c ∈ v, Plain c) :
    lexFrom st (v ++ ';' :: post) =
      prepend [.word v false, .semi]
        (lexFrom { st with mode := .space, dollar := false, cur := [], pending := 0 } post) := by
  obtain ⟨c, t, rfl, hc, ht⟩ := plain_arg hne hp
  rw [hole_bare_semi hm he hc ht, unescape_of_no_backslash _ (no_backslash_of_plain hp)]

theorem plain_hole_ws {st : LexSt} {v post : List Char} {w : Char} (hm : st.mode = .space) (he : st.esc = false)
    (hne : v ≠ []) (hp : ∀ c ∈ v, Plain c) (hw : isWs w = true) :
    lexFrom st (v ++ w :: post) =
      prepend [.word v false]
        (lexFrom { st with mode := .space, dollar := false, cur := [], pending := st.pending + 1 } post) := by
  obtain ⟨c, t, rfl, hc, ht⟩ := plain_arg hne hp
  rw [hole_bare_ws hm he hc ht hw, unescape_of_no_backslash _ (no_backslash_of_plain hp)]

/-- the `(A|BC)*` shape with `"`,`\` ∉ A and B = {`\`} is the escaped-string shape of the lexer -/
theorem inert_dq_of_shape {A B C : Ranges} (hA : avoids A [34, 92] = true)
    (hB : ∀ n, inRanges B n = true → n = 92) {s : List Char} (hs : Re.Shape A B C s) : Inert .dq s := by
  induction hs with
  | nil => exact .nil
  | @one c t hc _ ih =>
    have hne := ne_of_not_mem (not_bad_of_avoids hA hc)
    exact .plain (by simp [isTerm, hne '"' (by decide)]) (hne '\\' (by decide)) ih
  | @two b c t hb _ _ ih =>
    obtain rfl : b = '\\' := Char.toNat_inj.mp (hB _ hb)
    exact .esc ih

theorem judgeGo_refl (c : Ctx) (pos marked : Nat) (ts : List Tok) :
    judgeGo c pos marked ts ts = .ok marked := by
  induction ts generalizing c pos with
  | nil => rfl
  | cons t ts ih => simp [judgeGo, ih]

/-- what acceptance by the judge means: same length, and position by position the tokens are equal or
both are argument words and the probe's word carries the marker -/
def Agree : List Tok → List Tok → Prop
  | [], [] => True
  | b :: bs, p :: ps =>
    (b = p ∨ ∃ sb qb sp qp, b = .word sb qb ∧ p = .word sp qp ∧ hasMarker sp = true) ∧ Agree bs ps
  | _, _ => False

theorem agree_of_judgeGo (c : Ctx) (pos marked : Nat) (b p : List Tok) (k : Nat)
    (h : judgeGo c pos marked b p = .ok k) : Agree b p := by
  fun_induction judgeGo c pos marked b p with
  | case1 => trivial
  | case4 c pos marked b bs p ps heq ih => exact ⟨.inl (by simpa using heq), ih h⟩
  | case6 c pos marked bs ps sb qb sp qp hm _ _ ih => exact ⟨.inr ⟨sb, qb, sp, qp, rfl, rfl, hm⟩, ih h⟩
  | case2 | case3 | case5 | case7 | case8 => cases h

theorem agree_skeleton_kinds : ∀ (b p : List Tok), Agree b p →
    b.map (fun t => match t with | .word _ _ => 0 | .semi => 1 | .open => 2 | .close => 3) =
    p.map (fun t => match t with | .word _ _ => 0 | .semi => 1 | .open => 2 | .close => 3)
  | [], [], _ => rfl
  | [], _ :: _, h => absurd h (by simp [Agree])
  | _ :: _, [], h => absurd h (by simp [Agree])
  | b :: bs, p :: ps, h => by
    have ih := agree_skeleton_kinds bs ps h.2
    rcases h.1 with rfl | ⟨sb, qb, sp, qp, rfl, rfl, _⟩ <;> simp [ih]

theorem agree_length (b p : List Tok) (h : Agree b p) : b.length = p.length := by
  simpa using congrArg List.length (agree_skeleton_kinds b p h)

end NGF.Inj
