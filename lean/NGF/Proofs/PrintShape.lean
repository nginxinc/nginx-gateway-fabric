/-
`render` is parametric in the strings (C04, text step): two enriched configurations that differ only in the values of their
strings (`PrintShape.sameConf`) are rendered to directive trees of the same shape (`Print.sameShapes`) — the same
directives, blocks and numbers of (quoted / bare) arguments at the same places. With Proofs/PrintLex this gives: the token
skeleton of the generated text does not depend on the values. Core Lean only.
-/
import NGF.Model.PrintShape
import NGF.Model.Print
import NGF.Proofs.PrintLex

namespace NGF.PrintShape
open NGF.Nginx NGF.Pipeline NGF.Render NGF.Print

/-- `l` and `l'` have the same length and are related position by position (as the two projections of one list of pairs) -/
def Rel2 {α β} (R : α → β → Prop) (l : List α) (l' : List β) : Prop :=
  ∃ z : List (α × β), l = z.map (·.1) ∧ l' = z.map (·.2) ∧ ∀ p ∈ z, R p.1 p.2

theorem Rel2.nil {α β} {R : α → β → Prop} : Rel2 R [] [] := ⟨[], rfl, rfl, by simp⟩

theorem Rel2.cons {α β} {R : α → β → Prop} {a : α} {b : β} {l : List α} {l' : List β} (h : R a b) (t : Rel2 R l l') :
    Rel2 R (a :: l) (b :: l') := by
  obtain ⟨z, rfl, rfl, hz⟩ := t
  exact ⟨(a, b) :: z, rfl, rfl, by simpa [h] using hz⟩

theorem Rel2.append {α β} {R : α → β → Prop} {l₁ l₂ : List α} {m₁ m₂ : List β} (h₁ : Rel2 R l₁ m₁) (h₂ : Rel2 R l₂ m₂) :
    Rel2 R (l₁ ++ l₂) (m₁ ++ m₂) := by
  obtain ⟨z₁, rfl, rfl, hz₁⟩ := h₁
  obtain ⟨z₂, rfl, rfl, hz₂⟩ := h₂
  refine ⟨z₁ ++ z₂, by simp, by simp, ?_⟩
  intro p hp
  rcases List.mem_append.mp hp with hp | hp
  · exact hz₁ p hp
  · exact hz₂ p hp

theorem Rel2.map {α β γ δ} {R : α → β → Prop} {S : γ → δ → Prop} {f : α → γ} {g : β → δ} {l : List α} {l' : List β}
    (h : Rel2 R l l') (hf : ∀ a b, R a b → S (f a) (g b)) : Rel2 S (l.map f) (l'.map g) := by
  obtain ⟨z, rfl, rfl, hz⟩ := h
  refine ⟨z.map fun p => (f p.1, g p.2), by simp, by simp, ?_⟩
  intro p hp
  obtain ⟨q, hq, rfl⟩ := List.mem_map.mp hp
  exact hf _ _ (hz q hq)

theorem Rel2.mono {α β} {R S : α → β → Prop} {l : List α} {l' : List β} (h : Rel2 R l l') (hf : ∀ a b, R a b → S a b) :
    Rel2 S l l' := by
  obtain ⟨z, rfl, rfl, hz⟩ := h
  exact ⟨z, rfl, rfl, fun p hp => hf _ _ (hz p hp)⟩

theorem Rel2.flatMap {α β γ δ} {R : α → β → Prop} {S : γ → δ → Prop} {f : α → List γ} {g : β → List δ} {l : List α}
    {l' : List β} (h : Rel2 R l l') (hf : ∀ a b, R a b → Rel2 S (f a) (g b)) : Rel2 S (l.flatMap f) (l'.flatMap g) := by
  obtain ⟨z, rfl, rfl, hz⟩ := h
  induction z with
  | nil => exact Rel2.nil
  | cons p z ih =>
    simp only [List.map_cons, List.flatMap_cons]
    exact Rel2.append (hf _ _ (hz p (List.mem_cons_self ..))) (ih fun q hq => hz q (List.mem_cons_of_mem _ hq))

theorem Rel2.filter {α β} {R : α → β → Prop} {P : α → Bool} {Q : β → Bool} {l : List α} {l' : List β} (h : Rel2 R l l')
    (hpq : ∀ a b, R a b → P a = Q b) : Rel2 R (l.filter P) (l'.filter Q) := by
  obtain ⟨z, rfl, rfl, hz⟩ := h
  refine ⟨z.filter fun p => P p.1, by rw [List.filter_map]; rfl, ?_, fun p hp => hz p (List.mem_filter.mp hp).1⟩
  rw [List.filter_map]
  congr 1
  apply List.filter_congr
  intro p hp
  exact (hpq _ _ (hz p hp)).symm

theorem Rel2.filterMap {α β γ δ} {R : α → β → Prop} {S : γ → δ → Prop} {f : α → Option γ} {g : β → Option δ} {l : List α}
    {l' : List β} (h : Rel2 R l l')
    (hf : ∀ a b, R a b → (f a = none ∧ g b = none) ∨ ∃ x y, f a = some x ∧ g b = some y ∧ S x y) :
    Rel2 S (l.filterMap f) (l'.filterMap g) := by
  obtain ⟨z, rfl, rfl, hz⟩ := h
  induction z with
  | nil => exact Rel2.nil
  | cons p z ih =>
    have ih' := ih fun q hq => hz q (List.mem_cons_of_mem _ hq)
    simp only [List.map_cons, List.filterMap_cons]
    rcases hf _ _ (hz p (List.mem_cons_self ..)) with ⟨e1, e2⟩ | ⟨x, y, e1, e2, hs⟩
    · rw [e1, e2]; exact ih'
    · rw [e1, e2]; exact Rel2.cons hs ih'

theorem Rel2.mergeSort {α β} {R : α → β → Prop} {k : α → Nat} {k' : β → Nat} {l : List α} {l' : List β} (h : Rel2 R l l')
    (hk : ∀ a b, R a b → k a = k' b) :
    Rel2 R (l.mergeSort fun a b => k a ≤ k b) (l'.mergeSort fun a b => k' a ≤ k' b) := by
  obtain ⟨z, rfl, rfl, hz⟩ := h
  refine ⟨z.mergeSort fun p q => k p.1 ≤ k q.1, ?_, ?_, fun p hp => hz p (List.mem_mergeSort.mp hp)⟩
  · exact (List.map_mergeSort (f := fun (p : α × β) => p.1) (r := fun p q => decide (k p.1 ≤ k q.1))
      (s := fun a b => decide (k a ≤ k b)) (fun _ _ _ _ => rfl)).symm
  · refine (List.map_mergeSort (f := fun (p : α × β) => p.2) (r := fun p q => decide (k p.1 ≤ k q.1))
      (s := fun a b => decide (k' a ≤ k' b)) ?_).symm
    intro a ha b hb
    rw [hk _ _ (hz a ha), hk _ _ (hz b hb)]

theorem Rel2.enumFrom {α β} {R : α → β → Prop} {l : List α} {l' : List β} (h : Rel2 R l l') (i : Nat) :
    Rel2 (fun p q => p.1 = q.1 ∧ R p.2 q.2) (enumFrom i l) (enumFrom i l') := by
  obtain ⟨z, rfl, rfl, hz⟩ := h
  induction z generalizing i with
  | nil => exact Rel2.nil
  | cons p z ih =>
    simp only [List.map_cons, Pipeline.enumFrom]
    exact Rel2.cons ⟨rfl, hz p (List.mem_cons_self ..)⟩ (ih (i + 1) (fun q hq => hz q (List.mem_cons_of_mem _ hq)))

theorem rel2_of_all2 {α β} {f : α → β → Bool} : ∀ {l : List α} {l' : List β}, all2 f l l' = true →
    Rel2 (fun a b => f a b = true) l l'
  | [], [], _ => Rel2.nil
  | a :: as, b :: bs, h => by
    simp only [all2, Bool.and_eq_true] at h
    exact Rel2.cons h.1 (rel2_of_all2 h.2)
  | [], _ :: _, h => by simp [all2] at h
  | _ :: _, [], h => by simp [all2] at h

theorem Rel2.length {α β} {R : α → β → Prop} {l : List α} {l' : List β} (h : Rel2 R l l') : l.length = l'.length := by
  obtain ⟨z, rfl, rfl, _⟩ := h
  simp

abbrev SS (x y : Dir) : Prop := sameShape x y = true

theorem sameShapes_of_rel2 {xs ys : List Dir} (h : Rel2 SS xs ys) :
    sameShapes xs ys = true := by
  obtain ⟨z, rfl, rfl, hz⟩ := h
  induction z with
  | nil => rfl
  | cons p z ih =>
    simp only [List.map_cons, sameShapes, Bool.and_eq_true]
    exact ⟨hz p (List.mem_cons_self ..), ih fun q hq => hz q (List.mem_cons_of_mem _ hq)⟩

theorem ss_blk {n n' : String} {a a' : List Render.Arg} {ch ch' : List Dir} (ha : sameArgs a a' = true)
    (hc : Rel2 SS ch ch') : SS (blk n a ch) (blk n' a' ch') := by
  simp only [SS, blk, sameShape, Bool.and_eq_true]
  exact ⟨ha, sameShapes_of_rel2 hc⟩

theorem rel2_refl_of {ds : List Dir} (h : ∀ d ∈ ds, sameShape d d = true) : Rel2 SS ds ds :=
  ⟨ds.map fun d => (d, d), by simp [Function.comp_def], by simp [Function.comp_def], by
    intro p hp
    obtain ⟨d, hd, rfl⟩ := List.mem_map.mp hp
    exact h d hd⟩

theorem rel2_of_sameShapes : ∀ {xs ys : List Dir}, sameShapes xs ys = true → Rel2 SS xs ys
  | [], [], _ => Rel2.nil
  | x :: xs, y :: ys, h => by
    simp only [sameShapes, Bool.and_eq_true] at h
    exact Rel2.cons h.1 (rel2_of_sameShapes h.2)
  | [], _ :: _, h => by simp only [sameShapes, Bool.false_eq_true] at h
  | _ :: _, [], h => by simp only [sameShapes, Bool.false_eq_true] at h

theorem listenDirs_ss (p p' : Nat) (extra : List String) : Rel2 SS (listenDirs p extra) (listenDirs p' extra) := by
  apply rel2_of_sameShapes
  simp only [listenDirs, dir, sameShapes, sameShape, sameArgs, wl, List.map_cons, beq_self_eq_true, Bool.and_self]

theorem renderDefault_ss (p p' : Nat) : SS (renderDefault p) (renderDefault p') := by
  refine ss_blk rfl (Rel2.append (listenDirs_ss p p' _) (rel2_refl_of (by decide)))

theorem actDirs_ss {a a' : RAct} (h : sameAct a a' = true) : Rel2 SS (actDirs a) (actDirs a') := by
  apply rel2_of_sameShapes
  -- `sameShapes` never looks into a word: for two actions of the same kind it computes to `true`
  cases a <;> cases a' <;> first | rfl | cases h

theorem locArgs_same {k k' : Bool × Str} (h : k.1 = k'.1) : sameArgs (locArgs k) (locArgs k') = true := by
  unfold locArgs
  rw [h]
  split <;> rfl

theorem njsDirs_ss (sid idx sid' idx' : Nat) : Rel2 SS (njsDirs sid idx) (njsDirs sid' idx') := by
  exact rel2_of_sameShapes rfl

theorem renderRule_ss {sid sid' : Nat} {r r' : RRule} (h : sameRule r r' = true) :
    Rel2 SS (renderRule sid r) (renderRule sid' r') := by
  simp only [sameRule, Bool.and_eq_true, beq_iff_eq] at h
  obtain ⟨⟨_, hext⟩, hact⟩ := h
  have hext' := rel2_of_all2 hext
  unfold renderRule
  cases ha : r.act with
  | direct a =>
    cases ha' : r'.act with
    | direct a' =>
      rw [ha, ha'] at hact
      simp only
      refine hext'.map fun k k' hk => ss_blk (locArgs_same (by simpa using hk)) (actDirs_ss hact)
    | njs ms' => rw [ha, ha'] at hact; simp [sameLocAct] at hact
  | njs ms =>
    cases ha' : r'.act with
    | direct a' => rw [ha, ha'] at hact; simp [sameLocAct] at hact
    | njs ms' =>
      rw [ha, ha'] at hact
      simp only
      refine Rel2.append (hext'.map fun k k' hk => ss_blk (locArgs_same (by simpa using hk)) (njsDirs_ss _ _ _ _)) ?_
      have hms := (rel2_of_all2 (show all2 (fun m m' => sameAct m.act m'.act) ms ms' = true from hact)).enumFrom 0
      refine hms.map fun jm jm' hj => ?_
      exact ss_blk rfl (Rel2.cons (by decide) (actDirs_ss hj.2))

theorem renderServer_ss {sv sv' : RServer} (h : sameServer sv sv' = true) : SS (renderServer sv) (renderServer sv') := by
  simp only [sameServer, Bool.and_eq_true, beq_iff_eq] at h
  obtain ⟨⟨_, hroot⟩, hrules⟩ := h
  refine ss_blk rfl ?_
  refine Rel2.append (Rel2.append (Rel2.append (listenDirs_ss _ _ _) (Rel2.cons (by rfl) Rel2.nil)) ?_) ?_
  · have hs : Rel2 (fun r r' => sameRule r r' = true) (sortRules sv.rules) (sortRules sv'.rules) := by
      unfold sortRules
      refine (rel2_of_all2 hrules).mergeSort (k := (·.idx)) (k' := (·.idx)) ?_
      intro a b hab
      simp only [sameRule, Bool.and_eq_true, beq_iff_eq] at hab
      exact hab.1.1
    exact hs.flatMap fun r r' hr => renderRule_ss hr
  · rw [hroot]
    split
    · exact rel2_refl_of (by decide)
    · exact Rel2.nil

theorem serverDirs_ss {c c' : ConfR} (hd : all2 (fun d d' => d.2 == d'.2) c.dports c'.dports = true)
    (hs : all2 sameServer c.servers c'.servers = true) : Rel2 SS (serverDirs c) (serverDirs c') := by
  unfold serverDirs
  have h1 : Rel2 (fun (p q : Nat × Dir) => p.1 = q.1 ∧ SS p.2 q.2)
      (c.dports.map fun d => (d.2, renderDefault d.1)) (c'.dports.map fun d => (d.2, renderDefault d.1)) :=
    (rel2_of_all2 hd).map fun d d' h => ⟨by simpa using h, renderDefault_ss _ _⟩
  have h2 : Rel2 (fun (p q : Nat × Dir) => p.1 = q.1 ∧ SS p.2 q.2)
      (c.servers.map fun sv => (sv.sid, renderServer sv)) (c'.servers.map fun sv => (sv.sid, renderServer sv)) :=
    (rel2_of_all2 hs).map fun sv sv' h => ⟨by
      simp only [sameServer, Bool.and_eq_true, beq_iff_eq] at h
      exact h.1.1, renderServer_ss h⟩
  have h3 := (h1.append h2).mergeSort (k := (·.1)) (k' := (·.1)) (fun _ _ h => h.1)
  exact h3.map fun _ _ h => h.2

theorem zipDist_rel : ∀ {bs bs' : List Backend} (cs : List Nat), bs.length = bs'.length →
    Rel2 (fun (vc vc' : Str × Nat) => vc.2 = vc'.2) (zipDist bs cs) (zipDist bs' cs)
  | [], [], _, _ => by simp only [zipDist]; exact Rel2.nil
  | b :: bs, b' :: bs', [], _ => by simp only [zipDist]; exact Rel2.nil
  | b :: bs, b' :: bs', c :: cs, h => by
    simp only [zipDist]
    exact Rel2.cons rfl (zipDist_rel cs (by simpa using h))
  | [], _ :: _, _, h => by simp at h
  | _ :: _, [], _, h => by simp at h

theorem splitBlock_ss {g g' : Src × List Backend} (h : sameGroup g g' = true) : SS (splitBlock g) (splitBlock g') := by
  simp only [sameGroup, beq_iff_eq] at h
  refine ss_blk rfl ?_
  unfold splitEntries
  simp only [h]
  split
  · exact Rel2.cons (by rfl) Rel2.nil
  · have hl : g.2.length = g'.2.length := by simpa using congrArg List.length h
    refine (zipDist_rel _ hl).filterMap fun vc vc' hv => ?_
    rw [hv]
    split
    · exact .inl ⟨rfl, rfl⟩
    · exact .inr ⟨_, _, rfl, rfl, by rfl⟩

theorem splitDirs_ss {c c' : ConfR} (h : all2 sameGroup c.groups c'.groups = true) : Rel2 SS (splitDirs c) (splitDirs c') := by
  unfold splitDirs
  have hf : Rel2 (fun g g' => sameGroup g g' = true) (c.groups.filter needsSplit) (c'.groups.filter needsSplit) := by
    refine (rel2_of_all2 h).filter fun g g' hg => ?_
    simp only [sameGroup, beq_iff_eq] at hg
    have : g.2.length = g'.2.length := by simpa using congrArg List.length hg
    simp [needsSplit, this]
  exact hf.map fun g g' hg => splitBlock_ss hg

theorem sameShapes_render {c c' : ConfR} (h : sameConf c c' = true) : sameShapes (render c) (render c') = true := by
  simp only [sameConf, Bool.and_eq_true] at h
  apply sameShapes_of_rel2
  unfold render
  exact Rel2.cons (by decide)
    (Rel2.append (Rel2.append (serverDirs_ss h.1.1 h.1.2) (rel2_refl_of (by decide))) (splitDirs_ss h.2))

theorem enumFrom_map {α β} (g : α → β) : ∀ (l : List α) (i : Nat),
    enumFrom i (l.map g) = (enumFrom i l).map fun p => (p.1, g p.2)
  | [], _ => rfl
  | a :: as, i => by simp [Pipeline.enumFrom, enumFrom_map g as (i + 1)]

theorem renderRule_eraseConds (sid : Nat) (r : RRule) :
    renderRule sid { r with act := eraseCondsAct r.act } = renderRule sid r := by
  unfold renderRule
  cases ha : r.act with
  | direct a => simp [eraseCondsAct]
  | njs ms =>
    simp only [eraseCondsAct, enumFrom_map, List.map_map]
    congr 1

theorem renderServer_eraseConds (sv : RServer) :
    renderServer { sv with rules := sv.rules.map fun r => { r with act := eraseCondsAct r.act } } = renderServer sv := by
  unfold renderServer
  have hs : sortRules (sv.rules.map fun r => { r with act := eraseCondsAct r.act }) =
      (sortRules sv.rules).map fun r => { r with act := eraseCondsAct r.act } := by
    unfold sortRules
    exact (List.map_mergeSort (f := fun (r : RRule) => { r with act := eraseCondsAct r.act })
      (r := fun a b => decide (a.idx ≤ b.idx)) (s := fun a b => decide (a.idx ≤ b.idx)) (fun _ _ _ _ => rfl)).symm
  simp only [hs, List.flatMap_map, renderRule_eraseConds]

theorem render_eraseConds (c : ConfR) : render (eraseConds c) = render c := by
  have hs : serverDirs (eraseConds c) = serverDirs c := by
    unfold serverDirs
    simp only [eraseConds, List.map_map]
    congr 3
    apply List.map_congr_left
    intro sv _
    simp only [Function.comp]
    rw [renderServer_eraseConds]
  simp only [render, hs]
  rfl

end NGF.PrintShape
