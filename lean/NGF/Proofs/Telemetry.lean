/-
Lemmas about `NGF.Model.Telemetry` for C19.  The split-based extraction agrees with the reference lexer on tidy
chunks; the counting map holds each key once with its multiplicity; `entryLe` is a total order, so the sorted report
does not depend on the order of counting; the resource-count loops are set sizes; `directive-context` is injective;
`ctxName` and `reduceFlag` answer from closed vocabularies (`ctxName_closed`, `reduceFlag_closed`); and the one-pass
tokenizer simulates the lexer together with the statement bookkeeping of `namesFrom`, character by character
(`tokStep_sim`, `tokRun_sim`).
-/
import NGF.Model.Telemetry
import NGF.Proofs.SnippetLex
import NGF.Proofs.CharLits
import NGF.Proofs.ListBasics

namespace NGF.Telemetry
open NGF.SnippetLex

theorem ngx_is_go_space {c : Char} (h : isNgxSpace c = true) : isGoSpace c = true := by
  simp only [isNgxSpace, Bool.or_eq_true, beq_iff_eq] at h
  rcases h with ((rfl | rfl) | rfl) | rfl <;> decide

theorem plain_not_goSpace {c : Char} (h : plainChar c = true) : isGoSpace c = false := by
  simp only [plainChar, Bool.and_eq_true, Bool.not_eq_true'] at h
  exact h.1.1.1.1.1.1.1.1

theorem plain_ne_blank {c : Char} (h : plainChar c = true) : c ≠ ' ' := by
  intro hc
  have := plain_not_goSpace h
  rw [hc] at this
  exact absurd this (by decide)

theorem plain_ne_semi {c : Char} (h : plainChar c = true) : c ≠ ';' := by
  simp only [plainChar, Bool.and_eq_true, bne_iff_ne, ne_eq] at h
  exact h.1.1.1.1.1.1.1.2

theorem plain_wordChar {c : Char} (h : plainChar c = true) : wordChar c = true := by
  have hn : isNgxSpace c = false :=
    Bool.eq_false_iff.mpr fun hx => Bool.noConfusion ((ngx_is_go_space hx).symm.trans (plain_not_goSpace h))
  simp only [plainChar, Bool.and_eq_true, bne_iff_ne, ne_eq] at h
  simp [wordChar, inBare, hn, h]

theorem arg_restChar {c : Char} (h : argChar c = true) : restChar c = true := by
  simp only [argChar, Bool.or_eq_true] at h
  simp only [restChar, Bool.or_eq_true]
  rcases h with (h | h) | h
  · exact Or.inl (Or.inl (plain_wordChar h))
  · exact Or.inl (Or.inr h)
  · exact Or.inr h

theorem arg_ne_semi {c : Char} (h : argChar c = true) : c ≠ ';' := by
  simp only [argChar, Bool.or_eq_true, beq_iff_eq] at h
  rcases h with (h | rfl) | h
  · exact plain_ne_semi h
  · decide
  · intro hc; rw [hc] at h; exact absurd h (by decide)

theorem trimRight_cons_nonspace {c : Char} (h : isGoSpace c = false) (cs : Str) :
    trimRight (c :: cs) = c :: trimRight cs := by
  simp only [trimRight]
  split <;> simp_all

theorem trimRight_plain_append : ∀ (name : Str), (∀ c ∈ name, plainChar c = true) → ∀ rest,
    trimRight (name ++ rest) = name ++ trimRight rest
  | [], _, _ => rfl
  | c :: cs, h, rest => by
    have ⟨hc, hcs⟩ := List.forall_mem_cons.mp h
    rw [List.cons_append, trimRight_cons_nonspace (plain_not_goSpace hc), trimRight_plain_append cs hcs,
      List.cons_append]

theorem trimRight_space_head (r : Str) : trimRight (' ' :: r) = [] ∨ ∃ r', trimRight (' ' :: r) = ' ' :: r' := by
  simp only [trimRight]
  split
  · left; simp [isGoSpace]
  · right; exact ⟨_, rfl⟩

theorem firstField_name : ∀ (name : Str), (∀ c ∈ name, plainChar c = true) → ∀ y,
    (y = [] ∨ ∃ r, y = ' ' :: r) → firstField (name ++ y) = name := by
  intro name
  induction name with
  | nil => intro _ y hy; rcases hy with rfl | ⟨r, rfl⟩ <;> simp [firstField]
  | cons c cs ih =>
    intro h y hy
    have ⟨hc, hcs⟩ := List.forall_mem_cons.mp h
    have := ih hcs y hy
    simp only [firstField] at this
    simp [firstField, plain_ne_blank hc, this]

theorem dropWhile_lead : ∀ (lead : Str), (∀ c ∈ lead, isNgxSpace c = true) → ∀ (c : Char) cs,
    isGoSpace c = false → (lead ++ c :: cs).dropWhile isGoSpace = c :: cs := by
  intro lead
  induction lead with
  | nil => intro _ c cs hc; simp [hc]
  | cons a as ih =>
    intro h c cs hc
    have ⟨ha, has⟩ := List.forall_mem_cons.mp h
    simp only [List.cons_append, List.dropWhile_cons, ngx_is_go_space ha, if_true]
    exact ih has c cs hc

theorem ok_parts {t : TidyStmt} (h : t.ok = true) :
    (∀ c ∈ t.lead, isNgxSpace c = true) ∧ t.name ≠ [] ∧ (∀ c ∈ t.name, plainChar c = true) ∧
    (t.rest = [] ∨ ∃ r, t.rest = ' ' :: r) ∧ (∀ c ∈ t.rest, argChar c = true) := by
  simp only [TidyStmt.ok, Bool.and_eq_true, List.all_eq_true, Bool.or_eq_true, Bool.not_eq_true',
    List.isEmpty_eq_false_iff, beq_iff_eq] at h
  obtain ⟨⟨⟨⟨hl, hne⟩, hn⟩, hr0⟩, hr⟩ := h
  refine ⟨hl, hne, hn, ?_, hr⟩
  rcases hr0 with hr0 | hr0
  · left; exact List.isEmpty_iff.mp hr0
  · cases hrest : t.rest with
    | nil => left; rfl
    | cons a r =>
      rw [hrest] at hr0
      simp only [List.head?_cons, Option.some.injEq] at hr0
      right; exact ⟨r, by rw [hr0]⟩

theorem chunkDirective_tidy {t : TidyStmt} (h : t.ok = true) : chunkDirective t.render = t.name := by
  obtain ⟨hl, hne, hn, hr0, _⟩ := ok_parts h
  obtain ⟨c, cs, hname⟩ := List.exists_cons_of_ne_nil hne
  rw [hname] at hn ⊢
  simp only [chunkDirective, trimSpace, trimLeft, TidyStmt.render, hname, List.cons_append]
  rw [dropWhile_lead t.lead hl c _ (plain_not_goSpace (hn c List.mem_cons_self)), ← List.cons_append,
    trimRight_plain_append _ hn]
  apply firstField_name _ hn
  rcases hr0 with hr0 | ⟨r, hr0⟩ <;> rw [hr0]
  · exact .inl rfl
  · exact trimRight_space_head r

theorem dropWhile_all {p : Char → Bool} : ∀ l : Str, (∀ c ∈ l, p c = true) → l.dropWhile p = []
  | [], _ => rfl
  | a :: as, h => by
    have ⟨ha, has⟩ := List.forall_mem_cons.mp h
    rw [List.dropWhile_cons, if_pos ha, dropWhile_all as has]

theorem chunkDirective_space {l : Str} (h : ∀ c ∈ l, isNgxSpace c = true) : chunkDirective l = [] := by
  have : l.dropWhile isGoSpace = [] := dropWhile_all l (fun c hc => ngx_is_go_space (h c hc))
  simp [chunkDirective, trimSpace, trimLeft, this, trimRight, firstField]

theorem tidyChunk_render (c : Str) : (tidyChunk c).render = c := by
  simp [tidyChunk, TidyStmt.render, List.takeWhile_append_dropWhile]

def joinSemi : List Str → Str
  | [] => []
  | [a] => a
  | a :: b :: t => a ++ ';' :: joinSemi (b :: t)

theorem splitOn_ne_nil (sep : Char) (s : Str) : splitOn sep s ≠ [] := by
  cases s with
  | nil => simp [splitOn]
  | cons c cs =>
    simp only [splitOn]
    split
    · simp
    · split <;> simp

theorem joinSemi_splitOn : ∀ s : Str, joinSemi (splitOn ';' s) = s
  | [] => rfl
  | c :: cs => by
    have ih := joinSemi_splitOn cs
    obtain ⟨a, t, h⟩ := List.exists_cons_of_ne_nil (splitOn_ne_nil ';' cs)
    rw [h] at ih
    simp only [splitOn, h]
    split
    · next hc => rw [eq_of_beq hc, joinSemi, ih, List.nil_append]
    · cases t <;> simp_all [joinSemi]

theorem names_tidy_semi {t : TidyStmt} (h : t.ok = true) (more : Str) :
    namesFrom 0 true (run .gap (t.render ++ ';' :: more)) = t.name :: namesFrom 0 true (run .gap more) := by
  obtain ⟨hl, hne, hn, hr0, hr⟩ := ok_parts h
  simp only [TidyStmt.render, List.append_assoc]
  rw [names_lead t.lead hl]
  exact names_stmt_semi hne (fun x hx => plain_wordChar (hn x hx)) hr0
    (fun x hx => arg_restChar (hr x hx)) more

theorem names_tidy_end {t : TidyStmt} (h : t.ok = true) :
    namesFrom 0 true (run .gap t.render) = [t.name] := by
  obtain ⟨hl, hne, hn, hr0, hr⟩ := ok_parts h
  simp only [TidyStmt.render]
  rw [names_lead t.lead hl]
  exact names_stmt_end hne (fun x hx => plain_wordChar (hn x hx)) hr0
    (fun x hx => arg_restChar (hr x hx))

theorem names_joinSemi : ∀ chunks : List Str, tidyChunksOk chunks = true →
    namesFrom 0 true (run .gap (joinSemi chunks)) = (chunks.map chunkDirective).filter (· != []) := by
  intro chunks
  induction chunks with
  | nil => intro h; simp [tidyChunksOk] at h
  | cons c cs ih =>
    cases cs with
    | nil =>
      intro h
      simp only [tidyChunksOk, Bool.or_eq_true, List.all_eq_true] at h
      simp only [joinSemi, List.map_cons, List.map_nil]
      rcases h with h | h
      · rw [names_space_only c h, chunkDirective_space h]; simp
      · have hne := (ok_parts h).2.1
        have hd := chunkDirective_tidy h
        have hl := names_tidy_end h
        rw [tidyChunk_render] at hd hl
        rw [hl, hd]
        simp [hne]
    | cons c' cs' =>
      intro h
      simp only [tidyChunksOk, Bool.and_eq_true] at h
      have hne := (ok_parts h.1).2.1
      have hd := chunkDirective_tidy h.1
      have hl := names_tidy_semi h.1 (joinSemi (c' :: cs'))
      rw [tidyChunk_render] at hd hl
      simp only [joinSemi, List.map_cons]
      rw [hl, ih h.2, hd]
      simp [hne]

theorem parse_eq_names_of_tidy (s : Str) (h : isTidy s = true) : parseSnippetSplit s = directiveNames s := by
  have := names_joinSemi (splitOn ';' s) h
  rw [joinSemi_splitOn] at this
  simp only [parseSnippetSplit, directiveNames, names0, lex]
  exact this.symm

def lookup (k : Key) : List (Key × Nat) → Nat
  | [] => 0
  | (k', n) :: rest => if k' = k then n else lookup k rest

theorem lookup_bump (k k' : Key) : ∀ m, lookup k' (bump k m) = lookup k' m + (if k = k' then 1 else 0)
  | [] => by simp [bump, lookup]
  | (h, n) :: rest => by
    by_cases hk : h = k
    · subst hk
      by_cases hk' : h = k' <;> simp [bump, lookup, hk']
    · by_cases hk' : h = k'
      · subst hk'
        simp [bump, lookup, hk, Ne.symm hk]
      · simp [bump, lookup, hk, hk', lookup_bump k k' rest]

theorem keys_bump (k : Key) : ∀ m : List (Key × Nat),
    (bump k m).map (·.1) = if k ∈ m.map (·.1) then m.map (·.1) else m.map (·.1) ++ [k]
  | [] => rfl
  | (h, n) :: rest => by
    by_cases hk : h = k
    · simp [bump, hk]
    · simp only [bump, hk, if_false, List.map_cons, keys_bump k rest, List.mem_cons, Ne.symm hk, false_or]
      split <;> rfl

theorem mem_keys_bump (k : Key) (m : List (Key × Nat)) (x : Key) :
    x ∈ (bump k m).map (·.1) ↔ x = k ∨ x ∈ m.map (·.1) := by
  rw [keys_bump]
  split
  · next h => exact ⟨.inr, fun hx => hx.elim (· ▸ h) id⟩
  · simp [or_comm]

theorem nodup_bump (k : Key) (m : List (Key × Nat)) (h : (m.map (·.1)).Nodup) : ((bump k m).map (·.1)).Nodup := by
  rw [keys_bump]
  split
  · exact h
  · next hk => exact List.nodup_append.mpr ⟨h, List.pairwise_singleton _ k, fun a ha b hb => by
      rw [List.mem_singleton.mp hb]; exact fun e => hk (e ▸ ha)⟩

theorem lookup_foldl_bump (k : Key) : ∀ (ks : List Key) (m : List (Key × Nat)),
    lookup k (ks.foldl (fun m k => bump k m) m) = lookup k m + ks.count k := by
  intro ks
  induction ks with
  | nil => intro m; rfl
  | cons k' ks ih =>
    intro m
    rw [List.foldl_cons, ih, lookup_bump, List.count_cons]
    simp only [beq_iff_eq]
    omega

theorem mem_keys_foldl_bump (x : Key) : ∀ (ks : List Key) (m : List (Key × Nat)),
    x ∈ (ks.foldl (fun m k => bump k m) m).map (·.1) ↔ x ∈ ks ∨ x ∈ m.map (·.1) := by
  intro ks
  induction ks with
  | nil => intro m; simp
  | cons k ks ih =>
    intro m
    rw [List.foldl_cons, ih, mem_keys_bump, List.mem_cons, or_assoc, or_left_comm]

theorem nodup_foldl_bump : ∀ (ks : List Key) (m : List (Key × Nat)), (m.map (·.1)).Nodup →
    ((ks.foldl (fun m k => bump k m) m).map (·.1)).Nodup
  | [], _, h => h
  | k :: ks, m, h => nodup_foldl_bump ks _ (nodup_bump k m h)

theorem lookup_of_mem : ∀ (m : List (Key × Nat)), (m.map (·.1)).Nodup → ∀ e ∈ m, lookup e.1 m = e.2 := by
  intro m
  induction m with
  | nil => intro _ e he; simp at he
  | cons e0 rest ih =>
    obtain ⟨h, n⟩ := e0
    intro hnd e he
    simp only [List.map_cons, List.nodup_cons] at hnd
    simp only [List.mem_cons] at he
    rcases he with rfl | he
    · simp [lookup]
    · have hne : h ≠ e.1 := by
        intro heq
        apply hnd.1
        rw [heq]
        exact List.mem_map_of_mem he
      simp [lookup, hne, ih hnd.2 e he]

theorem countMap_spec (ks : List Key) :
    ((countMap ks).map (·.1)).Nodup ∧
    (∀ e ∈ countMap ks, e.2 = ks.count e.1 ∧ 1 ≤ e.2 ∧ e.1 ∈ ks) ∧
    (∀ k ∈ ks, k ∈ (countMap ks).map (·.1)) := by
  have hnd := nodup_foldl_bump ks [] List.nodup_nil
  have hmem : ∀ k, k ∈ (countMap ks).map (·.1) ↔ k ∈ ks := fun k =>
    (mem_keys_foldl_bump k ks []).trans (or_iff_left List.not_mem_nil)
  refine ⟨hnd, fun e he => ?_, fun k hk => (hmem k).mpr hk⟩
  have hin := (hmem e.1).mp (List.mem_map_of_mem he)
  have hc : e.2 = ks.count e.1 := by
    rw [← lookup_of_mem _ hnd e he]
    simpa [lookup] using lookup_foldl_bump e.1 ks []
  exact ⟨hc, hc ▸ List.count_pos_iff.mpr hin, hin⟩

/-- `strLe` is the lexicographic `≤` of `List Char`, whose order properties the library has -/
theorem strLe_iff_le : ∀ a b : Str, strLe a b = true ↔ a ≤ b
  | [], b => by simp [strLe]
  | _ :: _, [] => by simp [strLe]
  | a :: as, b :: bs => by
    have hlt : a.toNat < b.toNat ↔ a < b := (Char.lt_def.trans UInt32.lt_iff_toNat_lt).symm
    simp [strLe, List.cons_le_cons_iff, strLe_iff_le as bs, hlt]

theorem strLe_refl : ∀ a : Str, strLe a a = true := fun a => (strLe_iff_le a a).mpr (List.le_refl a)

/-- `entryLe`: larger count first; ties by the library's lexicographic order on `[context, directive]` -/
theorem entryLe_iff (a b : Key × Nat) : entryLe a b = true ↔
    b.2 < a.2 ∨ a.2 = b.2 ∧ [a.1.context, a.1.directive] ≤ [b.1.context, b.1.directive] := by
  have h1 : ∀ x y : Str, [x] ≤ [y] ↔ x ≤ y := fun x y => by
    rw [List.cons_le_cons_iff, List.le_iff_lt_or_eq (l₁ := x)]
    simp
  rw [List.cons_le_cons_iff, h1, entryLe]
  by_cases hn : a.2 = b.2
  · by_cases hc : a.1.context = b.1.context
    · simp [hn, hc, strLe_iff_le, List.lt_irrefl]
    · simp [hn, hc, strLe_iff_le, List.le_iff_lt_or_eq]
  · simp [hn]

theorem entryLe_total (a b : Key × Nat) : entryLe a b = true ∨ entryLe b a = true := by
  rw [entryLe_iff, entryLe_iff]
  rcases Nat.lt_trichotomy a.2 b.2 with h | h | h
  · exact .inr (.inl h)
  · exact (List.le_total [a.1.context, a.1.directive] [b.1.context, b.1.directive]).imp
      (fun h' => .inr ⟨h, h'⟩) (fun h' => .inr ⟨h.symm, h'⟩)
  · exact .inl (.inl h)

theorem entryLe_trans (a b c : Key × Nat) (hab : entryLe a b = true) (hbc : entryLe b c = true) :
    entryLe a c = true := by
  rw [entryLe_iff] at *
  rcases hab with h1 | ⟨h1, h1'⟩ <;> rcases hbc with h2 | ⟨h2, h2'⟩
  · exact .inl (by omega)
  · exact .inl (by omega)
  · exact .inl (by omega)
  · exact .inr ⟨h1.trans h2, List.le_trans h1' h2'⟩

theorem entryLe_antisymm (a b : Key × Nat) (hab : entryLe a b = true) (hba : entryLe b a = true) : a = b := by
  rw [entryLe_iff] at *
  rcases hab with h1 | ⟨h1, h1'⟩ <;> rcases hba with h2 | ⟨h2, h2'⟩
  · omega
  · omega
  · omega
  · obtain ⟨⟨d1, x1⟩, n1⟩ := a
    obtain ⟨⟨d2, x2⟩, n2⟩ := b
    have := List.le_antisymm h1' h2'
    simp_all

theorem perm_insertSorted (x : Key × Nat) : ∀ l, (insertSorted x l).Perm (x :: l)
  | [] => .refl _
  | a :: as => by
    simp only [insertSorted]
    split
    · exact .refl _
    · exact ((perm_insertSorted x as).cons a).trans (.swap x a as)

theorem mem_insertSorted (x : Key × Nat) (l : List (Key × Nat)) (y : Key × Nat) :
    y ∈ insertSorted x l ↔ y = x ∨ y ∈ l :=
  (perm_insertSorted x l).mem_iff.trans List.mem_cons

theorem perm_sortEntries : ∀ l, (sortEntries l).Perm l
  | [] => .refl _
  | a :: as => (perm_insertSorted a _).trans ((perm_sortEntries as).cons a)

theorem sorted_insertSorted (x : Key × Nat) : ∀ l, l.Pairwise (fun a b => entryLe a b = true) →
    (insertSorted x l).Pairwise (fun a b => entryLe a b = true)
  | [], _ => List.pairwise_singleton _ x
  | a :: as, h => by
    have ⟨ha, has⟩ := List.pairwise_cons.mp h
    simp only [insertSorted]
    split
    · next hxa =>
      refine List.pairwise_cons.mpr ⟨fun y hy => ?_, h⟩
      rcases List.mem_cons.mp hy with rfl | hy
      · exact hxa
      · exact entryLe_trans _ _ _ hxa (ha y hy)
    · next hxa =>
      refine List.pairwise_cons.mpr ⟨fun y hy => ?_, sorted_insertSorted x as has⟩
      rcases (mem_insertSorted x as y).mp hy with rfl | hy
      · exact (entryLe_total y a).resolve_left hxa
      · exact ha y hy

theorem sorted_sortEntries : ∀ l, (sortEntries l).Pairwise (fun a b => entryLe a b = true)
  | [] => .nil
  | a :: as => sorted_insertSorted a _ (sorted_sortEntries as)

theorem sorted_perm_eq : ∀ (l₁ l₂ : List (Key × Nat)),
    l₁.Pairwise (fun a b => entryLe a b = true) → l₂.Pairwise (fun a b => entryLe a b = true) →
    l₁.Perm l₂ → l₁ = l₂ := by
  intro l₁
  induction l₁ with
  | nil => intro l₂ _ _ hp; exact hp.nil_eq
  | cons a as ih =>
    intro l₂ h1 h2 hp
    cases l₂ with
    | nil => exact absurd hp.eq_nil (List.cons_ne_nil _ _)
    | cons b bs =>
      have ⟨h1a, h1s⟩ := List.pairwise_cons.mp h1
      have ⟨h2b, h2s⟩ := List.pairwise_cons.mp h2
      -- the heads are equal: each occurs in the other list, at its head or below it
      have hab : a = b := by
        rcases List.mem_cons.mp (hp.mem_iff.mp List.mem_cons_self) with ha | ha
        · exact ha
        · rcases List.mem_cons.mp (hp.mem_iff.mpr List.mem_cons_self) with hb | hb
          · exact hb.symm
          · exact entryLe_antisymm a b (h1a b hb) (h2b a ha)
      subst hab
      rw [ih bs h1s h2s hp.cons_inv]

theorem mem_countMap_iff (ks : List Key) (e : Key × Nat) : e ∈ countMap ks ↔ e.1 ∈ ks ∧ e.2 = ks.count e.1 := by
  obtain ⟨_, hsp, hall⟩ := countMap_spec ks
  refine ⟨fun he => ⟨(hsp e he).2.2, (hsp e he).1⟩, fun ⟨hm, hc⟩ => ?_⟩
  obtain ⟨e', he', hk⟩ := List.mem_map.mp (hall e.1 hm)
  have : e' = e := Prod.ext hk (by rw [(hsp e' he').1, hc, hk])
  exact this ▸ he'

theorem countMap_perm {ks ks' : List Key} (hp : ks.Perm ks') : (countMap ks).Perm (countMap ks') := by
  rw [List.perm_ext_iff_of_nodup (nodup_of_nodup_map (countMap_spec ks).1) (nodup_of_nodup_map (countMap_spec ks').1)]
  intro e
  rw [mem_countMap_iff, mem_countMap_iff, hp.mem_iff, hp.count_eq]

theorem mapToLists_perm {ks ks' : List Key} (hp : ks.Perm ks') :
    mapToLists (countMap ks) = mapToLists (countMap ks') := by
  have h := sorted_perm_eq _ _ (sorted_sortEntries (countMap ks)) (sorted_sortEntries (countMap ks'))
    ((perm_sortEntries _).trans ((countMap_perm hp).trans (perm_sortEntries _).symm))
  simp only [mapToLists, h]

theorem entries_spec (ks : List Key) : ∀ e ∈ sortEntries (countMap ks), e.2 = ks.count e.1 ∧ 1 ≤ e.2 ∧ e.1 ∈ ks := by
  intro e he
  exact (countMap_spec ks).2.1 e ((perm_sortEntries _).mem_iff.mp he)

theorem entries_complete (ks : List Key) (k : Key) (hk : k ∈ ks) : ∃ e ∈ sortEntries (countMap ks), e.1 = k := by
  obtain ⟨e, he, hk'⟩ := List.mem_map.mp ((countMap_spec ks).2.2 k hk)
  exact ⟨e, (perm_sortEntries _).mem_iff.mpr he, hk'⟩

theorem entries_keys_nodup (ks : List Key) : ((sortEntries (countMap ks)).map (·.1)).Nodup :=
  ((perm_sortEntries _).map (·.1)).nodup_iff.mpr (countMap_spec ks).1

theorem renderKey_inj {k₁ k₂ : Key} (h1 : '-' ∉ k₁.context) (h2 : '-' ∉ k₂.context)
    (h : renderKey k₁ = renderKey k₂) : k₁ = k₂ := by
  have hr : k₁.context.reverse ++ '-' :: k₁.directive.reverse = k₂.context.reverse ++ '-' :: k₂.directive.reverse := by
    have := congrArg List.reverse h
    simpa [renderKey] using this
  have := append_sep_inj (s := '-') (by simpa using h1) (by simpa using h2) hr
  obtain ⟨d1, c1⟩ := k₁
  obtain ⟨d2, c2⟩ := k₂
  simp only [List.reverse_inj] at this
  simp [this.1, this.2]

theorem routeLoop_spec : ∀ (rs : List RouteType) (h g : Nat),
    routeLoop rs (h, g) = (h + (rs.filter (· == .http)).length, g + (rs.filter (· == .grpc)).length) := by
  intro rs
  induction rs with
  | nil => intro h g; simp [routeLoop]
  | cons r rs ih =>
    intro h g
    cases r <;> simp [routeLoop, ih] <;> omega

theorem endpointLoop_spec : ∀ (us : List UpstreamSummary) (acc : Nat),
    endpointLoop us acc = acc + ((us.filter (fun u => !u.hasError)).map (·.endpoints)).sum := by
  intro us
  induction us with
  | nil => intro acc; simp [endpointLoop]
  | cons u us ih =>
    intro acc
    cases hu : u.hasError <;> simp [endpointLoop, ih, hu] <;> omega

/-- a ClientSettingsPolicy whose first targetRef is a Gateway (`policy.TargetRefs[0].Kind == kinds.Gateway`) -/
def isGwCSP (p : PolicySummary) : Bool := p.kind == .clientSettings && p.targetIsGateway.head? == some true
/-- a ClientSettingsPolicy with a first targetRef that is not a Gateway; one without targetRefs is neither -/
def isRouteCSP (p : PolicySummary) : Bool := p.kind == .clientSettings && p.targetIsGateway.head? == some false

theorem policyLoop_spec : ∀ (ps : List PolicySummary) (c : Counts),
    policyLoop ps c =
      { c with
        gwClientSettings := c.gwClientSettings + (ps.filter isGwCSP).length
        routeClientSettings := c.routeClientSettings + (ps.filter isRouteCSP).length
        observability := c.observability + (ps.filter (·.kind == .observability)).length
        upstreamSettings := c.upstreamSettings + (ps.filter (·.kind == .upstreamSettings)).length } := by
  intro ps
  induction ps with
  | nil => intro c; rfl
  | cons p ps ih =>
    intro c
    obtain ⟨kind, refs⟩ := p
    -- a policy that is not counted leaves `ih`; a counted one moves a `+ 1` from the accumulator into the length
    cases kind with
    | clientSettings =>
      match refs with
      | [] => exact ih c
      | true :: _ => exact (ih _).trans (by simp [isGwCSP, isRouteCSP, Nat.add_assoc, Nat.add_comm 1])
      | false :: _ => exact (ih _).trans (by simp [isGwCSP, isRouteCSP, Nat.add_assoc, Nat.add_comm 1])
    | observability => exact (ih _).trans (by simp [isGwCSP, isRouteCSP, Nat.add_assoc, Nat.add_comm 1])
    | upstreamSettings => exact (ih _).trans (by simp [isGwCSP, isRouteCSP, Nat.add_assoc, Nat.add_comm 1])
    | other => exact ih c

theorem countResources_eq (s : Summary) :
    countResources s =
      { gatewayClass := s.ignoredGatewayClasses + (if s.hasGatewayClass then 1 else 0)
        gateway := s.ignoredGateways + (if s.hasGateway then 1 else 0)
        httpRoute := (s.routes.filter (· == .http)).length
        grpcRoute := (s.routes.filter (· == .grpc)).length
        tlsRoute := s.l4Routes
        secret := s.secrets
        service := s.services
        endpoint := ((s.upstreams.filter (fun u => !u.hasError)).map (·.endpoints)).sum
        backendTLSPolicy := s.backendTLSPolicies
        gwClientSettings := (s.policies.filter isGwCSP).length
        routeClientSettings := (s.policies.filter isRouteCSP).length
        observability := (s.policies.filter (·.kind == .observability)).length
        upstreamSettings := (s.policies.filter (·.kind == .upstreamSettings)).length
        nginxProxy := if s.hasNginxProxy then 1 else 0
        snippetsFilter := s.snippetsFilters.length } := by
  simp [countResources, routeLoop_spec, endpointLoop_spec, policyLoop_spec, b2n]

/-- each membership proof names the position of the word in the list -/
theorem ctxName_closed (k : Str) :
    ctxName k ∈ ["main".toList, "http".toList, "server".toList, "location".toList, "unknown".toList] :=
  of_ite (P := (· ∈ _)) (.head _) <| of_ite (P := (· ∈ _)) (.tail _ (.head _)) <| of_ite (P := (· ∈ _)) (.tail _ (.tail _ (.head _))) <|
    of_ite (P := (· ∈ _)) (.tail _ (.tail _ (.tail _ (.head _)))) (.tail _ (.tail _ (.tail _ (.tail _ (.head _)))))

theorem ctxName_no_dash (k : Str) : '-' ∉ ctxName k :=
  (by decide_chars : ∀ w ∈ ["main".toList, "http".toList, "server".toList, "location".toList, "unknown".toList],
    '-' ∉ w) _ (ctxName_closed k)

theorem reduceFlag_closed (v : FlagVal) : reduceFlag v ∈ flagWords := by
  cases v with
  | bool b => cases b; exact .tail _ (.head _); exact .head _
  | other c d => exact of_ite (P := (· ∈ _)) (.tail _ (.tail _ (.head _))) (.tail _ (.tail _ (.tail _ (.head _))))

/-- the tokenizer state of a lexer mode: the Go code appends to `word`, the lexer conses, so the accumulators are reversed -/
def absSt : Mode → TokSt
  | .gap => .gap
  | .comment _ => .comment
  | .bare acc e v => .bare acc.reverse e v
  | .quoted dq acc e => .quoted dq acc.reverse e

/-- effect of one token on (depth, atStart, directives): the bookkeeping of `namesFrom`, with the names collected -/
def applyTok (x : Nat × Bool × List Str) : Tok → Nat × Bool × List Str
  | .ws _ => x
  | .comment _ => x
  | .word r q => (x.1, false, if x.1 == 0 && x.2.1 then x.2.2 ++ [wordValue r q] else x.2.2)
  | .semi => (x.1, true, x.2.2)
  | .lb => (x.1 + 1, true, x.2.2)
  | .rb => (x.1 - 1, true, x.2.2)

def applyToks (x : Nat × Bool × List Str) (ts : List Tok) : Nat × Bool × List Str := ts.foldl applyTok x

theorem applyTok_names (x : Nat × Bool × List Str) (t : Tok) (T : List Tok) :
    x.2.2 ++ namesFrom x.1 x.2.1 (t :: T) =
      (applyTok x t).2.2 ++ namesFrom (applyTok x t).1 (applyTok x t).2.1 T := by
  cases t with
  | word r q =>
    simp only [namesFrom, applyTok]
    split <;> simp
  | _ => rfl

theorem applyToks_names : ∀ (toks : List Tok) (x : Nat × Bool × List Str) (T : List Tok),
    x.2.2 ++ namesFrom x.1 x.2.1 (toks ++ T) =
      (applyToks x toks).2.2 ++ namesFrom (applyToks x toks).1 (applyToks x toks).2.1 T
  | [], _, _ => rfl
  | t :: ts, x, T => (applyTok_names x t (ts ++ T)).trans (applyToks_names ts (applyTok x t) T)

theorem tokSpace_eq (c : Char) : tokSpace c = isNgxSpace c := rfl

theorem tokStep_sim (m : Mode) (c : Char) (d : Nat) (st : Bool) (out : List Str) :
    tokStep ⟨absSt m, d, st, out⟩ c =
      ⟨absSt (step m c).1, (applyToks (d, st, out) (step m c).2).1,
        (applyToks (d, st, out) (step m c).2).2.1, (applyToks (d, st, out) (step m c).2).2.2⟩ := by
  cases m with
  | gap =>
    by_cases hs : isNgxSpace c = true
    · simp [tokStep, absSt, step, tokSpace_eq, hs, applyToks, applyTok]
    by_cases h : c = ';' ∨ c = '{' ∨ c = '}' ∨ c = '#' ∨ c = '"' ∨ c = '\'' ∨ c = '\\' ∨ c = '$'
    · rcases h with rfl | rfl | rfl | rfl | rfl | rfl | rfl | rfl <;> rfl
    · simp only [not_or] at h
      simp [tokStep, absSt, step, tokSpace_eq, hs, h, applyToks]
  | comment acc => by_cases h : c = '\n' <;> simp [tokStep, absSt, step, applyToks, applyTok, h]
  | bare acc esc var =>
    cases esc
    · by_cases h : c = '{' ∨ c = '\\' ∨ c = '$' ∨ c = ';'
      · rcases h with rfl | rfl | rfl | rfl
        · cases var
          · rfl
          · simp [tokStep, absSt, step, applyToks]
        · simp [tokStep, absSt, step, applyToks]
        · simp [tokStep, absSt, step, applyToks]
        · rfl
      · simp only [not_or] at h
        by_cases hs : isNgxSpace c = true <;>
          simp [tokStep, absSt, step, tokSpace_eq, hs, h, applyToks, applyTok, endWord, wordValue, unescapeWord]
    · simp [tokStep, absSt, step, applyToks]
  | quoted dq acc esc =>
    cases esc
    · by_cases h : c = '\\'
      · simp [tokStep, absSt, step, applyToks, h]
      · cases dq
        · by_cases hq : c = '\'' <;>
            simp [tokStep, absSt, step, applyToks, applyTok, endWord, wordValue, unescapeWord, quoteChar, h, hq]
        · by_cases hq : c = '"' <;>
            simp [tokStep, absSt, step, applyToks, applyTok, endWord, wordValue, unescapeWord, quoteChar, h, hq]
    · simp [tokStep, absSt, step, applyToks]

theorem tokRun_sim : ∀ (s : Str) (m : Mode) (d : Nat) (st : Bool) (out : List Str),
    (tokRun ⟨absSt m, d, st, out⟩ s).directives = out ++ namesFrom d st (run m s) := by
  intro s
  induction s with
  | nil =>
    -- the final `endWord` is the effect of the token that `flush` still owes
    intro m d st out
    have h := applyToks_names (flush m) (d, st, out) []
    rw [List.append_nil] at h
    rw [run, h]
    cases m with
    | quoted dq acc e => cases dq <;> exact (List.append_nil _).symm
    | _ => exact (List.append_nil _).symm
  | cons c cs ih =>
    intro m d st out
    simp only [tokRun, run]
    rw [tokStep_sim, ih, applyToks_names (step m c).2 (d, st, out)]

theorem parseSnippet_eq_directiveNames (s : Str) : parseSnippet s = directiveNames s := by
  have := tokRun_sim s .gap 0 true []
  simpa [parseSnippet, tokInit, absSt, directiveNames, names0, lex] using this

/-- characters that keep the lexer (and the tokenizer) inside an unescaped bare word: everything except NGINX white space,
`;`, `{`, `\` and `$` — in particular both quote characters, `}` and `#`.  The lexer lemmas call this class `inBare`. -/
def bareStay (c : Char) : Bool := !isNgxSpace c && c != ';' && c != '{' && c != '\\' && c != '$'

end NGF.Telemetry
