/-
C08 — what the equality helpers compare (`ekey`, `wkey`), the own / foreign parts of a status, and the merged status a
setter computes (`merged`, `SameOwn`). One invocation and the retry loop: `NGF.Proofs.StatusRetry`.
-/
import NGF.Model.StatusWrite

namespace NGF.StatusWrite

def Cond.untimed (c : Cond) : Cond := { c with time := 0 }

/-- what `entryEq` compares -/
def ekey (k : Kind) (e : Entry) : String × List String × List Cond :=
  (e.ctlr, pick k.idx e.ref, e.conds.map Cond.untimed)

/-- what `wholeEntryEq` compares -/
def wkey (e : Entry) : List String × List Cond := (e.ref.map norm, e.conds.map Cond.untimed)

theorem condEq_iff (a b : Cond) : condEq a b = true ↔ a.untimed = b.untimed := by
  cases a; cases b
  simp only [condEq, Cond.untimed, Cond.mk.injEq, and_true, bne_iff_ne, ne_eq, ite_not, beq_iff_eq,
    Bool.if_false_right, Bool.and_eq_true, decide_eq_true_eq]
  exact ⟨fun ⟨h1, h2, h3, h4, h5⟩ => ⟨h2, h3, h5, h4, h1⟩, fun ⟨h2, h3, h5, h4, h1⟩ => ⟨h1, h2, h3, h4, h5⟩⟩

theorem eqFunc_iff {α β : Type} (f : α → α → Bool) (key : α → β)
    (h : ∀ a b, f a b = true ↔ key a = key b) :
    ∀ l1 l2 : List α, eqFunc f l1 l2 = true ↔ l1.map key = l2.map key
  | [], [] => by simp [eqFunc]
  | [], _ :: _ => by simp [eqFunc]
  | _ :: _, [] => by simp [eqFunc]
  | a :: as, b :: bs => by simp [eqFunc, h, eqFunc_iff f key h as bs]

theorem condsEq_iff (a b : List Cond) : condsEq a b = true ↔ a.map Cond.untimed = b.map Cond.untimed :=
  eqFunc_iff condEq Cond.untimed condEq_iff a b

theorem entryEq_iff (k : Kind) (a b : Entry) : entryEq k a b = true ↔ ekey k a = ekey k b := by
  simp only [entryEq, ekey, bne_iff_ne, ne_eq, Prod.mk.injEq]
  constructor
  · intro h
    split at h; · simp at h
    split at h; · simp at h
    rename_i h1 h2
    exact ⟨by simpa using h1, by simpa using h2, (condsEq_iff _ _).1 h⟩
  · rintro ⟨h1, h2, h3⟩
    simp [h1, h2, (condsEq_iff _ _).2 h3]

theorem wholeEntryEq_iff (a b : Entry) : wholeEntryEq a b = true ↔ wkey a = wkey b := by
  simp [wholeEntryEq, wkey, condsEq_iff]

theorem wholeEq_iff (p c : Status) : wholeEq p c = true ↔ p.map wkey = c.map wkey :=
  eqFunc_iff wholeEntryEq wkey wholeEntryEq_iff p c

theorem ekey_ctlr {k : Kind} {a b : Entry} (h : ekey k a = ekey k b) : a.ctlr = b.ctlr := by
  simp only [ekey, Prod.mk.injEq] at h; exact h.1

theorem statusEq_iff (k : Kind) (c : String) (prev cur : Status) :
    statusEq k c prev cur = true ↔
      (∀ p ∈ prev, p.ctlr = c → ∃ x ∈ cur, ekey k p = ekey k x) ∧
      (∀ x ∈ cur, ∃ p ∈ prev, ekey k x = ekey k p) := by
  simp only [statusEq, Bool.and_eq_true, List.all_eq_true, Bool.or_eq_true, bne_iff_ne, ne_eq,
    List.any_eq_true, entryEq_iff]
  exact and_congr_left fun _ => forall₂_congr fun p _ => Decidable.imp_iff_not_or.symm

theorem mem_foreign {c : String} {l : Status} {e : Entry} : e ∈ foreign c l ↔ e ∈ l ∧ e.ctlr ≠ c := by
  simp [foreign]

theorem mem_own {c : String} {l : Status} {e : Entry} : e ∈ own c l ↔ e ∈ l ∧ e.ctlr = c := by
  simp [own]

theorem foreign_append (c : String) (a b : Status) : foreign c (a ++ b) = foreign c a ++ foreign c b := by
  simp [foreign]

theorem own_append (c : String) (a b : Status) : own c (a ++ b) = own c a ++ own c b := by
  simp [own]

theorem foreign_foreign (c : String) (l : Status) : foreign c (foreign c l) = foreign c l := by
  simp [foreign]

theorem own_foreign (c : String) (l : Status) : own c (foreign c l) = [] := by
  simp [own, foreign, List.filter_filter]

theorem foreign_of_allOwn {c : String} {l : Status} (h : ∀ e ∈ l, e.ctlr = c) : foreign c l = [] := by
  simp only [foreign, List.filter_eq_nil_iff, bne_iff_ne, ne_eq, Decidable.not_not]
  exact h

theorem own_of_allOwn {c : String} {l : Status} (h : ∀ e ∈ l, e.ctlr = c) : own c l = l := by
  simp only [own, List.filter_eq_self, beq_iff_eq]
  exact h

theorem foreign_of_allForeign {c : String} {l : Status} (h : ∀ e ∈ l, e.ctlr ≠ c) : foreign c l = l := by
  simp only [foreign, List.filter_eq_self, bne_iff_ne, ne_eq]
  exact h

theorem own_of_allForeign {c : String} {l : Status} (h : ∀ e ∈ l, e.ctlr ≠ c) : own c l = [] := by
  simp only [own, List.filter_eq_nil_iff, beq_iff_eq]
  exact h

/-- own entries of `prev` and the computed entries are the same set modulo lastTransitionTime -/
def SameOwn (k : Kind) (c : String) (prev cap : Status) : Prop :=
  (∀ p ∈ own c prev, ∃ x ∈ cap, ekey k p = ekey k x) ∧ (∀ x ∈ cap, ∃ p ∈ own c prev, ekey k x = ekey k p)

/-- a setter as the `Prepare*Requests` functions build it: the captured status holds own entries only -/
def Fresh (s : Setter) : Prop := ∀ e ∈ s.cap, e.ctlr = s.ctlr

def Merging (s : Setter) : Prop := s.kind.mode ≠ .whole

-- for `by decide` on the concrete setters of Props/C08
instance (s : Setter) : Decidable (Fresh s) := by unfold Fresh; exact inferInstance
instance (s : Setter) : Decidable (Merging s) := by unfold Merging; exact inferInstance

/-- a merging setter puts the computed entries before (routes) or after (policies, snippets filters) the foreign ones -/
theorem merged_cases {s : Setter} (hm : Merging s) (prev : Status) :
    merged s prev = s.cap ++ foreign s.ctlr prev ∨ merged s prev = foreign s.ctlr prev ++ s.cap := by
  unfold merged
  cases h : s.kind.mode with
  | whole => exact absurd h hm
  | ownFirst => exact .inl rfl
  | foreignFirst => exact .inr rfl

theorem merged_foreign {s : Setter} (hm : Merging s) (hf : Fresh s) (prev : Status) :
    foreign s.ctlr (merged s prev) = foreign s.ctlr prev := by
  rcases merged_cases hm prev with h | h <;> simp [h, foreign_append, foreign_of_allOwn hf, foreign_foreign]

/-- for every merging setter, also one whose captured status already holds foreign entries (re-invocation) -/
theorem merged_own_general {s : Setter} (hm : Merging s) (prev : Status) :
    own s.ctlr (merged s prev) = own s.ctlr s.cap := by
  rcases merged_cases hm prev with h | h <;> simp [h, own_append, own_foreign]

theorem merged_own {s : Setter} (hm : Merging s) (hf : Fresh s) (prev : Status) :
    own s.ctlr (merged s prev) = s.cap :=
  (merged_own_general hm prev).trans (own_of_allOwn hf)

theorem merged_foreign_sublist {s : Setter} (hm : Merging s) (prev : Status) :
    (foreign s.ctlr prev).Sublist (foreign s.ctlr (merged s prev)) := by
  rcases merged_cases hm prev with h | h <;> rw [h, foreign_append, foreign_foreign]
  · exact List.sublist_append_right _ _
  · exact List.sublist_append_left _ _

theorem mem_merged {s : Setter} (hm : Merging s) (prev : Status) (e : Entry) :
    e ∈ merged s prev ↔ e ∈ s.cap ∨ e ∈ foreign s.ctlr prev := by
  rcases merged_cases hm prev with h | h <;> simp [h, or_comm]

theorem merged_length {s : Setter} (hm : Merging s) (prev : Status) :
    (merged s prev).length = s.cap.length + (foreign s.ctlr prev).length := by
  rcases merged_cases hm prev with h | h <;> simp [h, Nat.add_comm]

theorem equalCheck_merging {s : Setter} (hm : Merging s) (p c : Status) :
    equalCheck s p c = statusEq s.kind s.ctlr p c := by
  unfold equalCheck
  cases h : s.kind.mode with
  | whole => exact absurd h hm
  | ownFirst => rfl
  | foreignFirst => rfl

theorem equalCheck_iff_sameOwn {s : Setter} (hm : Merging s) (hf : Fresh s) (prev : Status) :
    equalCheck s prev (merged s prev) = true ↔ SameOwn s.kind s.ctlr prev s.cap := by
  rw [equalCheck_merging hm, statusEq_iff]
  unfold SameOwn
  constructor
  · rintro ⟨h1, h2⟩
    constructor
    · intro p hp
      obtain ⟨hp1, hp2⟩ := mem_own.1 hp
      obtain ⟨x, hx, hk⟩ := h1 p hp1 hp2
      rcases (mem_merged hm prev x).1 hx with hx | hx
      · exact ⟨x, hx, hk⟩
      · exact absurd ((ekey_ctlr hk).symm.trans hp2) (mem_foreign.1 hx).2
    · intro x hx
      obtain ⟨p, hp, hk⟩ := h2 x ((mem_merged hm prev x).2 (Or.inl hx))
      exact ⟨p, mem_own.2 ⟨hp, (ekey_ctlr hk).symm.trans (hf x hx)⟩, hk⟩
  · rintro ⟨h1, h2⟩
    constructor
    · intro p hp hc
      obtain ⟨x, hx, hk⟩ := h1 p (mem_own.2 ⟨hp, hc⟩)
      exact ⟨x, (mem_merged hm prev x).2 (Or.inl hx), hk⟩
    · intro x hx
      rcases (mem_merged hm prev x).1 hx with hx | hx
      · obtain ⟨p, hp, hk⟩ := h2 x hx
        exact ⟨p, (mem_own.1 hp).1, hk⟩
      · exact ⟨x, (mem_foreign.1 hx).1, rfl⟩

end NGF.StatusWrite
