/-- `decide +kernel` for closed statements whose texts are written `"…".toList`, after each such `"…".toList` has been
rewritten to the list of its characters.  `String` is a byte array, so the kernel evaluates `"…".toList` by encoding the
literal to UTF-8 and decoding it again, which is slow to check; but a literal is by definition `String.ofList` of its
characters, so `rw [String.toList_ofList]` yields the list without computing anything.  (`simp only` with that lemma
does not recognise a literal as `String.ofList _`; `rw` does.) -/
macro "decide_chars" : tactic => `(tactic| ((repeat rw [String.toList_ofList]); decide +kernel))
