/-
C18: what `prepareDeployment` produces, as a function of the Gateway key, the id and the manifest's args only.
The arg loop in closed form (`prepareArgs_eq`); the three flags it deals with start differently, so a prefix test
for one of them is decided on the two fresh args and on a rewritten arg, and filtering the prepared args by such a
test comes down to the template (`filter_rewritten_nil`, `filter_lockFlag_rewritten`); the shape of the static
manifest's args; DNS-1123 names contain no '/', so `<ns>/<name>` decodes and `NamespacedName.String()` is injective.
-/
import NGF.Model.Provisioner

namespace NGF.Prov

/-- `%d` is injective -/
theorem idName_inj {m n : Nat} (h : idName m = idName n) : m = n := by
  have := congrArg (fun l => Nat.ofDigitChars 10 l 0) (List.append_cancel_left h)
  simpa [Nat.ofDigitChars_ten_toDigits] using this

theorem rewriteArg_pos (k : Key) {a : Str} (h : isInfix lockNeedle a = true) : rewriteArg k a = lockFlag ++ k.name :=
  if_pos h

theorem rewriteArg_neg (k : Key) {a : Str} (h : isInfix lockNeedle a = false) : rewriteArg k a = a :=
  if_neg (by rw [h]; exact Bool.false_ne_true)

theorem argStep_eq (k : Key) (acc : List Str) (a : Str) : argStep k acc a = acc ++ [rewriteArg k a] := by
  unfold argStep rewriteArg
  split <;> rfl

theorem foldl_argStep (k : Key) (tmpl acc : List Str) :
    tmpl.foldl (argStep k) acc = acc ++ tmpl.map (rewriteArg k) := by
  induction tmpl generalizing acc with
  | nil => exact (List.append_nil acc).symm
  | cons a t ih => rw [List.foldl_cons, ih, argStep_eq, List.append_assoc]; rfl

theorem prepareArgs_eq (tmpl : List Str) (k : Key) (id : Str) :
    prepareArgs tmpl k id = (gwFlag ++ gwString k) :: updFlag :: tmpl.map (rewriteArg k) := by
  simp [prepareArgs, foldl_argStep]

@[simp] theorem prepare_args (tmpl : List Str) (i : Nat) (k : Key) :
    (prepare tmpl i k).args = (gwFlag ++ gwString k) :: updFlag :: tmpl.map (rewriteArg k) := by
  simp [prepare, prepareArgs_eq]

/-- `--update-gatewayclass-status=` -/
def updPrefix : Str := updFlag.take 29

theorem isPrefixOf_append_self (p x : Str) : p.isPrefixOf (p ++ x) = true :=
  List.isPrefixOf_iff_prefix.mpr (List.prefix_append _ _)

-- `--gateway=`, `--update-gatewayclass-status=` and `--leader-election-lock-name=` differ at their third character
theorem gwFlag_not_prefix_lock (x : Str) : gwFlag.isPrefixOf (lockFlag ++ x) = false := rfl
theorem gwFlag_not_prefix_upd : gwFlag.isPrefixOf updFlag = false := rfl
theorem lockFlag_not_prefix_gw (x : Str) : lockFlag.isPrefixOf (gwFlag ++ x) = false := rfl
theorem lockFlag_not_prefix_upd : lockFlag.isPrefixOf updFlag = false := rfl
theorem updPrefix_not_prefix_gw (x : Str) : updPrefix.isPrefixOf (gwFlag ++ x) = false := rfl
theorem updPrefix_not_prefix_lock (x : Str) : updPrefix.isPrefixOf (lockFlag ++ x) = false := rfl
theorem updPrefix_prefix_upd : updPrefix.isPrefixOf updFlag = true := by decide +kernel

theorem isInfix_of_prefix {p s : Str} (h : p.isPrefixOf s = true) : isInfix p s = true := by
  cases s with
  | nil => cases p with
    | nil => rfl
    | cons _ _ => cases h
  | cons c cs => simp [isInfix, h]

theorem isInfix_mid (a p b : Str) : isInfix p (a ++ (p ++ b)) = true := by
  induction a with
  | nil => exact isInfix_of_prefix (isPrefixOf_append_self p b)
  | cons c t ih => simp [isInfix, ih]

theorem isInfix_of_lockFlag_prefix {a : Str} (h : lockFlag.isPrefixOf a = true) : isInfix lockNeedle a = true := by
  obtain ⟨t, rfl⟩ := List.isPrefixOf_iff_prefix.mp h
  have : lockFlag ++ t = ['-','-'] ++ (lockNeedle ++ ('=' :: t)) := by simp [lockFlag]
  rw [this]
  exact isInfix_mid _ _ _

theorem needle_not_in_upd : isInfix lockNeedle updFlag = false := by decide +kernel

theorem filter_rewritten_nil {q : Str → Bool} {tmpl : List Str} (k : Key) (hl : ∀ x, q (lockFlag ++ x) = false)
    (ht : ∀ a ∈ tmpl, q a = false) : (tmpl.map (rewriteArg k)).filter q = [] := by
  refine List.filter_eq_nil_iff.mpr fun a ha => ?_
  obtain ⟨b, hb, rfl⟩ := List.mem_map.mp ha
  cases hn : isInfix lockNeedle b
  · rw [rewriteArg_neg k hn, ht b hb]; exact Bool.false_ne_true
  · rw [rewriteArg_pos k hn, hl]; exact Bool.false_ne_true

/-- the args of the static manifest do not already carry a `--gateway=` flag -/
def TmplOK (tmpl : List Str) : Prop := ∀ a ∈ tmpl, gwFlag.isPrefixOf a = false

instance (tmpl : List Str) : Decidable (TmplOK tmpl) := by unfold TmplOK; infer_instance

theorem filter_gwFlag_prepareArgs {tmpl : List Str} (ht : TmplOK tmpl) (k : Key) (id : Str) :
    (prepareArgs tmpl k id).filter (fun a => gwFlag.isPrefixOf a) = [gwFlag ++ gwString k] := by
  rw [prepareArgs_eq]
  simp only [List.filter_cons, isPrefixOf_append_self, gwFlag_not_prefix_upd, if_true, Bool.false_eq_true, if_false]
  rw [filter_rewritten_nil k gwFlag_not_prefix_lock ht]

/-- holds for every template: an arg with the prefix contains the needle, so none survives unrewritten -/
theorem filter_lockFlag_rewritten (k : Key) (tmpl : List Str) :
    (tmpl.map (rewriteArg k)).filter (fun a => lockFlag.isPrefixOf a) =
      (tmpl.filter (isInfix lockNeedle)).map (fun _ => lockFlag ++ k.name) := by
  induction tmpl with
  | nil => rfl
  | cons a t ih =>
    cases h : isInfix lockNeedle a
    · have : lockFlag.isPrefixOf a = false := by
        cases hp : lockFlag.isPrefixOf a
        · rfl
        · rw [isInfix_of_lockFlag_prefix hp] at h; cases h
      simp [rewriteArg_neg k h, h, this, ih]
    · simp [rewriteArg_pos k h, h, isPrefixOf_append_self, ih]

theorem filter_noNeedle_rewritten (k : Key) (l : List Str) :
    (l.map (rewriteArg k)).filter (fun a => !isInfix lockNeedle a) = l.filter (fun a => !isInfix lockNeedle a) := by
  induction l with
  | nil => rfl
  | cons a t ih =>
    cases h : isInfix lockNeedle a
    · simp [rewriteArg_neg k h, h, ih]
    · simp [rewriteArg_pos k h, h, isInfix_of_lockFlag_prefix (isPrefixOf_append_self _ _), ih]

/-- what `prepareDeployment` relies on in the manifest: no `--gateway=` / `--update-gatewayclass-status=` arg of
its own; the substring test and the prefix test `--leader-election-lock-name=` select the same args; exactly one
such arg -/
def manifestShape (tmpl : List Str) : Bool :=
  tmpl.all (fun a => !gwFlag.isPrefixOf a) && tmpl.all (fun a => !updPrefix.isPrefixOf a) &&
  tmpl.all (fun a => isInfix lockNeedle a == lockFlag.isPrefixOf a) &&
  (tmpl.filter (isInfix lockNeedle)).length == 1

theorem manifestShape_iff {tmpl : List Str} : manifestShape tmpl = true ↔
    TmplOK tmpl ∧ (∀ a ∈ tmpl, updPrefix.isPrefixOf a = false) ∧
    (∀ a ∈ tmpl, isInfix lockNeedle a = lockFlag.isPrefixOf a) ∧ (tmpl.filter (isInfix lockNeedle)).length = 1 := by
  simp only [manifestShape, TmplOK, Bool.and_eq_true, List.all_eq_true, Bool.not_eq_true', beq_iff_eq, and_assoc]

theorem manifestShape_tmplOK {tmpl : List Str} (h : manifestShape tmpl = true) : TmplOK tmpl :=
  (manifestShape_iff.mp h).1

theorem manifestShape_noUpd {tmpl : List Str} (h : manifestShape tmpl = true) :
    ∀ a ∈ tmpl, updPrefix.isPrefixOf a = false :=
  (manifestShape_iff.mp h).2.1

theorem manifestShape_sub_eq_prefix {tmpl : List Str} (h : manifestShape tmpl = true) :
    ∀ a ∈ tmpl, isInfix lockNeedle a = lockFlag.isPrefixOf a :=
  (manifestShape_iff.mp h).2.2.1

theorem manifestShape_one {tmpl : List Str} (h : manifestShape tmpl = true) :
    (tmpl.filter (isInfix lockNeedle)).length = 1 :=
  (manifestShape_iff.mp h).2.2.2

theorem split_of_filter_length_one {α} (q : α → Bool) (l : List α) (h : (l.filter q).length = 1) :
    ∃ pre x post, l = pre ++ x :: post ∧ q x = true ∧ (∀ a ∈ pre, q a = false) ∧ (∀ a ∈ post, q a = false) := by
  obtain ⟨x, hx⟩ := List.length_eq_one_iff.mp h
  obtain ⟨pre, post, e, hpre, hq, hpost⟩ := List.filter_eq_cons_iff.mp hx
  exact ⟨pre, x, post, e, hq, fun a ha => Bool.eq_false_iff.mpr (hpre a ha),
    fun a ha => Bool.eq_false_iff.mpr (List.filter_eq_nil_iff.mp hpost a ha)⟩

theorem manifestShape_any {tmpl : List Str} (h : manifestShape tmpl = true) :
    tmpl.any (isInfix lockNeedle) = true := by
  obtain ⟨_, x, _, e, hx, _⟩ := split_of_filter_length_one _ tmpl (manifestShape_one h)
  exact List.any_eq_true.mpr ⟨x, by simp [e], hx⟩

theorem map_rewriteArg_of_none (k : Key) (l : List Str) (h : ∀ a ∈ l, isInfix lockNeedle a = false) :
    l.map (rewriteArg k) = l :=
  (List.map_congr_left fun a ha => rewriteArg_neg k (h a ha)).trans (List.map_id _)

theorem mem_splitDots {s : Str} {c : Char} (hc : c ∈ s) (hd : c ≠ '.') : ∃ l ∈ splitDots s, c ∈ l := by
  induction s with
  | nil => cases hc
  | cons d ds ih =>
    unfold splitDots
    split
    · next hs =>
      rcases List.mem_cons.mp hc with rfl | h
      · exact ⟨[c], List.mem_cons_self, List.mem_cons_self⟩
      · obtain ⟨l, hl, _⟩ := ih h
        rw [hs] at hl
        cases hl
    · next p ps hs =>
      rw [hs] at ih
      split
      · next hdot =>
        rcases List.mem_cons.mp hc with rfl | h
        · exact absurd (beq_iff_eq.mp hdot) hd
        · obtain ⟨l, hl, hcl⟩ := ih h
          exact ⟨l, List.mem_cons_of_mem _ hl, hcl⟩
      · rcases List.mem_cons.mp hc with rfl | h
        · exact ⟨c :: p, List.mem_cons_self, List.mem_cons_self⟩
        · obtain ⟨l, hl, hcl⟩ := ih h
          rcases List.mem_cons.mp hl with rfl | hl
          · exact ⟨d :: l, List.mem_cons_self, List.mem_cons_of_mem _ hcl⟩
          · exact ⟨l, List.mem_cons_of_mem _ hl, hcl⟩

theorem dnsChar_ne_slash {c : Char} (h : (isAlnumLower c || c == '-') = true) : c ≠ '/' := by
  rintro rfl
  revert h
  decide

theorem dnsLabel_no_slash {s : Str} (h : dnsLabel s = true) : '/' ∉ s := by
  simp only [dnsLabel, Bool.and_eq_true] at h
  intro hm
  exact dnsChar_ne_slash (List.all_eq_true.mp h.1.1.2 _ hm) rfl

theorem dnsSubdomain_no_slash {s : Str} (h : dnsSubdomain s = true) : '/' ∉ s := by
  simp only [dnsSubdomain, Bool.and_eq_true] at h
  intro hm
  obtain ⟨l, hl, hcl⟩ := mem_splitDots hm (by decide)
  have hlab := List.all_eq_true.mp h.2 l hl
  simp only [Bool.and_eq_true] at hlab
  exact dnsChar_ne_slash (List.all_eq_true.mp hlab.1.1.2 _ hcl) rfl

/-! ### decoding `--gateway=<ns>/<name>` the way the static-mode binary does (exactly two '/'-separated parts) -/

/-- split at the first '/' -/
def splitSlash : Str → Option (Str × Str)
  | [] => none
  | c :: cs => if c == '/' then some ([], cs) else (splitSlash cs).map (fun p => (c :: p.1, p.2))

/-- the Gateway named by a `--gateway=` value: `<ns>/<name>` with no further '/' -/
def parseGwValue (v : Str) : Option Key :=
  match splitSlash v with
  | some (a, b) => if b.contains '/' then none else some ⟨a, b⟩
  | none => none

theorem splitSlash_gwString (ns name : Str) (h : '/' ∉ ns) : splitSlash (ns ++ '/' :: name) = some (ns, name) := by
  induction ns with
  | nil => simp [splitSlash]
  | cons c t ih =>
    have hc : (c == '/') = false := by
      have : c ≠ '/' := fun e => h (e ▸ List.mem_cons_self)
      simpa using this
    simp only [List.cons_append, splitSlash, hc, Bool.false_eq_true, if_false,
      ih (fun m => h (List.mem_cons_of_mem _ m)), Option.map_some]

theorem parseGwValue_gwString (k : Key) (h1 : '/' ∉ k.ns) (h2 : '/' ∉ k.name) : parseGwValue (gwString k) = some k := by
  simp [parseGwValue, gwString, splitSlash_gwString _ _ h1, h2]

theorem gwString_inj {k k' : Key} (h1 : '/' ∉ k.ns) (h2 : '/' ∉ k'.ns) (h : gwString k = gwString k') : k = k' := by
  have e := (splitSlash_gwString _ _ h1).symm.trans ((congrArg splitSlash h).trans (splitSlash_gwString _ _ h2))
  obtain ⟨a, b⟩ := k
  obtain ⟨a', b'⟩ := k'
  simp only [Option.some.injEq, Prod.mk.injEq] at e
  rw [e.1, e.2]

theorem parseGwValue_of_dnsKey {k : Key} (h : dnsKey k = true) : parseGwValue (gwString k) = some k := by
  simp only [dnsKey, Bool.and_eq_true] at h
  exact parseGwValue_gwString k (dnsLabel_no_slash h.1) (dnsSubdomain_no_slash h.2)

end NGF.Prov
