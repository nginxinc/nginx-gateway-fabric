/-
Helper lemmas for C07 (`NGF.Model.StatusPrep`): the reverse scan of `DeduplicateConditions` keeps exactly the
last condition of every type, in input order, so a prepared status reports for a type what the last condition of that
type says (`hasCond_convert_dedup`); and what that is when negative conditions follow the defaults
(`hasCond_append_condsFalse`). Then the conditions of a route parent (`prepareParent`): what follows the route's own
conditions in `routeAllConds` — the failed attachment, the failed reload — is negative and of type Accepted.
`firsts l seen` is `keepFirst seen l` of `NGF.Model.StatusLimits`: C08 models the same Go function over its own `Cond`
(lemmas in `NGF.Proofs.StatusLimits`). Core Lean only.
-/
import NGF.Model.StatusPrep

namespace NGF.StatusPrep

/-- keep the first condition of every type not in `seen` (forward formulation of the reverse scan) -/
def firsts : List Cond → List String → List Cond
  | [], _ => []
  | c :: r, seen => if c.type ∈ seen then firsts r seen else c :: firsts r (c.type :: seen)

theorem dedupAux_eq (l : List Cond) (seen : List String) (acc : List Cond) :
    dedupAux l seen acc = (firsts l seen).reverse ++ acc := by
  induction l generalizing seen acc with
  | nil => simp [dedupAux, firsts]
  | cons c r ih =>
    simp only [dedupAux, firsts]
    split
    · exact ih seen acc
    · rw [ih]; simp

theorem dedup_eq (cs : List Cond) : dedup cs = (firsts cs.reverse []).reverse := by
  simp [dedup, dedupAux_eq]

theorem firsts_sublist (l : List Cond) (seen : List String) : (firsts l seen).Sublist l := by
  induction l generalizing seen with
  | nil => simp [firsts]
  | cons c r ih =>
    simp only [firsts]
    split
    · exact (ih seen).cons c
    · exact (ih _).cons_cons c

theorem firsts_type_not_seen {l : List Cond} {seen : List String} {c : Cond} (h : c ∈ firsts l seen) :
    c.type ∉ seen := by
  induction l generalizing seen with
  | nil => simp [firsts] at h
  | cons d r ih =>
    simp only [firsts] at h
    split at h
    · exact ih h
    · rcases List.mem_cons.mp h with rfl | h'
      · assumption
      · intro hc; exact ih h' (List.mem_cons_of_mem _ hc)

theorem mem_firsts {l : List Cond} {seen : List String} {c : Cond} :
    c ∈ firsts l seen ↔ c.type ∉ seen ∧ l.find? (fun d => d.type = c.type) = some c := by
  induction l generalizing seen with
  | nil => simp [firsts]
  | cons d r ih =>
    simp only [firsts, List.find?_cons]
    by_cases hd : d.type ∈ seen
    · simp only [hd, if_true]
      by_cases hdc : d.type = c.type
      · simp only [hdc, decide_true]
        constructor
        · intro h; exact absurd (hdc ▸ hd) (ih.mp h).1
        · intro h; exact absurd (hdc ▸ hd) h.1
      · simp only [hdc, decide_false]; exact ih
    · simp only [hd, if_false, List.mem_cons]
      by_cases hdc : d.type = c.type
      · simp only [hdc, decide_true]
        constructor
        · rintro (rfl | h)
          · exact ⟨hd, rfl⟩
          · exact absurd (List.mem_cons_self) (hdc ▸ firsts_type_not_seen h)
        · rintro ⟨_, h⟩
          left; exact (Option.some.inj h).symm
      · simp only [hdc, decide_false]
        constructor
        · rintro (rfl | h)
          · exact absurd rfl hdc
          · have := ih.mp h
            exact ⟨fun hs => this.1 (List.mem_cons_of_mem _ hs), this.2⟩
        · rintro ⟨hs, h⟩
          right
          refine ih.mpr ⟨?_, h⟩
          intro hm
          rcases List.mem_cons.mp hm with e | e
          · exact hdc e.symm
          · exact hs e

theorem firsts_nodup (l : List Cond) (seen : List String) : ((firsts l seen).map (·.type)).Nodup := by
  induction l generalizing seen with
  | nil => simp [firsts]
  | cons d r ih =>
    simp only [firsts]
    split
    · exact ih seen
    · simp only [List.map_cons, List.nodup_cons]
      refine ⟨?_, ih _⟩
      intro hm
      obtain ⟨c, hc, hct⟩ := List.mem_map.mp hm
      exact firsts_type_not_seen hc (hct ▸ List.mem_cons_self)

theorem dedup_sublist (cs : List Cond) : (dedup cs).Sublist cs := by
  rw [dedup_eq]
  have := (firsts_sublist cs.reverse []).reverse
  simpa using this

theorem mem_dedup {cs : List Cond} {c : Cond} : c ∈ dedup cs ↔ lastOfType c.type cs = some c := by
  rw [dedup_eq, List.mem_reverse, mem_firsts]
  simp [lastOfType]

theorem dedup_nodup (cs : List Cond) : ((dedup cs).map (·.type)).Nodup := by
  rw [dedup_eq, List.map_reverse]
  have h := firsts_nodup cs.reverse []
  unfold List.Nodup at *
  rw [List.pairwise_reverse]
  exact h.imp (fun h => h.symm)

theorem lastOfType_type {t : String} {cs : List Cond} {c : Cond} (h : lastOfType t cs = some c) : c.type = t := by
  have := List.find?_some h
  simpa using this

theorem lastOfType_mem {t : String} {cs : List Cond} {c : Cond} (h : lastOfType t cs = some c) : c ∈ cs := by
  have := List.mem_of_find?_eq_some h
  simpa using this

theorem lastOfType_append (t : String) (a b : List Cond) :
    lastOfType t (a ++ b) = (lastOfType t b).or (lastOfType t a) := by
  simp [lastOfType, List.find?_append]

theorem lastOfType_nil (t : String) : lastOfType t [] = none := rfl

theorem lastOfType_singleton (t : String) (c : Cond) :
    lastOfType t [c] = if c.type = t then some c else none := by
  by_cases h : c.type = t <;> simp [lastOfType, List.find?_cons, h]

theorem lastOfType_snoc {t : String} {c : Cond} (h : c.type = t) (a : List Cond) : lastOfType t (a ++ [c]) = some c := by
  rw [lastOfType_append, lastOfType_singleton, if_pos h, Option.some_or]

theorem lastOfType_none_iff {t : String} {cs : List Cond} :
    lastOfType t cs = none ↔ ∀ c ∈ cs, c.type ≠ t := by
  simp [lastOfType]

theorem hasCond_convert_dedup (cs : List Cond) (g : Int) (t s : String) :
    hasCond (convert (dedup cs) g) t s = true ↔ ∃ c, lastOfType t cs = some c ∧ c.status = s := by
  simp only [hasCond, convert, List.any_map, List.any_eq_true, Function.comp, decide_eq_true_eq]
  constructor
  · rintro ⟨c, hc, ht, hs⟩
    exact ⟨c, ht ▸ mem_dedup.mp hc, hs⟩
  · rintro ⟨c, hc, hs⟩
    have ht := lastOfType_type hc
    exact ⟨c, mem_dedup.mpr (ht ▸ hc), ht, hs⟩

theorem hasCond_convert (cs : List Cond) (g : Int) (t s : String) :
    hasCond (convert cs g) t s = true ↔ ∃ c ∈ cs, c.type = t ∧ c.status = s := by
  simp [hasCond, convert, List.any_map, List.any_eq_true, Function.comp]

theorem convert_gen {cs : List Cond} {g : Int} {a : ApiCond} (h : a ∈ convert cs g) : a.gen = g := by
  simp only [convert, List.mem_map] at h
  obtain ⟨c, _, rfl⟩ := h
  rfl

theorem condsFalse_iff {t : String} {cs : List Cond} :
    condsFalse t cs = true ↔ ∀ c ∈ cs, c.type = t → c.status = "False" := by
  simp only [condsFalse, List.all_eq_true, Bool.or_eq_true, decide_eq_true_eq]
  exact forall₂_congr fun c _ => Decidable.imp_iff_not_or.symm

theorem condsFalse_append (t : String) (a b : List Cond) :
    condsFalse t (a ++ b) = (condsFalse t a && condsFalse t b) := List.all_append

/-- Conditions `cs` that are negative for type `t`, appended after `ds`: if one of them has type `t` the reported status
is "False", otherwise `ds` decides. The Accepted and ResolvedRefs statements of C07 are instances: `ds` are the defaults,
`cs` what the graph and the reload added. -/
theorem hasCond_append_condsFalse {t : String} {cs : List Cond} (h : condsFalse t cs = true) (ds : List Cond) (g : Int)
    (s : String) :
    hasCond (convert (dedup (ds ++ cs)) g) t s = true ↔
      ((∃ c ∈ cs, c.type = t) ∧ s = "False") ∨ ((∀ c ∈ cs, c.type ≠ t) ∧ hasCond (convert (dedup ds) g) t s = true) := by
  simp only [hasCond_convert_dedup, lastOfType_append]
  cases hl : lastOfType t cs with
  | none =>
    have hno := lastOfType_none_iff.mp hl
    simp only [Option.none_or]
    exact ⟨fun hd => .inr ⟨hno, hd⟩, fun hd => hd.elim (fun ⟨⟨c, hc, ht⟩, _⟩ => absurd ht (hno c hc)) (·.2)⟩
  | some c =>
    have hm := lastOfType_mem hl
    have ht := lastOfType_type hl
    have hf := condsFalse_iff.mp h c hm ht
    simp only [Option.some_or, Option.some.injEq, exists_eq_left', hf]
    exact ⟨fun hs => .inl ⟨⟨c, hm, ht⟩, hs.symm⟩, fun hd => hd.elim (·.2.symm) (fun ⟨hno, _⟩ => absurd ht (hno c hm))⟩

theorem hasCond_snoc_false {t : String} {c : Cond} (ht : c.type = t) (hs : c.status = "False") (ds : List Cond) (g : Int) :
    hasCond (convert (dedup (ds ++ [c])) g) t "True" = false := by
  rw [Bool.eq_false_iff, Ne, hasCond_convert_dedup, lastOfType_snoc ht]
  rintro ⟨_, hc, h⟩
  cases hc
  exact absurd (hs.symm.trans h) (by decide)

theorem hasCond_of_condsFalse {t : String} {cs : List Cond} (h : condsFalse t cs = true) (g : Int) :
    hasCond (convert (dedup cs) g) t "True" = false := by
  rw [Bool.eq_false_iff, Ne, hasCond_convert_dedup]
  rintro ⟨c, hc, hs⟩
  exact absurd ((condsFalse_iff.mp h c (lastOfType_mem hc) (lastOfType_type hc)).symm.trans hs) (by decide)

theorem failedConds_nil_iff (ref : ParentRef) :
    failedConds ref = [] ↔ ∀ a, ref.attachment = some a → a.attached = true := by
  unfold failedConds
  cases h : ref.attachment with
  | none => simp
  | some a => cases ha : a.attached <;> simp [ha]

/-- what a parent adds after the route's own conditions: its failed attachment, the failed reload -/
abbrev routeTail (ref : ParentRef) (e : Bool) : List Cond :=
  failedConds ref ++ if e = true then [routeGatewayNotProgrammed] else []

theorem routeAllConds_eq (conds : List Cond) (ref : ParentRef) (e : Bool) :
    routeAllConds conds ref e = defaultRouteConds ++ (conds ++ routeTail ref e) := by
  simp only [routeAllConds, List.append_assoc]

theorem routeTail_spec {ref : ParentRef} (hr : ref.wf = true) (e : Bool) :
    ∀ c ∈ routeTail ref e, c.type = "Accepted" ∧ c.status = "False" := by
  intro c hc
  rcases List.mem_append.mp hc with h | h
  · unfold failedConds at h
    unfold ParentRef.wf at hr
    cases ha : ref.attachment with
    | none => simp [ha] at h
    | some a =>
      cases hat : a.attached with
      | true => simp [ha, hat] at h
      | false =>
        have hc : c = a.failed := by simpa [ha, hat] using h
        simpa [ha, hat, hc] using hr
  · cases e with
    | false => cases h
    | true => rw [List.mem_singleton.mp h]; exact ⟨rfl, rfl⟩

theorem routeTail_nil_iff (ref : ParentRef) (e : Bool) :
    routeTail ref e = [] ↔ e = false ∧ ∀ a, ref.attachment = some a → a.attached = true := by
  rw [List.append_eq_nil_iff, failedConds_nil_iff, and_comm]
  cases e <;> simp

end NGF.StatusPrep
