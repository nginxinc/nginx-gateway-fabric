/-
C08 — helper lemmas for the CRD limits: DeduplicateConditions, ancestor-full checks, entry counts.
`NGF.StatusWrite.dedup` (through `keepFirst`) models the same Go function as `NGF.StatusPrep.dedup` of C07 (through
`dedupAux`; `NGF.Proofs.StatusPrep`), over this model's `Cond`; the two lemma families run in parallel.
-/
import NGF.Model.StatusLimits
import NGF.Proofs.StatusWrite

namespace NGF.StatusWrite

theorem keepFirst_spec : ∀ (cs : List Cond) (seen : List String),
    ((keepFirst seen cs).map (·.type)).Nodup ∧
    (∀ c ∈ keepFirst seen cs, c.type ∉ seen ∧ c ∈ cs)
  | [], _ => by simp [keepFirst]
  | c :: cs, seen => by
    unfold keepFirst
    split
    · obtain ⟨h1, h2⟩ := keepFirst_spec cs seen
      exact ⟨h1, fun x hx => ⟨(h2 x hx).1, List.mem_cons_of_mem _ (h2 x hx).2⟩⟩
    · rename_i hns
      obtain ⟨h1, h2⟩ := keepFirst_spec cs (c.type :: seen)
      have hns' : c.type ∉ seen := by simpa using hns
      refine ⟨?_, ?_⟩
      · simp only [List.map_cons, List.nodup_cons, List.mem_map, not_exists, not_and]
        refine ⟨fun x hx heq => ?_, h1⟩
        have := (h2 x hx).1
        simp [heq] at this
      · intro x hx
        rcases List.mem_cons.1 hx with rfl | hx
        · exact ⟨hns', List.mem_cons_self ..⟩
        · have := h2 x hx
          exact ⟨fun h => this.1 (List.mem_cons_of_mem _ h), List.mem_cons_of_mem _ this.2⟩

theorem keepFirst_complete : ∀ (cs : List Cond) (seen : List String) (c : Cond), c ∈ cs → c.type ∉ seen →
    ∃ d ∈ keepFirst seen cs, d.type = c.type
  | [], _, _, h, _ => by simp at h
  | x :: cs, seen, c, h, hns => by
    unfold keepFirst
    split
    · rename_i hs
      rcases List.mem_cons.1 h with rfl | h
      · exact absurd (by simpa using hs) hns
      · exact keepFirst_complete cs seen c h hns
    · rcases List.mem_cons.1 h with rfl | h
      · exact ⟨c, List.mem_cons_self .., rfl⟩
      · by_cases hx : c.type = x.type
        · exact ⟨x, List.mem_cons_self .., hx.symm⟩
        · obtain ⟨d, hd, hdt⟩ := keepFirst_complete cs (x.type :: seen) c h
            (by simp only [List.mem_cons, not_or]; exact ⟨hx, hns⟩)
          exact ⟨d, List.mem_cons_of_mem _ hd, hdt⟩

theorem dedup_types_nodup (cs : List Cond) : ((dedup cs).map (·.type)).Nodup := by
  unfold dedup
  rw [List.map_reverse]
  exact (List.reverse_perm _).nodup_iff.2 (keepFirst_spec cs.reverse []).1

theorem dedup_subset (cs : List Cond) : ∀ c ∈ dedup cs, c ∈ cs := by
  intro c hc
  unfold dedup at hc
  have := ((keepFirst_spec cs.reverse []).2 c (List.mem_reverse.1 hc)).2
  exact List.mem_reverse.1 this

theorem dedup_complete (cs : List Cond) : ∀ c ∈ cs, ∃ d ∈ dedup cs, d.type = c.type := by
  intro c hc
  obtain ⟨d, hd, hdt⟩ := keepFirst_complete cs.reverse [] c (List.mem_reverse.2 hc) (by simp)
  exact ⟨d, by unfold dedup; exact List.mem_reverse.2 hd, hdt⟩

theorem dedup_length_le (cs : List Cond) (T : List String) (h : ∀ c ∈ cs, c.type ∈ T) :
    (dedup cs).length ≤ T.length := by
  have := List.Nodup.length_le_of_subset (dedup_types_nodup cs) (l₂ := T) (by
    intro t ht
    obtain ⟨c, hc, rfl⟩ := List.mem_map.1 ht
    exact h c (dedup_subset cs c hc))
  simpa using this

theorem hasDupTypes_false_iff : ∀ cs : List Cond, hasDupTypes cs = false ↔ (cs.map (·.type)).Nodup
  | [] => by simp [hasDupTypes]
  | c :: cs => by
    simp only [hasDupTypes, Bool.or_eq_false_iff, List.map_cons, List.nodup_cons, hasDupTypes_false_iff cs,
      List.mem_map, not_exists, not_and, List.any_eq_false, beq_iff_eq]

theorem ngfAttach_length (maxA : Nat) (c : String) (cur : Status) : ∀ (ts acc : List Entry),
    (ngfAttach maxA c cur ts acc).length + (foreign c cur).length ≤
      max (acc.length + (foreign c cur).length) maxA
  | [], acc => by simp [ngfAttach]; omega
  | t :: ts, acc => by
    unfold ngfAttach
    split
    · exact ngfAttach_length maxA c cur ts acc
    · rename_i hfull
      have hlt : (foreign c cur).length + acc.length < maxA := by
        simpa [ngfFull] using hfull
      have := ngfAttach_length maxA c cur ts (acc ++ [t])
      simp only [List.length_append, List.length_cons, List.length_nil] at this
      omega

theorem ngfAttach_allOwn (maxA : Nat) (c : String) (cur : Status) : ∀ (ts acc : List Entry),
    (∀ e ∈ ts, e.ctlr = c) → (∀ e ∈ acc, e.ctlr = c) → ∀ e ∈ ngfAttach maxA c cur ts acc, e.ctlr = c
  | [], acc, _, ha => by simpa [ngfAttach] using ha
  | t :: ts, acc, ht, ha => by
    unfold ngfAttach
    split
    · exact ngfAttach_allOwn maxA c cur ts acc (fun e he => ht e (List.mem_cons_of_mem _ he)) ha
    · refine ngfAttach_allOwn maxA c cur ts (acc ++ [t]) (fun e he => ht e (List.mem_cons_of_mem _ he)) ?_
      intro e he
      rcases List.mem_append.1 he with he | he
      · exact ha e he
      · simp at he; rw [he]; exact ht t (List.mem_cons_self ..)

theorem foreign_length_le (c : String) (l : Status) : (foreign c l).length ≤ l.length := by
  unfold foreign; exact List.length_filter_le _ _

theorem btp_room (maxA : Nat) (c : String) (cur : Status) (hfull : btpFull maxA c cur = false)
    (hlen : cur.length ≤ maxA) : (foreign c cur).length + 1 ≤ maxA := by
  unfold btpFull at hfull
  split at hfull
  · have := foreign_length_le c cur; omega
  · simp only [Bool.not_eq_false', List.any_eq_true, beq_iff_eq] at hfull
    obtain ⟨e, he, hc⟩ := hfull
    have : (foreign c cur).length < cur.length := by
      unfold foreign
      apply List.length_filter_lt_length_iff_exists.2
      exact ⟨e, he, by simp [hc]⟩
    omega

end NGF.StatusWrite
