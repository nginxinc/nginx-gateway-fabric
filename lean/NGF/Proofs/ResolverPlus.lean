/-
C13, NGINX Plus: `serversEqual` decides set equality on duplicate-free lists (pigeonhole), the API tables as finite maps,
and what one `updateUpstreamServers` leaves in a table: every upstream NGINX knows ends with the configuration's
endpoints, whatever it held. The reload path is that update on a freshly loaded table. At the end the two repaired
variants `updateUpstreamServersFixed` and `stepB` of the registered findings. Core Lean only.
-/
import NGF.Proofs.Resolver

namespace NGF.Resolver

def SetEq (a b : List String) : Prop := ∀ x, x ∈ a ↔ x ∈ b

theorem SetEq.refl (a : List String) : SetEq a a := fun _ => Iff.rfl
theorem SetEq.symm {a b : List String} (h : SetEq a b) : SetEq b a := fun x => (h x).symm
theorem SetEq.trans {a b c : List String} (h : SetEq a b) (h' : SetEq b c) : SetEq a c :=
  fun x => (h x).trans (h' x)

theorem setEq_dedup (l : List String) : SetEq (dedup l) l := fun _ => mem_dedup

theorem setEq_nil {l : List String} (h : SetEq l []) : l = [] := by
  cases l with
  | nil => rfl
  | cons a t => exact absurd ((h a).mp (List.mem_cons_self ..)) (by simp)

theorem subset_of_nodup_subset_length (old new : List String) (hnd : old.Nodup) (hsub : ∀ x ∈ old, x ∈ new)
    (hlen : new.length ≤ old.length) : ∀ x ∈ new, x ∈ old := by
  intro x hx
  apply Decidable.byContradiction
  intro hxo
  have h := hnd.length_le_of_subset (l₂ := new.erase x) fun y hy =>
    (List.mem_erase_of_ne (fun (e : y = x) => hxo (e ▸ hy))).mpr (hsub y hy)
  rw [List.length_erase_of_mem hx] at h
  have := List.length_pos_of_mem hx
  omega

theorem serversEqual_true {new old : List String} :
    serversEqual new old = true ↔ new.length = old.length ∧ ∀ x ∈ old, x ∈ new := by
  simp [serversEqual, List.all_eq_true]

/-- NGINX never holds the same server twice in one upstream: then "equal" means the same set. -/
theorem setEq_of_serversEqual {new old : List String} (hold : old.Nodup)
    (h : serversEqual new old = true) : SetEq new old := by
  obtain ⟨hlen, hsub⟩ := serversEqual_true.mp h
  intro x
  exact ⟨subset_of_nodup_subset_length old new hold hsub (by omega) x, hsub x⟩

theorem serversEqual_of_setEq {new old : List String} (hnew : new.Nodup) (hold : old.Nodup)
    (h : SetEq new old) : serversEqual new old = true := by
  refine serversEqual_true.mpr ⟨?_, fun x hx => (h x).mpr hx⟩
  have h1 := hnew.length_le_of_subset (fun x hx => (h x).mp hx)
  have h2 := hold.length_le_of_subset (fun x hx => (h x).mpr hx)
  omega

def Table.Inv (t : Table) : Prop := ∀ n l, t.get n = some l → l.Nodup

theorem Table.keys_set (t : Table) (n : String) (v : List String) : (t.set n v).keys = t.keys := by
  induction t with
  | nil => rfl
  | cons kv r ih =>
    obtain ⟨k, old⟩ := kv
    by_cases h : k = n <;> simp_all [Table.set, Table.keys]

theorem Table.get_cons (k : String) (old : List String) (r : Table) (m : String) :
    Table.get ((k, old) :: r) m = if k = m then some old else Table.get r m := rfl

theorem Table.set_cons (k : String) (old : List String) (r : Table) (n : String) (v : List String) :
    Table.set ((k, old) :: r) n v =
      if k = n then (k, dedup v) :: Table.set r n v else (k, old) :: Table.set r n v := rfl

theorem Table.keys_cons (k : String) (old : List String) (r : Table) :
    Table.keys ((k, old) :: r) = k :: Table.keys r := rfl

theorem Table.get_isSome (t : Table) (n : String) : (t.get n).isSome ↔ n ∈ t.keys := by
  induction t with
  | nil => simp [Table.get, Table.keys]
  | cons kv r ih =>
    obtain ⟨k, old⟩ := kv
    rw [Table.get_cons, Table.keys_cons]
    by_cases h : k = n
    · simp [h]
    · have h' : ¬ n = k := fun e => h e.symm
      simp [h, h', ih]

theorem Table.get_set_same (t : Table) (n : String) (v : List String) :
    (t.set n v).get n = if n ∈ t.keys then some (dedup v) else none := by
  induction t with
  | nil => simp [Table.set, Table.get, Table.keys]
  | cons kv r ih =>
    obtain ⟨k, old⟩ := kv
    rw [Table.set_cons, Table.keys_cons]
    by_cases h : k = n
    · simp [h, Table.get_cons]
    · have h' : ¬ n = k := fun e => h e.symm
      simp [h, h', Table.get_cons, ih]

theorem Table.get_set_other (t : Table) {n m : String} (v : List String) (h : m ≠ n) :
    (t.set n v).get m = t.get m := by
  induction t with
  | nil => simp [Table.set, Table.get]
  | cons kv r ih =>
    obtain ⟨k, old⟩ := kv
    rw [Table.set_cons]
    by_cases hk : k = n
    · have : ¬ k = m := by intro e; exact h (e ▸ hk)
      simp [hk, Table.get_cons, ih]
      have h2 : ¬ n = m := fun e => h e.symm
      simp [h2]
    · by_cases hm : k = m
      · subst hm; simp [hk, Table.get_cons]
      · simp [hk, hm, Table.get_cons, ih]

theorem Table.inv_set {t : Table} (h : t.Inv) (n : String) (v : List String) : (t.set n v).Inv := by
  intro m l hl
  by_cases hm : m = n
  · subst hm
    rw [Table.get_set_same] at hl
    split at hl
    · cases hl; exact nodup_dedup v
    · cases hl
  · rw [Table.get_set_other t v hm] at hl
    exact h m l hl

theorem keys_applyAll : ∀ (P : List (String × List String)) (t : Table), (applyAll t P).keys = t.keys
  | [], _ => rfl
  | (n, v) :: r, t => by simp [applyAll, keys_applyAll r, Table.keys_set]

theorem inv_applyAll : ∀ (P : List (String × List String)) (t : Table), t.Inv → (applyAll t P).Inv
  | [], _, h => h
  | (n, v) :: r, t, h => by simp only [applyAll]; exact inv_applyAll r _ (Table.inv_set h n v)

theorem get_applyAll_notin : ∀ (P : List (String × List String)) (t : Table) (m : String),
    m ∉ P.map (·.1) → (applyAll t P).get m = t.get m
  | [], _, _, _ => rfl
  | (n, v) :: r, t, m, h => by
    simp only [List.map_cons, List.mem_cons, not_or] at h
    simp only [applyAll]
    rw [get_applyAll_notin r _ m h.2, Table.get_set_other t v h.1]

theorem get_applyAll_in : ∀ (P : List (String × List String)) (t : Table) (m : String) (v : List String),
    (P.map (·.1)).Nodup → (m, v) ∈ P → m ∈ t.keys → (applyAll t P).get m = some (dedup v)
  | [], _, _, _, _, hmem, _ => by simp at hmem
  | (n, w) :: r, t, m, v, hnd, hmem, hk => by
    simp only [List.map_cons, List.nodup_cons] at hnd
    simp only [applyAll]
    rcases List.mem_cons.mp hmem with heq | hr
    · obtain ⟨h1, h2⟩ := Prod.mk.inj heq
      subst h1; subst h2
      rw [get_applyAll_notin r _ _ hnd.1, Table.get_set_same]
      simp [hk]
    · have hne : m ≠ n := by
        intro e; subst e
        exact hnd.1 (List.mem_map.mpr ⟨(m, v), hr, rfl⟩)
      exact get_applyAll_in r _ m v hnd.2 hr (by rw [Table.keys_set]; exact hk)

def pendingOne (prev : Table) (u : Up) : Option (String × List String) :=
  match prev.get u.name with
  | some peers =>
    if serversEqual (convertEndpoints u.eps) peers then none else some (u.name, convertEndpoints u.eps)
  | none => none

theorem pending_eq (ups : List Up) (prev : Table) : pending ups prev = ups.filterMap (pendingOne prev) := rfl

theorem pendingOne_some {prev : Table} {u : Up} {m : String} {v : List String}
    (h : pendingOne prev u = some (m, v)) :
    m = u.name ∧ v = convertEndpoints u.eps ∧
      ∃ peers, prev.get u.name = some peers ∧ serversEqual (convertEndpoints u.eps) peers = false := by
  unfold pendingOne at h
  cases hg : prev.get u.name with
  | none => simp [hg] at h
  | some peers =>
    simp only [hg] at h
    by_cases he : serversEqual (convertEndpoints u.eps) peers = true
    · simp [he] at h
    · simp only [he] at h
      simp only [Bool.false_eq_true, if_false, Option.some.injEq, Prod.mk.injEq] at h
      exact ⟨h.1.symm, h.2.symm, peers, rfl, by simpa using he⟩

theorem filterMap_keys_sublist {f : Up → Option (String × List String)} (hf : ∀ u p, f u = some p → p.1 = u.name) :
    ∀ (ups : List Up), ((ups.filterMap f).map (·.1)).Sublist (ups.map (·.name))
  | [] => List.Sublist.slnil
  | u :: r => by
    rw [List.filterMap_cons]
    cases h : f u with
    | none => exact List.Sublist.cons _ (filterMap_keys_sublist hf r)
    | some p =>
      rw [List.map_cons, List.map_cons, hf u p h]
      exact List.Sublist.cons_cons _ (filterMap_keys_sublist hf r)

theorem pending_keys_sublist (prev : Table) (ups : List Up) :
    ((pending ups prev).map (·.1)).Sublist (ups.map (·.name)) :=
  filterMap_keys_sublist (fun _ _ h => (pendingOne_some h).1) ups

theorem servers_of_get {t : Table} {n : String} {l : List String} (h : t.get n = some l) : t.servers n = l := by
  simp [Table.servers, h]

/-- One upstream after the calls of `pending` that pass `keep` have been applied (all of them when nothing fails): if its
own call is among them, or none was needed, NGINX holds its endpoints. -/
theorem pending_filter_spec (ups : List Up) (prev : Table) (hn : (ups.map (·.name)).Nodup) (hi : prev.Inv)
    (keep : String × List String → Bool) {u : Up} (hu : u ∈ ups) (hk : u.name ∈ prev.keys)
    (hkeep : keep (u.name, convertEndpoints u.eps) = true) :
    SetEq ((applyAll prev ((pending ups prev).filter keep)).servers u.name) (convertEndpoints u.eps) := by
  have hsub : (((pending ups prev).filter keep).map (·.1)).Sublist ((pending ups prev).map (·.1)) :=
    (List.filter_sublist).map _
  have hpn : (((pending ups prev).filter keep).map (·.1)).Nodup :=
    List.Nodup.sublist (hsub.trans (pending_keys_sublist prev ups)) hn
  obtain ⟨peers, hpeers⟩ := Option.isSome_iff_exists.mp ((Table.get_isSome prev u.name).mpr hk)
  by_cases he : serversEqual (convertEndpoints u.eps) peers = true
  · -- equal: nothing is sent, NGINX keeps `peers`
    have hnot : u.name ∉ ((pending ups prev).filter keep).map (·.1) := by
      intro hin
      obtain ⟨⟨m, v⟩, hmv, hm⟩ := List.mem_map.mp (hsub.subset hin)
      simp only at hm; subst hm
      rw [pending_eq] at hmv
      obtain ⟨u', hu', hp'⟩ := List.mem_filterMap.mp hmv
      obtain ⟨hm', _, peers', hg', hf'⟩ := pendingOne_some hp'
      have := unique_of_nodup_names hn hu' hu hm'.symm
      subst this
      rw [hpeers] at hg'; cases hg'
      rw [he] at hf'; cases hf'
    rw [servers_of_get ((get_applyAll_notin _ _ _ hnot).trans hpeers)]
    exact (setEq_of_serversEqual (hi _ _ hpeers) he).symm
  · -- different: the new list is sent
    have hin : (u.name, convertEndpoints u.eps) ∈ (pending ups prev).filter keep := by
      refine List.mem_filter.mpr ⟨?_, hkeep⟩
      rw [pending_eq]
      exact List.mem_filterMap.mpr ⟨u, hu, by simp [pendingOne, hpeers, he]⟩
    rw [servers_of_get (get_applyAll_in _ _ _ _ hpn hin hk)]
    exact setEq_dedup _

/-- What the two loops of `updateUpstreamServers` do to one API table. -/
theorem updateTable_spec (ups : List Up) (prev : Table) (hn : (ups.map (·.name)).Nodup) (hi : prev.Inv) :
    (applyAll prev (pending ups prev)).keys = prev.keys ∧
    (applyAll prev (pending ups prev)).Inv ∧
    (∀ u ∈ ups, u.name ∈ prev.keys →
      SetEq ((applyAll prev (pending ups prev)).servers u.name) (convertEndpoints u.eps)) ∧
    (∀ m, m ∉ ups.map (·.name) → (applyAll prev (pending ups prev)).get m = prev.get m) := by
  refine ⟨keys_applyAll _ _, inv_applyAll _ _ hi, ?_, ?_⟩
  · intro u hu hk
    have := pending_filter_spec ups prev hn hi (fun _ => true) hu hk rfl
    rwa [List.filter_eq_self.mpr fun _ _ => rfl] at this
  · intro m hm
    apply get_applyAll_notin
    intro hin
    exact hm ((pending_keys_sublist prev ups).subset hin)

theorem get_map_pair (f : String → List String) (m : String) : ∀ (l : List String),
    Table.get (l.map fun n => (n, f n)) m = if m ∈ l then some (f m) else none
  | [] => by simp [Table.get]
  | a :: r => by
    rw [List.map_cons, Table.get_cons, get_map_pair f m r]
    by_cases h : a = m
    · subst h; simp
    · have h' : ¬ m = a := fun e => h e.symm
      simp [h, h']

theorem get_reloadTable (names : List String) (old : Table) (m : String) :
    (reloadTable names old).get m = if m ∈ names then some (old.servers m) else none := by
  unfold reloadTable
  rw [get_map_pair (fun n => old.servers n) m (dedup names)]
  simp [mem_dedup]

theorem keys_reloadTable (names : List String) (old : Table) : (reloadTable names old).keys = dedup names := by
  simp [reloadTable, Table.keys, List.map_map, Function.comp_def]

theorem Table.nodup_servers {t : Table} (h : t.Inv) (n : String) : (t.servers n).Nodup := by
  unfold Table.servers
  cases hg : t.get n with
  | none => simp
  | some l => simpa using h n l hg

theorem inv_reloadTable (names : List String) {old : Table} (h : old.Inv) : (reloadTable names old).Inv := by
  intro m l hl
  rw [get_reloadTable] at hl
  split at hl
  · cases hl; exact Table.nodup_servers h m
  · cases hl

structure Api.Inv (a : Api) : Prop where
  http : a.http.Inv
  stream : a.stream.Inv

/-- upstream names are unique inside one configuration (they are keys of a Go map in `buildUpstreams`) -/
structure Conf.WF (c : Conf) : Prop where
  http : (c.http.map (·.name)).Nodup
  stream : (c.stream.map (·.name)).Nodup

theorem inv_update (c : Conf) {a : Api} (ha : a.Inv) : (updateUpstreamServers c a).Inv :=
  ⟨inv_applyAll _ _ ha.http, inv_applyAll _ _ ha.stream⟩

theorem inv_reloadNginx (c : Conf) {a : Api} (ha : a.Inv) : (reloadNginx c a).Inv :=
  ⟨inv_reloadTable _ ha.http, inv_reloadTable _ ha.stream⟩

theorem inv_step {a : Api} (ha : a.Inv) : ∀ (o : Op), o.conf.WF → (step a o).Inv
  | .reload c, _ => inv_update c (inv_reloadNginx c ha)
  | .endpoints c, _ => inv_update c ha

theorem inv_run : ∀ (ops : List Op) (a : Api), a.Inv → (run a ops).Inv
  | [], _, ha => ha
  | .reload c :: os, _, ha => inv_run os _ (inv_update c (inv_reloadNginx c ha))
  | .endpoints c :: os, _, ha => inv_run os _ (inv_update c ha)

theorem run_append : ∀ (l1 l2 : List Op) (a : Api), run a (l1 ++ l2) = run (run a l1) l2
  | [], _, _ => rfl
  | o :: os, l2, a => by simp only [List.cons_append, run]; exact run_append os l2 _

theorem keys_endpoints_step (c : Conf) (a : Api) :
    (step a (.endpoints c)).http.keys = a.http.keys ∧ (step a (.endpoints c)).stream.keys = a.stream.keys :=
  ⟨keys_applyAll _ _, keys_applyAll _ _⟩

theorem keys_run_endpoints : ∀ (es : List Conf) (a : Api),
    (run a (es.map .endpoints)).http.keys = a.http.keys ∧ (run a (es.map .endpoints)).stream.keys = a.stream.keys
  | [], _ => ⟨rfl, rfl⟩
  | e :: es, a => by
    simp only [List.map_cons, run]
    obtain ⟨h1, h2⟩ := keys_run_endpoints es (step a (.endpoints e))
    obtain ⟨k1, k2⟩ := keys_endpoints_step e a
    exact ⟨h1.trans k1, h2.trans k2⟩

theorem keys_reload_step (c : Conf) (a : Api) :
    (step a (.reload c)).http.keys = dedup (c.http.map (·.name)) ∧
    (step a (.reload c)).stream.keys = dedup ((c.stream.filter fun u => !u.eps.isEmpty).map (·.name)) := by
  obtain ⟨k1, k2⟩ := keys_endpoints_step c (reloadNginx c a)
  exact ⟨k1.trans (keys_reloadTable _ _), k2.trans (keys_reloadTable _ _)⟩

theorem endpoints_step_http {c : Conf} {a : Api} (hc : c.WF) (ha : a.Inv) {u : Up} (hu : u ∈ c.http)
    (hk : u.name ∈ a.http.keys) :
    SetEq ((step a (.endpoints c)).http.servers u.name) (convertEndpoints u.eps) :=
  (updateTable_spec c.http a.http hc.http ha.http).2.2.1 u hu hk

theorem endpoints_step_stream {c : Conf} {a : Api} (hc : c.WF) (ha : a.Inv) {u : Up} (hu : u ∈ c.stream)
    (hk : u.name ∈ a.stream.keys) :
    SetEq ((step a (.endpoints c)).stream.servers u.name) (convertEndpoints u.eps) :=
  (updateTable_spec c.stream a.stream hc.stream ha.stream).2.2.1 u hu hk

theorem endpoints_step_absent {c : Conf} {a : Api} {n : String} (hk : n ∉ a.stream.keys) :
    (step a (.endpoints c)).stream.servers n = [] := by
  have : ¬ ((step a (.endpoints c)).stream.get n).isSome := by
    rw [Table.get_isSome]; show n ∉ (applyAll a.stream (pending c.stream a.stream)).keys
    rw [keys_applyAll]; exact hk
  unfold Table.servers
  cases h : (step a (.endpoints c)).stream.get n with
  | none => rfl
  | some l => simp [h] at this

theorem mem_nonempty_names {ups : List Up} (hn : (ups.map (·.name)).Nodup) {u : Up} (hu : u ∈ ups) :
    u.name ∈ (ups.filter fun u => !u.eps.isEmpty).map (·.name) ↔ u.eps ≠ [] := by
  constructor
  · intro hin he
    obtain ⟨u', hu', hn'⟩ := List.mem_map.mp hin
    obtain ⟨hu'm, hne⟩ := List.mem_filter.mp hu'
    have := unique_of_nodup_names hn hu'm hu hn'
    subst this
    simp [he] at hne
  · intro he
    exact List.mem_map.mpr ⟨u, List.mem_filter.mpr ⟨hu, by simpa using he⟩, rfl⟩

/-- NGINX has just loaded the files generated from `c` (from whatever source the state files' servers come) -/
structure Loaded (c : Conf) (b : Api) : Prop where
  inv : b.Inv
  http : b.http.keys = dedup (c.http.map (·.name))
  stream : b.stream.keys = dedup ((c.stream.filter fun u => !u.eps.isEmpty).map (·.name))

theorem Loaded.update_http {c : Conf} {b : Api} (hb : Loaded c b) (hc : c.WF) {u : Up} (hu : u ∈ c.http) :
    SetEq ((updateUpstreamServers c b).http.servers u.name) (convertEndpoints u.eps) :=
  endpoints_step_http hc hb.inv hu (by rw [hb.http, mem_dedup]; exact List.mem_map.mpr ⟨u, hu, rfl⟩)

theorem Loaded.update_stream {c : Conf} {b : Api} (hb : Loaded c b) (hc : c.WF) {u : Up} (hu : u ∈ c.stream) :
    SetEq ((updateUpstreamServers c b).stream.servers u.name) (convertEndpoints u.eps) := by
  have hmem : u.name ∈ b.stream.keys ↔ u.eps ≠ [] := by rw [hb.stream, mem_dedup, mem_nonempty_names hc.stream hu]
  by_cases he : u.eps = []
  · -- not in the generated configuration
    show SetEq ((step b (.endpoints c)).stream.servers u.name) _
    rw [endpoints_step_absent fun h => hmem.mp h he, he]; exact SetEq.refl _
  · exact endpoints_step_stream hc hb.inv hu (hmem.mpr he)

theorem loaded_reloadNginx (c : Conf) {a : Api} (ha : a.Inv) : Loaded c (reloadNginx c a) :=
  ⟨inv_reloadNginx c ha, keys_reloadTable _ _, keys_reloadTable _ _⟩

theorem reload_step_http {c : Conf} {a : Api} (hc : c.WF) (ha : a.Inv) {u : Up} (hu : u ∈ c.http) :
    SetEq ((step a (.reload c)).http.servers u.name) (convertEndpoints u.eps) :=
  (loaded_reloadNginx c ha).update_http hc hu

theorem reload_step_stream {c : Conf} {a : Api} (hc : c.WF) (ha : a.Inv) {u : Up} (hu : u ∈ c.stream) :
    SetEq ((step a (.reload c)).stream.servers u.name) (convertEndpoints u.eps) :=
  (loaded_reloadNginx c ha).update_stream hc hu

theorem loaded_run_endpoints {a0 : Api} (h0 : a0.Inv) (cR : Conf) (es : List Conf) :
    Loaded cR (run a0 (.reload cR :: es.map .endpoints)) :=
  ⟨inv_run _ _ h0,
    (keys_run_endpoints es _).1.trans (keys_reload_step cR a0).1,
    (keys_run_endpoints es _).2.trans (keys_reload_step cR a0).2⟩

/-! ### repaired variant (known finding `C13:plus_empty_no_503`) -/

theorem fix503_keys_sublist (ups : List Up) : ((fix503 ups).map (·.1)).Sublist (ups.map (·.name)) :=
  filterMap_keys_sublist (fun u p h => by
    by_cases he : u.eps.isEmpty = true
    · simp only [he, if_true, Option.some.injEq] at h; rw [← h]
    · simp [he] at h) ups

theorem mem_fix503 {ups : List Up} {m : String} {v : List String} :
    (m, v) ∈ fix503 ups ↔ ∃ u ∈ ups, u.eps = [] ∧ m = u.name ∧ v = [nginx503Server] := by
  simp only [fix503, List.mem_filterMap]
  constructor
  · rintro ⟨u, hu, h⟩
    by_cases he : u.eps.isEmpty = true
    · simp only [he, if_true, Option.some.injEq, Prod.mk.injEq] at h
      exact ⟨u, hu, by simpa using he, h.1.symm, h.2.symm⟩
    · simp [he] at h
  · rintro ⟨u, hu, he, rfl, rfl⟩
    exact ⟨u, hu, by simp [he]⟩

theorem fixed_empty_gives_503 {c : Conf} {a : Api} (hc : c.WF) {u : Up} (hu : u ∈ c.http) (he : u.eps = [])
    (hk : u.name ∈ a.http.keys) :
    (updateUpstreamServersFixed c a).http.servers u.name = [nginx503Server] := by
  have hk' : u.name ∈ (updateUpstreamServers c a).http.keys := by
    show u.name ∈ (applyAll a.http (pending c.http a.http)).keys
    rw [keys_applyAll]; exact hk
  have hnd : ((fix503 c.http).map (·.1)).Nodup := List.Nodup.sublist (fix503_keys_sublist c.http) hc.http
  have hin : (u.name, [nginx503Server]) ∈ fix503 c.http := mem_fix503.mpr ⟨u, hu, he, rfl, rfl⟩
  have := get_applyAll_in (fix503 c.http) (updateUpstreamServers c a).http u.name [nginx503Server] hnd hin hk'
  show (applyAll (updateUpstreamServers c a).http (fix503 c.http)).servers u.name = _
  rw [servers_of_get this]
  simp [dedup]

theorem fixed_nonempty_unchanged {c : Conf} {a : Api} (hc : c.WF) {u : Up} (hu : u ∈ c.http) (he : u.eps ≠ []) :
    (updateUpstreamServersFixed c a).http.get u.name = (updateUpstreamServers c a).http.get u.name := by
  show (applyAll (updateUpstreamServers c a).http (fix503 c.http)).get u.name = _
  apply get_applyAll_notin
  intro hin
  obtain ⟨⟨m, v⟩, hmv, hm⟩ := List.mem_map.mp hin
  simp only at hm; subst hm
  obtain ⟨u', hu', he', hn, _⟩ := mem_fix503.mp hmv
  have := unique_of_nodup_names hc.http hu hu' hn
  subst this
  exact he he'

/-! ### repaired variant (known finding `C13:plus_stream_upstream_absent`) -/

theorem stepB_stream_eq_reload {c : Conf} {a : Api} (hc : c.WF) (ha : a.Inv) {u : Up} (hu : u ∈ c.stream) :
    SetEq ((stepB a (.endpoints c)).stream.servers u.name) ((step a (.reload c)).stream.servers u.name) := by
  unfold stepB
  rcases Bool.eq_false_or_eq_true (needsReload c a) with hn | hn'
  · simp only [hn, if_true]; exact SetEq.refl _
  · simp only [hn', Bool.false_eq_true, if_false]
    refine SetEq.trans ?_ (reload_step_stream hc ha hu).symm
    by_cases hk : u.name ∈ a.stream.keys
    · exact endpoints_step_stream hc ha hu hk
    · -- not known to NGINX and no reload needed: the upstream has no endpoints
      have he : u.eps = [] := by
        cases h : u.eps with
        | nil => rfl
        | cons e t =>
          exfalso; apply Bool.eq_false_iff.mp hn'
          simp only [needsReload, List.any_eq_true, Bool.and_eq_true, Bool.not_eq_true', decide_eq_false_iff_not]
          exact ⟨u, hu, by simp [h], hk⟩
      rw [endpoints_step_absent hk, he]; exact SetEq.refl _

end NGF.Resolver
