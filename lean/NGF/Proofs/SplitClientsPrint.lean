/-
`%.2f` output read back by NGINX's `ngx_atofp(…, 2)` (as modelled in the judge).
-/
import NGF.Proofs.F64
import NGF.Model.SplitClientsJudge

namespace NGF.SplitClientsJudge
open NGF.F64

def dval (c : Char) : Nat := c.toNat - 48

def val : List Char → Nat → Nat
  | [], v => v
  | c :: cs, v => val cs (v * 10 + dval c)

theorem digitChar_props (d : Nat) :
    (digitChar d).isDigit = true ∧ digitChar d ≠ '.' ∧ dval (digitChar d) = d % 10 := by
  have h : ∀ k : Fin 10, (Char.ofNat (48 + k.val)).isDigit = true ∧ Char.ofNat (48 + k.val) ≠ '.' ∧
      dval (Char.ofNat (48 + k.val)) = k.val := by decide
  exact h ⟨d % 10, Nat.mod_lt _ (by decide)⟩

def AllDigits (cs : List Char) : Prop := ∀ c ∈ cs, c.isDigit = true ∧ c ≠ '.'

theorem atofpAux_digits (ds rest : List Char) (v : Nat) (h : AllDigits ds) :
    atofpAux (ds ++ rest) v false 2 = atofpAux rest (val ds v) false 2 := by
  induction ds generalizing v with
  | nil => rfl
  | cons c cs ih =>
    have hc := h c (by simp)
    have := ih (v * 10 + dval c) (fun x hx => h x (by simp [hx]))
    simp only [List.cons_append, atofpAux, hc.1, hc.2, if_false, if_true, val]
    simpa [dval] using this

theorem natDigitsAux_spec (fuel n : Nat) (acc : List Char) (hf : n < fuel) (hacc : AllDigits acc) :
    AllDigits (natDigitsAux fuel n acc) ∧ val (natDigitsAux fuel n acc) 0 = val acc n := by
  induction fuel generalizing n acc with
  | zero => omega
  | succ f ih =>
    have hd := digitChar_props n
    have hacc' : AllDigits (digitChar n :: acc) := by
      intro c hc
      simp only [List.mem_cons] at hc
      rcases hc with e | e
      · subst e; exact ⟨hd.1, hd.2.1⟩
      · exact hacc c e
    simp only [natDigitsAux]
    split
    · rename_i hn
      refine ⟨hacc', ?_⟩
      simp only [val, hd.2.2, Nat.zero_mul, Nat.zero_add, Nat.mod_eq_of_lt hn]
    · rename_i hn
      obtain ⟨i1, i2⟩ := ih (n / 10) (digitChar n :: acc) (by omega) hacc'
      refine ⟨i1, ?_⟩
      rw [i2]
      simp only [val, hd.2.2, Nat.div_add_mod']

theorem atofp2_chars (d : Dec2) (h : d.neg = false) : atofp2 d.chars = some d.cents := by
  obtain ⟨i1, i2⟩ := natDigitsAux_spec (d.cents / 100 + 1) (d.cents / 100) [] (by omega)
    (by intro c hc; simp at hc)
  have a := digitChar_props (d.cents % 100 / 10)
  have b := digitChar_props (d.cents % 10)
  have hne : (Dec2.chars d).isEmpty = false := by simp [Dec2.chars]
  simp only [atofp2, hne, Bool.false_eq_true, if_false]
  simp only [Dec2.chars, h, Bool.false_eq_true, if_false, List.nil_append]
  unfold natDigits
  rw [atofpAux_digits _ _ _ i1, i2]
  simp only [val, atofpAux, a.1, a.2.1, b.1, b.2.1, if_true, if_false]
  simp [dval] at a b
  simp [a.2, b.2]
  exact digits_recombine d.cents

theorem atofp2_neg (d : Dec2) (h : d.neg = true) : atofp2 d.chars = none := by
  simp [atofp2, Dec2.chars, h, atofpAux]

end NGF.SplitClientsJudge
