/-
C02 refinement proof, source order: the FIRST annotated entry, in the order `upsertRoute` appends match rules
(listeners, routes, rules, accepted hostnames, matches), that satisfies a predicate which does not look at the
provenance hostnames nor at the position, has the smallest (rule index, match index) among all entries of the same
route that satisfy it (`first_has_least_index`). This is what turns the stability of `sortMatchRules` into the
specification's last tie-breakers ("the first matching rule / match in the list wins").
-/
import NGF.Proofs.PipelineBeats

namespace NGF.Pipeline

/-- a predicate on annotated entries that reads only what the generator reads of them -/
def Blind (P : XE → Bool) : Prop :=
  ∀ z z' : XE, z.port = z'.port → z.host = z'.host → z.c.m = z'.c.m → z.c.age = z'.c.age → z.c.ns = z'.c.ns →
    z.c.name = z'.c.name → P z = P z'

theorem find?_flatMap_some {α β} {l : List α} {f : α → List β} {p : β → Bool} {b : β}
    (h : (l.flatMap f).find? p = some b) : ∃ a ∈ l, (f a).find? p = some b := by
  rw [List.find?_flatMap] at h
  obtain ⟨l₁, a, l₂, rfl, ha, _⟩ := List.findSome?_eq_some_iff.mp h
  exact ⟨a, by simp, ha⟩

theorem find?_flatMap_none {α β} {l : List α} {f : α → List β} {p : β → Bool}
    (h : (l.flatMap f).find? p = none) {a : α} (ha : a ∈ l) {b : β} (hb : b ∈ f a) : p b = false := by
  have := List.find?_eq_none.mp h b (List.mem_flatMap.mpr ⟨a, ha, hb⟩)
  simpa using this

theorem first_has_least_index {g : Gateway} {routes : List Route}
    (ids : nodup (routes.map fun r => (r.ns, r.name)) = true) {P : XE → Bool} (hP : Blind P) {x y : XE}
    (hx : (xentries g routes).find? P = some x) (hy : y ∈ xentries g routes) (hPy : P y = true)
    (hport : y.port = x.port) (hhost : y.host = x.host) (hns : y.c.ns = x.c.ns) (hname : y.c.name = x.c.name) :
    idxLt y.c x.c = false := by
  -- locate the block (listener, route) of x
  unfold xentries at hx
  obtain ⟨l, hl, hx⟩ := find?_flatMap_some hx
  obtain ⟨r, hr, hx⟩ := find?_flatMap_some hx
  have hxm : x ∈ xblock g l r := List.mem_of_find?_eq_some hx
  unfold xblock at hx hxm
  have hv : r.valid = true := by
    by_cases hv : r.valid = true
    · exact hv
    · simp [hv] at hxm
  simp only [hv, ↓reduceIte] at hx hxm
  unfold xrouteEntries at hx
  rw [List.find?_flatMap] at hx
  obtain ⟨i, rule, hir, hin, hmin⟩ := enumFrom_findSome_min hx
  obtain ⟨hh, hhm, hin⟩ := find?_flatMap_some hin
  rw [List.find?_map] at hin
  cases hf : (enumFrom 0 rule.ms).find? (P ∘ fun jm => mkX l r hh (i, rule) jm) with
  | none => rw [hf] at hin; cases hin
  | some jm =>
    rw [hf] at hin
    simp only [Option.map_some, Option.some.injEq] at hin
    obtain ⟨hjm, _, hjmin⟩ := enumFrom_find_min hf
    obtain ⟨l', hl', r', hr', hv', h1', h2', hh', hhm', ir', hir', jm', hjm', rfl⟩ := mem_xentries.mp hy
    subst hin
    simp only [mkX, mkCand] at hport hhost hns hname
    have hrr : r' = r := nodup_map_inj ids hr' hr (by simp [hns, hname])
    subst hrr
    obtain ⟨i', rule'⟩ := ir'
    obtain ⟨j', m'⟩ := jm'
    obtain ⟨j, m⟩ := jm
    -- the twin of y in the block of x
    have twin : P (mkX l r' hh (i', rule') (j', m')) = true := by
      rw [← hPy]
      apply hP
      · simp [mkX, hport]
      · simp [mkX, hhost]
      all_goals rfl
    simp only [idxLt, mkX, mkCand]
    by_cases hii : i' = i
    · subst hii
      have hrule : rule' = rule := enumFrom_fun hir' hir
      subst hrule
      simp only [bne_self_eq_false, Bool.false_eq_true, ↓reduceIte]
      apply decide_eq_false
      intro hlt
      have := hjmin j' m' hjm' hlt
      simp only [Function.comp] at this
      rw [twin] at this; cases this
    · have : (i' != i) = true := by simpa using hii
      simp only [this, ↓reduceIte]
      apply decide_eq_false
      intro hlt
      have hnone := hmin i' rule' hir' hlt
      have hmem : mkX l r' hh (i', rule') (j', m') ∈
          (acceptedXAt g l r').flatMap fun hh => (enumFrom 0 rule'.ms).map fun jm => mkX l r' hh (i', rule') jm :=
        List.mem_flatMap.mpr ⟨hh, hhm, List.mem_map.mpr ⟨(j', m'), hjm', rfl⟩⟩
      have := List.find?_eq_none.mp hnone _ hmem
      rw [twin] at this; exact this rfl

end NGF.Pipeline
