/-
C13, the handler under faults (`NGF.Model.ResolverFaults`): the Bool judges as propositions, what OSS holds after a load,
one batch of the Plus handler reduced to "whole batch fails" / "load, then API update" / "API update", and which upstream
names NGINX knows along a history. Core Lean only.
-/
import NGF.Proofs.ResolverPlus
import NGF.Model.ResolverFaults

namespace NGF.Resolver

theorem sameSet_iff {a b : List String} : sameSet a b = true ↔ SetEq a b := by
  simp only [sameSet, Bool.and_eq_true, List.all_eq_true, decide_eq_true_eq, SetEq]
  exact ⟨fun h x => ⟨h.1 x, h.2 x⟩, fun h => ⟨fun x => (h x).mp, fun x => (h x).mpr⟩⟩

theorem outOfSyncHttp_nil {plus : Bool} {c : Conf} {a : Api} :
    outOfSyncHttp plus c a = [] ↔ ∀ u ∈ c.http, SetEq (a.http.servers u.name) (heldHttpExpected plus u) := by
  simp only [outOfSyncHttp, List.map_eq_nil_iff, List.filter_eq_nil_iff, Bool.not_eq_true',
    Bool.not_eq_false, sameSet_iff]

theorem outOfSyncStream_nil {plus : Bool} {c : Conf} {a : Api} :
    outOfSyncStream plus c a = [] ↔
      ∀ u ∈ c.stream, SetEq (a.stream.servers u.name) (heldStreamExpected plus u) := by
  simp only [outOfSyncStream, List.map_eq_nil_iff, List.filter_eq_nil_iff, Bool.not_eq_true',
    Bool.not_eq_false, sameSet_iff]

theorem inSync_iff {plus : Bool} {c : Conf} {a : Api} :
    inSync plus c a = true ↔
      (∀ u ∈ c.http, SetEq (a.http.servers u.name) (heldHttpExpected plus u)) ∧
      (∀ u ∈ c.stream, SetEq (a.stream.servers u.name) (heldStreamExpected plus u)) := by
  simp only [inSync, Bool.and_eq_true, List.isEmpty_iff, outOfSyncHttp_nil, outOfSyncStream_nil]

theorem get_map_up (f : Up → List String) : ∀ (ups : List Up) (u : Up), (ups.map (·.name)).Nodup → u ∈ ups →
    Table.get (ups.map fun x => (x.name, f x)) u.name = some (f u)
  | [], _, _, h => by simp at h
  | x :: r, u, hnd, hu => by
    simp only [List.map_cons, List.nodup_cons, List.mem_map, not_exists, not_and] at hnd
    rw [List.map_cons, Table.get_cons]
    rcases List.mem_cons.mp hu with rfl | hr
    · simp
    · have : ¬ x.name = u.name := fun e => hnd.1 u hr e.symm
      simp only [this, if_false]
      exact get_map_up f r u hnd.2 hr

theorem get_map_absent (f : Up → List String) : ∀ (ups : List Up) (n : String), n ∉ ups.map (·.name) →
    Table.get (ups.map fun x => (x.name, f x)) n = none
  | [], _, _ => rfl
  | x :: r, n, h => by
    simp only [List.map_cons, List.mem_cons, not_or] at h
    rw [List.map_cons, Table.get_cons]
    have : ¬ x.name = n := fun e => h.1 e.symm
    simp only [this, if_false]
    exact get_map_absent f r n h.2

theorem loadOss_http {c : Conf} (hc : c.WF) {u : Up} (hu : u ∈ c.http) :
    (loadOss c).http.servers u.name = heldHttpExpected false u := by
  have := get_map_up (fun x => configServers (createUpstream false x)) c.http u hc.http hu
  simp only [loadOss, Table.servers, this, Option.getD_some]
  simp [configServers, createUpstream, heldHttpExpected]

theorem loadOss_stream {c : Conf} (hc : c.WF) {u : Up} (hu : u ∈ c.stream) :
    (loadOss c).stream.servers u.name = heldStreamExpected false u := by
  have hmap : (loadOss c).stream =
      (c.stream.filter fun u => !u.eps.isEmpty).map fun x => (x.name, x.eps.map serverAddress) := by
    simp [loadOss, createStreamUpstreams, configServers, List.map_map, Function.comp_def]
  rw [hmap]
  by_cases he : u.eps = []
  · have hno := fun h => (mem_nonempty_names hc.stream hu).mp h he
    simp [Table.servers, get_map_absent _ _ _ hno, heldStreamExpected, he]
  · have hin : u ∈ c.stream.filter fun u => !u.eps.isEmpty := List.mem_filter.mpr ⟨hu, by simpa using he⟩
    have hnd : ((c.stream.filter fun u => !u.eps.isEmpty).map (·.name)).Nodup :=
      List.Nodup.sublist ((List.filter_sublist).map _) hc.stream
    simp [Table.servers, get_map_up _ _ u hnd hin, heldStreamExpected]

theorem inSync_loadOss {c : Conf} (hc : c.WF) : inSync false c (loadOss c) = true :=
  inSync_iff.mpr ⟨fun _ hu => by rw [loadOss_http hc hu]; exact SetEq.refl _,
    fun _ hu => by rw [loadOss_stream hc hu]; exact SetEq.refl _⟩

theorem Table.get_put_same (t : Table) (n : String) (v : List String) : (t.put n v).get n = some v := by
  induction t with
  | nil => simp [Table.put, Table.get]
  | cons kv r ih =>
    obtain ⟨k, old⟩ := kv
    by_cases h : k = n
    · simp [Table.put, h, Table.get]
    · simp [Table.put, h, Table.get, ih]

theorem Table.get_put_other (t : Table) {n m : String} (v : List String) (h : m ≠ n) :
    (t.put n v).get m = t.get m := by
  induction t with
  | nil =>
    have : ¬ n = m := fun e => h e.symm
    simp [Table.put, Table.get, this]
  | cons kv r ih =>
    obtain ⟨k, old⟩ := kv
    by_cases hk : k = n
    · have : ¬ k = m := by intro e; exact h (e ▸ hk)
      have h2 : ¬ n = m := fun e => h e.symm
      simp [Table.put, hk, Table.get, h2]
    · by_cases hm : k = m
      · subst hm; simp [Table.put, hk, Table.get]
      · simp [Table.put, hk, Table.get, hm, ih]

theorem Table.inv_put {t : Table} (h : t.Inv) (n : String) {v : List String} (hv : v.Nodup) : (t.put n v).Inv := by
  intro m l hl
  by_cases hm : m = n
  · subst hm; rw [Table.get_put_same] at hl; cases hl; exact hv
  · rw [Table.get_put_other t v hm] at hl; exact h m l hl

theorem inv_putAll : ∀ (p : List (String × List String)) (st : Table), st.Inv → (putAll st p).Inv
  | [], _, h => h
  | (n, v) :: r, st, h => by simp only [putAll]; exact inv_putAll r _ (Table.inv_put h n (nodup_dedup v))

structure Ngx.Inv (x : Ngx) : Prop where
  api : x.api.Inv
  state : x.state.Inv

theorem applyTableF_quiet {fail : List String} {t st : Table} {p : List (String × List String)}
    (h : (applyTableF fail t st p).2.2 = false) : (applyTableF fail t st p).1 = applyAll t p := by
  simp only [applyTableF] at h ⊢
  congr 1
  rw [List.filter_eq_self]
  intro x hx
  have := List.any_eq_false.mp h x hx
  simpa using this

theorem applyTableF_nofaults (t st : Table) (p : List (String × List String)) :
    applyTableF [] t st p = (applyAll t p, putAll st p, false) := by
  have : p.filter (fun _ => true) = p := List.filter_eq_self.mpr (fun _ _ => rfl)
  simp [applyTableF, this]

theorem keys_applyTableF (fail : List String) (t st : Table) (p : List (String × List String)) :
    (applyTableF fail t st p).1.keys = t.keys := keys_applyAll _ _

theorem inv_applyTableF (fail : List String) {t st : Table} (p : List (String × List String))
    (h : t.Inv) (hs : st.Inv) : (applyTableF fail t st p).1.Inv ∧ (applyTableF fail t st p).2.1.Inv :=
  ⟨inv_applyAll _ _ h, inv_putAll _ _ hs⟩

theorem updateF_quiet {f : Faults} {c : Conf} {x : Ngx} (h : (updateUpstreamServersF f c x).2 = false) :
    (updateUpstreamServersF f c x).1.api = updateUpstreamServers c x.api := by
  unfold updateUpstreamServersF at h ⊢
  by_cases hg : f.get = true
  · simp [hg] at h
  · simp only [hg, Bool.false_eq_true, if_false, Bool.or_eq_false_iff] at h ⊢
    simp only [updateUpstreamServers, applyTableF_quiet h.1, applyTableF_quiet h.2]

theorem updateF_nofaults (c : Conf) (x : Ngx) : (updateUpstreamServersF Faults.none c x).2 = false := by
  simp [updateUpstreamServersF, Faults.none, applyTableF_nofaults]

theorem inv_updateF (f : Faults) (c : Conf) {x : Ngx} (hx : x.Inv) : (updateUpstreamServersF f c x).1.Inv := by
  unfold updateUpstreamServersF
  by_cases hg : f.get = true
  · simpa [hg] using hx
  · simp only [hg, Bool.false_eq_true, if_false]
    have h1 := inv_applyTableF f.http (pending c.http x.api.http) hx.api.http hx.state
    have h2 := inv_applyTableF f.stream (pending c.stream x.api.stream) hx.api.stream h1.2
    exact ⟨⟨h1.1, h2.1⟩, h2.2⟩

theorem updateF_local {f : Faults} {c : Conf} {x : Ngx} (hc : c.WF) (hx : x.api.Inv) (hg : f.get = false) :
    (∀ u ∈ c.http, u.name ∉ f.http → u.name ∈ x.api.http.keys →
      SetEq ((updateUpstreamServersF f c x).1.api.http.servers u.name) (convertEndpoints u.eps)) ∧
    (∀ u ∈ c.stream, u.name ∉ f.stream → u.name ∈ x.api.stream.keys →
      SetEq ((updateUpstreamServersF f c x).1.api.stream.servers u.name) (convertEndpoints u.eps)) := by
  unfold updateUpstreamServersF
  simp only [hg, Bool.false_eq_true, if_false, applyTableF]
  constructor
  · intro u hu hok hk
    exact pending_filter_spec c.http x.api.http hc.http hx.http
      (fun x => !f.http.contains x.1) hu hk (by simpa using hok)
  · intro u hu hok hk
    exact pending_filter_spec c.stream x.api.stream hc.stream hx.stream
      (fun x => !f.stream.contains x.1) hu hk (by simpa using hok)

theorem keys_loadPlus (c : Conf) (st : Table) :
    (loadPlus c st).http.keys = dedup (c.http.map (·.name)) ∧
    (loadPlus c st).stream.keys = dedup ((c.stream.filter fun u => !u.eps.isEmpty).map (·.name)) :=
  ⟨keys_reloadTable _ _, keys_reloadTable _ _⟩

theorem loaded_loadPlus (c : Conf) {st : Table} (h : st.Inv) : Loaded c (loadPlus c st) :=
  ⟨⟨inv_reloadTable _ h, inv_reloadTable _ h⟩, (keys_loadPlus c st).1, (keys_loadPlus c st).2⟩

/-- the reload of this batch is not performed (ReplaceFiles or Reload fails) -/
def Faults.noReload (f : Faults) : Bool := f.replace || f.reload

/-- Plus: the batch goes through the files and a reload (ClusterStateChange, or an EndpointsOnlyChange while the last
apply is remembered as failed); otherwise through the API alone -/
def viaReload (lastErr : Bool) (o : HOp) : Bool := decide (o.kind = .cluster) || lastErr

theorem viaReload_false {lastErr : Bool} {o : HOp} (h : viaReload lastErr o = false) :
    o.kind = .endpoints ∧ lastErr = false := by
  simp only [viaReload, Bool.or_eq_false_iff, decide_eq_false_iff_not] at h
  refine ⟨?_, h.2⟩
  cases hk : o.kind with
  | cluster => exact absurd hk h.1
  | endpoints => rfl

theorem applyOp_oss (lastErr : Bool) (o : HOp) (x : Ngx) :
    applyOp false lastErr o x =
      if o.faults.noReload then (x, true) else ({ x with api := loadOss o.conf }, false) := by
  unfold applyOp updateNginxConfF Faults.noReload
  cases o.kind <;> cases o.faults.replace <;> cases o.faults.reload <;> simp

theorem applyOp_oss_quiet {lastErr : Bool} {o : HOp} {x : Ngx} (h : (applyOp false lastErr o x).2 = false) :
    (applyOp false lastErr o x).1.api = loadOss o.conf := by
  rw [applyOp_oss] at h ⊢
  split at h
  · cases h
  · rw [if_neg ‹_›]

/-- the upstreams NGINX Plus has when the API update of the batch starts -/
def apiBeforeUpdate (lastErr : Bool) (o : HOp) (x : Ngx) : Api :=
  if viaReload lastErr o then loadPlus o.conf x.state else x.api

/-- One batch of the Plus handler: it fails as a whole when it has to reload and cannot; otherwise it is the API update
on the upstreams NGINX has at that moment (just loaded with the servers of the state files, or held). -/
theorem applyOp_plus (lastErr : Bool) (o : HOp) (x : Ngx) :
    applyOp true lastErr o x =
      if viaReload lastErr o && o.faults.noReload then (x, true)
      else updateUpstreamServersF o.faults o.conf { x with api := apiBeforeUpdate lastErr o x } := by
  unfold applyOp updateNginxConfF apiBeforeUpdate viaReload Faults.noReload
  cases o.kind <;> cases lastErr <;> cases o.faults.replace <;> cases o.faults.reload <;> simp

theorem inv_apiBeforeUpdate (lastErr : Bool) (o : HOp) {x : Ngx} (hx : x.Inv) : (apiBeforeUpdate lastErr o x).Inv := by
  unfold apiBeforeUpdate
  split
  · exact (loaded_loadPlus _ hx.state).inv
  · exact hx.api

theorem applyOp_plus_quiet {lastErr : Bool} {o : HOp} {x : Ngx} (h : (applyOp true lastErr o x).2 = false) :
    (applyOp true lastErr o x).1.api = updateUpstreamServers o.conf (apiBeforeUpdate lastErr o x) := by
  rw [applyOp_plus] at h ⊢
  split at h
  · cases h
  · rw [if_neg ‹_›, updateF_quiet h]

theorem applyOp_nofaults (plus lastErr : Bool) {o : HOp} (h : o.faults = Faults.none) (x : Ngx) :
    (applyOp plus lastErr o x).2 = false := by
  cases plus
  · rw [applyOp_oss]; simp [h, Faults.noReload, Faults.none]
  · rw [applyOp_plus, h, if_neg (by simp [Faults.noReload, Faults.none])]
    exact updateF_nofaults _ _

theorem inv_applyOp_plus (lastErr : Bool) (o : HOp) {x : Ngx} (hx : x.Inv) : (applyOp true lastErr o x).1.Inv := by
  rw [applyOp_plus]
  split
  · exact hx
  · exact inv_updateF _ _ ⟨inv_apiBeforeUpdate lastErr o hx, hx.state⟩

theorem inv_runH_plus : ∀ (ops : List HOp) (s : HState), s.ngx.Inv → (runH true s ops).ngx.Inv
  | [], _, h => h
  | o :: os, s, h => by
    simp only [runH]
    exact inv_runH_plus os _ (inv_applyOp_plus s.lastErr o h)

/-- An `EndpointsOnlyChange` keeps the http upstream names of the configuration generated just before it (this is what
the change processor's classification means; property C01). -/
def SameHttpNames (c c' : Conf) : Prop := c'.http.map (·.name) = c.http.map (·.name)

def CoherentStep (s : HState) (o : HOp) : Prop :=
  o.kind = .endpoints → ∃ c, s.latest = some c ∧ SameHttpNames c o.conf

def Coherent : HState → List HOp → Prop
  | _, [] => True
  | s, o :: os => CoherentStep s o ∧ Coherent (stepH true s o).1 os

/-- while the handler remembers a successful apply, NGINX knows every http upstream of the last generated configuration -/
def NamesKnown (s : HState) : Prop :=
  s.lastErr = false → ∀ c, s.latest = some c → ∀ u ∈ c.http, u.name ∈ s.ngx.api.http.keys

theorem namesKnown_step {s : HState} {o : HOp} (hn : NamesKnown s) (hc : CoherentStep s o) :
    NamesKnown (stepH true s o).1 := by
  intro herr c hlat u hu
  cases (show some o.conf = some c from hlat)
  -- no error: NGINX has the upstreams it had when the API update started
  show u.name ∈ (applyOp true s.lastErr o s.ngx).1.api.http.keys
  rw [applyOp_plus_quiet herr]
  show u.name ∈ (applyAll _ _).keys
  rw [keys_applyAll]
  unfold apiBeforeUpdate
  rcases Bool.eq_false_or_eq_true (viaReload s.lastErr o) with hv | hv
  · rw [if_pos hv, (keys_loadPlus _ _).1, mem_dedup]; exact List.mem_map.mpr ⟨u, hu, rfl⟩
  · rw [hv]
    obtain ⟨hkind, hle⟩ := viaReload_false hv
    obtain ⟨c0, hc0, hsame⟩ := hc hkind
    have hin : u.name ∈ c0.http.map (·.name) := by
      rw [← hsame]; exact List.mem_map.mpr ⟨u, hu, rfl⟩
    obtain ⟨u0, hu0, hn0⟩ := List.mem_map.mp hin
    rw [← hn0]
    exact hn hle c0 hc0 u0 hu0

theorem namesKnown_runH : ∀ (ops : List HOp) (s : HState), NamesKnown s → Coherent s ops →
    NamesKnown (runH true s ops)
  | [], _, h, _ => h
  | o :: os, s, h, hc => by
    simp only [runH]
    exact namesKnown_runH os _ (namesKnown_step h hc.1) hc.2

end NGF.Resolver
