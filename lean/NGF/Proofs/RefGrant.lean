/-
Lemmas about `NGF.Model.RefGrant` (C06). Core Lean only.

The resolver is read grant by grant: `Opens g to frm` says that the grant answers one of the two lookups of
`refAllowed`, and `refAllowed_iff_opens` is the resolver in these terms. Monotonicity, the irrelevance of grants that
do not open a reference and the agreement with the declarative spec `Permitted` all go through it. The verdicts of the
three route kinds are one equation (`routeRefVerdict_eq`). Downstream of the verdict: a valid graph backendRef was
accepted (`createBackendRef_valid`), a backend group sends only to valid backends (`mem_groupTargets`), key pairs come
from valid listeners (`mem_sslKeyPairs`). Facts about the store after a history of events are invariants of `stepStore`
(`runStore_induction`).
-/
import NGF.Model.RefGrant

namespace NGF.RefGrant

theorem mem_grantKeys {g : Grant} {k : AllowedRef} :
    k ∈ grantKeys g ↔ ∃ t ∈ g.tos, ∃ f ∈ g.froms, k = keyOf g.ns t f := by
  simp only [grantKeys, List.mem_flatMap, List.mem_map]
  constructor
  · rintro ⟨t, ht, f, hf, e⟩; exact ⟨t, ht, f, hf, e.symm⟩
  · rintro ⟨t, ht, f, hf, e⟩; exact ⟨t, ht, f, hf, e.symm⟩

theorem refAllowed_iff_mem (allowed : List AllowedRef) (to : ToRes) (frm : FromRes) :
    refAllowed allowed to frm = true ↔
      (⟨to, frm⟩ : AllowedRef) ∈ allowed ∨
      (⟨{ group := "", kind := to.kind, name := "", ns := to.ns }, frm⟩ : AllowedRef) ∈ allowed := by
  simp [refAllowed]

theorem normGroup_eq_empty {g : String} : normGroup g = "" ↔ g = "" ∨ g = "core" := by
  unfold normGroup
  by_cases h : g = "core"
  · simp [h]
  · simp [h]

theorem toName_eq {t : GrantTo} {n : String} :
    toName t = n ↔ (t.name = none ∧ n = "") ∨ t.name = some n := by
  unfold toName
  cases h : t.name with
  | none => simp [eq_comm]
  | some m => simp

theorem permittedB_iff (gs : List Grant) (kind ns name : String) (frm : FromRes) :
    permittedB gs kind ns name frm = true ↔ Permitted gs kind ns name frm := by
  simp only [permittedB, Permitted, List.any_eq_true, Bool.and_eq_true, decide_eq_true_eq]
  constructor
  · rintro ⟨g, hg, ⟨hns, f, hf, hff⟩, t, ht, htt⟩
    exact ⟨g, hg, hns, ⟨f, hf, hff⟩, t, ht, htt⟩
  · rintro ⟨g, hg, hns, ⟨f, hf, hff⟩, t, ht, htt⟩
    exact ⟨g, hg, ⟨hns, f, hf, hff⟩, t, ht, htt⟩

theorem key_eq_iff {to : ToRes} {frm : FromRes} {gns : String} {t : GrantTo} {f : GrantFrom} :
    (⟨to, frm⟩ : AllowedRef) = keyOf gns t f ↔
      (normGroup t.group = to.group ∧ t.kind = to.kind ∧ toName t = to.name ∧ gns = to.ns) ∧ fromNames f frm := by
  cases to; cases frm
  simp [keyOf, fromNames, eq_comm]

/-- the grant answers one of the resolver's two lookups for `to` from `frm`; the second lookup drops group and name,
also for a `to.group` that is not the core group -/
def Opens (g : Grant) (to : ToRes) (frm : FromRes) : Prop :=
  g.ns = to.ns ∧ (∃ f ∈ g.froms, fromNames f frm) ∧
    ∃ t ∈ g.tos, t.kind = to.kind ∧
      ((normGroup t.group = to.group ∧ toName t = to.name) ∨ (normGroup t.group = "" ∧ toName t = ""))

theorem refAllowed_newResolver (gs : List Grant) (to : ToRes) (frm : FromRes) :
    refAllowed (newResolver gs) to frm = true ↔ ∃ g ∈ gs, refAllowed (grantKeys g) to frm = true := by
  simp only [refAllowed_iff_mem, newResolver, List.mem_flatMap]
  exact ⟨fun h => h.elim (fun ⟨g, hg, hk⟩ => ⟨g, hg, .inl hk⟩) fun ⟨g, hg, hk⟩ => ⟨g, hg, .inr hk⟩,
    fun ⟨g, hg, hk⟩ => hk.imp (fun hk => ⟨g, hg, hk⟩) fun hk => ⟨g, hg, hk⟩⟩

theorem refAllowed_grantKeys (g : Grant) (to : ToRes) (frm : FromRes) :
    refAllowed (grantKeys g) to frm = true ↔ Opens g to frm := by
  rw [refAllowed_iff_mem, mem_grantKeys, mem_grantKeys]
  constructor
  · rintro (⟨t, ht, f, hf, e⟩ | ⟨t, ht, f, hf, e⟩) <;> obtain ⟨⟨h1, h2, h3, h4⟩, h5⟩ := key_eq_iff.1 e
    · exact ⟨h4, ⟨f, hf, h5⟩, t, ht, h2, .inl ⟨h1, h3⟩⟩
    · exact ⟨h4, ⟨f, hf, h5⟩, t, ht, h2, .inr ⟨h1, h3⟩⟩
  · rintro ⟨hns, ⟨f, hf, h5⟩, t, ht, hk, (⟨h1, h3⟩ | ⟨h1, h3⟩)⟩
    · exact .inl ⟨t, ht, f, hf, key_eq_iff.2 ⟨⟨h1, hk, h3, hns⟩, h5⟩⟩
    · exact .inr ⟨t, ht, f, hf, key_eq_iff.2 ⟨⟨h1, hk, h3, hns⟩, h5⟩⟩

theorem refAllowed_iff_opens (gs : List Grant) (to : ToRes) (frm : FromRes) :
    refAllowed (newResolver gs) to frm = true ↔ ∃ g ∈ gs, Opens g to frm := by
  simp only [refAllowed_newResolver, refAllowed_grantKeys]

theorem opens_to_iff_covers {t : GrantTo} {to : ToRes} (hg : to.group = "") :
    (t.kind = to.kind ∧
      ((normGroup t.group = to.group ∧ toName t = to.name) ∨ (normGroup t.group = "" ∧ toName t = ""))) ↔
      toCovers t to.kind to.name := by
  rw [hg, ← and_or_left, normGroup_eq_empty, toName_eq, toName_eq]
  unfold toCovers
  -- what is left is a rearrangement of the same atoms
  grind

theorem refAllowed_congr_opens {gs gs' : List Grant} {to : ToRes} {frm : FromRes}
    (h : (∃ g ∈ gs, Opens g to frm) ↔ ∃ g ∈ gs', Opens g to frm) :
    refAllowed (newResolver gs) to frm = refAllowed (newResolver gs') to frm :=
  Bool.eq_iff_iff.2 (by rw [refAllowed_iff_opens, refAllowed_iff_opens, h])

theorem refAllowed_filter (gs : List Grant) {to : ToRes} {frm : FromRes} (p : Grant → Bool)
    (h : ∀ g, Opens g to frm → p g = true) :
    refAllowed (newResolver gs) to frm = refAllowed (newResolver (gs.filter p)) to frm :=
  refAllowed_congr_opens
    ⟨fun ⟨g, hg, ho⟩ => ⟨g, List.mem_filter.2 ⟨hg, h g ho⟩, ho⟩, fun ⟨g, hg, ho⟩ => ⟨g, (List.mem_filter.1 hg).1, ho⟩⟩

theorem refAllowed_map (gs : List Grant) {to : ToRes} {frm : FromRes} (φ : Grant → Grant)
    (h : ∀ g, Opens (φ g) to frm ↔ Opens g to frm) :
    refAllowed (newResolver gs) to frm = refAllowed (newResolver (gs.map φ)) to frm :=
  refAllowed_congr_opens
    ⟨fun ⟨g, hg, ho⟩ => ⟨φ g, List.mem_map_of_mem hg, (h g).2 ho⟩,
     fun ⟨_, hg', ho⟩ => by obtain ⟨g, hg, rfl⟩ := List.mem_map.1 hg'; exact ⟨g, hg, (h g).1 ho⟩⟩

theorem refAllowed_mono (gs gs' : List Grant) (h : ∀ g ∈ gs, g ∈ gs') (to : ToRes) (frm : FromRes) :
    refAllowed (newResolver gs) to frm = true → refAllowed (newResolver gs') to frm = true := by
  rw [refAllowed_iff_opens, refAllowed_iff_opens]
  exact fun ⟨g, hg, ho⟩ => ⟨g, h g hg, ho⟩

theorem normGroup_idem (s : String) : normGroup (normGroup s) = normGroup s := by
  unfold normGroup; by_cases h : s = "core" <;> simp [h]

theorem ite5_ok (c1 c2 c3 c4 c5 : Bool) :
    (if c1 then Verdict.invalidKind else if c2 then .invalidKind else if c3 then .refNotPermitted
      else if c4 then .unsupportedValue else if c5 then .unsupportedValue else .ok) = Verdict.ok ↔
      c1 = false ∧ c2 = false ∧ c3 = false ∧ c4 = false ∧ c5 = false := by
  revert c1 c2 c3 c4 c5; decide

theorem validateBackendRef_ok_crossns {ref : BackendRef} {routeNs : String} {allowed : ToRes → Bool} {n : String}
    (hv : validateBackendRef ref routeNs allowed = .ok) (hn : ref.ns = some n) (hne : n ≠ routeNs) :
    allowed (toService n ref.name) = true := by
  unfold validateBackendRef at hv
  rw [ite5_ok, hn] at hv
  simpa [hne] using hv.2.2.1

theorem validateBackendRef_mono {ref : BackendRef} {routeNs : String} {a b : ToRes → Bool}
    (hab : ∀ t, a t = true → b t = true) (h : validateBackendRef ref routeNs a = .ok) :
    validateBackendRef ref routeNs b = .ok := by
  unfold validateBackendRef at h ⊢
  rw [ite5_ok] at h ⊢
  obtain ⟨h1, h2, h3, h4, h5⟩ := h
  refine ⟨h1, h2, ?_, h4, h5⟩
  cases hns : ref.ns with
  | none => rfl
  | some n =>
    rw [hns] at h3
    simp only [Bool.and_eq_false_iff, Bool.not_eq_false'] at h3 ⊢
    exact h3.imp id (hab _)

theorem validateBackendRef_refused {ref : BackendRef} {routeNs : String} {allowed : ToRes → Bool} {n : String}
    (hg : ref.group = none ∨ ref.group = some "" ∨ ref.group = some "core")
    (hk : ref.kind = none ∨ ref.kind = some "Service")
    (hn : ref.ns = some n) (hne : n ≠ routeNs) (ha : allowed (toService n ref.name) = false) :
    validateBackendRef ref routeNs allowed = .refNotPermitted := by
  unfold validateBackendRef
  rw [hn]
  rcases hg with hg | hg | hg <;> rcases hk with hk | hk <;> simp [hg, hk, ha, hne]

theorem validateBackendRef_congr {ref : BackendRef} {routeNs : String} {a b : ToRes → Bool}
    (h : ∀ n, ref.ns = some n → n ≠ routeNs → a (toService n ref.name) = b (toService n ref.name)) :
    validateBackendRef ref routeNs a = validateBackendRef ref routeNs b := by
  unfold validateBackendRef
  cases hns : ref.ns with
  | none => rfl
  | some n =>
    by_cases hne : n = routeNs
    · simp [hne]
    · simp only [h n hns hne]

theorem validateBackendRef_same_ns {ref : BackendRef} {routeNs : String} (a b : ToRes → Bool)
    (h : ref.ns = none ∨ ref.ns = some routeNs) :
    validateBackendRef ref routeNs a = validateBackendRef ref routeNs b :=
  validateBackendRef_congr fun n hn hne => by
    rcases h with h | h <;> rw [h] at hn <;> cases hn
    exact absurd rfl hne

theorem routeRefVerdict_eq (gs : List Grant) (k : RouteKind) (routeNs : String) (ref : BackendRef) :
    routeRefVerdict gs k routeNs ref =
      if k ≠ .tls ∧ ref.nfilters > 0 then .unsupportedValue
      else validateBackendRef ref routeNs (refAllowedFrom (newResolver gs) (fromRoute k routeNs)) := by
  cases k <;> simp [routeRefVerdict, validateRouteBackendRef]

theorem routeRefVerdict_ok {gs : List Grant} {k : RouteKind} {routeNs : String} {ref : BackendRef}
    (h : routeRefVerdict gs k routeNs ref = .ok) :
    validateBackendRef ref routeNs (refAllowedFrom (newResolver gs) (fromRoute k routeNs)) = .ok := by
  rw [routeRefVerdict_eq] at h
  split at h
  · cases h
  · exact h

theorem routeRefVerdict_mono {gs gs' : List Grant} (hsub : ∀ g ∈ gs, g ∈ gs') {k : RouteKind} {routeNs : String}
    {ref : BackendRef} (h : routeRefVerdict gs k routeNs ref = .ok) : routeRefVerdict gs' k routeNs ref = .ok := by
  rw [routeRefVerdict_eq] at h ⊢
  split at h
  · cases h
  · rename_i hc
    rw [if_neg hc]
    exact validateBackendRef_mono (fun t => refAllowed_mono gs gs' hsub t _) h

theorem createBackendRef_valid {gs : List Grant} {k : RouteKind} {routeNs : String} {ref : BackendRef} {later : Bool}
    {port : Nat} {w : Int} (h : (createBackendRef gs k routeNs ref later port w).valid = true) :
    routeRefVerdict gs k routeNs ref = .ok ∧ later = true ∧ createBackendRef gs k routeNs ref later port w =
      { valid := true, svcNs := refNs ref routeNs, svcName := ref.name, port := port, weight := w } := by
  unfold createBackendRef at h ⊢
  cases hv : routeRefVerdict gs k routeNs ref <;> simp only [hv] at h ⊢ <;> cases h
  exact ⟨trivial, rfl, rfl⟩

theorem invalid_single_group (gname : String) (b : Backend) (h : b.valid = false) :
    backendGroupName gname [b] = invalidBackendRef := by
  simp [backendGroupName, h]

theorem invalid_split_value (b : Backend) (h : b.valid = false) : splitClientValue b = invalidBackendRef := by
  simp [splitClientValue, h]

theorem mem_groupTargets {gname : String} {bs : List Backend} {t : String} (ht : t ∈ groupTargets gname bs) :
    t = invalidBackendRef ∨ ∃ b ∈ bs, b.valid = true ∧ t = b.upstream := by
  match bs, ht with
  | [], ht => exact .inl (List.mem_singleton.1 ht)
  | [b], ht =>
    rw [List.mem_singleton.1 ht]
    by_cases hc : (b.weight == 0 || !b.valid) = true
    · exact .inl (if_pos hc)
    · refine .inr ⟨b, List.mem_singleton_self b, ?_, if_neg hc⟩
      cases hv : b.valid
      · simp [hv] at hc
      · rfl
  | b1 :: b2 :: rest, ht =>
    obtain ⟨b, hb, rfl⟩ := List.mem_map.1 (show t ∈ (b1 :: b2 :: rest).map splitClientValue from ht)
    cases hv : b.valid
    · exact .inl (invalid_split_value b hv)
    · exact .inr ⟨b, hb, hv, if_pos hv⟩

theorem groupTargets_sound (gname : String) (rs : List GBackendRef) :
    ∀ t ∈ groupTargets gname (rs.map toBackend),
      t = invalidBackendRef ∨ ∃ r ∈ rs, r.valid = true ∧ t = servicePortReference r := by
  intro t ht
  refine (mem_groupTargets ht).imp id fun ⟨b, hb, hv, e⟩ => ?_
  obtain ⟨r, hr, rfl⟩ := List.mem_map.1 hb
  exact ⟨r, hr, hv, e⟩

theorem mem_sslKeyPairs {ls : List GListener} {x : String × String} :
    x ∈ sslKeyPairs ls ↔ ∃ l ∈ ls, l.valid = true ∧ l.secret = some x := by
  simp only [sslKeyPairs, List.mem_filterMap]
  constructor
  · rintro ⟨l, hl, h⟩
    by_cases hv : l.valid = true
    · simp [hv] at h; exact ⟨l, hl, hv, h⟩
    · simp [hv] at h
  · rintro ⟨l, hl, hv, hs⟩
    exact ⟨l, hl, by simp [hv, hs]⟩

/-- the latest graph was built from the grants the store holds now -/
def Synced (s : Store) : Prop :=
  s.changeType = .noChange → (s.graphGrants = some s.grants ∨ (s.graphGrants = none ∧ s.grants = []))

theorem setChangeType_true_false (c : ChangeType) : setChangeType c true false = .clusterState := by
  cases c <;> simp [setChangeType]

theorem setChangeType_false (c : ChangeType) (e : Bool) : setChangeType c false e = c := by
  simp [setChangeType]

theorem setChangeType_ne_noChange (c : ChangeType) (ch e : Bool) (h : c ≠ .noChange) :
    setChangeType c ch e ≠ .noChange := by
  cases c <;> cases ch <;> cases e <;> simp_all [setChangeType]

theorem setChangeType_noChange_iff (c : ChangeType) (ch e : Bool) :
    setChangeType c ch e = .noChange ↔ c = .noChange ∧ ch = false := by
  cases c <;> cases ch <;> cases e <;> simp [setChangeType]

theorem synced_init : Synced Store.init := by
  intro _; right; exact ⟨rfl, rfl⟩

theorem synced_step (s : Store) (e : Ev) (h : Synced s) : Synced (stepStore s e) := by
  cases e with
  | upsertGrant g =>
    intro hc
    simp [stepStore, setChangeType_true_false] at hc
  | deleteGrant ns name =>
    simp only [stepStore]
    split
    · intro hc; simp [setChangeType_true_false] at hc
    · intro hc
      simp only [setChangeType_false] at hc
      exact h hc
  | other changed endpoints =>
    intro hc
    simp only [stepStore] at hc ⊢
    obtain ⟨h1, _⟩ := (setChangeType_noChange_iff _ _ _).1 hc
    exact h h1
  | process =>
    simp only [stepStore]
    split
    · exact h
    · intro _; left; rfl

theorem runStore_induction {P : Store → Prop} : ∀ (evs : List Ev) (s : Store),
    (∀ e ∈ evs, ∀ s, P s → P (stepStore s e)) → P s → P (runStore s evs)
  | [], _, _, h => h
  | e :: es, s, hstep, h =>
    runStore_induction es _ (fun e' he' => hstep e' (List.mem_cons_of_mem _ he')) (hstep e List.mem_cons_self s h)

theorem synced_run (evs : List Ev) (s : Store) (h : Synced s) : Synced (runStore s evs) :=
  runStore_induction evs s (fun e _ s => synced_step s e) h

theorem mem_grants_stepStore {s : Store} {e : Ev} {g : Grant} (hg : g ∈ (stepStore s e).grants) :
    g ∈ s.grants ∨ e = .upsertGrant g := by
  cases e with
  | upsertGrant g' =>
    rcases List.mem_cons.1 hg with rfl | hg
    · exact .inr rfl
    · exact .inl (List.mem_filter.1 hg).1
  | deleteGrant ns name =>
    simp only [stepStore] at hg
    split at hg
    · exact .inl (List.mem_filter.1 hg).1
    · exact .inl hg
  | other c e' => exact .inl hg
  | process =>
    simp only [stepStore] at hg
    split at hg <;> exact .inl hg

theorem runStore_append (a b : List Ev) (s : Store) : runStore s (a ++ b) = runStore (runStore s a) b := by
  induction a generalizing s with
  | nil => rfl
  | cons e es ih => simp [runStore, ih]

theorem process_changeType (s : Store) : (stepStore s .process).changeType = .noChange := by
  simp only [stepStore]
  split
  · assumption
  · rfl

theorem process_grants (s : Store) : (stepStore s .process).grants = s.grants := by
  simp only [stepStore]
  split <;> rfl

end NGF.RefGrant
