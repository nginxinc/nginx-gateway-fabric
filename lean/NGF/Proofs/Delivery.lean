/-
C10 — the invariant `SInv` of reconcilers ∥ loop (per worker: finished, parked and not-yet-started events
are what its queue demands, in order; nothing is dropped while the context is live) with its
preservation `sinv_step`; and what the two loops of the preparer return.
-/
import NGF.Model.Delivery
import NGF.Props.C10

namespace NGF.Delivery
open NGF.Loop

theorem updAt_length (l : List Rec) (i : Nat) (f : Rec → Rec) : (updAt l i f).length = l.length := by
  induction l generalizing i with
  | nil => rfl
  | cons r t ih => cases i <;> simp [updAt, ih]

theorem getElem?_updAt_eq (l : List Rec) (i : Nat) (f : Rec → Rec) :
    (updAt l i f)[i]? = (l[i]?).map f := by
  induction l generalizing i with
  | nil => rfl
  | cons r t ih => cases i <;> simp [updAt, ih]

theorem getElem?_updAt_ne (l : List Rec) {i j : Nat} (f : Rec → Rec) (h : j ≠ i) :
    (updAt l i f)[j]? = l[j]? := by
  induction l generalizing i j with
  | nil => rfl
  | cons r t ih =>
    cases i with
    | zero =>
      cases j with
      | zero => exact absurd rfl h
      | succ j => simp [updAt]
    | succ i =>
      cases j with
      | zero => simp [updAt]
      | succ j => simp only [updAt, List.getElem?_cons_succ]; exact ih (by omega)

/-- Nothing is lost or invented by a worker: finished ++ parked ++ not-yet-started = what the queue demands. -/
def Cons (q : List Req) (r : Rec) : Prop :=
  r.hist.map (·.1) ++ r.offering.toList ++ r.pending = q.filterMap Req.ev

theorem cons_init (q : List Req) : Cons q (Rec.init q) := by
  simp [Cons, Rec.init, Rec.pending]

theorem cons_begin {q : List Req} {r : Rec} (h : Cons q r) (ho : r.offering = none) : Cons q r.begin := by
  unfold Cons at *
  unfold Rec.begin
  cases ht : r.todo with
  | nil => simpa [ht] using h
  | cons x t =>
    simp only [Rec.pending, ht, ho, List.filterMap_cons] at h ⊢
    cases hp : x.pre <;> simp_all [Req.ev]

theorem cons_finish {q : List Req} {r : Rec} (h : Cons q r) (b : Bool) : Cons q (r.finish b) := by
  unfold Cons at *
  unfold Rec.finish
  cases ho : r.offering with
  | none => simpa [ho] using h
  | some e => simp_all [Rec.pending]

theorem delivered_finish_true (r : Rec) (e : Ev) (ho : r.offering = some e) :
    (r.finish true).delivered = r.delivered ++ [e] := by
  simp [Rec.finish, ho, Rec.delivered]

theorem delivered_finish_false (r : Rec) : (r.finish false).delivered = r.delivered := by
  unfold Rec.finish
  cases ho : r.offering <;> simp [Rec.delivered]

theorem hist_begin (r : Rec) : r.begin.hist = r.hist := by
  unfold Rec.begin
  cases ht : r.todo with
  | nil => rfl
  | cons x t => cases hp : x.pre <;> simp [hp]

theorem delivered_begin (r : Rec) : r.begin.delivered = r.delivered := by
  simp [Rec.delivered, hist_begin]

theorem dropped_finish_true (r : Rec) : (r.finish true).dropped = r.dropped := by
  unfold Rec.finish
  cases ho : r.offering <;> simp [Rec.dropped]

theorem dropped_begin (r : Rec) : r.begin.dropped = r.dropped := by
  simp [Rec.dropped, hist_begin]

theorem Rec.delivered_of_no_drop {r : Rec} (h : r.dropped = []) : r.delivered = r.hist.map (·.1) := by
  unfold Rec.dropped at h
  unfold Rec.delivered
  rw [List.map_eq_nil_iff, List.filter_eq_nil_iff] at h
  rw [List.filter_eq_self.2 fun x hx => by simpa using h x hx]

theorem seen_recv (l : Loop) (e : Ev) : (Loop.step l (.recv e)).seen = l.seen ++ [e] := by
  rw [step_recv]; split <;> simp

theorem phase_recv (l : Loop) (e : Ev) : (Loop.step l (.recv e)).phase = l.phase := by
  rw [step_recv]; split <;> simp

theorem seen_other (l : Loop) (a : Act) (h : ∀ e, a ≠ .recv e) : (Loop.step l a).seen = l.seen := by
  cases a with
  | recv e => exact absurd rfl (h e)
  | hreturn => rfl
  | ack => rw [step_ack]; split <;> simp
  | cancel => rw [step_cancel]; split <;> rfl
  | drainack => rfl

theorem phase_other (l : Loop) (a : Act) (h : a ≠ .cancel) (hd : a ≠ .drainack) :
    (Loop.step l a).phase = l.phase := by
  cases a with
  | recv e => exact phase_recv l e
  | hreturn => rfl
  | ack => rw [step_ack]; split <;> simp
  | cancel => exact absurd rfl h
  | drainack => exact absurd rfl hd

/-- until the loop takes its `<-ctx.Done()` arm it stays at its `select` -/
theorem phase_run_of_no_cancel (as : List Act) (s : Loop) (hn : Act.cancel ∉ as)
    (hs : s.phase = .select) : (Loop.run s as).phase = .select := by
  induction as generalizing s with
  | nil => exact hs
  | cons a t ih =>
    have ha : a ≠ .cancel := fun h' => hn (by simp [h'])
    have ht : Act.cancel ∉ t := fun h' => hn (by simp [h'])
    simp only [Loop.run]
    split
    · next he =>
      apply ih _ ht
      by_cases hd : a = .drainack
      · subst hd; simp [Loop.enabled, hs] at he
      · rw [phase_other s a ha hd]; exact hs
    · exact ih _ ht hs

structure SInv (deadline : Bool) (first : List Ev) (qs : List (List Req)) (s : Sys) : Prop where
  loopInv : Inv first s.loop
  seen    : s.seenBy.map (·.2) = s.loop.seen
  len     : s.recs.length = qs.length
  cons    : ∀ (i : Nat) (r : Rec), s.recs[i]? = some r → ∀ q, qs[i]? = some q → Cons q r
  order   : ∀ (i : Nat) (r : Rec), s.recs[i]? = some r → s.seenFrom i = r.delivered
  nodrop  : deadline = false → s.ctxDone = false → ∀ (i : Nat) (r : Rec), s.recs[i]? = some r → r.dropped = []
  live    : s.ctxDone = false → s.loop.phase = .select

theorem init_recs {first : List Ev} {qs : List (List Req)} {i : Nat} {r : Rec}
    (h : (Sys.init first qs).recs[i]? = some r) : ∃ q, qs[i]? = some q ∧ r = Rec.init q := by
  rw [Sys.init, List.getElem?_map, Option.map_eq_some_iff] at h
  obtain ⟨q, hq, rfl⟩ := h
  exact ⟨q, hq, rfl⟩

theorem sinv_init (deadline : Bool) (first : List Ev) (qs : List (List Req)) :
    SInv deadline first qs (Sys.init first qs) := by
  refine ⟨inv_init first, rfl, by simp [Sys.init], ?_, ?_, ?_, fun _ => rfl⟩
  · intro i r hr q hq
    obtain ⟨q', hq', rfl⟩ := init_recs hr
    rw [hq] at hq'
    cases hq'
    exact cons_init q
  · intro i r hr
    obtain ⟨q, _, rfl⟩ := init_recs hr
    rfl
  · intro _ _ i r hr
    obtain ⟨q, _, rfl⟩ := init_recs hr
    rfl

theorem forall_updAt {P Q : Nat → Rec → Prop} {l : List Rec} {i : Nat} {f : Rec → Rec}
    (h : ∀ j r, l[j]? = some r → P j r) (hne : ∀ j r, j ≠ i → P j r → Q j r)
    (hf : ∀ r, l[i]? = some r → P i r → Q i (f r)) :
    ∀ j r, (updAt l i f)[j]? = some r → Q j r := by
  intro j r hr
  by_cases hji : j = i
  · subst hji
    rw [getElem?_updAt_eq, Option.map_eq_some_iff] at hr
    obtain ⟨r₀, h0, rfl⟩ := hr
    exact hf r₀ h0 (h j r₀ h0)
  · rw [getElem?_updAt_ne l f hji] at hr
    exact hne j r hji (h j r hr)

theorem offering_eq_some {s : Sys} {i : Nat} {e : Ev} :
    s.offering i = some e ↔ ∃ r, s.recs[i]? = some r ∧ r.offering = some e := by
  unfold Sys.offering
  cases s.recs[i]? <;> simp

theorem seenFrom_snoc (s : Sys) (i j : Nat) (e : Ev) :
    ((s.seenBy ++ [(i, e)]).filter (·.1 == j)).map (·.2) =
      if i = j then s.seenFrom j ++ [e] else s.seenFrom j := by
  by_cases h : i = j <;> simp [Sys.seenFrom, List.filter_append, h]

theorem step_deliver {s : Sys} {i : Nat} {e : Ev} (h : s.offering i = some e) :
    step s (.deliver i) =
      { s with loop := Loop.step s.loop (.recv e),
               recs := updAt s.recs i (·.finish true),
               seenBy := s.seenBy ++ [(i, e)] } := by
  simp [step, h]

theorem enabled_loop {deadline : Bool} {s : Sys} {a : Act} (he : enabled deadline s (.loop a) = true) :
    Loop.enabled s.loop a = true ∧ ∀ e, a ≠ .recv e := by
  cases a <;> simp_all [enabled]

theorem sinv_step {deadline : Bool} {first : List Ev} {qs : List (List Req)} {s : Sys}
    (hi : SInv deadline first qs s) (a : SAct) (he : enabled deadline s a = true) :
    SInv deadline first qs (step s a) := by
  obtain ⟨li, sn, ln, cn, od, nd, lv⟩ := hi
  cases a with
  | «begin» i =>
    have ho : ∀ r, s.recs[i]? = some r → r.offering = none := by
      intro r h0
      simp only [enabled, h0, Bool.and_eq_true, Option.isNone_iff_eq_none] at he
      exact he.1
    exact ⟨li, sn, by simpa [step, updAt_length] using ln,
      forall_updAt cn (fun _ _ _ h => h) fun r h0 hc q hq => cons_begin (hc q hq) (ho r h0),
      forall_updAt od (fun _ _ _ h => h) fun r _ h => (delivered_begin r).symm ▸ h,
      fun hd hc => forall_updAt (nd hd hc) (fun _ _ _ h => h) fun r _ h => (dropped_begin r).symm ▸ h,
      lv⟩
  | deliver i =>
    simp only [enabled, Bool.and_eq_true, beq_iff_eq] at he
    obtain ⟨e, hoe⟩ := Option.isSome_iff_exists.1 he.1
    obtain ⟨ri, hri, hrio⟩ := offering_eq_some.1 hoe
    rw [step_deliver hoe]
    refine ⟨inv_step li (.recv e) (by simp [Loop.enabled, he.2]), by simp [seen_recv, sn],
      by simpa [updAt_length] using ln,
      forall_updAt cn (fun _ _ _ h => h) fun r _ hc q hq => cons_finish (hc q hq) true,
      forall_updAt od ?_ ?_,
      fun hd hc => forall_updAt (nd hd hc) (fun _ _ _ h => h) fun r _ h =>
        (dropped_finish_true r).symm ▸ h,
      fun hc => by rw [phase_recv]; exact lv hc⟩
    · intro j r hne h
      show ((s.seenBy ++ [(i, e)]).filter (·.1 == j)).map (·.2) = r.delivered
      rw [seenFrom_snoc, if_neg (fun h' => hne h'.symm)]; exact h
    · intro r h0 h
      show ((s.seenBy ++ [(i, e)]).filter (·.1 == i)).map (·.2) = (r.finish true).delivered
      rw [hri] at h0; cases h0
      rw [seenFrom_snoc, if_pos rfl, delivered_finish_true _ e hrio, h]
  | giveup i =>
    simp only [enabled, Bool.and_eq_true, Bool.or_eq_true] at he
    refine ⟨li, sn, by simpa [step, updAt_length] using ln,
      forall_updAt cn (fun _ _ _ h => h) fun r _ hc q hq => cons_finish (hc q hq) false,
      forall_updAt od (fun _ _ _ h => h) fun r _ h => (delivered_finish_false r).symm ▸ h,
      ?_, lv⟩
    -- enabled only when the context is cancelled (or in the deadline variant): both contradict the premises
    intro hd hc
    rcases he.2 with h | h
    · rw [show (step s (.giveup i)).ctxDone = s.ctxDone from rfl, h] at hc; cases hc
    · rw [hd] at h; cases h
  | cancelCtx =>
    exact ⟨li, sn, ln, cn, od, fun _ hc => by simp [step] at hc, fun hc => by simp [step] at hc⟩
  | loop a =>
    -- only the loop component changes, and it keeps what it has received
    obtain ⟨hle, ha⟩ := enabled_loop he
    refine ⟨inv_step li a hle, sn.trans (seen_other s.loop a ha).symm, ln, cn, od, nd, fun hc => ?_⟩
    have hp := lv hc
    by_cases h1 : a = .cancel
    · subst h1; simp [enabled, show s.ctxDone = false from hc] at he
    · by_cases h2 : a = .drainack
      · subst h2; simp [Loop.enabled, hp] at hle
      · exact (phase_other s.loop a h1 h2).trans hp

theorem sinv_runCount {deadline : Bool} {first : List Ev} {qs : List (List Req)} :
    ∀ (as : List SAct) (s : Sys) (n : Nat), SInv deadline first qs s →
      SInv deadline first qs (runCount deadline s n as).1
  | [], _, _, hi => hi
  | a :: as, s, n, hi => by
    simp only [runCount]
    split
    · next he => exact sinv_runCount as _ _ (sinv_step hi a he)
    · exact sinv_runCount as _ _ hi

theorem sinv_reach (deadline : Bool) (first : List Ev) (qs : List (List Req)) (as : List SAct) :
    SInv deadline first qs (run deadline (Sys.init first qs) as) :=
  sinv_runCount as _ 0 (sinv_init deadline first qs)

theorem ctx_live_runCount {deadline : Bool} :
    ∀ (as : List SAct) (s : Sys) (n : Nat), SAct.cancelCtx ∉ as → s.ctxDone = false →
      (runCount deadline s n as).1.ctxDone = false
  | [], _, _, _, h => h
  | a :: as, s, n, hn, h => by
    have ha : a ≠ .cancelCtx := fun h' => hn (by simp [h'])
    have hn' : SAct.cancelCtx ∉ as := fun h' => hn (by simp [h'])
    simp only [runCount]
    split
    · apply ctx_live_runCount as _ _ hn'
      cases a with
      | cancelCtx => exact absurd rfl ha
      | deliver i => simp only [step]; split <;> exact h
      | _ => exact h
    · exact ctx_live_runCount as _ _ hn' h

theorem listAll_eq_items {lists : List ListRes} {l : List Nat} (h : listAll lists = some l) :
    l = items lists := by
  induction lists generalizing l with
  | nil => simp [listAll] at h; simp [items, h]
  | cons x t ih =>
    cases x with
    | error => simp [listAll] at h
    | ok it =>
      simp only [listAll, Option.map_eq_some_iff] at h
      obtain ⟨l', hl', rfl⟩ := h
      simp [items, ih hl']

theorem getAll_eq_present {objs : List (Nat × GetRes)} {l : List Nat} (h : getAll objs = some l) :
    l = present objs := by
  induction objs generalizing l with
  | nil => simp [getAll] at h; simp [present, h]
  | cons x t ih =>
    obtain ⟨id, g⟩ := x
    cases g with
    | error => simp [getAll] at h
    | notFound =>
      simp only [getAll] at h
      simp [present] at *
      simpa [present] using ih h
    | found =>
      simp only [getAll, Option.map_eq_some_iff] at h
      obtain ⟨l', hl', rfl⟩ := h
      have := ih hl'
      simp [present] at *
      exact this

theorem listAll_none_iff (lists : List ListRes) : listAll lists = none ↔ ListRes.error ∈ lists := by
  induction lists with
  | nil => simp [listAll]
  | cons x t ih =>
    cases x with
    | error => simp [listAll]
    | ok it => simp [listAll, ih]

theorem getAll_none_iff (objs : List (Nat × GetRes)) :
    getAll objs = none ↔ ∃ id, (id, GetRes.error) ∈ objs := by
  induction objs with
  | nil => simp [getAll]
  | cons x t ih =>
    obtain ⟨id, g⟩ := x
    cases g with
    | error => simp [getAll]
    | notFound => simp [getAll, ih]
    | found => simp [getAll, ih]

theorem upsert_injective {a b : Nat} (h : upsert a = upsert b) : a = b := by
  have h' : 2 * a = 2 * b := h
  omega

theorem count_map_upsert (l : List Nat) (id : Nat) : (l.map upsert).count (upsert id) = l.count id := by
  induction l with
  | nil => rfl
  | cons x t ih =>
    by_cases hx : x = id
    · subst hx; simp [ih]
    · have : upsert x ≠ upsert id := fun h => hx (upsert_injective h)
      simp [ih, hx, this]

end NGF.Delivery
