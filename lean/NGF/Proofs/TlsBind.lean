/-
Helper lemmas for the C16 theorems (`NGF.Props.C16`) about `NGF.Model.TlsBind`: the id formats are injective for
admissible namespaces; key pairs come from valid listeners; when a certificate reference resolves (`resolveRef_ok_iff`);
the resolver cache returns the verdict of the Secret; which processed policy a Service gets; the proxy TLS settings of
a valid policy. Core Lean only.
-/
import NGF.Model.TlsBind
import NGF.Proofs.ListBasics

namespace NGF.Tls

/-- both id formats are `<prefix><namespace>_<name>` -/
theorem prefixed_id_inj (pre : List Char) {a b : Name × Name} (ha : '_' ∉ a.1) (hb : '_' ∉ b.1)
    (h : pre ++ a.1 ++ '_' :: a.2 = pre ++ b.1 ++ '_' :: b.2) : a = b := by
  rw [List.append_assoc, List.append_assoc] at h
  obtain ⟨h1, h2⟩ := append_sep_inj ha hb (List.append_cancel_left h)
  exact Prod.ext h1 h2

theorem keyPairId_inj {a b : Name × Name} (ha : '_' ∉ a.1) (hb : '_' ∉ b.1)
    (h : keyPairId a = keyPairId b) : a = b := prefixed_id_inj keyPairPrefix ha hb h

theorem certBundleId_inj {a b : Name × Name} (ha : '_' ∉ a.1) (hb : '_' ∉ b.1)
    (h : certBundleId a = certBundleId b) : a = b := prefixed_id_inj certBundlePrefix ha hb h

theorem certBundleId_ne_nil (s : Name × Name) : certBundleId s ≠ [] := by
  intro h
  have := congrArg List.length h
  simp [certBundleId] at this

theorem pemFileName_inj {a b : List Char} (h : pemFileName a = pemFileName b) : a = b := by
  unfold pemFileName at h
  have h' := List.append_cancel_left (List.append_cancel_right h)
  simpa using h'

theorem buildSSLKeyPairs_filter (secrets : List SecretObj) (ls : List Listener) :
    buildSSLKeyPairs secrets ls = buildSSLKeyPairs secrets (ls.filter Listener.valid) := by
  induction ls with
  | nil => rfl
  | cons l ls ih =>
    by_cases hv : l.valid
    · simp [List.filter, hv, buildSSLKeyPairs, ih]
    · simp [List.filter, hv, buildSSLKeyPairs, ih]

theorem mem_insertKP {m : List KeyPair} {k x : KeyPair} (h : x ∈ insertKP m k) : x = k ∨ x ∈ m := by
  unfold insertKP at h
  simp at h
  rcases h with h | h
  · exact Or.inl h
  · exact Or.inr h.1

theorem buildSSLKeyPairs_sound (secrets : List SecretObj) (ls : List Listener) (k : KeyPair)
    (h : k ∈ buildSSLKeyPairs secrets ls) :
    ∃ l ∈ ls, l.valid = true ∧ k.id = keyPairId l.secret ∧
      ∃ s, findSecret secrets l.secret.1 l.secret.2 = some s ∧ k.cert = s.cert ∧ k.key = s.key := by
  induction ls with
  | nil => simp [buildSSLKeyPairs] at h
  | cons l ls ih =>
    have rest := fun h => (ih h).imp fun _ h => And.intro (List.mem_cons_of_mem l h.1) h.2
    unfold buildSSLKeyPairs at h
    by_cases hv : l.valid
    · simp only [hv, if_true] at h
      cases hs : findSecret secrets l.secret.1 l.secret.2 with
      | none => simp only [hs] at h; exact rest h
      | some s =>
        simp only [hs] at h
        rcases mem_insertKP h with h | h
        · exact ⟨l, List.mem_cons_self, hv, by rw [h], s, hs, by rw [h], by rw [h]⟩
        · exact rest h
    · simp only [hv] at h
      exact rest (by simpa using h)

theorem resolveRef_congr {grants grants' : List Grant} {secrets : List SecretObj} {gwNs : Name} {r : CertRef}
    (h : secretRefAllowed grants gwNs r.ns r.name = secretRefAllowed grants' gwNs r.ns r.name) :
    resolveRef grants secrets gwNs r = resolveRef grants' secrets gwNs r := by
  unfold resolveRef; rw [h]

theorem resolveRef_ok_iff {grants : List Grant} {secrets : List SecretObj} {gwNs : Name} {r : CertRef} :
    resolveRef grants secrets gwNs r = .ok ↔
      r.nrefs ≠ 0 ∧ r.kindOK = true ∧ r.groupOK = true ∧
      (r.ns = gwNs ∨ secretRefAllowed grants gwNs r.ns r.name = true) ∧
      ∃ sec, findSecret secrets r.ns r.name = some sec ∧ sec.isTLS = true ∧ sec.pairOK = true := by
  constructor
  · intro h
    unfold resolveRef at h
    -- one `if` at a time: every branch but the last returns a verdict other than `.ok`
    by_cases h0 : r.nrefs = 0
    · rw [if_pos h0] at h; cases h
    by_cases h1 : (!r.kindOK || !r.groupOK) = true
    · rw [if_neg h0, if_pos h1] at h; cases h
    by_cases h2 : (decide (r.ns ≠ gwNs) && !secretRefAllowed grants gwNs r.ns r.name) = true
    · rw [if_neg h0, if_neg h1, if_pos h2] at h; cases h
    rw [if_neg h0, if_neg h1, if_neg h2] at h
    cases hs : findSecret secrets r.ns r.name with
    | none => rw [hs] at h; cases h
    | some sec =>
      rw [hs] at h
      dsimp only at h
      by_cases h3 : (!sec.isTLS) = true
      · rw [if_pos h3] at h; cases h
      by_cases h4 : (!sec.pairOK) = true
      · rw [if_neg h3, if_pos h4] at h; cases h
      have h1' : r.kindOK = true ∧ r.groupOK = true := by simpa using h1
      refine ⟨h0, h1'.1, h1'.2, ?_, sec, rfl, by simpa using h3, by simpa using h4⟩
      by_cases e : r.ns = gwNs
      · exact Or.inl e
      · right; simpa [e] using h2
  · rintro ⟨h0, hk, hg, hp, sec, hf, ht, hpo⟩
    have h2 : ¬ (decide (r.ns ≠ gwNs) && !secretRefAllowed grants gwNs r.ns r.name) = true := by
      rcases hp with e | e <;> simp [e]
    rw [resolveRef, if_neg h0, if_neg (by simp [hk, hg]), if_neg h2, hf]
    simp [ht, hpo]

theorem policiesDiffer_self (p : Option BTP) : policiesDiffer p p = false := by
  cases p <;> simp [policiesDiffer, configDiffer]

def CacheOK (secrets : List SecretObj) (cache : ResCache) : Prop :=
  ∀ k v, cache.lookup k = some v → v = secretVerdict secrets k

theorem resolveCached_spec {secrets : List SecretObj} {cache : ResCache} (h : CacheOK secrets cache) (k : Name × Name) :
    (resolveCached secrets cache k).1 = secretVerdict secrets k ∧ CacheOK secrets (resolveCached secrets cache k).2 := by
  unfold resolveCached
  cases hl : cache.lookup k with
  | some v => exact ⟨h k v hl, h⟩
  | none =>
    refine ⟨rfl, ?_⟩
    intro k' v' hk'
    simp only [List.lookup_cons] at hk'
    by_cases e : (k' == k) = true
    · simp only [e] at hk'
      have : k' = k := by simpa using e
      subst this
      cases hk'; rfl
    · have e' : (k' == k) = false := by simpa using e
      simp only [e'] at hk'
      exact h k' v' hk'

theorem resolveSeq_spec (secrets : List SecretObj) : ∀ (ks : List (Name × Name)) (cache : ResCache),
    CacheOK secrets cache → resolveSeq secrets cache ks = ks.map (secretVerdict secrets) := by
  intro ks
  induction ks with
  | nil => intro _ _; rfl
  | cons k ks ih =>
    intro cache h
    obtain ⟨h1, h2⟩ := resolveCached_spec h k
    simp only [resolveSeq, List.map_cons, h1, ih _ h2]

/-- one step of the selection loop of `findBackendTLSPolicyForService` -/
def findStep (refNs refName : Name) (acc : Option ProcBTP) (p : ProcBTP) : Option ProcBTP :=
  if targetsSvc p.pol refNs refName then
    match acc with
    | some cur => if btpLess p.pol cur.pol then some p else some cur
    | none => some p
  else acc

theorem findStep_spec (refNs refName : Name) (acc : Option ProcBTP) (p : ProcBTP) :
    (findStep refNs refName acc p = acc ∨
      (findStep refNs refName acc p = some p ∧ targetsSvc p.pol refNs refName = true)) ∧
    (acc.isSome = true ∨ targetsSvc p.pol refNs refName = true → (findStep refNs refName acc p).isSome = true) := by
  unfold findStep
  by_cases ht : targetsSvc p.pol refNs refName = true
  · rw [if_pos ht]
    cases acc with
    | none => exact ⟨.inr ⟨rfl, ht⟩, fun _ => rfl⟩
    | some cur =>
      by_cases hl : btpLess p.pol cur.pol = true
      · exact ⟨.inr ⟨if_pos hl, ht⟩, fun _ => by
          show (if btpLess p.pol cur.pol then some p else some cur).isSome = true
          rw [if_pos hl]; rfl⟩
      · exact ⟨.inl (if_neg hl), fun _ => by
          show (if btpLess p.pol cur.pol then some p else some cur).isSome = true
          rw [if_neg hl]; rfl⟩
  · rw [if_neg ht]
    exact ⟨.inl rfl, fun h => h.resolve_right ht⟩

theorem findStep_fold_isSome (refNs refName : Name) : ∀ (procs : List ProcBTP) (acc : Option ProcBTP),
    (acc.isSome = true ∨ ∃ p ∈ procs, targetsSvc p.pol refNs refName = true) →
    (procs.foldl (findStep refNs refName) acc).isSome = true := by
  intro procs
  induction procs with
  | nil =>
    intro acc h
    exact h.elim id fun ⟨_, hp, _⟩ => nomatch hp
  | cons q qs ih =>
    intro acc h
    refine ih _ ?_
    rcases h with h | ⟨p, hp, hpt⟩
    · exact .inl ((findStep_spec refNs refName acc q).2 (.inl h))
    · rcases List.mem_cons.mp hp with rfl | e
      · exact .inl ((findStep_spec refNs refName acc p).2 (.inr hpt))
      · exact .inr ⟨p, e, hpt⟩

theorem findStep_fold_mem (refNs refName : Name) : ∀ (procs : List ProcBTP) (acc : Option ProcBTP) (w : ProcBTP),
    procs.foldl (findStep refNs refName) acc = some w →
    acc = some w ∨ (w ∈ procs ∧ targetsSvc w.pol refNs refName = true) := by
  intro procs
  induction procs with
  | nil => intro acc w h; exact Or.inl h
  | cons q qs ih =>
    intro acc w h
    rcases ih _ w h with h1 | ⟨h1, h2⟩
    · rcases (findStep_spec refNs refName acc q).1 with e | ⟨e, ht⟩
      · exact .inl (e ▸ h1)
      · cases e.symm.trans h1
        exact .inr ⟨List.mem_cons_self, ht⟩
    · exact .inr ⟨List.mem_cons_of_mem _ h1, h2⟩

theorem findProc_isSome {procs : List ProcBTP} {refNs refName : Name} {p : ProcBTP} (hp : p ∈ procs)
    (ht : targetsSvc p.pol refNs refName = true) : (findProc procs refNs refName).isSome = true :=
  findStep_fold_isSome refNs refName procs none (Or.inr ⟨p, hp, ht⟩)

theorem findProc_mem {procs : List ProcBTP} {refNs refName : Name} {w : ProcBTP}
    (h : findProc procs refNs refName = some w) : w ∈ procs ∧ targetsSvc w.pol refNs refName = true :=
  (findStep_fold_mem refNs refName procs none w h).resolve_left fun e => nomatch e

theorem full_invalid (cms : List CMObj) (b : BTP) (h : b.full = true) : (validateBTP cms b).1 = false := by
  simp [validateBTP, h]

theorem convertBackendTLS_valid {cms : List CMObj} {p : BTP} (hv : p.valid cms = true) :
    convertBackendTLS cms (some p) =
      some (if p.caName cms ≠ [] then ⟨certBundleId (p.ns, p.caName cms), p.hostname, []⟩
            else ⟨[], p.hostname, systemCAPath⟩) := by
  simp only [convertBackendTLS, hv, Bool.not_true, Bool.false_eq_true, if_false]
  exact (apply_ite some _ _ _).symm

theorem trustedCert_bundle {id : List Char} (h : id ≠ []) (hn : Name) (rc : List Char) :
    trustedCert ⟨id, hn, rc⟩ = bundleFileName id := if_pos h

theorem trustedCert_root (hn : Name) (rc : List Char) : trustedCert ⟨[], hn, rc⟩ = rc := if_neg (not_not_intro rfl)

end NGF.Tls
