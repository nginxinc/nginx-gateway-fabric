/-
The NGINX selection functions of Model/NginxEval.lean, for C02: `bestWild` and `bestPrefix` as instances of one recursion
(`bestBy`: the longest admissible element), `selectName` branch by branch, `Njs.findWinning` as `find?`.
-/
import NGF.Model.NginxEval

namespace NGF.NginxEval

def bestBy {α} (ok : α → Bool) (len : α → Nat) : List α → Option α
  | [] => none
  | x :: xs =>
    match bestBy ok len xs with
    | none => if ok x then some x else none
    | some b => if ok x && len b ≤ len x then some x else some b

theorem bestBy_none {α} {ok : α → Bool} {len : α → Nat} : ∀ {l : List α}, bestBy ok len l = none → ∀ x ∈ l, ok x = false
  | [], _, x, hx => by cases hx
  | y :: ys, h, x, hx => by
    unfold bestBy at h
    cases hb : bestBy ok len ys with
    | none =>
      rw [hb] at h
      cases hy : ok y with
      | true => simp [hy] at h
      | false =>
        rcases List.mem_cons.mp hx with e | e
        · rw [e]; exact hy
        · exact bestBy_none hb x e
    | some b =>
      rw [hb] at h
      simp only at h
      split at h <;> cases h

theorem bestBy_some {α} {ok : α → Bool} {len : α → Nat} : ∀ {l : List α} {w : α}, bestBy ok len l = some w →
    w ∈ l ∧ ok w = true ∧ ∀ x ∈ l, ok x = true → len x ≤ len w
  | [], w, h => by cases h
  | y :: ys, w, h => by
    unfold bestBy at h
    cases hb : bestBy ok len ys with
    | none =>
      rw [hb] at h
      cases hy : ok y with
      | false => simp [hy] at h
      | true =>
        simp only [hy, ↓reduceIte, Option.some.injEq] at h
        subst h
        refine ⟨List.mem_cons_self, hy, fun x hx hxo => ?_⟩
        rcases List.mem_cons.mp hx with e | e
        · rw [e]; exact Nat.le_refl _
        · rw [bestBy_none hb x e] at hxo; cases hxo
    | some b =>
      rw [hb] at h
      obtain ⟨hbm, hbo, hbmax⟩ := bestBy_some hb
      by_cases hc : (ok y && decide (len b ≤ len y)) = true
      · simp only [hc, ↓reduceIte, Option.some.injEq] at h
        subst h
        simp only [Bool.and_eq_true, decide_eq_true_eq] at hc
        refine ⟨List.mem_cons_self, hc.1, fun x hx hxo => ?_⟩
        rcases List.mem_cons.mp hx with e | e
        · rw [e]; exact Nat.le_refl _
        · exact Nat.le_trans (hbmax x e hxo) hc.2
      · simp only [hc, Bool.false_eq_true, ↓reduceIte, Option.some.injEq] at h
        subst h
        refine ⟨List.mem_cons_of_mem _ hbm, hbo, fun x hx hxo => ?_⟩
        rcases List.mem_cons.mp hx with e | e
        · rw [e] at hxo
          simp only [hxo, Bool.true_and, decide_eq_true_eq] at hc
          rw [e]; omega
        · exact hbmax x e hxo

theorem bestWild_eq (host : Str) : ∀ names : List Str, bestWild host names = bestBy (wildCovers · host) List.length names
  | [] => rfl
  | n :: ns => by
    simp only [bestWild, bestBy, bestWild_eq host ns]
    cases bestBy (wildCovers · host) List.length ns <;> rfl

theorem bestPrefix_eq (p : Str) : ∀ locs : List Loc,
    bestPrefix p locs = bestBy (fun l => !l.exact && l.path.isPrefixOf p) (·.path.length) locs
  | [] => rfl
  | l :: ls => by
    simp only [bestPrefix, bestBy, bestPrefix_eq p ls]
    cases bestBy (fun l => !l.exact && l.path.isPrefixOf p) (·.path.length) ls <;> rfl

theorem bestWild_some {host : Str} {names : List Str} {w : Str} (h : bestWild host names = some w) :
    w ∈ names ∧ wildCovers w host = true ∧ ∀ n ∈ names, wildCovers n host = true → n.length ≤ w.length :=
  bestBy_some (bestWild_eq host names ▸ h)

theorem bestWild_none {host : Str} {names : List Str} (h : bestWild host names = none) :
    ∀ n ∈ names, wildCovers n host = false :=
  bestBy_none (bestWild_eq host names ▸ h)

theorem bestPrefix_none {p : Str} {locs : List Loc} (h : bestPrefix p locs = none) :
    ∀ l ∈ locs, (!l.exact && l.path.isPrefixOf p) = false :=
  bestBy_none (bestPrefix_eq p locs ▸ h)

theorem bestPrefix_some {p : Str} {locs : List Loc} {w : Loc} (h : bestPrefix p locs = some w) :
    w ∈ locs ∧ w.exact = false ∧ w.path <+: p ∧
      ∀ l ∈ locs, l.exact = false → l.path <+: p → l.path.length ≤ w.path.length := by
  obtain ⟨hm, hok, hmax⟩ := bestBy_some (bestPrefix_eq p locs ▸ h)
  simp only [Bool.and_eq_true, Bool.not_eq_true', List.isPrefixOf_iff_prefix] at hok hmax
  exact ⟨hm, hok.1, hok.2, fun l hl he hp => hmax l hl ⟨he, hp⟩⟩

theorem selectName_exact {names : List Str} {host : Str} (hc : isWildName host = false ∧ host ≠ catchAll)
    (hin : host ∈ names) : selectName names host = some host := by
  have h2 : (host != catchAll) = true := by simpa using hc.2
  simp only [selectName, List.contains_iff_mem.mpr hin, hc.1, h2, Bool.not_false, Bool.and_self, ↓reduceIte]

theorem selectName_of_not_mem {names : List Str} {host : Str} (hnot : host ∉ names) :
    selectName names host =
      match bestWild host names with
      | some w => some w
      | none => if names.contains catchAll then some catchAll else none := by
  have : names.contains host = false := by simpa using hnot
  simp only [selectName, this, Bool.false_and, Bool.false_eq_true, ↓reduceIte]
  cases bestWild host names <;> rfl

theorem selectName_mem {names : List Str} {host n : Str} (h : selectName names host = some n) : n ∈ names := by
  unfold selectName at h
  split at h
  · rename_i hcond
    simp only [Bool.and_eq_true, List.contains_iff_mem] at hcond
    exact Option.some.inj h ▸ hcond.1.1
  · split at h
    · rename_i w hb
      exact Option.some.inj h ▸ (bestWild_some hb).1
    · split at h
      · rename_i hca
        exact Option.some.inj h ▸ List.contains_iff_mem.mp hca
      · cases h

theorem wildCovers_iff {n host : Str} : wildCovers n host = true ↔ isWildName n = true ∧ n.drop 1 <:+ host := by
  simp only [wildCovers, Bool.and_eq_true, List.isSuffixOf_iff_suffix]

theorem isWildName_cons {w : Str} (h : isWildName w = true) : ∃ t, w = '*' :: '.' :: t := by
  match w, h with
  | [], h => simp [isWildName] at h
  | [_], h => simp [isWildName] at h
  | a :: b :: t, h =>
    simp only [isWildName, List.take_succ_cons, List.take_zero, beq_iff_eq, List.cons.injEq, and_true] at h
    exact ⟨t, by rw [h.1, h.2]⟩

theorem wildCovers_unique {w w' host : Str} (h : wildCovers w host = true) (h' : wildCovers w' host = true)
    (hl : w.length = w'.length) : w = w' := by
  simp only [wildCovers, Bool.and_eq_true] at h h'
  obtain ⟨t, rfl⟩ := isWildName_cons h.1
  obtain ⟨t', rfl⟩ := isWildName_cons h'.1
  have s1 : ('.' :: t) <:+ host := List.isSuffixOf_iff_suffix.mp h.2
  have s2 : ('.' :: t') <:+ host := List.isSuffixOf_iff_suffix.mp h'.2
  have hl' : ('.' :: t).length = ('.' :: t').length := by simp at hl ⊢; omega
  have := (List.suffix_of_suffix_length_le s1 s2 (Nat.le_of_eq hl')).eq_of_length hl'
  rw [this]

theorem isWildName_catchAll : isWildName catchAll = false := by decide

namespace Njs

theorem findWinning_eq_find (r : Req) : ∀ (ms : List Match), (∀ m ∈ ms, testMatch r m ≠ .throw) →
    findWinning r ms =
      match ms.find? (fun m => match testMatch r m with | .ok true => true | _ => false) with
      | some m => .found m
      | none => .notFound
  | [], _ => rfl
  | m :: ms, h => by
    have hm := h m List.mem_cons_self
    have ih := findWinning_eq_find r ms (fun x hx => h x (List.mem_cons_of_mem _ hx))
    unfold findWinning
    rw [List.find?_cons]
    cases ht : testMatch r m with
    | throw => exact absurd ht hm
    | ok b => cases b <;> simp [ih]

end Njs

end NGF.NginxEval
