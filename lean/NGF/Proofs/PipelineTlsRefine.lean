/-
C02 on HTTPS: helpers for `route_refines_spec_https` (Props/C02.lean). The theorem is obtained by PROJECTION: the SSL
servers of `genT s` are the servers of `gen (httpsPart s)` (plus the route-less listeners' 404 servers), so the HTTP
refinement theorem `refines_fragment`, applied to `httpPart s` and (in PipelineTlsCompose, with the redirect actions read
for the TLS port) to `httpsPartT s p`, does the routing part; what is added
here is the TLS front: valid listeners ↔ ports, SNI selection ↔ covering listener, the 421 check.
-/
import NGF.Model.PipelineTlsEval
import NGF.Proofs.PipelineTls
import NGF.Proofs.PipelineRefine
import NGF.Proofs.PipelineWinner

namespace NGF.PipelineTls
open NGF.Pipeline
open NGF.NginxEval (catchAll isWildName selectName)

theorem hostDNS_ne_catchAll {h : Str} (hd : hostDNS h = true) : h ≠ catchAll := by
  intro e
  subst e
  have : hostDNS catchAll = false := by decide
  rw [this] at hd; cases hd

theorem listenerHost_ne_catchAll {h : Str} (hd : h.isEmpty = true ∨ hostDNS h = true) : h ≠ catchAll := by
  rcases hd with he | hd
  · intro e; rw [e] at he; simp [catchAll] at he
  · exact hostDNS_ne_catchAll hd

/-- `inFragmentDNS` makes the hypothesis `namesPlain` of the HTTP refinement theorem redundant -/
theorem namesPlain_of_hostsDNS {s : Scenario} (h : hostsDNS s = true) : namesPlain s = true := by
  simp only [hostsDNS, Bool.and_eq_true, List.all_eq_true, Bool.or_eq_true] at h
  simp only [namesPlain, Bool.and_eq_true, List.all_eq_true, bne_iff_ne, ne_eq]
  refine ⟨fun r hr x hx => hostDNS_ne_catchAll (h.1 r hr x hx), ?_⟩
  cases hw : winner s with
  | none => trivial
  | some g =>
    simp only [List.all_eq_true, bne_iff_ne, ne_eq]
    intro l hl
    exact listenerHost_ne_catchAll (h.2 g (winner_mem hw) l hl)

/-! ### projections stay inside the fragment -/

theorem nodup_of_sublist {α} [BEq α] [LawfulBEq α] {l' l : List α} (hs : l'.Sublist l) (h : nodup l = true) :
    nodup l' = true := by
  have hp := (pairwise_of_nodup h).sublist hs
  show (l'.eraseDups.length == l'.length) = true
  rw [eraseDups_eq_self_of_pairwise hp]
  simp

theorem projGw_listeners_sublist (keep : GatewayT → ListenerT → Bool) (g : GatewayT) :
    (projGw keep g).listeners.Sublist (projGw (fun _ _ => true) g).listeners := by
  have : (g.listeners.filter fun _ => true) = g.listeners := List.filter_eq_self.mpr (fun _ _ => rfl)
  simp only [projGw]
  rw [this]
  exact List.Sublist.map _ List.filter_sublist

theorem gatewayOK_proj (keep : GatewayT → ListenerT → Bool) (g : GatewayT)
    (h : gatewayOK (projGw (fun _ _ => true) g) = true) : gatewayOK (projGw keep g) = true := by
  have hs := projGw_listeners_sublist keep g
  simp only [gatewayOK, Bool.and_eq_true, List.all_eq_true] at h ⊢
  refine ⟨⟨nodup_of_sublist (hs.map _) h.1.1, nodup_of_sublist (hs.map _) h.1.2⟩, ?_⟩
  intro l hl
  exact h.2 l (hs.subset hl)

theorem inFragment_proj (keep : GatewayT → ListenerT → Bool) {s : ScenarioT} (h : inFragment (allPart s) = true) :
    inFragment (proj keep s) = true := by
  unfold inFragment at h ⊢
  have hr : (proj keep s).routes = (allPart s).routes := rfl
  have hwa : winner (allPart s) = (winnerT s).map (projGw fun _ _ => true) := winner_proj _ s
  rw [hr, winner_proj]
  rw [hwa] at h
  cases hw : winnerT s with
  | none => rw [hw] at h; exact h
  | some g =>
    rw [hw] at h
    simp only [Option.map_some, Bool.and_eq_true] at h ⊢
    exact ⟨h.1, gatewayOK_proj keep g h.2⟩

theorem hostsDNS_proj (keep : GatewayT → ListenerT → Bool) {s : ScenarioT} (h : hostsDNS (allPart s) = true) :
    hostsDNS (proj keep s) = true := by
  simp only [hostsDNS, Bool.and_eq_true, List.all_eq_true, Bool.or_eq_true] at h ⊢
  refine ⟨h.1, ?_⟩
  intro g hg l hl
  simp only [proj, List.mem_map] at hg
  obtain ⟨gT, hgT, rfl⟩ := hg
  exact h.2 (projGw (fun _ _ => true) gT) (by simp only [allPart, proj, List.mem_map]; exact ⟨gT, hgT, rfl⟩) l
    ((projGw_listeners_sublist keep gT).subset hl)

/-! ### the specification's valid listeners are the generator's -/

theorem specGroupConflict_eq (g : GatewayT) (l : ListenerT) : specGroupConflict g l = conflicted g l := rfl

theorem specValid_https {s : ScenarioT} {g : GatewayT} {l : ListenerT} (hl : l.https = true) :
    specValid s g l = validHttps s g l := by
  cases hv : validHttps s g l with
  | true =>
    obtain ⟨c, hc, _⟩ := valid_cert hv
    obtain ⟨_, h2, h3⟩ := validHttps_iff.mp hv
    simp [specValid, specFieldsOK, hc, specGroupConflict_eq, h2, specSecretOK, hl]
    exact h3
  | false =>
    cases hc : l.cert with
    | none => simp [specValid, specFieldsOK, hl, hc]
    | some c =>
      simp only [validHttps, hl, Bool.true_and, Bool.and_eq_false_iff, Bool.not_eq_false',
        decide_eq_false_iff_not] at hv
      simp only [specValid, specFieldsOK, hl, Bool.not_true, hc, Option.isSome_some, Bool.or_true, Bool.true_and,
        Bool.false_or, specGroupConflict_eq, specSecretOK, Bool.and_eq_false_iff, Bool.not_eq_false',
        decide_eq_false_iff_not]
      exact hv

theorem specValid_http {s : ScenarioT} {g : GatewayT} {l : ListenerT} (hl : l.https = false) :
    specValid s g l = validHttp g l := by
  simp [specValid, specFieldsOK, hl, specGroupConflict_eq, validHttp]

theorem specScenario_eq (b : Bool) (s : ScenarioT) :
    specScenario b s = proj (fun g l => if b then validHttps s g l else validHttp g l) s := by
  unfold specScenario proj
  congr 1
  apply List.map_congr_left
  intro g _
  unfold projGw
  congr 2
  apply List.filter_congr
  intro l _
  cases b <;> cases hl : l.https <;>
    simp [specValid_https, specValid_http, validHttps, validHttp, hl]

theorem specScenario_true (s : ScenarioT) : specScenario true s = httpsPart s := specScenario_eq true s

theorem specScenario_false (s : ScenarioT) : specScenario false s = httpPart s := specScenario_eq false s

theorem no_mixed_port {s : ScenarioT} {g : GatewayT} {a b : ListenerT} (hb : b ∈ g.listeners)
    (ha' : validHttp g a = true) (hb' : validHttps s g b = true) : a.base.port ≠ b.base.port := by
  intro e
  obtain ⟨c, hc, _⟩ := valid_cert hb'
  obtain ⟨hbs, _, _⟩ := validHttps_iff.mp hb'
  simp only [validHttp, Bool.and_eq_true, Bool.not_eq_true'] at ha'
  have : conflicted g a = true := by
    simp only [conflicted, List.any_eq_true]
    refine ⟨b, hb, ?_⟩
    simp [ListenerT.fieldsOK, hc, e, hbs, ha'.1]
  rw [this] at ha'; cases ha'.2

theorem http_port_contains {s : ScenarioT} {gT : GatewayT} (hw : winnerT s = some gT) (p : Nat) :
    (genT s).http.ports.contains p = gT.listeners.any fun l => validHttp gT l && l.base.port == p := by
  rw [genT_http, gen_httpPart hw]
  simp only
  rw [ports_contains]
  simp only [projGw, List.any_map, List.any_filter, Function.comp]

theorem ssl_port_contains {s : ScenarioT} {gT : GatewayT} (hw : winnerT s = some gT) (p : Nat) :
    (genT s).sslPorts.contains p = gT.listeners.any fun l => validHttps s gT l && l.base.port == p := by
  cases h : gT.listeners.any fun l => validHttps s gT l && l.base.port == p with
  | true =>
    obtain ⟨l, hl, hc⟩ := List.any_eq_true.mp h
    simp only [Bool.and_eq_true, beq_iff_eq] at hc
    exact List.contains_iff_mem.mpr ((ssl_port_iff hw p).mpr ⟨l, hl, hc.1, hc.2⟩)
  | false =>
    rw [Bool.eq_false_iff]
    intro hc
    obtain ⟨l, hl, hv, hp⟩ := (ssl_port_iff hw p).mp (List.contains_iff_mem.mp hc)
    have := List.any_eq_false.mp h l hl
    simp [hv, hp] at this

theorem selectName_some_of_cover {names : List Str} {q m : Str} (hq : isWildName q = false ∧ q ≠ catchAll)
    (hm : m ∈ names) (hc : nameCovers m q = true) : ∃ n, selectName names q = some n := by
  cases h : selectName names q with
  | some n => exact ⟨n, rfl⟩
  | none => rw [selectName_none hq h m hm] at hc; cases hc

theorem selectName_sub {N G : List Str} {q n : Str} (hq : isWildName q = false ∧ q ≠ catchAll)
    (hsub : ∀ m ∈ G, m ∈ N) (hn : selectName N q = some n) (hG : n ∈ G) :
    selectName G q = some n := by
  obtain ⟨_, hcov, hmax⟩ := selectName_most_specific hq hn
  obtain ⟨m, hm⟩ := selectName_some_of_cover hq hG hcov
  obtain ⟨hmG, hmcov, hmmax⟩ := selectName_most_specific hq hm
  have h1 := hmax m (hsub m hmG) hmcov
  have h2 := hmmax n hG hcov
  rw [hm, nameSpec_inj hq hmcov hcov (by omega)]

theorem serverEval_eq : serverEval = locEval := rfl

/-- a server without entries (the 404 server of a route-less listener) answers 404 -/
theorem serverEval_empty (p : Nat) (n : Str) {q : Req} (hq : q.path.head? = some '/') :
    serverEval (serverOf [] p n) q = .status 404 := by
  unfold serverEval
  rw [serverOf_nil_locs]
  cases hp : q.path with
  | nil => rw [hp] at hq; simp at hq
  | cons c cs =>
    rw [hp] at hq
    simp only [List.head?_cons, Option.some.injEq] at hq
    subst hq
    cases cs with
    | nil => simp [NGF.NginxEval.selectLoc, toLoc, evalLocAct, evalAct]
    | cons d ds =>
      simp [NGF.NginxEval.selectLoc, NGF.NginxEval.bestPrefix, toLoc, evalLocAct, evalAct]

/-- the routed servers of port `p`: names of `gen (httpsPart s)` -/
def routedNames (s : ScenarioT) (p : Nat) : List Str :=
  ((gen (httpsPart s)).servers.filter (·.port == p)).map (·.name)

theorem routedNames_eq {s : ScenarioT} {gT : GatewayT} (hw : winnerT s = some gT) (p : Nat) :
    routedNames s p = ((hostsOf (projGw (validHttps s) gT) s.routes).filter (·.1 == p)).map (·.2) := by
  unfold routedNames
  rw [gen_httpsPart hw]
  simp only [List.filter_map, List.map_map]
  rfl

theorem mem_routedNames {s : ScenarioT} {gT : GatewayT} (hw : winnerT s = some gT) {p : Nat} {n : Str} :
    n ∈ routedNames s p ↔ (p, n) ∈ hostsOf (projGw (validHttps s) gT) s.routes := by
  rw [routedNames_eq hw]; exact mem_filter_fst_map_snd

theorem sslServers_split {s : ScenarioT} {gT : GatewayT} (hw : winnerT s = some gT) (p : Nat) :
    sslServers (genT s) p =
      (((gen (httpsPart s)).servers.map fun sv =>
          (sv, (ownerOf (projGw (validHttps s) gT) s.routes
                  ((sslListeners s gT).filter (·.base.port == sv.port)) sv.name).bind kpOf)).filter (·.1.port == p)) ++
      ((listenerOnly (projGw (validHttps s) gT) s.routes (sslListeners s gT)).filter (·.1.port == p)) := by
  unfold sslServers
  rw [genT_some hw, List.filter_append]

theorem routed_sub_ssl {s : ScenarioT} {gT : GatewayT} (hw : winnerT s = some gT) (p : Nat) :
    ∀ m ∈ routedNames s p, m ∈ sslNames (genT s) p := by
  intro m hm
  unfold sslNames
  rw [sslServers_split hw]
  simp only [routedNames, List.mem_map, List.mem_filter] at hm
  obtain ⟨sv, ⟨hsv, hp⟩, rfl⟩ := hm
  simp only [List.map_append, List.mem_append, List.mem_map, List.mem_filter]
  left
  exact ⟨(sv, _), ⟨⟨sv, hsv, rfl⟩, hp⟩, rfl⟩

theorem find_routed_part {s : ScenarioT} {gT : GatewayT} (hw : winnerT s = some gT) (p : Nat) (n : Str) :
    (((gen (httpsPart s)).servers.map fun sv =>
        (sv, (ownerOf (projGw (validHttps s) gT) s.routes
                ((sslListeners s gT).filter (·.base.port == sv.port)) sv.name).bind kpOf)).filter (·.1.port == p)).find?
      (·.1.name == n) =
    if (p, n) ∈ hostsOf (projGw (validHttps s) gT) s.routes then
      some (serverOf (entries (projGw (validHttps s) gT) s.routes) p n,
        (ownerOf (projGw (validHttps s) gT) s.routes ((sslListeners s gT).filter (·.base.port == p)) n).bind kpOf)
    else none := by
  rw [gen_httpsPart hw]
  simp only [List.map_map]
  exact find?_serverOf_with
    (fun sv => (sv, (ownerOf (projGw (validHttps s) gT) s.routes
      ((sslListeners s gT).filter (·.base.port == sv.port)) sv.name).bind kpOf))
    Prod.fst (fun _ => rfl) _ _ p n

theorem find_routed {s : ScenarioT} {gT : GatewayT} (hw : winnerT s = some gT) {p : Nat} {n : Str}
    (hn : n ∈ routedNames s p) :
    ∃ kp, (sslServers (genT s) p).find? (·.1.name == n) =
      some (serverOf (entries (projGw (validHttps s) gT) s.routes) p n, kp) := by
  rw [sslServers_split hw, List.find?_append, find_routed_part hw, if_pos ((mem_routedNames hw).mp hn)]
  exact ⟨_, rfl⟩

theorem find_unrouted {s : ScenarioT} {gT : GatewayT} (hw : winnerT s = some gT) {p : Nat} {n : Str}
    (hn : n ∉ routedNames s p) {sv : CServer × Option (List Char)}
    (hf : (sslServers (genT s) p).find? (·.1.name == n) = some sv) :
    ∃ p' n', sv.1 = serverOf [] p' n' := by
  rw [sslServers_split hw, List.find?_append, find_routed_part hw,
    if_neg (fun h => hn ((mem_routedNames hw).mpr h)), Option.none_or] at hf
  have hm := List.mem_of_find?_eq_some hf
  simp only [List.mem_filter, listenerOnly, List.mem_map] at hm
  obtain ⟨⟨l, _, rfl⟩, _⟩ := hm
  exact ⟨_, _, rfl⟩

theorem ssl_has_cert {s : ScenarioT} {gT : GatewayT} (hw : winnerT s = some gT) {p : Nat}
    {sv : CServer × Option (List Char)} (h : sv ∈ sslServers (genT s) p) : sv.2.isSome = true := by
  have hm : (sv.1, sv.2) ∈ (genT s).ssl := (List.mem_filter.mp h).1
  rcases mem_ssl hw hm with ⟨hsv, hkp⟩ | ⟨l, hl, _, _, hkp⟩
  · rw [gen_httpsPart hw] at hsv
    simp only [List.mem_map] at hsv
    obtain ⟨ph, hph, e⟩ := hsv
    obtain ⟨l0, hl0, hp0, r, hr, hv, hacc⟩ := mem_hostsOf hph
    obtain ⟨lT, hlT, hval, rfl⟩ := mem_projGw_listeners hl0
    have hcar : carries (projGw (validHttps s) gT) s.routes ph.2 lT = true := by
      rw [carries_iff]
      exact ⟨r, hr, hv, hacc⟩
    have hin : lT ∈ (sslListeners s gT).filter (·.base.port == sv.1.port) := by
      rw [← e]
      simp only [List.mem_filter, mem_sslListeners, serverOf, beq_iff_eq]
      exact ⟨⟨hlT, hval⟩, hp0⟩
    have hsome := ownerOf_isSome (g := projGw (validHttps s) gT) (routes := s.routes) (h := sv.1.name) hin
      (by rw [← e]; exact hcar)
    obtain ⟨w, hw'⟩ := Option.isSome_iff_exists.mp hsome
    have hws := ownerOf_spec hw'
    rw [hkp, hw']
    simp only [Option.bind_some]
    have hwv : w ∈ sslListeners s gT := (List.mem_filter.mp hws.1).1
    obtain ⟨c, hc, _⟩ := valid_cert (mem_sslListeners.mp hwv).2
    simp [kpOf, hc]
  · obtain ⟨c, hc, _⟩ := valid_cert (mem_sslListeners.mp hl).2
    rw [hkp]; simp [kpOf, hc]

theorem ssl_name_listener {s : ScenarioT} {gT : GatewayT} (hw : winnerT s = some gT)
    (ok : ScenOK (projGw (validHttps s) gT) s.routes) (hlc : ∀ l ∈ gT.listeners, l.base.host ≠ catchAll)
    {p : Nat} {n q : Str}
    (hq : NGF.Hostname.isWild q = false) (hn : n ∈ sslNames (genT s) p) (hc : nameCovers n q = true) :
    ∃ l ∈ gT.listeners, validHttps s gT l = true ∧ l.base.port = p ∧ covers l.base.host q = true := by
  simp only [sslNames, List.mem_map] at hn
  obtain ⟨sv, hsv, rfl⟩ := hn
  have hp : sv.1.port = p := by simpa using (List.mem_filter.mp hsv).2
  have hm : (sv.1, sv.2) ∈ (genT s).ssl := (List.mem_filter.mp hsv).1
  rcases mem_ssl hw hm with ⟨hsv', _⟩ | ⟨l, hl, _, he, _⟩
  · rw [gen_httpsPart hw] at hsv'
    simp only [List.mem_map] at hsv'
    obtain ⟨ph, hph, e⟩ := hsv'
    obtain ⟨c, hx⟩ := xe_of_host ok (p := ph.1) (h := ph.2) hph
    obtain ⟨l0, hl0, r, hr, _, _, _, hh, hhh, _, _, _, _, hxe⟩ := mem_xentries.mp hx
    obtain ⟨lT, hlT, hval, rfl⟩ := mem_projGw_listeners hl0
    have hcv := (acceptedX_covers (ok.hosts lT.base hl0 r hr) hq hhh).1
    have hname : sv.1.name = hh.1 := by
      rw [← e]; exact congrArg XE.host hxe
    have hport : lT.base.port = sv.1.port := by
      rw [← e]; exact (congrArg XE.port hxe).symm
    rw [hname, hcv, Bool.and_eq_true] at hc
    exact ⟨lT, hlT, hval, hport.trans hp, hc.1⟩
  · have hl' := mem_sslListeners.mp hl
    refine ⟨l, hl'.1, hl'.2, ?_, ?_⟩
    · rw [← hp, he]; rfl
    · rw [he] at hc
      simp only [serverOf_name] at hc
      unfold serverName at hc
      by_cases hemp : l.base.host.isEmpty = true
      · have : l.base.host = [] := by simpa using hemp
        simp [covers, this]
      · simp only [hemp, Bool.false_eq_true, ↓reduceIte] at hc
        have hne : l.base.host ≠ [] := by intro e; simp [e] at hemp
        have hcat : l.base.host ≠ catchAll := hlc l hl'.1
        rw [nameCovers_eq hne hcat] at hc
        exact hc

structure TOK (s : ScenarioT) : Prop where
  frag : inFragment (allPart s) = true
  dns : hostsDNS (allPart s) = true
  rules : routesHaveRules (allPart s) = true
  shHttp : noShadow (gen (httpPart s)) = true
  shHttps : noShadow (gen (httpsPart s)) = true

theorem refineOKT_unpack {s : ScenarioT} (h : refineOKT s = true) : TOK s := by
  simp only [refineOKT, inFragmentT, Bool.and_eq_true] at h
  exact ⟨h.1.1.1.1.1, h.1.1.1.2, h.1.1.2, h.1.2, h.2⟩

theorem proj_routes (keep : GatewayT → ListenerT → Bool) (s : ScenarioT) : (proj keep s).routes = s.routes := rfl

/-- stated through `proj_routes`: left to unify the two projections, Lean compares their Gateways first -/
theorem rules_proj (keep : GatewayT → ListenerT → Bool) {s : ScenarioT} (tok : TOK s) :
    routesHaveRules (proj keep s) = true := by
  have h : routesHaveRules (proj keep s) = routesHaveRules (allPart s) := by
    unfold routesHaveRules; rw [proj_routes, allPart, proj_routes]
  exact h.trans tok.rules

theorem refines_part (keep : GatewayT → ListenerT → Bool) {s : ScenarioT} (tok : TOK s)
    (hsh : noShadow (gen (proj keep s)) = true) {q : Req} (hq : reqOK q = true) :
    nginxEvalConf (gen (proj keep s)) q = routeF (proj keep s) q :=
  refines_fragment (proj keep s) q (inFragment_proj keep tok.frag) hsh
    (namesPlain_of_hostsDNS (hostsDNS_proj keep tok.dns)) (rules_proj keep tok) hq

theorem scenOK_https {s : ScenarioT} {gT : GatewayT} (hw : winnerT s = some gT) (tok : TOK s) :
    ScenOK (projGw (validHttps s) gT) s.routes := by
  have hwp : winner (httpsPart s) = some (projGw (validHttps s) gT) := by
    unfold httpsPart; rw [winner_proj, hw]; rfl
  exact scenOK_of hwp (inFragment_proj _ tok.frag) (namesPlain_of_hostsDNS (hostsDNS_proj _ tok.dns)) (rules_proj _ tok)

theorem listeners_not_catchAll {s : ScenarioT} {gT : GatewayT} (hw : winnerT s = some gT) (tok : TOK s) :
    ∀ l ∈ gT.listeners, l.base.host ≠ catchAll := by
  intro l hl
  have hd := tok.dns
  simp only [hostsDNS, Bool.and_eq_true, List.all_eq_true, Bool.or_eq_true] at hd
  have hg : projGw (fun _ _ => true) gT ∈ (allPart s).gateways := by
    simp only [allPart, proj, List.mem_map]
    exact ⟨gT, winnerT_mem hw, rfl⟩
  have hlm : l.base ∈ (projGw (fun _ _ => true) gT).listeners := by
    simp only [projGw, List.mem_map, List.mem_filter]
    exact ⟨l, ⟨hl, trivial⟩, rfl⟩
  exact listenerHost_ne_catchAll (hd.2 _ hg _ hlm)

theorem valid_any_https (s : ScenarioT) (gT : GatewayT) (p : Nat) :
    (gT.listeners.filter fun l => specValid s gT l && l.base.port == p).any (·.https) =
      gT.listeners.any fun l => validHttps s gT l && l.base.port == p := by
  rw [List.any_filter]
  congr 1
  funext l
  cases hl : l.https with
  | true => simp [specValid_https hl, Bool.and_comm]
  | false => simp [validHttps, hl]

theorem valid_isEmpty (s : ScenarioT) (gT : GatewayT) (p : Nat) :
    (gT.listeners.filter fun l => specValid s gT l && l.base.port == p).isEmpty =
      !((gT.listeners.any fun l => validHttps s gT l && l.base.port == p) ||
        (gT.listeners.any fun l => validHttp gT l && l.base.port == p)) := by
  have key : ∀ l : ListenerT, (specValid s gT l && l.base.port == p) =
      ((validHttps s gT l && l.base.port == p) || (validHttp gT l && l.base.port == p)) := by
    intro l
    cases hl : l.https with
    | true => simp [specValid_https hl, validHttp, hl]
    | false => simp [specValid_http hl, validHttps, hl]
  induction gT.listeners with
  | nil => simp
  | cons x xs ih =>
    simp only [List.filter_cons, List.any_cons]
    rw [key x]
    cases (validHttps s gT x && x.base.port == p) <;> cases (validHttp gT x && x.base.port == p) <;> simp [ih]

theorem valid_any_covers {s : ScenarioT} {gT : GatewayT} {p : Nat}
    (hB : (gT.listeners.any fun l => validHttp gT l && l.base.port == p) = false) (x : Str) :
    (gT.listeners.filter fun l => specValid s gT l && l.base.port == p).any (fun l => covers l.base.host x) =
      gT.listeners.any fun l => validHttps s gT l && l.base.port == p && covers l.base.host x := by
  rw [List.any_filter, Bool.eq_iff_iff, List.any_eq_true, List.any_eq_true]
  constructor
  · rintro ⟨l, hl, hc⟩
    refine ⟨l, hl, ?_⟩
    simp only [Bool.and_eq_true] at hc ⊢
    cases hh : l.https with
    | true => rw [specValid_https hh] at hc; exact hc
    | false =>
      exfalso
      rw [specValid_http hh] at hc
      have := List.any_eq_false.mp hB l hl
      simp [hc.1.1, hc.1.2] at this
  · rintro ⟨l, hl, hc⟩
    refine ⟨l, hl, ?_⟩
    simp only [Bool.and_eq_true] at hc ⊢
    have hh : l.https = true := (validHttps_iff.mp hc.1.1).1
    rw [specValid_https hh]; exact hc

end NGF.PipelineTls
