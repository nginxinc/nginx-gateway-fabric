/-
Helpers for Props/C06Certs (task C06-certs): what `Tls.secretRefAllowed` answers on the projected grants is the
declarative spec `RefGrant.Permitted` on the grants themselves (`secretRefAllowed_conv_iff`; the equation with the C06
resolver is `Props/C06Certs.secretRefAllowed_conv`), and `genT` depends on the grants only through listener validity.
-/
import NGF.Model.PipelineTlsRefs
import NGF.Proofs.PipelineTls
import NGF.Proofs.RefGrant

namespace NGF.PipelineTlsRefs
open NGF.Pipeline NGF.PipelineTls

theorem toList_eq_iff {s : String} {l : List Char} : s.toList = l ↔ s = String.ofList l := by
  constructor
  · intro h; rw [← h, String.ofList_toList]
  · intro h; rw [h, String.toList_ofList]

theorem convFrom_names (f : RefGrant.GrantFrom) (gwNs : Str) :
    (convFrom f).group = Tls.gatewayGroup ∧ (convFrom f).kind = Tls.kGateway ∧ (convFrom f).ns = gwNs ↔
      RefGrant.fromNames f (RefGrant.fromGateway (String.ofList gwNs)) :=
  and_congr String.toList_inj (and_congr String.toList_inj toList_eq_iff)

/-- a projected `to` entry covers Secret `sName` iff the entry itself does: group "" or "core", kind Secret, and no
name (nil or "", both projected to `[]`) or that name -/
theorem convTo_covers (t : RefGrant.GrantTo) (sName : Str) :
    ((convTo t).group = [] ∨ (convTo t).group = Tls.kCore) ∧ (convTo t).kind = Tls.kSecret ∧
        ((convTo t).name = sName ∨ (convTo t).name = []) ↔
      RefGrant.toCovers t "Secret" (String.ofList sName) := by
  refine (and_congr (or_congr toList_eq_iff String.toList_inj) (and_congr String.toList_inj ?_))
  show (RefGrant.toName t).toList = sName ∨ (RefGrant.toName t).toList = [] ↔ _
  rw [toList_eq_iff, toList_eq_iff, RefGrant.toName_eq, RefGrant.toName_eq]
  constructor
  · rintro ((⟨h, _⟩ | h) | (⟨h, _⟩ | h))
    · exact .inl h
    · exact .inr (.inr h)
    · exact .inl h
    · exact .inr (.inl h)
  · rintro (h | h | h)
    · exact .inr (.inl ⟨h, rfl⟩)
    · exact .inr (.inr h)
    · exact .inl (.inr h)

/-- what `PipelineTls` asks of the projected grants is the declarative spec over the C06 grants -/
theorem secretRefAllowed_conv_iff (gs : List RefGrant.Grant) (gwNs sNs sName : Str) :
    Tls.secretRefAllowed (gs.map convGrant) gwNs sNs sName = true ↔
      RefGrant.Permitted gs "Secret" (String.ofList sNs) (String.ofList sName) (RefGrant.fromGateway (String.ofList gwNs)) := by
  unfold Tls.secretRefAllowed RefGrant.Permitted
  simp only [List.any_map, List.any_eq_true, Function.comp, convGrant, Bool.and_eq_true, Bool.or_eq_true,
    decide_eq_true_eq, convFrom_names, convTo_covers, toList_eq_iff, and_assoc]
theorem genT_http' (s : ScenarioT) : (genT s).http = gen (httpPart s) := genT_http s

theorem genT_congr_grants (s : ScenarioT) (gs' : List Tls.Grant)
    (h : ∀ g l, validHttps { s with grants := gs' } g l = validHttps s g l) :
    genT { s with grants := gs' } = genT s := by
  have hf : validHttps { s with grants := gs' } = validHttps s := by funext g l; exact h g l
  unfold genT httpsPart sslListeners
  simp only [hf]
  rfl

end NGF.PipelineTlsRefs
