/-
C02 on HTTPS: `$scheme`. Rewriting the ACTIONS of the routes (`tlsRoutes`: empty redirect scheme ↦ `https`, empty port ↦
listener port) commutes with the generator up to evaluation: the server generated from the rewritten routes answers a
request exactly like the server generated from the original routes with `$scheme` read as `https` (`scheme_server_eval`);
nothing else of the generated configuration depends on the actions (`hostsOf_mapRoutes`, `locs_shadow_mapRoutes`).
-/
import NGF.Model.PipelineTlsEval
import NGF.Proofs.PipelineRefine

namespace NGF.PipelineTls
open NGF.Pipeline

def mapRoute (f : Action → Action) (r : Route) : Route :=
  { r with rules := r.rules.map fun rule => { rule with action := f rule.action } }

def mapRoutes (f : Action → Action) (routes : List Route) : List Route := routes.map (mapRoute f)

def mapEntry (f : Action → Action) (e : Entry) : Entry := { e with action := f e.action }

theorem tlsRoutes_eq (lp : Nat) (routes : List Route) : tlsRoutes lp routes = mapRoutes (tlsAction lp) routes := rfl

theorem routeEntries_mapRoute (f : Action → Action) (port : Nat) (hosts : List Str) (r : Route) :
    routeEntries port hosts (mapRoute f r) = (routeEntries port hosts r).map (mapEntry f) := by
  unfold routeEntries mapRoute
  simp only [List.flatMap_map, List.map_flatMap, List.map_map]
  rfl

theorem entries_mapRoutes (f : Action → Action) (g : Gateway) (routes : List Route) :
    entries g (mapRoutes f routes) = (entries g routes).map (mapEntry f) := by
  unfold entries mapRoutes
  rw [List.map_flatMap]
  apply flatMap_congr_mem
  intro l _
  rw [List.flatMap_map, List.map_flatMap]
  apply flatMap_congr_mem
  intro r _
  have hacc : acceptedAt g l (mapRoute f r) = acceptedAt g l r := rfl
  have hv : (mapRoute f r).valid = r.valid := rfl
  rw [hacc, hv]
  by_cases h : r.valid = true
  · simp only [h, ↓reduceIte, routeEntries_mapRoute]
  · simp [h]

theorem hostsOf_mapRoutes (f : Action → Action) (g : Gateway) (routes : List Route) :
    hostsOf g (mapRoutes f routes) = hostsOf g routes := by
  unfold hostsOf mapRoutes
  congr 1
  apply flatMap_congr_mem
  intro l _
  rw [List.flatMap_map]
  rfl

/-! ### the scenario-level conditions do not look at actions -/

theorem inFragment_mapRoutes (f : Action → Action) (s : Scenario) :
    inFragment { s with routes := mapRoutes f s.routes } = inFragment s := by
  unfold inFragment
  have h1 : (mapRoutes f s.routes).map (fun r => (r.ns, r.name)) = s.routes.map fun r => (r.ns, r.name) := by
    simp only [mapRoutes, List.map_map]; rfl
  have h2 : (mapRoutes f s.routes).all routeOK = s.routes.all routeOK := by
    simp only [mapRoutes, List.all_map]
    congr 1
    funext r
    simp only [Function.comp, routeOK, mapRoute, List.all_map]
    rfl
  have h3 : winner { s with routes := mapRoutes f s.routes } = winner s := rfl
  simp only [h1, h2, h3]

theorem namesPlain_mapRoutes (f : Action → Action) (s : Scenario) :
    namesPlain { s with routes := mapRoutes f s.routes } = namesPlain s := by
  unfold namesPlain
  simp only [mapRoutes, List.all_map]
  rfl

theorem routesHaveRules_mapRoutes (f : Action → Action) (s : Scenario) :
    routesHaveRules { s with routes := mapRoutes f s.routes } = routesHaveRules s := by
  unfold routesHaveRules
  simp only [mapRoutes, List.all_map]
  congr 1
  funext r
  simp only [Function.comp, mapRoute, List.any_map]
  rfl

theorem ruleAct_mapEntry (f : Action → Action) (port : Nat) (mrs : List Entry) :
    ruleAct port (mrs.map (mapEntry f)) = ruleActG (fun e => actOf port (f e.action)) mrs := by
  match mrs with
  | [] => rfl
  | [e] => simp only [List.map_cons, List.map_nil, ruleAct, ruleActG, mapEntry]
  | e1 :: e2 :: es => simp only [List.map_cons, ruleAct, ruleActG, List.map_map]; rfl

/-- `actOfKey` with the action of an entry given by `h` -/
def actG (h : Entry → Act) (es : List Entry) (port : Nat) (n : Str) (k : Bool × Str) : LocAct :=
  ruleActG h (sortEntries ((mineOf es port n).filter fun e => pathKey e == k))

theorem serverOf_locsG (es : List Entry) (port : Nat) (n : Str) :
    (serverOf es port n).locs = locsOfKeys (keysOf es port n) (actG (fun e => actOf port e.action) es port n) :=
  congrArg (locsOfKeys _) (funext fun _ => ruleAct_eq port _)

theorem sortEntries_map (f : Action → Action) (l : List Entry) :
    sortEntries (l.map (mapEntry f)) = (sortEntries l).map (mapEntry f) := by
  unfold sortEntries
  exact (List.map_mergeSort (f := mapEntry f) (r := fun a b => Precedence.le a.key b.key)
    (s := fun a b => Precedence.le a.key b.key) (l := l) (fun a _ b _ => rfl)).symm

theorem serverOf_mapEntry_locs (f : Action → Action) (es : List Entry) (port : Nat) (n : Str) :
    (serverOf (es.map (mapEntry f)) port n).locs =
      locsOfKeys (keysOf es port n) (actG (fun e => actOf port (f e.action)) es port n) := by
  have hmine : mineOf (es.map (mapEntry f)) port n = (mineOf es port n).map (mapEntry f) := by
    unfold mineOf; rw [List.filter_map]; rfl
  have hkeys : keysOf (es.map (mapEntry f)) port n = keysOf es port n := by
    unfold keysOf; rw [hmine, List.map_map]; rfl
  have hact : actOfKey (es.map (mapEntry f)) port n = actG (fun e => actOf port (f e.action)) es port n := by
    funext k
    have hfil : ((mineOf es port n).map (mapEntry f)).filter (fun e => pathKey e == k) =
        ((mineOf es port n).filter fun e => pathKey e == k).map (mapEntry f) := by
      rw [List.filter_map]; rfl
    unfold actOfKey actG
    rw [hmine, hfil, sortEntries_map, ruleAct_mapEntry]
  rw [serverOf_eq, hkeys, hact]

theorem evalLocAct_njs_congr (q : Req) (A B : Entry → Act) (h : ∀ e, evalAct q (A e) = evalAct q (B e)) :
    ∀ (L : List Entry), evalLocAct q (.njs (L.map fun e => (njsMatchOf e.m, A e))) =
      evalLocAct q (.njs (L.map fun e => (njsMatchOf e.m, B e)))
  | [] => rfl
  | e :: es => by
    have ih := evalLocAct_njs_congr q A B h es
    simp only [evalLocAct, List.map_cons, findWinningP] at ih ⊢
    cases NGF.NginxEval.Njs.testMatch (njsReq q) (njsMatchOf e.m) with
    | throw => rfl
    | ok b =>
      cases b with
      | true => exact h e
      | false => exact ih

theorem schemeLocAct_ruleActG (h : Entry → Act) (L : List Entry) :
    schemeLocAct (ruleActG h L) = ruleActG (fun e => schemeAct (h e)) L := by
  by_cases hL : ∃ e, L = [e] ∧ isPathOnly e.m = true
  · obtain ⟨e, rfl, hp⟩ := hL
    rw [ruleActG_single hp, ruleActG_single hp]; rfl
  · rw [ruleActG_njs hL, ruleActG_njs hL, schemeLocAct, List.map_map]; rfl

theorem evalLocAct_ruleActG_congr (q : Req) (A B : Entry → Act) (h : ∀ e, evalAct q (A e) = evalAct q (B e))
    (L : List Entry) : evalLocAct q (ruleActG A L) = evalLocAct q (ruleActG B L) := by
  by_cases hL : ∃ e, L = [e] ∧ isPathOnly e.m = true
  · obtain ⟨e, rfl, hp⟩ := hL
    rw [ruleActG_single hp, ruleActG_single hp]; exact h e
  · rw [ruleActG_njs hL, ruleActG_njs hL]; exact evalLocAct_njs_congr q A B h L

/-- what the rewritten action does on the listener's port = what the original does with `$scheme` = `https` -/
theorem evalAct_tlsAction (q : Req) (a : Action) :
    evalAct q (schemeAct (actOf q.port a)) = evalAct q (actOf q.port (tlsAction q.port a)) := by
  cases a with
  | forward bs => rfl
  | redirect code scheme host port =>
    cases scheme with
    | some sch => rfl
    | none =>
      simp only [actOf, shownPort, schemeAct, tlsAction, evalAct, Option.getD_some]
      generalize port.getD q.port = pp
      by_cases h : pp = 443
      · subst h; rfl
      · have hne : ("https".toList == "http".toList) = false := by decide_chars
        have hwk : wellKnown "https".toList pp = false := by
          simp only [wellKnown, hne, Bool.and_false, Bool.false_or, Bool.and_eq_false_iff, beq_eq_false_iff_ne, ne_eq]
          exact Or.inl h
        simp only [hwk, Bool.false_eq_true, ↓reduceIte, Option.getD_some]

theorem passes_tlsAction (port lp : Nat) (a : Action) :
    (match schemeAct (actOf port a) with | .proxy _ => true | _ => false) =
    (match actOf port (tlsAction lp a) with | .proxy _ => true | _ => false) := by
  cases a with
  | forward bs => rfl
  | redirect code scheme host p => cases scheme <;> rfl

theorem toLoc_ruleActG (A B : Entry → Act)
    (h : ∀ e, (match A e with | .proxy _ => true | _ => false) = (match B e with | .proxy _ => true | _ => false))
    (exact : Bool) (path : Str) (L : List Entry) :
    toLoc { exact := exact, path := path, act := ruleActG A L } = toLoc { exact := exact, path := path, act := ruleActG B L } := by
  by_cases hL : ∃ e, L = [e] ∧ isPathOnly e.m = true
  · obtain ⟨e, rfl, hp⟩ := hL
    have := h e
    rw [ruleActG_single hp, ruleActG_single hp]
    simp only [toLoc]
    revert this
    cases A e <;> cases B e <;> intro this <;> first | rfl | exact Bool.noConfusion this
  · rw [ruleActG_njs hL, ruleActG_njs hL]; rfl

/-- two servers over the same location skeleton whose locations look the same to the selection and evaluate alike
answer alike -/
theorem serverEval_congr {α} (L : List α) (fA fB : α → CLoc) (port : Nat) (n : Str) (q : Req)
    (h1 : ∀ x, toLoc (fA x) = toLoc (fB x))
    (h3 : ∀ x, evalLocAct q (fA x).act = evalLocAct q (fB x).act) :
    serverEval { port := port, name := n, locs := L.map fA } q = serverEval { port := port, name := n, locs := L.map fB } q := by
  unfold serverEval
  have hl : (L.map fA).map toLoc = (L.map fB).map toLoc := by
    simp only [List.map_map]
    apply List.map_congr_left
    intro x _; exact h1 x
  simp only [hl]
  cases NGF.NginxEval.selectLoc ((L.map fB).map toLoc) q.path with
  | none => rfl
  | autoRedirect _ => rfl
  | loc l =>
    simp only [List.find?_map]
    have hp : ((fun cl : CLoc => cl.exact == l.exact && cl.path == l.path) ∘ fA) =
        ((fun cl : CLoc => cl.exact == l.exact && cl.path == l.path) ∘ fB) := by
      funext x
      simp only [Function.comp, show (fA x).exact = (fB x).exact from congrArg (·.exact) (h1 x),
        show (fA x).path = (fB x).path from congrArg (·.path) (h1 x)]
    rw [hp]
    cases L.find? ((fun cl : CLoc => cl.exact == l.exact && cl.path == l.path) ∘ fB) with
    | none => rfl
    | some x => simp only [Option.map_some]; exact h3 x

/-- **`$scheme` commutes with generation.** The server generated from the routes with rewritten actions answers like
the server generated from the original routes with `$scheme` read as `https`. -/
theorem scheme_server_eval (g : Gateway) (routes : List Route) (n : Str) (q : Req) :
    serverEval (schemeServer (serverOf (entries g routes) q.port n)) q =
      serverEval (serverOf (entries g (tlsRoutes q.port routes)) q.port n) q := by
  rw [tlsRoutes_eq, entries_mapRoutes]
  have hA : schemeServer (serverOf (entries g routes) q.port n) =
      { port := q.port, name := n,
        locs := (Precedence.genLocs ((keysOf (entries g routes) q.port n).map ruleOfKey)).map fun gl =>
          let l := tagLoc (keysOf (entries g routes) q.port n)
            (actG (fun e => actOf q.port e.action) (entries g routes) q.port n) gl
          { l with act := schemeLocAct l.act } } := by
    unfold schemeServer
    rw [serverOf_locsG, locsOfKeys, List.map_map]
    rfl
  have hB : serverOf ((entries g routes).map (mapEntry (tlsAction q.port))) q.port n =
      { port := q.port, name := n,
        locs := (Precedence.genLocs ((keysOf (entries g routes) q.port n).map ruleOfKey)).map
          (tagLoc (keysOf (entries g routes) q.port n)
            (actG (fun e => actOf q.port (tlsAction q.port e.action)) (entries g routes) q.port n)) } := by
    rw [serverOf_eta, serverOf_mapEntry_locs, locsOfKeys]
  rw [hA, hB]
  apply serverEval_congr
  · intro gl
    simp only [tagLoc, actG]
    split
    · rw [schemeLocAct_ruleActG]
      exact toLoc_ruleActG _ _ (fun e => passes_tlsAction q.port q.port e.action) _ _ _
    · rfl
  · intro gl
    simp only [tagLoc, actG]
    split
    · simp only
      rw [schemeLocAct_ruleActG]
      exact evalLocAct_ruleActG_congr q _ _ (fun e => evalAct_tlsAction q e.action) _
    · rfl

/-- the 404 server of a route-less listener has no `$scheme` -/
theorem schemeServer_empty (p : Nat) (n : Str) : schemeServer (serverOf [] p n) = serverOf [] p n := by
  rw [serverOf_eta, schemeServer, serverOf_nil_locs]
  rfl

/-! ### `noShadow` does not look at actions -/

theorem shadow_ruleActG (A B : Entry → Act) (exact : Bool) (path : Str) (L : List Entry) :
    locShadowOK { exact := exact, path := path, act := ruleActG A L } =
      locShadowOK { exact := exact, path := path, act := ruleActG B L } := by
  by_cases hL : ∃ e, L = [e] ∧ isPathOnly e.m = true
  · obtain ⟨e, rfl, hp⟩ := hL
    rw [ruleActG_single hp, ruleActG_single hp]; rfl
  · rw [ruleActG_njs hL, ruleActG_njs hL]
    simp only [locShadowOK, List.any_map]; rfl

theorem locs_shadow_mapRoutes (f : Action → Action) (g : Gateway) (routes : List Route) (p : Nat) (n : Str) :
    (serverOf (entries g (mapRoutes f routes)) p n).locs.all locShadowOK =
      (serverOf (entries g routes) p n).locs.all locShadowOK := by
  rw [entries_mapRoutes, serverOf_mapEntry_locs, serverOf_locsG]
  simp only [locsOfKeys, List.all_map]
  refine congrArg (List.all _) (funext fun gl => ?_)
  simp only [Function.comp, tagLoc, actG]
  split
  · exact shadow_ruleActG _ _ _ _ _
  · rfl

theorem noShadow_mapRoutes (f : Action → Action) (s : Scenario) :
    noShadow (gen { s with routes := mapRoutes f s.routes }) = noShadow (gen s) := by
  unfold gen
  have h3 : winner { s with routes := mapRoutes f s.routes } = winner s := rfl
  rw [h3]
  cases winner s with
  | none => rfl
  | some g =>
    simp only [noShadow_eq, hostsOf_mapRoutes, List.all_map, Function.comp_def, locs_shadow_mapRoutes]

end NGF.PipelineTls
