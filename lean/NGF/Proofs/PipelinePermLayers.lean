/-
C14 on the layered pipeline models: what each layer produces is unchanged, or changed only in its
order, when the cluster's objects arrive in another order. References (`PipelineRefs.genR`, C06's layer): the
empty-foreign-set case of C17's set form (Proofs/PipelineForeign.lean); grants and Services enter a resolved route only
through `resolveRef`. Statuses (`PipelineStatus`, C07's layer): the Gateway the graph is built for is order-free, and
status preparation reads a listener's routes only through their number. HTTPS listeners and certificates
(`PipelineTls.genT`, C16's layer): Secrets and Gateways are looked up by distinct keys. Endpoints
(`PipelineEndpoints.upstreamsOf`, C13's layer): the resolver's answer is a set. The renderer (`Render.genR s order`,
C03's layer): the Go-map port order only decides the serverIDs. Property theorems: NGF/Props/C14Layers.lean.
-/
import NGF.Proofs.PipelineForeign
import NGF.Proofs.PipelineStatus
import NGF.Proofs.PipelineEndpoints
import NGF.Proofs.PipelineTls
import NGF.Model.Render

namespace NGF.PipelineLayers
open NGF.Pipeline NGF.PipelineRefs NGF.ListPerm NGF.PipelineForeign
open NGF.Props.C14Pipeline (Reordered)
open NGF.RefGrant (Grant)

/-- `c'` holds the objects of `c` — GatewayClasses, Gateways, HTTPRoutes, Services, ReferenceGrants — in another order -/
structure ReorderedR (c c' : ScenarioR) : Prop where
  cls : c'.cls = c.cls
  ctlr : c'.ctlr = c.ctlr
  classes : c.classes.Perm c'.classes
  gateways : c.gateways.Perm c'.gateways
  routes : c.routes.Perm c'.routes
  services : c.services.Perm c'.services
  grants : c.grants.Perm c'.grants

theorem ReorderedR.symm {c c' : ScenarioR} (h : ReorderedR c c') : ReorderedR c' c :=
  ⟨by rw [h.cls], by rw [h.ctlr], h.classes.symm, h.gateways.symm, h.routes.symm, h.services.symm, h.grants.symm⟩

/-- a reordering is a mix with no foreign objects -/
theorem mixed_of_reorderedR {c c' : ScenarioR} (h : ReorderedR c c') : Mixed c {} c' :=
  have nil : ∀ {α} {l l' : List α}, l.Perm l' → (l ++ []).Perm l' := fun hp => (List.append_nil _).symm ▸ hp
  ⟨h.cls, h.ctlr, nil h.classes, nil h.gateways, nil h.routes, nil h.services, nil h.grants⟩

theorem foreign_empty (c : ScenarioR) : Foreign c {} where
  classes := fun _ hy => absurd hy List.not_mem_nil
  gateways := fun _ hy => absurd hy List.not_mem_nil
  routes := fun _ _ _ hr => absurd hr List.not_mem_nil
  services := fun _ _ _ _ _ _ _ _ hs => absurd hs List.not_mem_nil
  grants := fun _ _ _ _ _ _ _ _ hg => absurd hg List.not_mem_nil

/-- HTTPRoutes have distinct (namespace, name) -/
def RouteKeysNodupR (routes : List RouteR) : Prop := (routes.map fun r => (r.ns, r.name)).Nodup

theorem routeKeys_resolve {c : ScenarioR} (h : RouteKeysNodupR c.routes) : RouteKeysNodup (resolve c).routes := by
  unfold RouteKeysNodup
  show ((c.routes.map (resolveRoute c.grants c.services)).map fun r => (r.ns, r.name)).Nodup
  rw [List.map_map]
  apply nodup_map_of_inj (nodup_of_nodup_map h)
  intro a ha b hb e
  simp only [Function.comp, resolveRoute, Prod.mk.injEq] at e
  exact inj_of_nodup_map h a ha b hb (by rw [String.ext e.1, String.ext e.2])

theorem ReorderedR.svcKeys {c c' : ScenarioR} (h : ReorderedR c c') (hs : SvcKeysNodup c.services) :
    SvcKeysNodup c'.services :=
  (h.services.map _).nodup hs

theorem ReorderedR.keys {c c' : ScenarioR} (h : ReorderedR c c') (hk : KeyInj c.gateways)
    (hr : RouteKeysNodupR c.routes) (hs : SvcKeysNodup c.services) :
    KeyInj c'.gateways ∧ RouteKeysNodup (resolve c').routes ∧ SvcKeysNodup c'.services := by
  refine ⟨hk.perm h.gateways, routeKeys_resolve ?_, ?_⟩
  · exact (h.routes.map _).nodup hr
  · exact h.svcKeys hs

theorem resolveRef_reordered {c c' : ScenarioR} (h : ReorderedR c c') (hs : SvcKeysNodup c.services) :
    resolveRef c'.grants c'.services = resolveRef c.grants c.services := by
  funext ns ref
  apply resolveRef_mixed (xg := []) (xs := [])
  · rw [List.append_nil]; exact h.grants
  · rw [List.append_nil]; exact h.services
  · exact h.svcKeys hs
  · intro _ hx; exact absurd hx List.not_mem_nil
  · intro _ hx; exact absurd hx List.not_mem_nil

/-- grants and Services enter a resolved route only through `resolveRef` -/
theorem resolveRoute_congr {gs gs' : List Grant} {svcs svcs' : List Service}
    (h : resolveRef gs' svcs' = resolveRef gs svcs) : resolveRoute gs' svcs' = resolveRoute gs svcs := by
  have ha : resolveAction gs' svcs' = resolveAction gs svcs := by
    funext ns act
    cases act with
    | redirect code sch host port => rfl
    | forward refs => simp only [resolveAction, h]
  funext r
  unfold resolveRoute resolveRule
  rw [ha]

open NGF.PipelineStatus

/-- status preparation reads the routes of a listener only through their number -/
theorem prepareListener_congr {l l' : NGF.StatusPrep.Listener} (gen : Int) (reloadErr : Bool) (hn : l.name = l'.name)
    (hv : l.valid = l'.valid) (hc : l.conds = l'.conds) (hr : l.routes.length = l'.routes.length)
    (h4 : l.l4routes.length = l'.l4routes.length) :
    NGF.StatusPrep.prepareListener gen reloadErr l = NGF.StatusPrep.prepareListener gen reloadErr l' := by
  unfold NGF.StatusPrep.prepareListener NGF.StatusPrep.listenerConds
  rw [hn, hv, hc, hr, h4]

theorem validListenerCount_eq (ls : List NGF.StatusPrep.Listener) :
    NGF.StatusPrep.validListenerCount ls = ((ls.map (·.valid)).filter id).length := by
  unfold NGF.StatusPrep.validListenerCount
  rw [List.filter_map, List.length_map]; rfl

/-- … so the status of a Gateway is the same for two listener lists that agree up to which routes each listener holds -/
theorem prepareGateway_congr {g g' : NGF.StatusPrep.Gateway} (reloadErr : Bool) (hns : g.ns = g'.ns)
    (hname : g.name = g'.name) (hgen : g.gen = g'.gen) (hvalid : g.valid = g'.valid) (hconds : g.conds = g'.conds)
    (hv : g.listeners.map (·.valid) = g'.listeners.map (·.valid))
    (hl : g.listeners.map (NGF.StatusPrep.prepareListener g.gen reloadErr) =
      g'.listeners.map (NGF.StatusPrep.prepareListener g.gen reloadErr)) :
    NGF.StatusPrep.prepareGateway g reloadErr = NGF.StatusPrep.prepareGateway g' reloadErr := by
  have hcount : NGF.StatusPrep.validListenerCount g.listeners = NGF.StatusPrep.validListenerCount g'.listeners := by
    rw [validListenerCount_eq, validListenerCount_eq, hv]
  have hlen : g.listeners.length = g'.listeners.length := by
    rw [← List.length_map (f := (·.valid)), hv, List.length_map]
  unfold NGF.StatusPrep.prepareGateway NGF.StatusPrep.gatewayConds
  rw [← hns, ← hname, ← hgen, ← hvalid, ← hconds, ← hcount, ← hlen, ← hl]

section statuses
variable {s s' : Scenario} (h : Reordered s s')
include h

theorem ours_perm : (ours s).Perm (ours s') := by
  unfold ours; rw [h.cls]; exact h.gateways.filter _

theorem classState_perm : classState s' = classState s := by
  unfold classState
  rw [classOurs_perm h.cls h.ctlr h.classes, h.cls, h.classes.symm.any_eq]

theorem graphGateway_perm (hk : KeyInj s.gateways) :
    graphGateway s' = graphGateway s := by
  unfold graphGateway
  rw [classState_perm h]
  have : oldest (ours s') = oldest (ours s) :=
    oldest_perm (ours_perm h) (hk.filter _)
  rw [this]

theorem namesOurs_perm (p : Parent) : namesOurs s' p = namesOurs s p := by
  unfold namesOurs; exact (ours_perm h).symm.any_eq

theorem sectionNameRefs_perm (r : Route) :
    sectionNameRefs s' r = sectionNameRefs s r := by
  unfold sectionNameRefs
  have : namesOurs s' = namesOurs s := funext (namesOurs_perm h)
  rw [this]

theorem routeParentStatuses_perm (hk : KeyInj s.gateways) (reloadErr : Bool)
    (gen : Int) (r : Route) : routeParentStatuses s' reloadErr gen r = routeParentStatuses s reloadErr gen r := by
  unfold routeParentStatuses
  rw [graphGateway_perm h hk, sectionNameRefs_perm h, h.ctlr]

theorem listenerRoutes_perm (gw : Gateway) (l : Listener) :
    (listenerRoutes s gw l).Perm (listenerRoutes s' gw l) := by
  unfold listenerRoutes
  refine (h.routes.filter _).trans (List.Perm.of_eq ?_)
  apply List.filter_congr
  intro r _
  rw [sectionNameRefs_perm h]

theorem gatewayStatus_perm (hk : KeyInj s.gateways) (reloadErr : Bool) (gen : Int) :
    gatewayStatus s' reloadErr gen = gatewayStatus s reloadErr gen := by
  unfold gatewayStatus
  rw [graphGateway_perm h hk]
  refine congrArg (fun f => (graphGateway s).map f) (funext fun gg => ?_)
  have hlen : ∀ l, ((listenerRoutes s' gg.1 l).map routeKeyStr).length = ((listenerRoutes s gg.1 l).map routeKeyStr).length :=
    fun l => by rw [List.length_map, List.length_map]; exact (listenerRoutes_perm h gg.1 l).length_eq.symm
  apply prepareGateway_congr (g := toPrepGateway s' gg.1 gg.2 gen) (g' := toPrepGateway s gg.1 gg.2 gen) reloadErr
    rfl rfl rfl rfl rfl
  · unfold toPrepGateway
    simp only [List.map_map, Function.comp_def]
  · unfold toPrepGateway
    simp only [List.map_map]
    exact List.map_congr_left fun l _ => prepareListener_congr _ _ rfl rfl rfl (hlen l) rfl

end statuses

open NGF.PipelineTls

/-- `s'` holds the objects of `s` — GatewayClasses, Gateways, HTTPRoutes, Secrets, ReferenceGrants — in another order
(the listeners INSIDE a Gateway stay in spec order) -/
structure ReorderedT (s s' : ScenarioT) : Prop where
  cls : s'.cls = s.cls
  ctlr : s'.ctlr = s.ctlr
  classes : s.classes.Perm s'.classes
  gateways : s.gateways.Perm s'.gateways
  routes : s.routes.Perm s'.routes
  secrets : s.secrets.Perm s'.secrets
  grants : s.grants.Perm s'.grants

/-- Gateways have distinct (namespace, name) -/
def KeyInjT (l : List GatewayT) : Prop := ∀ a ∈ l, ∀ b ∈ l, a.ns = b.ns → a.name = b.name → a = b

/-- Secrets have distinct (namespace, name) -/
def SecretKeysNodup (l : List Tls.SecretObj) : Prop := (l.map fun x => (x.ns, x.name)).Nodup

theorem findSecret_perm {l l' : List Tls.SecretObj} (hp : l.Perm l') (hn : SecretKeysNodup l) (ns name : Tls.Name) :
    Tls.findSecret l' ns name = Tls.findSecret l ns name := by
  unfold Tls.findSecret
  symm
  apply find?_perm_of_unique hp
  intro a ha b hb pa pb
  simp only [Bool.and_eq_true, decide_eq_true_eq] at pa pb
  exact inj_of_nodup_map hn a ha b hb (by simp [pa.1, pa.2, pb.1, pb.2])

theorem secretRefAllowed_perm {gs gs' : List Tls.Grant} (hp : gs.Perm gs') (a b c : Tls.Name) :
    Tls.secretRefAllowed gs' a b c = Tls.secretRefAllowed gs a b c := by
  unfold Tls.secretRefAllowed; exact hp.symm.any_eq

theorem resolveRef_perm {gs gs' : List Tls.Grant} {secs secs' : List Tls.SecretObj} (hg : gs.Perm gs')
    (hs : secs.Perm secs') (hn : SecretKeysNodup secs) (gwNs : Tls.Name) (r : Tls.CertRef) :
    Tls.resolveRef gs' secs' gwNs r = Tls.resolveRef gs secs gwNs r := by
  unfold Tls.resolveRef
  rw [secretRefAllowed_perm hg, findSecret_perm hs hn]

theorem validHttps_perm {s s' : ScenarioT} (h : ReorderedT s s') (hn : SecretKeysNodup s.secrets) :
    validHttps s' = validHttps s := by
  funext g l
  unfold validHttps resolution
  rw [resolveRef_perm h.grants h.secrets hn]

theorem proj_reordered (keep : GatewayT → ListenerT → Bool) {s s' : ScenarioT} (h : ReorderedT s s') :
    Reordered (proj keep s) (proj keep s') :=
  ⟨h.cls, h.ctlr, h.classes, h.gateways.map _, h.routes⟩

theorem keyInj_proj (keep : GatewayT → ListenerT → Bool) {s : ScenarioT} (hk : KeyInjT s.gateways) :
    KeyInj (proj keep s).gateways := by
  intro a ha b hb e1 e2
  obtain ⟨a0, ha0, rfl⟩ := List.mem_map.mp ha
  obtain ⟨b0, hb0, rfl⟩ := List.mem_map.mp hb
  rw [hk a0 ha0 b0 hb0 e1 e2]

theorem winnerT_perm {s s' : ScenarioT} (h : ReorderedT s s') (hk : KeyInjT s.gateways) : winnerT s' = winnerT s := by
  have hw := NGF.Props.C14Pipeline.winner_perm _ _ (proj_reordered (fun _ _ => true) h) (keyInj_proj _ hk)
  rw [winner_proj, winner_proj] at hw
  cases h1 : winnerT s' <;> cases h2 : winnerT s <;> rw [h1, h2] at hw
  · cases hw
  · cases hw
  · next a b =>
    -- the two winners project to one Gateway, so they have one key
    have e : projGw (fun _ _ => true) a = projGw (fun _ _ => true) b := Option.some.inj hw
    rw [hk a (h.gateways.mem_iff.mpr (winnerT_mem h1)) b (winnerT_mem h2) (congrArg Gateway.ns e)
      (congrArg Gateway.name e)]

section routes
variable (g : Gateway) {routes routes' : List Route} (hp : routes.Perm routes')
include hp

theorem accHosts_contains_perm (l : Listener) (h : Str) :
    (accHosts g routes' l).contains h = (accHosts g routes l).contains h := by
  unfold accHosts
  exact (hp.symm.flatMap_right _).contains_eq

theorem ownerFrom_perm (h : Str)
    (ls : List ListenerT) (acc : Option ListenerT) : ownerFrom g routes' h acc ls = ownerFrom g routes h acc ls := by
  have hstep : ownerStep g routes' h = ownerStep g routes h := by
    funext acc l; unfold ownerStep; rw [accHosts_contains_perm g hp]
  induction ls generalizing acc with
  | nil => rfl
  | cons l ls ih =>
    show ownerFrom g routes' h (ownerStep g routes' h acc l) ls = ownerFrom g routes h (ownerStep g routes h acc l) ls
    rw [hstep, ih]

theorem nroutes_perm (l : Listener) :
    nroutes g routes' l = nroutes g routes l := by
  unfold nroutes; exact (hp.symm.filter _).length_eq

theorem listenerOnly_perm (ls : List ListenerT) :
    listenerOnly g routes' ls = listenerOnly g routes ls := by
  unfold listenerOnly
  congr 1
  apply List.filter_congr
  intro l _
  rw [nroutes_perm g hp]

end routes

theorem keyPairsFrom_perm {secs secs' : List Tls.SecretObj} (hs : secs.Perm secs') (hn : SecretKeysNodup secs)
    (ls : List ListenerT) (m : List Tls.KeyPair) : keyPairsFrom secs' m ls = keyPairsFrom secs m ls := by
  have hstep : kpStep secs' = kpStep secs := by
    funext m l
    unfold kpStep
    cases l.cert with
    | none => rfl
    | some c => simp only [findSecret_perm hs hn]
  induction ls generalizing m with
  | nil => rfl
  | cons l ls ih =>
    show keyPairsFrom secs' (kpStep secs' m l) ls = keyPairsFrom secs (kpStep secs m l) ls
    rw [hstep, ih]

/-- two TLS configurations that differ only in the order of servers / locations / ports: every SSL server keeps its
key pair, the key-pair files are the same -/
structure ConfTEquiv (c c' : ConfT) : Prop where
  http : Conf.equiv c.http c'.http
  ssl : PermRel (fun a b : CServer × Option (List Char) => CServer.equiv a.1 b.1 ∧ a.2 = b.2) c.ssl c'.ssl
  sslPorts : c.sslPorts.Perm c'.sslPorts
  keyPairs : c'.keyPairs = c.keyPairs

theorem genT_keyPairs_perm {s s' : ScenarioT} (h : ReorderedT s s') (hk : KeyInjT s.gateways)
    (hn : SecretKeysNodup s.secrets) : (genT s').keyPairs = (genT s).keyPairs := by
  have hw := winnerT_perm h hk
  cases hws : winnerT s with
  | none => rw [genT_none hws, genT_none (hw.trans hws)]
  | some gT =>
    rw [genT_some hws, genT_some (hw.trans hws)]
    have : sslListeners s' gT = sslListeners s gT := by unfold sslListeners; rw [validHttps_perm h hn]
    show keyPairsFrom s'.secrets [] (sslListeners s' gT) = keyPairsFrom s.secrets [] (sslListeners s gT)
    rw [this]
    exact keyPairsFrom_perm h.secrets hn _ _

theorem genT_equiv_of_reordered {s s' : ScenarioT} (h : ReorderedT s s') (hk : KeyInjT s.gateways)
    (hr : RouteKeysNodup s.routes) (hn : SecretKeysNodup s.secrets) : ConfTEquiv (genT s) (genT s') := by
  have hv := validHttps_perm h hn
  have hw := winnerT_perm h hk
  have hkp := genT_keyPairs_perm h hk hn
  have hhttp : Conf.equiv (gen (httpPart s)) (gen (httpPart s')) :=
    NGF.Props.C14Pipeline.gen_perm_equiv _ _ (proj_reordered _ h) (keyInj_proj _ hk) hr
  have hhttps : Conf.equiv (gen (httpsPart s)) (gen (httpsPart s')) := by
    have : httpsPart s' = proj (fun g l => validHttps s g l) s' := by unfold httpsPart; rw [hv]
    rw [this]
    exact NGF.Props.C14Pipeline.gen_perm_equiv _ _ (proj_reordered _ h) (keyInj_proj _ hk) hr
  cases hws : winnerT s with
  | none =>
    rw [genT_none hws, genT_none (hw.trans hws)]
    exact ⟨hhttp, ⟨[], List.Perm.refl _, .nil⟩, List.Perm.refl _, rfl⟩
  | some gT =>
    rw [genT_some hws, genT_some (hw.trans hws)] at hkp ⊢
    have hvs : sslListeners s' gT = sslListeners s gT := by unfold sslListeners; rw [hv]
    refine ⟨hhttp, ?_, hhttps.1, hkp⟩
    simp only [hv, hvs]
    apply PermRel.append
    · apply hhttps.2.map
      intro a b r
      refine ⟨r, ?_⟩
      simp only
      unfold ownerOf
      rw [ownerFrom_perm _ h.routes, r.1, r.2.1]
    · rw [listenerOnly_perm _ h.routes]
      exact PermRel.refl_of (fun a => ⟨⟨rfl, rfl, List.Perm.refl _⟩, rfl⟩) _

open NGF.PipelineEndpoints
open NGF.Resolver (Slice SvcPort)

/-- `c'` = `c` with, in addition to the objects of the reference layer, the Service port entries and the EndpointSlices in
another order -/
structure ReorderedE (c c' : ScenarioE) : Prop where
  base : ReorderedR c.base c'.base
  ports : c.ports.Perm c'.ports
  slices : c.slices.Perm c'.slices

/-- one `spec.ports` entry per (Service, port number) -/
def PortKeysNodup (l : List PortInfo) : Prop := (l.map fun i => (i.ns, i.name, i.sp.port)).Nodup

theorem ReorderedE.symm {c c' : ScenarioE} (h : ReorderedE c c') : ReorderedE c' c :=
  ⟨h.base.symm, h.ports.symm, h.slices.symm⟩

theorem servicePort_perm {c c' : ScenarioE} (hp : c.ports.Perm c'.ports) (hn : PortKeysNodup c.ports)
    (ns name : String) (port : Nat) : servicePort c' ns name port = servicePort c ns name port := by
  unfold servicePort
  rw [← find?_perm_of_unique hp]
  intro a ha b hb pa pb
  simp only [Bool.and_eq_true, beq_iff_eq] at pa pb
  exact inj_of_nodup_map hn a ha b hb (by simp [pa.1.1, pa.1.2, pa.2, pb.1.1, pb.1.2, pb.2])

theorem collect_perm {f f' : List Slice} (hp : f.Perm f') (sp : SvcPort) :
    (Resolver.collect f sp).Perm (Resolver.collect f' sp) := by
  unfold Resolver.collect
  rw [List.perm_ext_iff_of_nodup (Resolver.nodup_dedup _) (Resolver.nodup_dedup _)]
  intro a
  rw [Resolver.mem_dedup, Resolver.mem_dedup]
  exact (hp.flatMap_right _).mem_iff

/-- the endpoints resolved for a Service port are the same SET whatever the order in which the API server lists the
EndpointSlices (the Go code collects them in a map: their order is not determined by the input at all) -/
theorem upstreamEndpoints_perm {all all' : List Slice} (hp : all.Perm all') (ns name : String) (sp : SvcPort)
    (fam : Resolver.IPFamily) :
    (Resolver.upstreamEndpoints all ns name sp fam).Perm (Resolver.upstreamEndpoints all' ns name sp fam) := by
  unfold Resolver.upstreamEndpoints Resolver.resolve
  by_cases hpanic : sp.port = 0 ∨ name = "" ∨ ns = ""
  · simp only [hpanic, ↓reduceIte]; exact List.Perm.refl _
  · simp only [hpanic, ↓reduceIte]
    have hl : (Resolver.listSlices all ns name).Perm (Resolver.listSlices all' ns name) := hp.filter _
    rw [← hl.isEmpty_eq]
    by_cases he : (Resolver.listSlices all ns name).isEmpty = true
    · simp only [he, ↓reduceIte]; exact List.Perm.refl _
    · simp only [he, Bool.false_eq_true, ↓reduceIte]
      unfold Resolver.resolveEndpoints
      have hf : (Resolver.filterEndpointSliceList (Resolver.listSlices all ns name) sp (Resolver.getAllowedAddressType fam)).Perm
          (Resolver.filterEndpointSliceList (Resolver.listSlices all' ns name) sp (Resolver.getAllowedAddressType fam)) :=
        hl.filter _
      simp only
      rw [← hf.isEmpty_eq]
      by_cases he2 : (Resolver.filterEndpointSliceList (Resolver.listSlices all ns name) sp
          (Resolver.getAllowedAddressType fam)).isEmpty = true
      · simp only [he2, ↓reduceIte]; exact List.Perm.refl _
      · simp only [he2, Bool.false_eq_true, ↓reduceIte, Resolver.Res.eps]
        exact collect_perm hf sp

theorem routeBackends_reordered {c c' : ScenarioE} (h : ReorderedE c c') (hs : SvcKeysNodup c.base.services) :
    routeBackends c' = routeBackends c := by
  funext r
  unfold routeBackends
  rw [resolveRef_reordered h.base hs]

/-- the valid backendRefs `buildUpstreams` visits are the same up to order -/
theorem backends_perm {c c' : ScenarioE} (h : ReorderedE c c') (hk : KeyInj c.base.gateways)
    (hs : SvcKeysNodup c.base.services) : (backends c).Perm (backends c') := by
  unfold backends
  rw [winner_mixed (mixed_of_reorderedR h.base) (foreign_empty c.base) (hk.perm h.base.gateways)]
  cases winner (resolve c.base) with
  | none => exact List.Perm.refl _
  | some g =>
    simp only
    apply flatMap_perm_congr
    intro l _
    rw [routeBackends_reordered h hs]
    exact (h.base.routes.filter _).flatMap_right _

/-- `ServicePortReference` identifies (namespace, name, port) when namespaces and names contain no `_` -/
theorem servicePortReference_inj {b b' : RefGrant.GBackendRef} (hv : b.valid = true) (hv' : b'.valid = true)
    (h1 : noUnderscore b.svcNs = true) (h2 : noUnderscore b.svcName = true) (h3 : noUnderscore b'.svcNs = true)
    (h4 : noUnderscore b'.svcName = true) (h : RefGrant.servicePortReference b = RefGrant.servicePortReference b') :
    b.svcNs = b'.svcNs ∧ b.svcName = b'.svcName ∧ b.port = b'.port := by
  have e : upstreamOf b.svcNs b.svcName b.port = upstreamOf b'.svcNs b'.svcName b'.port := by
    rw [← servicePortReference_valid hv, ← servicePortReference_valid hv', h]
  rw [upstreamOf_eq, upstreamOf_eq] at e
  obtain ⟨e1, e⟩ := append_sep_inj (noUnderscore_iff.1 h1) (noUnderscore_iff.1 h3) e
  obtain ⟨e2, e⟩ := append_sep_inj (noUnderscore_iff.1 h2) (noUnderscore_iff.1 h4) e
  exact ⟨String.toList_inj.1 e1, String.toList_inj.1 e2, toDigits_inj e⟩

theorem backend_names_plain {c : ScenarioE} (hn : namesOK c.base = true) {b : RefGrant.GBackendRef} (hb : b ∈ backends c) :
    b.valid = true ∧ noUnderscore b.svcNs = true ∧ noUnderscore b.svcName = true := by
  obtain ⟨hv, g, _, r, hr, _, ru, hru, refs, hact, ref, href, e1, e2, _, _⟩ := backends_provenance hb
  obtain ⟨n1, n2⟩ := namesOK_spec hn r hr
  obtain ⟨n3, n4⟩ := n2 ru hru refs hact ref href
  refine ⟨hv, ?_, by rw [e2]; exact n3⟩
  rw [e1]
  unfold RefGrant.refNs
  cases hns : ref.ns with
  | none => exact n1
  | some n => exact n4 n hns

theorem namesOK_perm {c c' : ScenarioR} (h : ReorderedR c c') (hn : namesOK c = true) : namesOK c' = true := by
  unfold namesOK at hn ⊢
  rw [← h.routes.all_eq]; exact hn

/-- one direction of `Props.C14Layers.upstreamsOf_perm` (the other is this one for the reordering read backwards) -/
theorem upstreamsOf_sub {c c' : ScenarioE} (h : ReorderedE c c') (hk : KeyInj c.base.gateways)
    (hs : SvcKeysNodup c.base.services) (hpk : PortKeysNodup c.ports) (hn : namesOK c.base = true) :
    ∀ u ∈ upstreamsOf c, ∃ u' ∈ upstreamsOf c', u'.name = u.name ∧ u.eps.Perm u'.eps := by
  intro u hu
  obtain ⟨b, hb, rfl⟩ := mem_upstreamsOf hu
  have hb' : b ∈ backends c' := (backends_perm h hk hs).mem_iff.mp hb
  obtain ⟨u', hu', hname⟩ := List.mem_map.mp (name_mem_upstreamsOf hb')
  obtain ⟨b2, hb2, rfl⟩ := mem_upstreamsOf hu'
  refine ⟨_, hu', hname, ?_⟩
  obtain ⟨v1, p1, p2⟩ := backend_names_plain hn hb
  obtain ⟨v2, q1, q2⟩ := backend_names_plain (namesOK_perm h.base hn) hb2
  have hname' : RefGrant.servicePortReference b2 = RefGrant.servicePortReference b := hname
  obtain ⟨e1, e2, e3⟩ := servicePortReference_inj v2 v1 q1 q2 p1 p2 hname'
  unfold toUp
  simp only
  rw [e1, e2, e3, servicePort_perm h.ports hpk]
  exact upstreamEndpoints_perm h.slices _ _ _ _

open NGF.Render

/-- a server without its position in `conf.HTTPServers` -/
def unsid (sv : RServer) : RServer := { sv with sid := 0 }

/-- The iteration order of `portPathRules` (a Go map) only decides the serverIDs: the servers (path rules, locations,
match rules, actions), the default-server ports and the BackendGroups are the same for any two orders. -/
theorem genR_order_only_sids (s : Scenario) (o₁ o₂ : List Nat) :
    (Render.genR s o₁).servers.map unsid = (Render.genR s o₂).servers.map unsid ∧
    (Render.genR s o₁).dports.map (·.1) = (Render.genR s o₂).dports.map (·.1) ∧
    (Render.genR s o₁).groups = (Render.genR s o₂).groups := by
  unfold Render.genR
  cases winner s with
  | none => exact ⟨rfl, rfl, rfl⟩
  | some g =>
    refine ⟨?_, ?_, rfl⟩
    · show (List.map _ _).map unsid = (List.map _ _).map unsid
      rw [List.map_map, List.map_map]
      exact List.map_congr_left fun ph _ => rfl
    · show List.map Prod.fst (List.map _ _) = List.map Prod.fst (List.map _ _)
      rw [List.map_map, List.map_map]
      exact List.map_congr_left fun p _ => rfl

end NGF.PipelineLayers
