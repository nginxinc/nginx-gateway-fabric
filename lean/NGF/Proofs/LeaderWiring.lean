/-
C09 — slices over an append-only memory keep their contents, and the updater's map operations only
look at group names, so they commute with reading the saved slices (`mapV`).  Hence the simulation
`Sim` between the reference-level and the value-level semantics for call sites that allocate per call
(`hrun_fresh_eq_run`); and `latest` in terms of the last call per group (`mem_latest_iff_lastSub`).
-/
import NGF.Model.LeaderWiring
import NGF.Proofs.Leader

namespace NGF.Leader

theorem mem_cellsAt {a : Nat} : ∀ {n b : Nat}, a ∈ cellsAt b n → a < b + n
  | 0, _, h => by simp [cellsAt] at h
  | n + 1, b, h => by
    simp only [cellsAt, List.mem_cons] at h
    rcases h with h | h
    · omega
    · have := mem_cellsAt h
      omega

theorem cellsAt_isEmpty (b n : Nat) : (cellsAt b n).isEmpty = (n == 0) := by
  cases n <;> simp [cellsAt]

theorem cellsAt_isEmpty_length (b : Nat) (vals : List Req) :
    (cellsAt b vals.length).isEmpty = vals.isEmpty := by
  cases vals <;> simp [cellsAt]

theorem deref_append (m x : Mem) (ps : List Nat) (h : ∀ a ∈ ps, a < m.length) :
    deref (m ++ x) ps = deref m ps := by
  induction ps with
  | nil => rfl
  | cons a t ih =>
    have ht := ih fun b hb => h b (List.mem_cons_of_mem _ hb)
    unfold deref at ht ⊢
    rw [List.filterMap_cons, List.filterMap_cons,
      List.getElem?_append_left (h a List.mem_cons_self), ht]

theorem deref_fresh (m : Mem) (vals : List Req) :
    deref (m ++ vals) (cellsAt m.length vals.length) = vals := by
  induction vals generalizing m with
  | nil => simp [cellsAt, deref]
  | cons v vs ih =>
    have ih' := ih (m ++ [v])
    rw [List.length_append, List.length_singleton, List.append_assoc, List.singleton_append] at ih'
    have hget : (m ++ v :: vs)[m.length]? = some v := by
      rw [List.getElem?_append_right (Nat.le_refl _)]
      simp
    simp only [deref] at ih'
    simp only [List.length_cons, cellsAt, deref, List.filterMap_cons, hget, ih']

def mapV (f : List Req → List Req) (s : Saved) : Saved := s.map fun w => (w.1, f w.2)

theorem derefWrites_eq (m : Mem) (s : Saved) : derefWrites m s = mapV (deref m) s := rfl

theorem get_mapV (f : List Req → List Req) (g : Group) (s : Saved) :
    get g (mapV f s) = (get g s).map f := by
  induction s with
  | nil => rfl
  | cons p t ih =>
    obtain ⟨k, v⟩ := p
    simp only [mapV, List.map_cons, get] at ih ⊢
    by_cases hk : k = g <;> simp [hk, ih]

theorem del_mapV (f : List Req → List Req) (g : Group) (s : Saved) :
    del g (mapV f s) = mapV f (del g s) := by
  induction s with
  | nil => rfl
  | cons p t ih =>
    obtain ⟨k, v⟩ := p
    simp only [mapV, del, List.map_cons] at ih ⊢
    by_cases hk : k = g
    · subst hk
      simp [ih]
    · have : (k != g) = true := by simpa using hk
      simp [this, ih]

theorem flush_mapV (f : List Req → List Req) : ∀ (o : List Group) (s : Saved),
    flush o (mapV f s) = mapV f (flush o s)
  | [], _ => rfl
  | g :: gs, s => by
    simp only [flush, get_mapV]
    cases hg : get g s with
    | none => simpa using flush_mapV f gs s
    | some r =>
      simp only [Option.map_some, del_mapV]
      rw [flush_mapV f gs (del g s)]
      simp [mapV]

def Valid (m : Mem) (s : Saved) : Prop := ∀ w ∈ s, ∀ a : Nat, a ∈ w.2 → a < m.length

theorem derefWrites_append {m : Mem} {s : Saved} (x : Mem) (h : Valid m s) :
    derefWrites (m ++ x) s = derefWrites m s := by
  simp only [derefWrites]
  apply List.map_congr_left
  intro w hw
  rw [deref_append m x w.2 (h w hw)]

theorem valid_append {m : Mem} {s : Saved} (x : Mem) (h : Valid m s) : Valid (m ++ x) s := by
  intro w hw a ha
  have h1 : a < m.length := h w hw a ha
  show a < (m ++ x).length
  rw [List.length_append]
  omega

theorem derefWrites_put (m : Mem) (g : Group) (c : List Nat) (s : Saved) :
    derefWrites m (put g c s) = put g (deref m c) (derefWrites m s) := by
  show (g, deref m c) :: mapV (deref m) (del g s) = (g, deref m c) :: del g (mapV (deref m) s)
  rw [del_mapV]

theorem valid_del {m : Mem} {s : Saved} (g : Group) (h : Valid m s) : Valid m (del g s) := by
  intro w hw
  exact h w (List.mem_filter.1 hw).1

/-- the value-level updater state `v` is the reference-level one read through the memory -/
structure Sim (s : HState) (v : LState) : Prop where
  en : v.enabled = s.upd.enabled
  sv : v.saved = derefWrites s.mem s.upd.saved
  ok : Valid s.mem s.upd.saved

theorem sim_init : Sim hinit init := ⟨rfl, rfl, by intro w hw; simp [hinit, init] at hw⟩

theorem mkSlice_fresh (s : HState) (g : Group) (vals : List Req) :
    mkSlice allFresh s g vals = (s.mem ++ vals, s.buf, cellsAt s.mem.length vals.length) := by
  simp [mkSlice, allFresh]

theorem sim_step {s : HState} {v : LState} (h : Sim s v) (op : Op) :
    Sim (hstep allFresh s op).1 (step v op).1 ∧ (hstep allFresh s op).2 = (step v op).2 := by
  obtain ⟨en, sv, ok⟩ := h
  cases op with
  | update g vals =>
    simp only [hstep, mkSlice_fresh]
    have hfresh := deref_fresh s.mem vals
    by_cases he : s.upd.enabled = true
    · -- leader: written at once, from the slice just built
      have hv : v.enabled = true := by rw [en, he]
      simp only [step, he, hv, if_true, derefOut, derefWrites, List.map_cons, List.map_nil, hfresh]
      refine ⟨⟨by simp [en], ?_, valid_append vals ok⟩, by trivial⟩
      simp only
      rw [derefWrites_append vals ok]
      exact sv
    · have he' : s.upd.enabled = false := by simpa using he
      have hv : v.enabled = false := by rw [en, he']
      -- not the leader: both levels only change their maps, in the same way
      rw [disabled_update he', disabled_update hv, cellsAt_isEmpty_length]
      refine ⟨⟨rfl, ?_, ?_⟩, rfl⟩
      · show (if vals.isEmpty then del g v.saved else put g vals v.saved) = derefWrites (s.mem ++ vals) _
        split
        · rw [derefWrites_append vals (valid_del g ok), derefWrites_eq, ← del_mapV, ← derefWrites_eq, sv]
        · rw [derefWrites_put, hfresh, derefWrites_append vals ok, sv]
      · show Valid (s.mem ++ vals) _
        split
        · exact valid_append vals (valid_del g ok)
        · intro w hw a ha
          rcases List.mem_cons.1 hw with rfl | hw
          · have := mem_cellsAt ha
            show a < (s.mem ++ vals).length
            rw [List.length_append]
            omega
          · exact valid_append vals (valid_del g ok) w hw a ha
  | enable o =>
    simp only [hstep]
    by_cases he : s.upd.enabled = true
    · have hv : v.enabled = true := by rw [en, he]
      simp only [step, he, hv, if_true, derefOut]
      exact ⟨⟨en, sv, ok⟩, by trivial⟩
    · have he' : s.upd.enabled = false := by simpa using he
      have hv : v.enabled = false := by rw [en, he']
      simp only [step, he', hv, Bool.false_eq_true, if_false, derefOut]
      refine ⟨⟨rfl, rfl, by intro w hw; simp at hw⟩, ?_⟩
      rw [sv, derefWrites_eq, derefWrites_eq, flush_mapV]

theorem hrun_fresh_eq_run : ∀ (ops : List Op) {s : HState} {v : LState}, Sim s v →
    hrun allFresh s ops = run v ops
  | [], _, _, _ => rfl
  | op :: ops, s, v, h => by
    obtain ⟨h', e⟩ := sim_step h op
    simp only [hrun, run, e]
    rw [hrun_fresh_eq_run ops h']

theorem superseded_eq_lastSub (g : Group) : ∀ (ops : List Op),
    superseded g ops = (lastSub g ops).isSome
  | [] => rfl
  | .enable _ :: ops => by
    have := superseded_eq_lastSub g ops
    simpa [superseded, lastSub] using this
  | .update g' r :: ops => by
    rw [superseded_cons_update, superseded_eq_lastSub g ops]
    simp only [lastSub]
    cases h : lastSub g ops with
    | some x => simp
    | none =>
      by_cases hg : g' = g <;> simp [hg]

theorem mem_latest_iff_lastSub (g : Group) (r : List Req) : ∀ (ops : List Op),
    (g, r) ∈ latest ops ↔ lastSub g ops = some r ∧ r ≠ []
  | [] => by simp [latest, lastSub]
  | .enable _ :: ops => mem_latest_iff_lastSub g r ops
  | .update g' r' :: ops => by
    rw [mem_latest_cons_update, mem_latest_iff_lastSub g r ops, superseded_eq_lastSub, lastSub]
    cases lastSub g ops with
    | some x => simp
    | none => by_cases hg : g' = g <;> simp [hg]

theorem lastSub_append_other (g : Group) (b : List Op) (hb : superseded g b = false) :
    ∀ (a : List Op), lastSub g (a ++ b) = lastSub g a
  | [] => by
    have := superseded_eq_lastSub g b
    rw [hb] at this
    cases h : lastSub g b with
    | none => simp [h, lastSub]
    | some x => simp [h] at this
  | .enable _ :: a => by
    simpa [lastSub] using lastSub_append_other g b hb a
  | .update g' r :: a => by
    simp only [List.cons_append, lastSub, lastSub_append_other g b hb a]

/-- an event supersedes `g` only by submitting `g` -/
theorem superseded_ops_eq_false {g : Group} {ev : HEv} (h : g ∉ ev.groups) :
    superseded g ev.ops = false := by
  unfold HEv.groups at h
  generalize ev.ops = ops at h
  induction ops with
  | nil => rfl
  | cons op ops ih =>
    cases op with
    | enable o => exact ih h
    | update g' r =>
      rw [List.filterMap_cons, List.mem_cons, not_or] at h
      rw [superseded_cons_update, ih h.2, Bool.or_false]
      exact beq_false_of_ne fun e => h.1 e.symm

theorem opsOf_append (a b : List HEv) : opsOf (a ++ b) = opsOf a ++ opsOf b := by
  induction a with
  | nil => rfl
  | cons e a ih => simp [opsOf, ih]

def NoEnableEv (evs : List HEv) : Prop :=
  evs.all (fun | .enable _ => false | _ => true) = true

instance (evs : List HEv) : Decidable (NoEnableEv evs) := by unfold NoEnableEv; infer_instance

theorem noEnable_opsOf : ∀ {evs : List HEv}, NoEnableEv evs → NoEnable (opsOf evs)
  | [], _ => by simp [opsOf, NoEnable]
  | e :: evs, h => by
    simp only [NoEnableEv, List.all_cons, Bool.and_eq_true] at h
    have ih := noEnable_opsOf (evs := evs) h.2
    unfold NoEnable at ih ⊢
    rw [opsOf, List.any_append, ih, Bool.or_false]
    cases e <;> first | rfl | cases h.1

theorem runV_decompose (pre : List HEv) (o : List Group) (post : List HEv) (h : NoEnableEv pre) :
    runV (pre ++ .enable o :: post) =
      (opsOf pre).map (fun _ => Out.writes []) ++
        Out.writes (flush o (exec init (opsOf pre)).saved) :: (opsOf post).map after := by
  rw [runV, opsOf_append]
  exact run_decompose (opsOf pre) o (opsOf post) (noEnable_opsOf h)

end NGF.Leader
