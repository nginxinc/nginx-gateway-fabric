/-
C02 refinement proof, server stage: for a concrete request host, the server NGINX selects among the generated
server names of a port is the one whose entries are EXACTLY the specification's pool — the covering candidates of maximal
specificity (`pool_iff_server_entries`): an owned host selects the server named by the most specific accepted hostname,
and `specificity` of the listener/route intersection = `nameSpec` of that name (`acceptedX_covers`). The same lemma gives
the region where nobody owns the host: no generated server of the port stands for it (`refines_unowned_host`).
-/
import NGF.Proofs.PipelineBase
import NGF.Model.PipelineHyp

namespace NGF.Pipeline
open NGF.Hostname (hmatch moreSpecific shape covers_exact covers_wild_concrete moreSpecific_mem
  wild_labels_lt moreSpecific_nil_left moreSpecific_wild_wild moreSpecific_wild_exact moreSpecific_exact_wild moreSpecific_self)
open NGF.NginxEval (catchAll isWildName)

theorem spec_exact {h : Str} (hne : h ≠ []) (hw : NGF.Hostname.isWild h = false) :
    specificity h = 100000 + h.length := by
  have : isWild h = false := hw
  simp [specificity, List.isEmpty_eq_false_iff.mpr hne, this]

theorem spec_wild (t : Str) : specificity ('*' :: '.' :: t) = 1 + (t.length + 2) := by
  simp [specificity, isWild]

theorem spec_moreSpecific {l r q : Str} (hr : r ≠ []) (hq : NGF.Hostname.isWild q = false)
    (hl : NGF.Hostname.covers l q = true) (hrq : NGF.Hostname.covers r q = true) :
    specificity (moreSpecific l r) = max (specificity l) (specificity r) := by
  rcases shape l with rfl | ⟨tl, rfl⟩ | ⟨hl0, hwl⟩
  · rw [moreSpecific_nil_left]; exact (Nat.zero_max _).symm
  · have sl := ((covers_wild_concrete hq).mp hl)
    rcases shape r with rfl | ⟨tr, rfl⟩ | ⟨hr0, hwr⟩
    · exact absurd rfl hr
    · -- two wildcards covering `q`: more labels = longer
      have sr := (covers_wild_concrete hq).mp hrq
      rw [moreSpecific_wild_wild]
      split
      · rename_i h
        have : ¬ tl.length < tr.length := fun hlt => by have := wild_labels_lt sr sl hlt; omega
        rw [spec_wild, spec_wild]; omega
      · rename_i h
        have : ¬ tr.length < tl.length := fun hlt => h (wild_labels_lt sl sr hlt)
        rw [spec_wild, spec_wild]; omega
    · have := (covers_exact hr0 hwr).mp hrq
      subst this
      have := sl.length_le
      rw [moreSpecific_wild_exact tl hr0 hwr, spec_exact hr0 hwr, spec_wild]
      simp only [List.length_cons] at this; omega
  · have := (covers_exact hl0 hwl).mp hl
    subst this
    rcases shape r with rfl | ⟨tr, rfl⟩ | ⟨hr0, hwr⟩
    · exact absurd rfl hr
    · have := ((covers_wild_concrete hq).mp hrq).length_le
      rw [moreSpecific_exact_wild hl0 hwl tr, spec_exact hl0 hwl, spec_wild]
      simp only [List.length_cons] at this; omega
    · rw [← (covers_exact hr0 hwr).mp hrq, moreSpecific_self, Nat.max_self]

theorem nameSpec_inj {a b q : Str} (hq : isWildName q = false ∧ q ≠ catchAll)
    (ha : nameCovers a q = true) (hb : nameCovers b q = true) (he : nameSpec a = nameSpec b) : a = b := by
  rcases nameSpec_of_covers hq ha with ⟨ea, sa⟩ | ⟨ea, sa⟩ | ⟨wa, sa, la⟩ <;>
    rcases nameSpec_of_covers hq hb with ⟨eb, sb⟩ | ⟨eb, sb⟩ | ⟨wb, sb, lb⟩
  · rw [ea, eb]
  · omega
  · omega
  · omega
  · rw [ea, eb]
  · omega
  · omega
  · omega
  · -- two wildcards of the same length covering `q`
    exact NGF.NginxEval.wildCovers_unique wa wb (by omega)

/-- hostnames as the fragment allows them, plus `namesPlain` -/
structure HostsOK (l : Str) (rs : List Str) : Prop where
  lcat : l ≠ catchAll
  rne : ∀ r ∈ rs, r ≠ []
  rcat : ∀ r ∈ rs, r ≠ catchAll

theorem acceptedX_name {l : Str} {rs : List Str} (ok : HostsOK l rs) {hh : Str × Str} (h : hh ∈ acceptedX l rs) :
    (hh.1 = catchAll ∧ l = [] ∧ rs = [] ∧ hh.2 = []) ∨
    (hh.1 ≠ [] ∧ hh.1 ≠ catchAll ∧
      ((rs = [] ∧ hh.2 = [] ∧ hh.1 = l) ∨ (hh.2 ∈ rs ∧ hmatch l hh.2 = true ∧ hh.1 = moreSpecific l hh.2))) := by
  rcases mem_acceptedX.mp h with ⟨hrs, e⟩ | ⟨_, hr, hm, e⟩
  · by_cases hl : l = []
    · subst hl; subst e; exact Or.inl ⟨rfl, rfl, hrs, rfl⟩
    · have e' : hh = (l, []) := by rw [e, List.isEmpty_eq_false_iff.mpr hl]; rfl
      subst e'
      exact Or.inr ⟨hl, ok.lcat, Or.inl ⟨hrs, rfl, rfl⟩⟩
  · have hrne := ok.rne _ hr
    refine Or.inr ⟨?_, ?_, Or.inr ⟨hr, hm, e⟩⟩
    · rw [e]
      by_cases hl0 : l = []
      · rw [hl0, moreSpecific_nil_left]; exact hrne
      · rcases moreSpecific_mem hm with e' | e' <;> rw [e']
        · exact hl0
        · exact hrne
    · rw [e]
      rcases moreSpecific_mem hm with e' | e' <;> rw [e']
      · exact ok.lcat
      · exact ok.rcat _ hr

theorem acceptedX_covers {l : Str} {rs : List Str} (ok : HostsOK l rs) {q : Str}
    (hq : NGF.Hostname.isWild q = false) {hh : Str × Str} (h : hh ∈ acceptedX l rs) :
    nameCovers hh.1 q = (covers l q && covers hh.2 q) ∧
    (nameCovers hh.1 q = true → nameSpec hh.1 = max (specificity l) (specificity hh.2)) := by
  rcases acceptedX_name ok h with ⟨e1, e2, _, e4⟩ | ⟨hne, hcat, hcase⟩
  · rw [e1, e2, e4]
    simp [nameCovers, covers, nameSpec, specificity]
  · rw [nameCovers_eq hne hcat, nameSpec_eq hne hcat]
    rcases hcase with ⟨_, e2, e3⟩ | ⟨hr, hm, e3⟩
    · rw [e2, e3]
      constructor
      · simp only [covers_eq_hostname]
        simp [NGF.Hostname.covers]
      · intro _; simp [specificity]
    · rw [e3]
      have hrne := ok.rne _ hr
      constructor
      · exact NGF.Hostname.covers_moreSpecific hm q
      · intro hc
        have := NGF.Hostname.moreSpecific_covers hm q hc
        exact spec_moreSpecific hrne hq this.1 this.2

theorem acceptedX_of_covers {l : Str} {rs : List Str} (ok : HostsOK l rs) {q : Str}
    (hq : NGF.Hostname.isWild q = false) {rh : Str} (hrh : rh ∈ (if rs.isEmpty then [[]] else rs))
    (hl : covers l q = true) (hr : covers rh q = true) : ∃ h, (h, rh) ∈ acceptedX l rs := by
  by_cases hrs : rs = []
  · subst hrs
    simp only [List.isEmpty_nil, ↓reduceIte, List.mem_singleton] at hrh
    exact ⟨_, mem_acceptedX.mpr (Or.inl ⟨rfl, by rw [hrh]⟩)⟩
  · rw [List.isEmpty_eq_false_iff.mpr hrs] at hrh
    exact ⟨moreSpecific l rh, mem_acceptedX.mpr (Or.inr ⟨hrs, hrh, covers_both_hmatch (ok.rne rh hrh) hq hl hr, rfl⟩)⟩

theorem acceptedX_snd_mem {l : Str} {rs : List Str} {hh : Str × Str} (h : hh ∈ acceptedX l rs) :
    hh.2 ∈ (if rs.isEmpty then [[]] else rs) := by
  rcases mem_acceptedX.mp h with ⟨rfl, rfl⟩ | ⟨hrs, hr, _, _⟩
  · exact List.mem_singleton.mpr rfl
  · rw [List.isEmpty_eq_false_iff.mpr hrs]; exact hr

theorem no_server_covers_unowned {s : Scenario} {g : Gateway} (hw : winner s = some g) {q : Req}
    (hq : NGF.Hostname.isWild q.host = false)
    (hne : ∀ r ∈ s.routes, ∀ rh ∈ r.hostnames, rh ≠ [])
    (hcat : (∀ l ∈ g.listeners, l.host ≠ catchAll) ∧ ∀ r ∈ s.routes, ∀ rh ∈ r.hostnames, rh ≠ catchAll)
    (hun : ¬ owned g s.routes q.port q.host) :
    ∀ sv ∈ (gen s).servers, sv.port = q.port → nameCovers sv.name q.host = false := by
  intro sv hsv hport
  rw [gen_servers hw] at hsv
  obtain ⟨ph, hph, rfl⟩ := List.mem_map.mp hsv
  obtain ⟨l, hl, hlp, r, hr, hv, hacc⟩ := mem_hostsOf (p := ph.1) (h := ph.2) hph
  rw [acceptedAt_eq_map] at hacc
  obtain ⟨hh, hhh, e⟩ := List.mem_map.mp hacc
  unfold acceptedXAt at hhh
  by_cases hra : (refersTo g l r && nsAllowed g l r) = true
  · simp only [hra, ↓reduceIte] at hhh
    simp only [Bool.and_eq_true] at hra
    rw [Bool.eq_false_iff]
    intro hcov
    have hc := (acceptedX_covers ⟨hcat.1 l hl, hne r hr, hcat.2 r hr⟩ hq hhh).1
    have hcov' : nameCovers hh.1 q.host = true := by rw [e]; exact hcov
    rw [hc, Bool.and_eq_true] at hcov'
    refine hun ⟨l, hl, hlp.trans hport, r, hr, hv, hra.1, hra.2, hcov'.1, ?_⟩
    have hmem := acceptedX_snd_mem hhh
    by_cases hrs : r.hostnames = []
    · exact Or.inl hrs
    · rw [List.isEmpty_eq_false_iff.mpr hrs] at hmem
      exact Or.inr ⟨hh.2, hmem, hcov'.2⟩
  · simp [hra] at hhh

/-- The refinement on the region "nobody owns the host on this port": 404 on both sides. -/
theorem refines_unowned_host (s : Scenario) (q : Req) (g : Gateway) (hw : winner s = some g)
    (hport : g.listeners.any (·.port == q.port) = true)
    (hq : NGF.Hostname.isWild q.host = false ∧ q.host ≠ catchAll)
    (hne : ∀ r ∈ s.routes, ∀ rh ∈ r.hostnames, rh ≠ [])
    (hcat : (∀ l ∈ g.listeners, l.host ≠ catchAll) ∧ ∀ r ∈ s.routes, ∀ rh ∈ r.hostnames, rh ≠ catchAll)
    (hun : ¬ owned g s.routes q.port q.host) :
    nginxEvalConf (gen s) q = routeF s q := by
  have hports : (gen s).ports.contains q.port = true := (gen_ports_contains hw q.port).trans hport
  have hnil : (specCands g s.routes q.port).filter (candCovers · q.host) = [] :=
    List.filter_eq_nil_iff.mpr fun c hc => by simp [no_cand_covers_unowned hun c hc]
  rw [nginx_uncovered_host_404 (gen s) q hq hports (no_server_covers_unowned hw hq.1 hne hcat hun)]
  unfold routeF
  simp only [hw, hport, Bool.not_true, Bool.false_eq_true, ↓reduceIte, hnil, List.foldl_nil, List.filter_nil, best]

structure ScenOK (g : Gateway) (routes : List Route) : Prop where
  hosts : ∀ l ∈ g.listeners, ∀ r ∈ routes, HostsOK l.host r.hostnames
  rules : ∀ r ∈ routes, r.valid = true → ∃ rule ∈ r.rules, rule.ms ≠ []
  ids : nodup (routes.map fun r => (r.ns, r.name)) = true
  matches_ : ∀ r ∈ routes, ∀ rule ∈ r.rules, ∀ m ∈ rule.ms, matchOK m = true

theorem scenOK_of {s : Scenario} {g : Gateway} (hw : winner s = some g) (hf : inFragment s = true)
    (hp : namesPlain s = true) (hr : routesHaveRules s = true) : ScenOK g s.routes := by
  simp only [inFragment, hw, Bool.and_eq_true, List.all_eq_true] at hf
  simp only [namesPlain, hw, Bool.and_eq_true, List.all_eq_true, bne_iff_ne, ne_eq] at hp
  simp only [routesHaveRules, List.all_eq_true, Bool.or_eq_true, Bool.not_eq_true', List.any_eq_true] at hr
  refine ⟨?_, ?_, hf.1.1, ?_⟩
  · intro l hl r hr'
    refine ⟨hp.2 l hl, ?_, hp.1 r hr'⟩
    intro rh hrh e
    have := hf.1.2 r hr'
    simp only [routeOK, Bool.and_eq_true, List.all_eq_true] at this
    have := this.1.1 rh hrh
    simp [hostOK, e] at this
  · intro r hr' hv
    rcases hr r hr' with h | ⟨rule, h1, h2⟩
    · rw [hv] at h; cases h
    · exact ⟨rule, h1, by intro e; simp [e] at h2⟩
  · intro r hr' rule hrule m hm
    have := hf.1.2 r hr'
    simp only [routeOK, Bool.and_eq_true, List.all_eq_true] at this
    exact this.2 rule hrule m hm

theorem xe_of_cand {g : Gateway} {routes : List Route} (ok : ScenOK g routes) {p : Nat} {q : Str}
    (hq : NGF.Hostname.isWild q = false) {c : Cand} (hc : c ∈ specCands g routes p) (hcov : candCovers c q = true) :
    ∃ h, (⟨p, h, c⟩ : XE) ∈ xentries g routes ∧ nameCovers h q = true ∧ nameSpec h = candSpec c := by
  obtain ⟨l, hl, hp, r, hr, hv, h1, h2, rh, hrh, ir, hir, jm, hjm, rfl⟩ := mem_specCands.mp hc
  simp only [candCovers, mkCand, Bool.and_eq_true] at hcov
  obtain ⟨h, hh⟩ := acceptedX_of_covers (ok.hosts l hl r hr) hq hrh hcov.1 hcov.2
  have hcv := acceptedX_covers (ok.hosts l hl r hr) hq hh
  simp only [hcov.1, hcov.2, Bool.and_self] at hcv
  refine ⟨h, mem_xentries.mpr ⟨l, hl, r, hr, hv, h1, h2, (h, rh), hh, ir, hir, jm, hjm, ?_⟩, hcv.1, ?_⟩
  · simp [mkX, hp]
  · rw [hcv.2 hcv.1]; rfl

theorem cand_of_xe {g : Gateway} {routes : List Route} (ok : ScenOK g routes) {q : Str}
    (hq : NGF.Hostname.isWild q = false) {x : XE} (hx : x ∈ xentries g routes) :
    x.c ∈ specCands g routes x.port ∧ nameCovers x.host q = candCovers x.c q ∧
    (nameCovers x.host q = true → nameSpec x.host = candSpec x.c) := by
  obtain ⟨l, hl, r, hr, hv, h1, h2, hh, hhh, ir, hir, jm, hjm, rfl⟩ := mem_xentries.mp hx
  have hcv := acceptedX_covers (ok.hosts l hl r hr) hq hhh
  refine ⟨mem_specCands.mpr ⟨l, hl, rfl, r, hr, hv, h1, h2, hh.2, acceptedX_snd_mem hhh, ir, hir, jm, hjm, rfl⟩, ?_, ?_⟩
  · exact hcv.1
  · exact hcv.2

theorem mem_hostsOf_iff {g : Gateway} {routes : List Route} {p : Nat} {h : Str} :
    (p, h) ∈ hostsOf g routes ↔
    ∃ l ∈ g.listeners, l.port = p ∧ ∃ r ∈ routes, r.valid = true ∧ h ∈ acceptedAt g l r := by
  constructor
  · exact mem_hostsOf
  · rintro ⟨l, hl, hp, r, hr, hv, hh⟩
    unfold hostsOf
    rw [List.mem_eraseDups]
    refine List.mem_flatMap.mpr ⟨l, hl, List.mem_flatMap.mpr ⟨r, hr, ?_⟩⟩
    simp only [hv, ↓reduceIte, List.mem_map, Prod.mk.injEq]
    exact ⟨h, hh, hp, rfl⟩

theorem host_of_xe {g : Gateway} {routes : List Route} {x : XE} (hx : x ∈ xentries g routes) :
    (x.port, x.host) ∈ hostsOf g routes := by
  obtain ⟨l, hl, r, hr, hv, h1, h2, hh, hhh, ir, hir, jm, hjm, rfl⟩ := mem_xentries.mp hx
  refine mem_hostsOf_iff.mpr ⟨l, hl, rfl, r, hr, hv, ?_⟩
  rw [acceptedAt_eq_map]
  simp only [acceptedXAt, h1, h2, Bool.and_self, ↓reduceIte]
  exact List.mem_map.mpr ⟨hh, hhh, rfl⟩

/-- every generated server has an entry (this is where `routesHaveRules` is needed) -/
theorem xe_of_host {g : Gateway} {routes : List Route} (ok : ScenOK g routes) {p : Nat} {h : Str}
    (hm : (p, h) ∈ hostsOf g routes) : ∃ c, (⟨p, h, c⟩ : XE) ∈ xentries g routes := by
  obtain ⟨l, hl, hp, r, hr, hv, hh⟩ := mem_hostsOf_iff.mp hm
  rw [acceptedAt_eq_map] at hh
  obtain ⟨hh', hhh, rfl⟩ := List.mem_map.mp hh
  unfold acceptedXAt at hhh
  by_cases ha : (refersTo g l r && nsAllowed g l r) = true
  · simp only [ha, ↓reduceIte] at hhh
    simp only [Bool.and_eq_true] at ha
    obtain ⟨rule, hrule, hms⟩ := ok.rules r hr hv
    obtain ⟨i, hi⟩ := mem_enumFrom_of_mem hrule 0
    obtain ⟨m, hm'⟩ := List.exists_mem_of_ne_nil _ hms
    obtain ⟨j, hj⟩ := mem_enumFrom_of_mem hm' 0
    refine ⟨mkCand l r hh'.2 i rule j m, mem_xentries.mpr ⟨l, hl, r, hr, hv, ha.1, ha.2, hh', hhh, (i, rule), hi, (j, m), hj, ?_⟩⟩
    simp [mkX, hp]
  · simp [ha] at hhh

theorem foldl_max_ge {α} (f : α → Nat) : ∀ (l : List α) (a : Nat), a ≤ l.foldl (fun acc c => max acc (f c)) a ∧
    ∀ c ∈ l, f c ≤ l.foldl (fun acc c => max acc (f c)) a
  | [], a => ⟨Nat.le_refl _, fun _ h => nomatch h⟩
  | x :: xs, a => by
    have ih := foldl_max_ge f xs (max a (f x))
    refine ⟨Nat.le_trans (Nat.le_max_left _ _) ih.1, fun c hc => ?_⟩
    rcases List.mem_cons.mp hc with rfl | hc
    · exact Nat.le_trans (Nat.le_max_right _ _) ih.1
    · exact ih.2 c hc

theorem foldl_max_attained {α} (f : α → Nat) : ∀ (l : List α) (a : Nat),
    l.foldl (fun acc c => max acc (f c)) a = a ∨ ∃ c ∈ l, f c = l.foldl (fun acc c => max acc (f c)) a
  | [], a => Or.inl rfl
  | x :: xs, a => by
    rw [List.foldl_cons]
    rcases foldl_max_attained f xs (max a (f x)) with h | ⟨c, hc, h⟩
    · rw [h]
      rcases Nat.le_total a (f x) with hax | hax
      · exact Or.inr ⟨x, List.mem_cons_self, (Nat.max_eq_right hax).symm⟩
      · exact Or.inl (Nat.max_eq_left hax)
    · exact Or.inr ⟨c, List.mem_cons_of_mem _ hc, h⟩

/-- Server stage, composed: if `n` is the most specific generated server name of port `p` that stands for the
concrete host `q` (what NGINX selects, `selectName_most_specific`), then the specification's pool — the covering
candidates of maximal specificity — consists exactly of the candidates behind the entries of server `(p, n)`. -/
theorem pool_iff_server_entries {g : Gateway} {routes : List Route} (ok : ScenOK g routes) {p : Nat} {q n : Str}
    (hq : isWildName q = false ∧ q ≠ catchAll) (hn : (p, n) ∈ hostsOf g routes) (hcov : nameCovers n q = true)
    (hmax : ∀ m, (p, m) ∈ hostsOf g routes → nameCovers m q = true → nameSpec m ≤ nameSpec n) (c : Cand) :
    c ∈ ((specCands g routes p).filter (candCovers · q)).filter
        (fun c => candSpec c == ((specCands g routes p).filter (candCovers · q)).foldl (fun acc c => max acc (candSpec c)) 0) ↔
    (⟨p, n, c⟩ : XE) ∈ xentries g routes := by
  have hq' : NGF.Hostname.isWild q = false := hq.1
  generalize hcv : (specCands g routes p).filter (candCovers · q) = covering
  generalize htop : covering.foldl (fun acc c => max acc (candSpec c)) 0 = top
  have hge := (foldl_max_ge candSpec covering 0).2
  rw [htop] at hge
  -- the top specificity is that of `n`
  have htopn : top = nameSpec n := by
    obtain ⟨c0, hc0⟩ := xe_of_host ok hn
    have h0 := cand_of_xe ok hq' hc0
    have hc0cov : candCovers c0 q = true := by rw [← h0.2.1]; exact hcov
    have hc0mem : c0 ∈ covering := by rw [← hcv]; exact List.mem_filter.mpr ⟨h0.1, hc0cov⟩
    have h1 : nameSpec n ≤ top := by rw [h0.2.2 hcov]; exact hge c0 hc0mem
    rcases foldl_max_attained candSpec covering 0 with h | ⟨c1, hc1, h⟩
    · rw [htop] at h; omega
    · rw [htop] at h
      rw [← hcv] at hc1
      have hc1' := List.mem_filter.mp hc1
      obtain ⟨h', hx, hcv', hsp⟩ := xe_of_cand ok hq' hc1'.1 hc1'.2
      have := hmax h' (host_of_xe hx) hcv'
      omega
  simp only [List.mem_filter, beq_iff_eq]
  constructor
  · rintro ⟨hc, hs⟩
    rw [← hcv] at hc
    have hc' := List.mem_filter.mp hc
    obtain ⟨h', hx, hcv', hsp⟩ := xe_of_cand ok hq' hc'.1 hc'.2
    have : h' = n := nameSpec_inj hq hcv' hcov (by omega)
    rw [← this]; exact hx
  · intro hx
    have h0 := cand_of_xe ok hq' hx
    have hcc : candCovers c q = true := by rw [← h0.2.1]; exact hcov
    refine ⟨by rw [← hcv]; exact List.mem_filter.mpr ⟨h0.1, hcc⟩, ?_⟩
    rw [htopn]; exact (h0.2.2 hcov).symm

theorem no_covering_of_unselected {g : Gateway} {routes : List Route} (ok : ScenOK g routes) {p : Nat} {q : Str}
    (hq : NGF.Hostname.isWild q = false)
    (hnone : ∀ m, (p, m) ∈ hostsOf g routes → nameCovers m q = false) :
    (specCands g routes p).filter (candCovers · q) = [] := by
  rw [List.filter_eq_nil_iff]
  intro c hc hcov
  obtain ⟨h, hx, hcv, _⟩ := xe_of_cand ok hq hc hcov
  rw [hnone h (host_of_xe hx)] at hcv; cases hcv

end NGF.Pipeline
