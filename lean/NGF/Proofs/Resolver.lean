/-
C13, resolution: `dedup`, `findPort` against the declarative `publishedPort`/`candidatePorts`, membership in every stage of
`resolve`, the judge of `ResolverSpec` accepting what the model computes, and `dedupUps` (first upstream of every name kept;
`PipelineEndpoints.dedupByName` is the same function). Core Lean only.
-/
import NGF.Model.ResolverSpec
import NGF.Model.ResolverHistory
import NGF.Proofs.ListBasics

namespace NGF.Resolver

theorem mem_dedup {α} [DecidableEq α] {a : α} : ∀ {l : List α}, a ∈ dedup l ↔ a ∈ l
  | [] => by simp [dedup]
  | b :: l => by
    have ih := @mem_dedup α _ a l
    by_cases h : b ∈ dedup l
    · simp only [dedup, h, if_true, List.mem_cons]
      constructor
      · intro h'; exact Or.inr (ih.mp h')
      · rintro (rfl | h')
        · exact h
        · exact ih.mpr h'
    · simp only [dedup, h, if_false, List.mem_cons, ih]

theorem nodup_dedup {α} [DecidableEq α] : ∀ (l : List α), (dedup l).Nodup
  | [] => by simp [dedup]
  | b :: l => by
    by_cases h : b ∈ dedup l
    · simp only [dedup, h, if_true]; exact nodup_dedup l
    · simp only [dedup, h, if_false]; exact List.nodup_cons.mpr ⟨h, nodup_dedup l⟩

theorem nodupB_iff {α} [DecidableEq α] : ∀ {l : List α}, nodupB l = true ↔ l.Nodup
  | [] => by simp [nodupB]
  | a :: l => by simp [nodupB, List.nodup_cons, @nodupB_iff α _ l]

/-- upstream names are keys (of a Go map in `buildUpstreams`) -/
theorem unique_of_nodup_names {ups : List Up} {u u' : Up} (h : (ups.map (·.name)).Nodup)
    (hu : u ∈ ups) (hu' : u' ∈ ups) (hn : u.name = u'.name) : u = u' :=
  inj_of_nodup_map h _ hu _ hu' hn

theorem findPort_eq (ports : List EndpointPort) (sp : SvcPort) :
    findPort ports sp = match ports.find? (hitsB sp) with
      | some p => hitValue sp p
      | none => 0 := by
  induction ports with
  | nil => simp [findPort]
  | cons p ps ih =>
    cases hp : p.port with
    | none => simp [findPort, hp, hitsB, hitValue]
    | some n =>
      by_cases hn : p.name = some sp.name
      · simp [findPort, hp, hn, hitsB, hitValue]
      · simp [findPort, hp, hn, hitsB, ih]

theorem publishedPort_eq (ports : List EndpointPort) (sp : SvcPort) :
    publishedPort ports sp = if findPort ports sp = 0 then none else some (findPort ports sp) := by
  rw [findPort_eq]
  unfold publishedPort
  cases ports.find? (hitsB sp) <;> simp

theorem publishedPort_some {ports : List EndpointPort} {sp : SvcPort} {q : Nat} :
    publishedPort ports sp = some q ↔ findPort ports sp = q ∧ q ≠ 0 := by
  rw [publishedPort_eq]
  by_cases h : findPort ports sp = 0
  · simp [h]; intro h'; exact h'.symm
  · simp [h]; intro h'; subst h'; exact h

theorem getDefaultPort_ne_zero {sp : SvcPort} (h : sp.port ≠ 0) : getDefaultPort sp ≠ 0 := by
  unfold getDefaultPort
  cases sp.targetPort with
  | int n => by_cases hn : n = 0 <;> simp [hn, h]
  | str _ => simpa using h

theorem mem_candidatePorts {ports : List EndpointPort} {sp : SvcPort} {q : Nat} :
    q ∈ candidatePorts ports sp ↔ ∃ p ∈ ports, hitsB sp p = true ∧ hitValue sp p = q := by
  simp only [candidatePorts, List.mem_filterMap]
  constructor
  · rintro ⟨p, hp, h⟩
    refine ⟨p, hp, ?_⟩
    cases hpp : p.port with
    | none => simp [hpp] at h; simp [hitsB, hitValue, hpp, h]
    | some n =>
      simp only [hpp] at h
      by_cases hn : p.name = some sp.name
      · simp [hn] at h; simp [hitsB, hitValue, hpp, hn, h]
      · simp [hn] at h
  · rintro ⟨p, hp, hh, hv⟩
    refine ⟨p, hp, ?_⟩
    cases hpp : p.port with
    | none => simp [hitValue, hpp] at hv; simp [hv]
    | some n =>
      simp [hitValue, hpp] at hv
      simp [hitsB, hpp] at hh
      simp [hh, hv]

theorem findPort_mem_candidates {ports : List EndpointPort} {sp : SvcPort} (h : findPort ports sp ≠ 0) :
    findPort ports sp ∈ candidatePorts ports sp := by
  rw [findPort_eq] at h ⊢
  cases hf : ports.find? (hitsB sp) with
  | none => simp [hf] at h
  | some p =>
    simp only []
    exact mem_candidatePorts.mpr ⟨p, List.mem_of_find?_eq_some hf, List.find?_some hf, rfl⟩

theorem findPort_ne_zero_of_candidates {ports : List EndpointPort} {sp : SvcPort} (hsp : sp.port ≠ 0)
    (hz : ∀ p ∈ ports, p.port ≠ some 0) (hc : candidatePorts ports sp ≠ []) : findPort ports sp ≠ 0 := by
  obtain ⟨q, hq⟩ := List.exists_mem_of_ne_nil _ hc
  obtain ⟨p, hp, hh, _⟩ := mem_candidatePorts.mp hq
  rw [findPort_eq]
  cases hf : ports.find? (hitsB sp) with
  | none =>
    have := List.find?_eq_none.mp hf p hp
    simp [hh] at this
  | some p' =>
    simp only []
    have hp' := List.mem_of_find?_eq_some hf
    unfold hitValue
    cases hpp : p'.port with
    | none => exact getDefaultPort_ne_zero hsp
    | some n =>
      simp only []
      intro hn; subst hn
      exact hz p' hp' hpp

theorem mem_sliceEndpoints {s : Slice} {sp : SvcPort} {e : Ep} :
    e ∈ sliceEndpoints s sp ↔
      e.port = findPort s.ports sp ∧ e.ipv6 = decide (s.addrType = .ipv6) ∧
      ∃ ep ∈ s.endpoints, ep.ready = some true ∧ e.address ∈ ep.addresses := by
  simp only [sliceEndpoints, List.mem_flatMap, List.mem_filter, List.mem_map, endpointReady, beq_iff_eq]
  constructor
  · rintro ⟨ep, ⟨hep, hr⟩, a, ha, rfl⟩
    exact ⟨rfl, rfl, ep, hep, hr, ha⟩
  · rintro ⟨hp, hv, ep, hep, hr, ha⟩
    refine ⟨ep, ⟨hep, hr⟩, e.address, ha, ?_⟩
    cases e; simp_all

theorem indexKey_eq_some {s : Slice} {name : String} :
    indexKey s = some name ↔ s.svcLabel = some name ∧ name ≠ "" := by
  unfold indexKey
  cases s.svcLabel with
  | none => simp
  | some v =>
    by_cases hv : v = ""
    · subst hv; simp
    · simp only [hv, if_false, Option.some.injEq, ne_eq, iff_self_and]; intro h; exact h ▸ hv

theorem mem_listSlices {all : List Slice} {ns name : String} {s : Slice} (hname : name ≠ "") :
    s ∈ listSlices all ns name ↔ s ∈ all ∧ s.ns = ns ∧ s.svcLabel = some name := by
  simp only [listSlices, List.mem_filter, Bool.and_eq_true, decide_eq_true_eq, indexKey_eq_some, hname,
    ne_eq, not_false_eq_true, and_true]

theorem mem_filterEndpointSliceList {l : List Slice} {sp : SvcPort} {allowed : List AddrType} {s : Slice} :
    s ∈ filterEndpointSliceList l sp allowed ↔
      s ∈ l ∧ s.addrType ≠ .fqdn ∧ s.addrType ∈ allowed ∧ findPort s.ports sp ≠ 0 := by
  simp only [filterEndpointSliceList, List.mem_filter, ignoreEndpointSlice]
  by_cases h1 : s.addrType = .fqdn
  · simp [h1]
  · by_cases h2 : s.addrType ∈ allowed
    · simp [h1, h2]
    · simp [h1, h2]

theorem mem_collect {f : List Slice} {sp : SvcPort} {e : Ep} :
    e ∈ collect f sp ↔ ∃ s ∈ f, e ∈ sliceEndpoints s sp := by
  simp [collect, mem_dedup, List.mem_flatMap]

theorem resolve_eps_eq {all : List Slice} {ns name : String} {sp : SvcPort} {allowed : List AddrType}
    (hp : sp.port ≠ 0) (hname : name ≠ "") (hns : ns ≠ "") :
    (resolve all ns name sp allowed).eps =
      collect (filterEndpointSliceList (listSlices all ns name) sp allowed) sp := by
  simp only [resolve, hp, hname, hns, or_self, if_false, resolveEndpoints]
  by_cases h1 : (listSlices all ns name).isEmpty
  · have : listSlices all ns name = [] := by simpa using h1
    simp [this, Res.eps, filterEndpointSliceList, collect, dedup]
  · simp only [h1]
    by_cases h2 : (filterEndpointSliceList (listSlices all ns name) sp allowed).isEmpty
    · have : filterEndpointSliceList (listSlices all ns name) sp allowed = [] := by simpa using h2
      simp [this, Res.eps, collect, dedup]
    · simp [h2, Res.eps]

theorem mem_resolve_eps {all : List Slice} {ns name : String} {sp : SvcPort} {allowed : List AddrType}
    (hp : sp.port ≠ 0) (hname : name ≠ "") (hns : ns ≠ "") (e : Ep) :
    e ∈ (resolve all ns name sp allowed).eps ↔ InSpec all ns name sp allowed e := by
  rw [resolve_eps_eq hp hname hns, mem_collect]
  constructor
  · rintro ⟨s, hs, he⟩
    obtain ⟨hl, hf, ha, hq⟩ := mem_filterEndpointSliceList.mp hs
    obtain ⟨hall, hns', hlab⟩ := (mem_listSlices hname).mp hl
    obtain ⟨hport, hv6, hep⟩ := mem_sliceEndpoints.mp he
    exact ⟨s, hall, hns', hlab, hf, ha, publishedPort_some.mpr ⟨hport.symm, hport ▸ hq⟩, hv6, hep⟩
  · rintro ⟨s, hall, hns', hlab, hf, ha, hpub, hv6, hep⟩
    obtain ⟨hport, hq⟩ := publishedPort_some.mp hpub
    refine ⟨s, mem_filterEndpointSliceList.mpr ⟨(mem_listSlices hname).mpr ⟨hall, hns', hlab⟩, hf, ha, ?_⟩,
      mem_sliceEndpoints.mpr ⟨hport.symm, hv6, hep⟩⟩
    rw [hport]; exact hq

theorem nodup_resolve_eps (all : List Slice) (ns name : String) (sp : SvcPort) (allowed : List AddrType) :
    (resolve all ns name sp allowed).eps.Nodup := by
  unfold resolve resolveEndpoints
  split
  · simp [Res.eps]
  · simp only []
    split
    · simp [Res.eps]
    · split
      · simp [Res.eps]
      · simp only [Res.eps, collect]; exact nodup_dedup _

theorem mem_relevant {all : List Slice} {ns name : String} {allowed : List AddrType} {s : Slice} :
    s ∈ relevant all ns name allowed ↔
      s ∈ all ∧ s.ns = ns ∧ s.svcLabel = some name ∧ s.addrType ≠ .fqdn ∧ s.addrType ∈ allowed := by
  simp [relevant, belongs, eligible, and_assoc]

theorem mem_readyAddrs {s : Slice} {a : String} :
    a ∈ readyAddrs s ↔ ∃ ep ∈ s.endpoints, ep.ready = some true ∧ a ∈ ep.addresses := by
  simp [readyAddrs, List.mem_flatMap, and_assoc]

theorem judgeResolve_model {all : List Slice} {ns name : String} {sp : SvcPort} {allowed : List AddrType}
    (hadm : admissible all ns name sp allowed = true) :
    judgeResolve all ns name sp allowed (resolve all ns name sp allowed).eps = [] := by
  simp only [admissible, Bool.and_eq_true, decide_eq_true_eq, Bool.not_eq_true', List.any_eq_false] at hadm
  obtain ⟨⟨⟨hp, hname⟩, hns⟩, hz⟩ := hadm
  have hmem := @mem_resolve_eps all ns name sp allowed hp hname hns
  have h1 : nodupB (resolve all ns name sp allowed).eps = true :=
    nodupB_iff.mpr (nodup_resolve_eps all ns name sp allowed)
  have h2 : judgeSound (relevant all ns name allowed) sp (resolve all ns name sp allowed).eps = true := by
    simp only [judgeSound, List.all_eq_true, List.any_eq_true]
    intro e he
    obtain ⟨s, hall, hns', hlab, hf, ha, hpub, hv6, hep⟩ := (hmem e).mp he
    obtain ⟨hport, hq⟩ := publishedPort_some.mp hpub
    refine ⟨s, mem_relevant.mpr ⟨hall, hns', hlab, hf, ha⟩, ?_⟩
    simp only [epOfSlice, Bool.and_eq_true, decide_eq_true_eq]
    refine ⟨⟨hv6, mem_readyAddrs.mpr hep⟩, ?_⟩
    rw [← hport]; exact findPort_mem_candidates (by rw [hport]; exact hq)
  have h3 : judgeComplete (relevant all ns name allowed) sp (resolve all ns name sp allowed).eps = true := by
    simp only [judgeComplete, List.all_eq_true, Bool.or_eq_true, List.any_eq_true, Bool.and_eq_true,
      decide_eq_true_eq]
    intro s hs
    by_cases hc : candidatePorts s.ports sp = []
    · left; simp [hc]
    · right
      intro a ha
      obtain ⟨hall, hns', hlab, hf, hal⟩ := mem_relevant.mp hs
      have hzs : ∀ p ∈ s.ports, p.port ≠ some 0 := by
        have := hz s hs
        intro p hpm hp0
        apply this
        simp only [zeroPort, List.any_eq_true, decide_eq_true_eq]
        exact ⟨p, hpm, hp0⟩
      have hq := findPort_ne_zero_of_candidates hp hzs hc
      refine ⟨⟨a, findPort s.ports sp, decide (s.addrType = .ipv6)⟩, ?_, ⟨rfl, rfl⟩, findPort_mem_candidates hq⟩
      exact (hmem _).mpr ⟨s, hall, hns', hlab, hf, hal, publishedPort_some.mpr ⟨rfl, hq⟩, rfl,
        mem_readyAddrs.mp ha⟩
  simp [judgeResolve, h1, h2, h3]

theorem upstreamEndpoints_congr {a b : List Slice} {ns name : String} (sp : SvcPort) (fam : IPFamily)
    (h : listSlices a ns name = listSlices b ns name) :
    upstreamEndpoints a ns name sp fam = upstreamEndpoints b ns name sp fam := by
  unfold upstreamEndpoints resolve
  rw [h]

theorem mem_dedupUps : ∀ {l : List Up} {seen : List String} {u : Up},
    u ∈ dedupUps l seen → u ∈ l ∧ u.name ∉ seen
  | [], _, _, h => by simp [dedupUps] at h
  | x :: r, seen, u, h => by
    unfold dedupUps at h
    by_cases hx : x.name ∈ seen
    · simp only [hx, if_true] at h
      obtain ⟨h1, h2⟩ := mem_dedupUps h
      exact ⟨List.mem_cons_of_mem _ h1, h2⟩
    · simp only [hx, if_false, List.mem_cons] at h
      rcases h with rfl | h
      · exact ⟨List.mem_cons_self .., hx⟩
      · obtain ⟨h1, h2⟩ := mem_dedupUps h
        exact ⟨List.mem_cons_of_mem _ h1, fun hin => h2 (List.mem_cons_of_mem _ hin)⟩

theorem name_mem_dedupUps : ∀ {l : List Up} {seen : List String} {n : String},
    n ∈ l.map (·.name) → n ∉ seen → n ∈ (dedupUps l seen).map (·.name)
  | [], _, _, h, _ => by simp at h
  | x :: r, seen, n, h, hs => by
    unfold dedupUps
    simp only [List.map_cons, List.mem_cons] at h
    by_cases hx : x.name ∈ seen
    · simp only [hx, if_true]
      rcases h with rfl | h
      · exact absurd hx hs
      · exact name_mem_dedupUps h hs
    · simp only [hx, if_false, List.map_cons, List.mem_cons]
      by_cases hn : n = x.name
      · exact .inl hn
      · right
        rcases h with h | h
        · exact absurd h hn
        · exact name_mem_dedupUps h (by simp [hn, hs])

theorem nodup_dedupUps : ∀ (l : List Up) (seen : List String), ((dedupUps l seen).map (·.name)).Nodup
  | [], _ => by simp [dedupUps]
  | x :: r, seen => by
    unfold dedupUps
    by_cases hx : x.name ∈ seen
    · simp only [hx, if_true]; exact nodup_dedupUps r seen
    · simp only [hx, if_false, List.map_cons, List.nodup_cons]
      refine ⟨?_, nodup_dedupUps r _⟩
      intro hin
      obtain ⟨u, hu, hn⟩ := List.mem_map.mp hin
      exact (mem_dedupUps hu).2 (by rw [hn]; exact List.mem_cons_self ..)

end NGF.Resolver
