/-
C02 refinement proof, location stage: NGINX's location selection over the external location scheme
(`Precedence.genLocs`, mirroring `createLocations`/`initializeExternalLocations`) of the path rules of ONE server picks the
path rule the specification ranks first by path: an Exact rule for the request path, else the longest PathPrefix rule
that hits it (`select_fragment`); and a generated location determines its path rule (`genLocs_rule_unique`).
Path rules are given as their keys `(exact, path)` as `serverOf` computes them (distinct; every path starts with `/`;
no prefix value other than `/` ends in `/` — the fragment).
-/
import NGF.Proofs.Locations
import NGF.Model.Pipeline

namespace NGF.Pipeline
open NGF.Precedence NGF.NginxEval NGF.Locations

abbrev Key := Bool × Str

def rulesOf (keys : List Key) : List PathRule := keys.map fun k => ⟨k.2, !k.1⟩

/-- does the path rule with this key hit the request path? (`pathHit` of its matches) -/
def khit (k : Key) (q : Str) : Bool := if k.1 then k.2 == q else prefixHit k.2 q

structure KeysOK (keys : List Key) : Prop where
  nodup : keys.Pairwise (· ≠ ·)
  slash : ∀ k ∈ keys, k.2.head? = some '/'
  noTrail : ∀ k ∈ keys, k.1 = false → k.2 = ['/'] ∨ endsSlash k.2 = false

theorem rulesOf_get (keys : List Key) (i : Nat) :
    (rulesOf keys)[i]? = (keys[i]?).map fun k => (⟨k.2, !k.1⟩ : PathRule) := by
  simp [rulesOf]

theorem rulesOf_length (keys : List Key) : (rulesOf keys).length = keys.length := by simp [rulesOf]

theorem hasExact_iff (keys : List Key) (p : Str) : hasExact (rulesOf keys) p = true ↔ (true, p) ∈ keys := by
  simp only [hasExact, rulesOf, List.any_map, List.any_eq_true, Function.comp, Bool.not_not, Bool.and_eq_true,
    beq_iff_eq]
  constructor
  · rintro ⟨k, hk, h1, h2⟩
    rw [← Prod.ext (x := k) (y := (true, p)) h1 h2]; exact hk
  · intro h; exact ⟨(true, p), h, rfl, rfl⟩

theorem hasPrefix_iff (keys : List Key) (p : Str) : hasPrefix (rulesOf keys) p = true ↔ (false, p) ∈ keys := by
  simp only [hasPrefix, rulesOf, List.any_map, List.any_eq_true, Function.comp, Bool.and_eq_true,
    Bool.not_eq_true', beq_iff_eq]
  constructor
  · rintro ⟨k, hk, h1, h2⟩
    rw [← Prod.ext (x := k) (y := (false, p)) h1 h2]; exact hk
  · intro h; exact ⟨(false, p), h, rfl, rfl⟩

theorem anyRoot_iff (keys : List Key) :
    (rulesOf keys).any (fun r => r.path == ['/']) = true ↔ ∃ k ∈ keys, k.2 = ['/'] := by
  simp [rulesOf, List.any_map, Function.comp]

theorem endsSlash_snoc (p : Str) : endsSlash (p ++ ['/']) = true := by simp [endsSlash]

theorem ne_nil_of_slash {p : Str} (h : p.head? = some '/') : p ≠ [] := by
  intro e; simp [e] at h

theorem snoc_ne_root {p : Str} (h : p ≠ []) : p ++ ['/'] ≠ ['/'] := by
  intro e
  have := congrArg List.length e
  simp only [List.length_append, List.length_cons, List.length_nil] at this
  exact h (List.eq_nil_of_length_eq_zero (by omega))

theorem extLocs_exact (rules : List PathRule) (i : Nat) (p : Str) :
    extLocs rules i ⟨p, false⟩ = [⟨true, p, i⟩] := by simp [extLocs]

theorem extLocs_root (rules : List PathRule) (i : Nat) :
    extLocs rules i ⟨['/'], true⟩ = [⟨false, ['/'], i⟩] := by simp [extLocs, endsSlash]

theorem extLocs_prefix {keys : List Key} (ok : KeysOK keys) (i : Nat) {p : Str} (hk : (false, p) ∈ keys)
    (hp : p ≠ ['/']) :
    extLocs (rulesOf keys) i ⟨p, true⟩ =
      ⟨false, p ++ ['/'], i⟩ :: (if hasExact (rulesOf keys) p then [] else [⟨true, p, i⟩]) := by
  have hes : endsSlash p = false := by
    rcases ok.noTrail _ hk rfl with h | h
    · exact absurd h hp
    · exact h
  have hsl : hasPrefix (rulesOf keys) (p ++ ['/']) = false := by
    rw [Bool.eq_false_iff]
    intro h
    have hm := (hasPrefix_iff keys _).mp h
    rcases ok.noTrail _ hm rfl with h1 | h1
    · exact snoc_ne_root (ne_nil_of_slash (ok.slash _ hk)) h1
    · rw [endsSlash_snoc] at h1; cases h1
  cases he : hasExact (rulesOf keys) p <;> simp [extLocs, hes, hsl, he]

theorem genLoc_cases {keys : List Key} (ok : KeysOK keys) {gl : GenLoc} (h : gl ∈ genLocs (rulesOf keys)) :
    (∃ p, keys[gl.rule]? = some (true, p) ∧ gl.exact = true ∧ gl.path = p) ∨
    (∃ p, keys[gl.rule]? = some (false, p) ∧ p ≠ ['/'] ∧ gl.exact = false ∧ gl.path = p ++ ['/']) ∨
    (∃ p, keys[gl.rule]? = some (false, p) ∧ p ≠ ['/'] ∧ (true, p) ∉ keys ∧ gl.exact = true ∧ gl.path = p) ∨
    (keys[gl.rule]? = some (false, ['/']) ∧ gl.exact = false ∧ gl.path = ['/']) ∨
    (gl.rule = keys.length ∧ (∀ k ∈ keys, k.2 ≠ ['/']) ∧ gl.exact = false ∧ gl.path = ['/']) := by
  rcases mem_genLocs.mp h with ⟨i, r, hr, hx⟩ | ⟨rfl, hroot⟩
  · rw [rulesOf_get] at hr
    cases hki : keys[i]? with
    | none => simp [hki] at hr
    | some k =>
      simp only [hki, Option.map_some, Option.some.injEq] at hr
      subst hr
      obtain ⟨b, p⟩ := k
      have hmem : (b, p) ∈ keys := List.mem_of_getElem? hki
      cases b with
      | true =>
        simp only [Bool.not_true, extLocs_exact, List.mem_singleton] at hx
        subst hx; left; exact ⟨p, hki, rfl, rfl⟩
      | false =>
        simp only [Bool.not_false] at hx
        by_cases hp : p = ['/']
        · subst hp
          rw [extLocs_root, List.mem_singleton] at hx
          subst hx; right; right; right; left; exact ⟨hki, rfl, rfl⟩
        · rw [extLocs_prefix ok i hmem hp, List.mem_cons] at hx
          rcases hx with rfl | hx
          · right; left; exact ⟨p, hki, hp, rfl, rfl⟩
          · cases he : hasExact (rulesOf keys) p with
            | true => simp [he] at hx
            | false =>
              simp only [he, Bool.false_eq_true, ↓reduceIte, List.mem_singleton] at hx
              subst hx
              right; right; left
              refine ⟨p, hki, hp, ?_, rfl, rfl⟩
              intro hm
              rw [(hasExact_iff keys p).mpr hm] at he; cases he
  · right; right; right; right
    refine ⟨rulesOf_length keys, ?_, rfl, rfl⟩
    intro k hk e
    have := (anyRoot_iff keys).mpr ⟨k, hk, e⟩
    rw [this] at hroot; cases hroot

theorem genLoc_exact_cases {keys : List Key} (ok : KeysOK keys) {gl : GenLoc} (h : gl ∈ genLocs (rulesOf keys))
    (he : gl.exact = true) :
    keys[gl.rule]? = some (true, gl.path) ∨
    (keys[gl.rule]? = some (false, gl.path) ∧ gl.path ≠ ['/'] ∧ (true, gl.path) ∉ keys) := by
  rcases genLoc_cases ok h with ⟨p, h1, _, h3⟩ | ⟨p, _, _, h2, _⟩ | ⟨p, h1, hp1, hn1, _, h3⟩ | ⟨_, h2, _⟩ | ⟨_, _, h2, _⟩
  · exact Or.inl (h3 ▸ h1)
  · rw [h2] at he; cases he
  · exact Or.inr (h3 ▸ ⟨h1, hp1, hn1⟩)
  · rw [h2] at he; cases he
  · rw [h2] at he; cases he

theorem genLoc_prefix_cases {keys : List Key} (ok : KeysOK keys) {gl : GenLoc} (h : gl ∈ genLocs (rulesOf keys))
    (he : gl.exact = false) :
    (∃ p, keys[gl.rule]? = some (false, p) ∧ p ≠ ['/'] ∧ gl.path = p ++ ['/']) ∨
    (gl.path = ['/'] ∧ (keys[gl.rule]? = some (false, ['/']) ∨ (gl.rule = keys.length ∧ ∀ k ∈ keys, k.2 ≠ ['/']))) := by
  rcases genLoc_cases ok h with ⟨p, _, h2, _⟩ | ⟨p, h1, hp1, _, h3⟩ | ⟨p, _, _, _, h2, _⟩ | ⟨h1, _, h3⟩ | ⟨h1, hn1, _, h3⟩
  · rw [h2] at he; cases he
  · exact Or.inl ⟨p, h1, hp1, h3⟩
  · rw [h2] at he; cases he
  · exact Or.inr ⟨h3, Or.inl h1⟩
  · exact Or.inr ⟨h3, Or.inr ⟨h1, hn1⟩⟩

theorem genLoc_of_exact {keys : List Key} {i : Nat} {p : Str} (h : keys[i]? = some (true, p)) :
    (⟨true, p, i⟩ : GenLoc) ∈ genLocs (rulesOf keys) :=
  mem_genLocs.mpr (Or.inl ⟨i, ⟨p, false⟩, by simp [rulesOf_get, h], by simp [extLocs_exact]⟩)

theorem genLoc_of_root {keys : List Key} {i : Nat} (h : keys[i]? = some (false, ['/'])) :
    (⟨false, ['/'], i⟩ : GenLoc) ∈ genLocs (rulesOf keys) :=
  mem_genLocs.mpr (Or.inl ⟨i, ⟨['/'], true⟩, by simp [rulesOf_get, h], by simp [extLocs_root]⟩)

theorem genLoc_of_prefix {keys : List Key} (ok : KeysOK keys) {i : Nat} {p : Str} (h : keys[i]? = some (false, p))
    (hp : p ≠ ['/']) : (⟨false, p ++ ['/'], i⟩ : GenLoc) ∈ genLocs (rulesOf keys) :=
  mem_genLocs.mpr (Or.inl ⟨i, ⟨p, true⟩, by simp [rulesOf_get, h],
    by rw [extLocs_prefix ok i (List.mem_of_getElem? h) hp]; exact List.mem_cons_self⟩)

theorem genLoc_of_prefix_bare {keys : List Key} (ok : KeysOK keys) {i : Nat} {p : Str}
    (h : keys[i]? = some (false, p)) (hp : p ≠ ['/']) (hne : (true, p) ∉ keys) :
    (⟨true, p, i⟩ : GenLoc) ∈ genLocs (rulesOf keys) := by
  refine mem_genLocs.mpr (Or.inl ⟨i, ⟨p, true⟩, by simp [rulesOf_get, h], ?_⟩)
  rw [extLocs_prefix ok i (List.mem_of_getElem? h) hp]
  have : hasExact (rulesOf keys) p = false := by
    rw [Bool.eq_false_iff]; intro e; exact hne ((hasExact_iff keys p).mp e)
  simp [this]

theorem genLoc_exact_of_prefix_key {keys : List Key} (ok : KeysOK keys) {p : Str} (h : (false, p) ∈ keys)
    (hp : p ≠ ['/']) : ∃ gl ∈ genLocs (rulesOf keys), gl.exact = true ∧ gl.path = p := by
  by_cases he : (true, p) ∈ keys
  · obtain ⟨j, hj⟩ := List.getElem?_of_mem he
    exact ⟨_, genLoc_of_exact hj, rfl, rfl⟩
  · obtain ⟨i, hi⟩ := List.getElem?_of_mem h
    exact ⟨_, genLoc_of_prefix_bare ok hi hp he, rfl, rfl⟩

theorem genLocs_rule_unique {keys : List Key} (ok : KeysOK keys) {a b : GenLoc}
    (ha : a ∈ genLocs (rulesOf keys)) (hb : b ∈ genLocs (rulesOf keys))
    (he : a.exact = b.exact) (hp : a.path = b.path) : a.rule = b.rule := by
  have idx : ∀ {i j : Nat} {k : Key}, keys[i]? = some k → keys[j]? = some k → i = j :=
    fun hi hj => (List.getElem?_inj (List.getElem?_eq_some_iff.mp hi).1 ok.nodup).mp (hi.trans hj.symm)
  have nonroot : ∀ {p : Str}, (false, p) ∈ keys → p ++ ['/'] ≠ ['/'] :=
    fun hm => snoc_ne_root (ne_nil_of_slash (ok.slash _ hm))
  cases hae : a.exact with
  | true =>
    have hbe : b.exact = true := he ▸ hae
    rcases genLoc_exact_cases ok ha hae with h1 | ⟨h1, _, hn1⟩ <;>
      rcases genLoc_exact_cases ok hb hbe with g1 | ⟨g1, _, hn2⟩ <;> rw [← hp] at g1
    · exact idx h1 g1
    · exact absurd (List.mem_of_getElem? h1) (hp ▸ hn2)
    · exact absurd (List.mem_of_getElem? g1) hn1
    · exact idx h1 g1
  | false =>
    have hbe : b.exact = false := he ▸ hae
    rcases genLoc_prefix_cases ok ha hae with ⟨p, h1, _, h3⟩ | ⟨h3, h1⟩ <;>
      rcases genLoc_prefix_cases ok hb hbe with ⟨p', g1, _, g3⟩ | ⟨g3, g1⟩
    · have : p = p' := List.append_cancel_right (h3.symm.trans (hp.trans g3))
      subst this; exact idx h1 g1
    · exact absurd (h3.symm.trans (hp.trans g3)) (nonroot (List.mem_of_getElem? h1))
    · exact absurd (g3.symm.trans (hp.symm.trans h3)) (nonroot (List.mem_of_getElem? g1))
    · rcases h1 with h1 | ⟨h1, hn1⟩ <;> rcases g1 with g1 | ⟨g1, hn2⟩
      · exact idx h1 g1
      · exact absurd rfl (hn2 _ (List.mem_of_getElem? h1))
      · exact absurd rfl (hn1 _ (List.mem_of_getElem? g1))
      · rw [h1, g1]

theorem root_prefix {q : Str} (hq : q.head? = some '/') : ['/'] <+: q := by
  cases q with
  | nil => simp at hq
  | cons c cs =>
    simp only [List.head?_cons, Option.some.injEq] at hq
    subst hq; exact ⟨cs, rfl⟩

theorem prefixHit_prefix {p q : Str} (hq : q.head? = some '/') (h : prefixHit p q = true) : p <+: q := by
  simp only [prefixHit, Bool.or_eq_true, beq_iff_eq, List.isPrefixOf_iff_prefix] at h
  rcases h with (h | h) | h
  · rw [h]; exact root_prefix hq
  · rw [h]; exact List.prefix_refl _
  · exact (List.prefix_append p ['/']).trans h

theorem hit_witness {keys : List Key} (ok : KeysOK keys) {k : Key} (hk : k ∈ keys) {q : Str}
    (hit : khit k q = true) :
    (k = (true, q) ∧ ∃ i, keys[i]? = some k ∧ (⟨true, q, i⟩ : GenLoc) ∈ genLocs (rulesOf keys)) ∨
    (k = (false, q) ∧ q ≠ ['/'] ∧ ∃ gl ∈ genLocs (rulesOf keys), gl.exact = true ∧ gl.path = q) ∨
    (k = (false, ['/']) ∧ ∃ i, keys[i]? = some k ∧ (⟨false, ['/'], i⟩ : GenLoc) ∈ genLocs (rulesOf keys)) ∨
    (k.1 = false ∧ k.2 ≠ ['/'] ∧ (k.2 ++ ['/']) <+: q ∧
      ∃ i, keys[i]? = some k ∧ (⟨false, k.2 ++ ['/'], i⟩ : GenLoc) ∈ genLocs (rulesOf keys)) := by
  obtain ⟨b, p⟩ := k
  obtain ⟨i, hi⟩ := List.getElem?_of_mem hk
  cases b with
  | true =>
    simp only [khit, ↓reduceIte, beq_iff_eq] at hit
    subst hit
    left; exact ⟨rfl, i, hi, genLoc_of_exact hi⟩
  | false =>
    simp only [khit, Bool.false_eq_true, ↓reduceIte, prefixHit, Bool.or_eq_true, beq_iff_eq,
      List.isPrefixOf_iff_prefix] at hit
    by_cases hp : p = ['/']
    · subst hp
      right; right; left; exact ⟨rfl, i, hi, genLoc_of_root hi⟩
    · rcases hit with (h | h) | h
      · exact absurd h hp
      · subst h
        right; left; exact ⟨rfl, hp, genLoc_exact_of_prefix_key ok hk hp⟩
      · right; right; right
        exact ⟨rfl, hp, h, i, hi, genLoc_of_prefix ok hi hp⟩

/-- Location stage: over the generated locations of the path rules `keys` NGINX selects, for a request path `q`,
either a location of a path rule that hits `q` and that no other hitting rule outranks (Exact before PathPrefix, then
the longer value); or — when NO path rule hits `q` — the default root location / nothing (404). `tl` is the view of a
generated location NGINX gets (only modifier and path matter). -/
theorem select_fragment {keys : List Key} (ok : KeysOK keys) {q : Str} (hq : q.head? = some '/')
    (tl : GenLoc → Loc) (hte : ∀ gl, (tl gl).exact = gl.exact) (htp : ∀ gl, (tl gl).path = gl.path) :
    (∃ gl ∈ genLocs (rulesOf keys), selectLoc ((genLocs (rulesOf keys)).map tl) q = .loc (tl gl) ∧
      ((∃ k, keys[gl.rule]? = some k ∧ khit k q = true ∧
          ∀ k' ∈ keys, khit k' q = true → (k'.1 = true → k.1 = true) ∧ (k'.1 = k.1 → k'.2.length ≤ k.2.length)) ∨
       (gl.rule = keys.length ∧ ∀ k ∈ keys, khit k q = false))) ∨
    (selectLoc ((genLocs (rulesOf keys)).map tl) q = .none ∧ ∀ k ∈ keys, khit k q = false) := by
  have hqne : q ≠ [] := ne_nil_of_slash hq
  -- no auto-redirect: a location `q/` comes from the prefix rule `q`, which also has `= q`
  have hno : ∀ l ∈ (genLocs (rulesOf keys)).map tl, l.exact = false → l.path = q ++ ['/'] →
      ∃ l' ∈ (genLocs (rulesOf keys)).map tl, l'.exact = true ∧ l'.path = q := by
    intro l hl he hp
    obtain ⟨gl, hgl, rfl⟩ := List.mem_map.mp hl
    rw [hte] at he; rw [htp] at hp
    have hkey : (false, q) ∈ keys ∧ q ≠ ['/'] := by
      rcases genLoc_prefix_cases ok hgl he with ⟨p, h1, hp1, h3⟩ | ⟨h3, _⟩
      · have : p = q := List.append_cancel_right (h3.symm.trans hp)
        subst this; exact ⟨List.mem_of_getElem? h1, hp1⟩
      · exact absurd (hp.symm.trans h3) (snoc_ne_root hqne)
    obtain ⟨g', hg', he', hp'⟩ := genLoc_exact_of_prefix_key ok hkey.1 hkey.2
    exact ⟨tl g', List.mem_map.mpr ⟨g', hg', rfl⟩, by rw [hte, he'], by rw [htp, hp']⟩
  -- an exact generated location for `q` forces the first alternative
  rcases selectLoc_trichotomy hno with ⟨l, hl, hsel, he, hp⟩ | ⟨hnoex, hrest⟩
  · obtain ⟨gl, hgl, rfl⟩ := List.mem_map.mp hl
    rw [hte] at he; rw [htp] at hp
    left
    refine ⟨gl, hgl, hsel, Or.inl ?_⟩
    rw [← hp]
    rcases genLoc_exact_cases ok hgl he with h1 | ⟨h1, _, hn1⟩
    · refine ⟨(true, gl.path), h1, by simp [khit], ?_⟩
      intro k' _ hit'
      refine ⟨fun _ => rfl, ?_⟩
      intro hb
      have hb' : k'.1 = true := hb
      simp only [khit, hb', ↓reduceIte, beq_iff_eq] at hit'
      rw [hit']; exact Nat.le_refl _
    · refine ⟨(false, gl.path), h1, by simp [khit, prefixHit], ?_⟩
      intro k' hk' hit'
      have hk'1 : k'.1 = false := by
        cases hb : k'.1 with
        | false => rfl
        | true =>
          simp only [khit, hb, ↓reduceIte, beq_iff_eq] at hit'
          rw [Prod.ext (x := k') (y := (true, gl.path)) hb hit'] at hk'; exact absurd hk' hn1
      refine ⟨fun h => (by rw [hk'1] at h; cases h), fun _ => ?_⟩
      simp only [khit, hk'1, Bool.false_eq_true, ↓reduceIte] at hit'
      exact (prefixHit_prefix (hp ▸ hq) hit').length_le
  · -- no exact location for `q`: a hitting rule is a prefix rule, witnessed by a prefix location that is a prefix of `q`
    have hitLoc : ∀ k' ∈ keys, khit k' q = true → k'.1 = false ∧ ∃ g' ∈ genLocs (rulesOf keys),
        g'.exact = false ∧ g'.path <+: q ∧ (k'.2 = ['/'] ∨ g'.path = k'.2 ++ ['/']) := by
      intro k' hk' hit'
      have hnoexg : ∀ g' ∈ genLocs (rulesOf keys), g'.exact = true → g'.path ≠ q := by
        intro g' hg' he' hp'
        exact hnoex (tl g') (List.mem_map.mpr ⟨g', hg', rfl⟩) (by rw [hte, he']) (by rw [htp, hp'])
      rcases hit_witness ok hk' hit' with ⟨rfl, i, _, hg⟩ | ⟨rfl, _, g', hg', he', hp'⟩ | ⟨rfl, i, _, hg⟩ |
          ⟨hb, _, hpre, i, _, hg⟩
      · exact absurd rfl (hnoexg _ hg rfl)
      · exact absurd hp' (hnoexg g' hg' he')
      · exact ⟨rfl, _, hg, rfl, root_prefix hq, Or.inl rfl⟩
      · exact ⟨hb, _, hg, rfl, hpre, Or.inr rfl⟩
    rcases hrest with ⟨l, hl, hsel, he, hpre, hmax⟩ | ⟨hsel, hnopre⟩
    · obtain ⟨gl, hgl, rfl⟩ := List.mem_map.mp hl
      rw [hte] at he; rw [htp] at hpre
      have hlen : ∀ k' ∈ keys, khit k' q = true → k'.2 = ['/'] ∨ k'.2.length + 1 ≤ gl.path.length := by
        intro k' hk' hit'
        obtain ⟨_, g', hg', he', hp', e⟩ := hitLoc k' hk' hit'
        refine e.imp_right fun e => ?_
        have := hmax (tl g') (List.mem_map.mpr ⟨g', hg', rfl⟩) (by rw [hte, he']) (by rw [htp]; exact hp')
        rw [htp, htp, e] at this
        simpa using this
      left
      refine ⟨gl, hgl, hsel, ?_⟩
      rcases genLoc_prefix_cases ok hgl he with ⟨p, h1, hp1, h3⟩ | ⟨h3, h1 | ⟨h1, hn1⟩⟩
      · left
        rw [h3] at hpre
        refine ⟨(false, p), h1, ?_, ?_⟩
        · simp [khit, prefixHit, List.isPrefixOf_iff_prefix.mpr hpre]
        · intro k' hk' hit'
          have hn := hitLoc k' hk' hit'
          refine ⟨fun h => (by rw [hn.1] at h; cases h), fun _ => ?_⟩
          have hp1' : 1 ≤ p.length :=
            List.length_pos_iff.mpr (ne_nil_of_slash (ok.slash _ (List.mem_of_getElem? h1)))
          rcases hlen k' hk' hit' with e | e
          · rw [e]; exact hp1'
          · rw [h3] at e
            simp only [List.length_append, List.length_cons, List.length_nil] at e
            show k'.2.length ≤ p.length
            omega
      · left
        refine ⟨(false, ['/']), h1, by simp [khit, prefixHit], ?_⟩
        intro k' hk' hit'
        have hn := hitLoc k' hk' hit'
        refine ⟨fun h => (by rw [hn.1] at h; cases h), fun _ => ?_⟩
        rcases hlen k' hk' hit' with e | e
        · rw [e]; exact Nat.le_refl _
        · rw [h3] at e
          simp only [List.length_cons, List.length_nil] at e
          show k'.2.length ≤ 1
          omega
      · right
        refine ⟨h1, ?_⟩
        intro k' hk'
        rw [Bool.eq_false_iff]
        intro hit'
        rcases hlen k' hk' hit' with e | e
        · exact hn1 k' hk' e
        · rw [h3] at e
          simp only [List.length_cons, List.length_nil] at e
          exact ne_nil_of_slash (ok.slash _ hk') (List.eq_nil_of_length_eq_zero (by omega))
    · right
      refine ⟨hsel, ?_⟩
      intro k' hk'
      rw [Bool.eq_false_iff]
      intro hit'
      obtain ⟨_, g', hg', he', hp', _⟩ := hitLoc k' hk' hit'
      exact hnopre (tl g') (List.mem_map.mpr ⟨g', hg', rfl⟩) (by rw [hte, he']) (by rw [htp]; exact hp')

end NGF.Pipeline
