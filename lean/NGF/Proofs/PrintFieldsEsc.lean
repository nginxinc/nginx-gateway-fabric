/-
The WEAK word predicates of Model/PrintEsc (match paths with backslashes, redirect hostnames with `\x` pairs) on the
rendered tree: `ConfP wP (genR s order)` from `FieldsP wP s` (generic Proofs/PrintFlow), and `dirsOKw (render c)`.
Only the `location` statement of a match path and the `return` statement of a redirect differ from the strict case;
every other statement is a strict one (Proofs/PrintFields `stmtOK_of_stmt`, then `stmtOKw_of_stmtOK`). Core Lean only.
-/
import NGF.Proofs.PrintFields
import NGF.Proofs.PrintLexEsc

namespace NGF.Print
open NGF.Nginx NGF.Pipeline NGF.Render

/-- the weak instance: paths may contain backslashes, quoted parts are in escaped-string shape; the rest as `lexP` -/
def wP : Preds :=
  { host := fun h => bareOK h = true, path := fun p => looseOK p = true, name := fun n => n.all tailChar = true,
    target := fun t => bareOK t = true, dq := fun x => escOK x = true }

theorem looseOK_slash {p : List Char} (h : looseOK p = true) : looseOK (p ++ ['/']) = true := by
  cases p with
  | nil => simp [looseOK] at h
  | cons c t =>
    simp only [looseOK, Bool.and_eq_true] at h
    simp only [List.cons_append, looseOK, Bool.and_eq_true, List.all_append]
    exact ⟨h.1, h.2, by decide⟩

theorem confW_genR {s : Scenario} (hs : FieldsP wP s) (order : List Nat) : ConfP wP (genR s order) :=
  confP_genR (P := wP) (by show bareOK Hostname.wildcardHostname = true; decide) (fun _ hp => looseOK_slash hp) hs order

theorem redirectBody_esc {sch host : Option Str} {port : Option Nat} (h1 : ∀ x, sch = some x → escOK x = true)
    (h2 : ∀ x, host = some x → escOK x = true) : escOK (redirectBody sch host port) = true := by
  unfold redirectBody
  refine escOK_append (escOK_append (escOK_append (escOK_append ?_ (by decide_chars)) ?_) ?_) (by decide_chars)
  · cases sch with
    | none => decide_chars
    | some x => exact h1 x rfl
  · cases host with
    | none => decide_chars
    | some x => exact h2 x rfl
  · cases port with
    | none => rfl
    | some p => exact escOK_append (a := [':']) (by decide) (escOK_of_dqOK (dqOK_digits p))

theorem locArgs_w {k : Bool × Str} (h : looseOK k.2 = true) : headOKw (locArgs k) = true := by
  unfold locArgs
  split
  · simp only [headOKw, Bool.and_eq_true]
    exact ⟨by decide_chars, h⟩
  · exact h

theorem stmtOKw_of_stmt {d : Dir} (h : Stmt wP d) : stmtOKw d = true := by
  have strict : ∀ {d}, Stmt lexP d → stmtOKw d = true := fun h => stmtOKw_of_stmtOK (stmtOK_of_stmt h)
  cases h with
  | location ch hp => exact stmtOKw_block ch (by decide_chars) (locArgs_w hp)
  | redirect code port h1 h2 =>
    exact stmtOKw_simple (by decide_chars)
      (all_pair (argOKw_of_argOK (argOK_wl (bareOK_digits code))) (redirectBody_esc h1 h2))
  | fixed hm => exact strict (.fixed hm)
  | server ch => exact strict (.server ch)
  | listen hd he => exact strict (.listen hd he)
  | serverName hh => exact strict (.serverName hh)
  | internalLocation i j ch => exact strict (.internalLocation i j ch)
  | proxyPass hs hb => exact strict (.proxyPass hs hb)
  | status code => exact strict (.status code)
  | matchKey sid idx => exact strict (.matchKey sid idx)
  | splitClients ch hs => exact strict (.splitClients ch hs)
  | share c ht => exact strict (.share c ht)

theorem dirsOKw_render {c : ConfR} (h : ConfP wP c) : dirsOKw (render c) = true :=
  (dirsOKw_iff_flat _).mpr fun x hx => stmtOKw_of_stmt (stmts_render h x hx)

end NGF.Print
