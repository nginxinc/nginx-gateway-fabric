/-
The binary64 model `NGF.F64`: `rhe` and `rn` err by at most half a unit, `binade a` is the power of two with
`binade a ≤ a < 2·binade a`, integers below 2⁵³ are exact; and the digit groups of `Dec2.chars` recombine
(`digits_recombine`, for printing and for reading back). Core Lean only.
-/
import NGF.Model.F64

namespace NGF.F64

theorem rhe_cases (q : Rat) :
    (rhe q = q.floor ∧ q - (q.floor : Rat) ≤ 1/2) ∨ (rhe q = q.floor + 1 ∧ 1/2 ≤ q - (q.floor : Rat)) := by
  unfold rhe
  simp only
  by_cases a : q - (q.floor : Rat) < 1/2
  · rw [if_pos a]; exact .inl ⟨rfl, Rat.le_of_lt a⟩
  · rw [if_neg a]
    by_cases b : 1/2 < q - (q.floor : Rat)
    · rw [if_pos b]; exact .inr ⟨rfl, Rat.le_of_lt b⟩
    · rw [if_neg b]
      by_cases c : q.floor % 2 = 0
      · rw [if_pos c]; exact .inl ⟨rfl, Rat.not_lt.mp b⟩
      · rw [if_neg c]; exact .inr ⟨rfl, Rat.not_lt.mp a⟩

theorem rhe_near (q : Rat) : (rhe q : Rat) ≤ q + 1/2 ∧ q - 1/2 ≤ (rhe q : Rat) := by
  have h1 := Rat.floor_le q
  have h2 := Rat.lt_floor_add_one q
  rw [Rat.intCast_add, Rat.intCast_one] at h2
  rcases rhe_cases q with ⟨e, h⟩ | ⟨e, h⟩ <;> rw [e]
  · grind
  · rw [Rat.intCast_add, Rat.intCast_one]; grind

theorem rhe_eq_of_near (q : Rat) (n : Int) (h : (n : Rat) - 1/2 < q ∧ q < (n : Rat) + 1/2) :
    rhe q = n := by
  obtain ⟨a, b⟩ := rhe_near q
  have c : ((rhe q : Int) : Rat) < (n : Rat) + 1 ∧ (n : Rat) - 1 < ((rhe q : Int) : Rat) := by grind
  rw [← Rat.intCast_one, ← Rat.intCast_add, ← Rat.intCast_sub, Rat.intCast_lt_intCast, Rat.intCast_lt_intCast] at c
  omega

theorem rhe_intCast (n : Int) : rhe (n : Rat) = n :=
  rhe_eq_of_near _ n (by grind)

theorem rat_eq_num_div_den (a : Rat) : a = (a.num : Rat) / (a.den : Rat) := by
  have h := Rat.num_divInt_den a
  rw [Rat.divInt_eq_div, Rat.intCast_natCast] at h
  exact h.symm

theorem div_mul_mul (a : Rat) {b : Rat} (d : Rat) (hb : b ≠ 0) : a / b * (b * d) = a * d := by
  rw [← Rat.mul_assoc, Rat.div_mul_cancel hb]

theorem div_le_div_of_mul_le {a b c d : Rat} (hb : 0 < b) (hd : 0 < d) (h : a * d ≤ c * b) :
    a / b ≤ c / d := by
  apply Rat.le_of_mul_le_mul_right (c := b * d) _ (Rat.mul_pos hb hd)
  rw [div_mul_mul a d (Rat.ne_of_gt hb), Rat.mul_comm b d, div_mul_mul c b (Rat.ne_of_gt hd)]
  exact h

theorem div_lt_div_of_mul_lt {a b c d : Rat} (hb : 0 < b) (hd : 0 < d) (h : a * d < c * b) :
    a / b < c / d := by
  apply Rat.lt_of_mul_lt_mul_right (c := b * d) _ (Rat.le_of_lt (Rat.mul_pos hb hd))
  rw [div_mul_mul a d (Rat.ne_of_gt hb), Rat.mul_comm b d, div_mul_mul c b (Rat.ne_of_gt hd)]
  exact h

theorem div_pos' {a b : Rat} (ha : 0 < a) (hb : 0 < b) : 0 < a / b := by
  rw [Rat.div_def]; exact Rat.mul_pos ha (Rat.inv_pos.mpr hb)

theorem div_nonneg' {a b : Rat} (ha : 0 ≤ a) (hb : 0 < b) : 0 ≤ a / b := by
  rw [Rat.div_def]; exact Rat.mul_nonneg ha (Rat.le_of_lt (Rat.inv_pos.mpr hb))

theorem pow2_pos (k : Nat) : (0 : Rat) < ((2 ^ k : Nat) : Rat) :=
  Rat.natCast_pos.mpr (Nat.two_pow_pos k)

theorem natCast_log2_bracket {m : Nat} (hm : m ≠ 0) :
    ((2 ^ m.log2 : Nat) : Rat) ≤ (m : Rat) ∧ (m : Rat) < 2 * ((2 ^ m.log2 : Nat) : Rat) := by
  refine ⟨Rat.natCast_le_natCast.mpr (Nat.log2_self_le hm), ?_⟩
  have := Rat.natCast_lt_natCast.mpr (@Nat.lt_log2_self m)
  rwa [Nat.pow_succ, Nat.mul_comm, Rat.natCast_mul] at this

theorem ratio_bracket {n d P Q : Rat} (P0 : 0 < P) (Q0 : 0 < Q) (N1 : P ≤ n) (N2 : n < 2 * P)
    (D1 : Q ≤ d) (D2 : d < 2 * Q) : P / Q / 2 ≤ n / d ∧ n / d < 2 * (P / Q) := by
  have dpos : 0 < d := Std.lt_of_lt_of_le Q0 D1
  have e1 : P / Q / 2 = P / (2 * Q) := by
    rw [Rat.div_def, Rat.div_def, Rat.div_def, Rat.inv_mul_rev, Rat.mul_assoc]
  have e2 : 2 * (P / Q) = (2 * P) / Q := by rw [Rat.div_def, Rat.div_def, Rat.mul_assoc]
  rw [e1, e2]
  constructor
  · apply div_le_div_of_mul_le (Rat.mul_pos (by decide : (0 : Rat) < 2) Q0) dpos
    have := Rat.mul_le_mul_of_nonneg_right N1 (Rat.le_of_lt Q0)
    have := Rat.mul_lt_mul_of_pos_left D2 P0
    grind
  · apply div_lt_div_of_mul_lt dpos Q0
    have := Rat.mul_lt_mul_of_pos_right N2 Q0
    have := Rat.mul_le_mul_of_nonneg_left D1 (Rat.le_of_lt (Rat.mul_pos (by decide : (0 : Rat) < 2) P0))
    grind

theorem binade_spec (a : Rat) (ha : 0 < a) :
    0 < binade a ∧ binade a ≤ a ∧ a < 2 * binade a := by
  have hnum : 0 < a.num := by
    have h1 : 0 ≤ a.num := Rat.num_nonneg.mpr (Rat.le_of_lt ha)
    have h2 : a.num ≠ 0 := fun h => Rat.ne_of_gt ha (Rat.num_eq_zero.mp h)
    omega
  have ea : a = ((a.num.natAbs : Nat) : Rat) / (a.den : Rat) := by
    have : (a.num : Rat) = ((a.num.natAbs : Nat) : Rat) := by
      rw [← Rat.intCast_natCast]; congr 1; omega
    rw [← this]; exact rat_eq_num_div_den a
  obtain ⟨N1, N2⟩ := natCast_log2_bracket (m := a.num.natAbs) (by omega)
  obtain ⟨D1, D2⟩ := natCast_log2_bracket a.den_nz
  obtain ⟨b1, b2⟩ := ratio_bracket (pow2_pos _) (pow2_pos _) N1 N2 D1 D2
  have cpos := div_pos' (pow2_pos a.num.natAbs.log2) (pow2_pos a.den.log2)
  rw [← ea] at b1 b2
  clear hnum ea N1 N2 D1 D2
  unfold binade
  simp only
  generalize ((2 ^ a.num.natAbs.log2 : Nat) : Rat) / ((2 ^ a.den.log2 : Nat) : Rat) = c at *
  split
  · exact ⟨cpos, ‹_›, b2⟩
  · have h : 0 < c / 2 ∧ a < 2 * (c / 2) := by grind
    exact ⟨h.1, b1, h.2⟩

theorem abs_nonneg (q : Rat) : 0 ≤ abs q := by unfold abs; split <;> grind
theorem abs_pos {q : Rat} (h : q ≠ 0) : 0 < abs q := by unfold abs; split <;> grind
theorem abs_of_nonneg {q : Rat} (h : 0 ≤ q) : abs q = q := if_neg (Rat.not_lt.mpr h)

theorem abs_le_of {x b : Rat} (h1 : x ≤ b) (h2 : -b ≤ x) : abs x ≤ b := by
  unfold abs; split <;> grind

theorem ulp_eq (q : Rat) : ulp q = binade (abs q) / 4503599627370496 := by
  simp [ulp]

theorem ulp_pos {q : Rat} (h : q ≠ 0) : 0 < ulp q := by
  have := (binade_spec (abs q) (abs_pos h)).1
  rw [ulp_eq]; grind

theorem rn_zero : rn 0 = 0 := by simp [rn]

/-- the rounding error of `rn` is at most half an ulp, hence at most `|q|·2⁻⁵³` -/
theorem rn_err (q : Rat) :
    rn q - q ≤ abs q / 9007199254740992 ∧ q - rn q ≤ abs q / 9007199254740992 := by
  by_cases h : q = 0
  · subst h
    have : abs 0 = 0 := by simp [abs]
    rw [rn_zero, this]
    grind
  · have hb := (binade_spec (abs q) (abs_pos h)).2.1
    have hu := ulp_pos h
    have e : q / ulp q * ulp q = q := Rat.div_mul_cancel (Rat.ne_of_gt hu)
    obtain ⟨r1, r2⟩ := rhe_near (q / ulp q)
    have a1 := Rat.mul_le_mul_of_nonneg_right r1 (Rat.le_of_lt hu)
    have a2 := Rat.mul_le_mul_of_nonneg_right r2 (Rat.le_of_lt hu)
    have hr : rn q = (rhe (q / ulp q) : Rat) * ulp q := by simp [rn, h]
    have hue := ulp_eq q
    rw [hr]
    clear r1 r2 hr hu h
    generalize (rhe (q / ulp q) : Rat) = m at *
    generalize q / ulp q = x at *
    generalize ulp q = u at *
    generalize binade (abs q) = b at *
    generalize abs q = A at *
    grind

theorem rn_nonneg {q : Rat} (h : 0 ≤ q) : 0 ≤ rn q := by
  have := (rn_err q).2
  rw [abs_of_nonneg h] at this
  grind

theorem rn_of_int_mul_ulp {q : Rat} (m : Int) (h0 : q ≠ 0) (h : q = (m : Rat) * ulp q) : rn q = q := by
  have e : q / ulp q = (m : Rat) := by
    have hune := Rat.ne_of_gt (ulp_pos h0)
    generalize ulp q = u at *
    rw [h]; grind
  simp only [rn, h0, if_false, e, rhe_intCast]
  exact h.symm

theorem log2_one : Nat.log2 1 = 0 := by decide +kernel

theorem binade_natCast {n : Nat} (hn : n ≠ 0) : binade (n : Rat) = ((2 ^ n.log2 : Nat) : Rat) := by
  have h2 : ((2 ^ n.log2 : Nat) : Rat) ≤ (n : Rat) := Rat.natCast_le_natCast.mpr (Nat.log2_self_le hn)
  simp only [binade, Rat.num_natCast, Rat.den_natCast, Int.natAbs_natCast, log2_one, Nat.pow_zero]
  have e1 : ((1 : Nat) : Rat) = 1 := rfl
  have e2 : ((2 ^ n.log2 : Nat) : Rat) / 1 = ((2 ^ n.log2 : Nat) : Rat) := by grind
  rw [e1, e2, if_pos h2]

theorem rn_natCast {n : Nat} (h : n < 2 ^ 53) : rn (n : Rat) = (n : Rat) := by
  by_cases hn : n = 0
  · subst hn; exact rn_zero
  · have npos : (0 : Rat) < (n : Rat) := Rat.natCast_pos.mpr (Nat.pos_of_ne_zero hn)
    have hl : n.log2 < 53 := (Nat.log2_lt hn).mpr h
    have hp : 2 ^ (52 - n.log2) * 2 ^ n.log2 = 2 ^ 52 := by
      rw [← Nat.pow_add]; congr 1; omega
    have hpr : ((2 ^ (52 - n.log2) : Nat) : Rat) * ((2 ^ n.log2 : Nat) : Rat) = ((2 ^ 52 : Nat) : Rat) := by
      rw [← Rat.natCast_mul, hp]
    apply rn_of_int_mul_ulp ((n * 2 ^ (52 - n.log2) : Nat) : Int) (Rat.ne_of_gt npos)
    have h52 := pow2_pos 52
    rw [← hpr] at h52
    rw [Rat.intCast_natCast, Rat.natCast_mul, ulp, abs_of_nonneg (Rat.le_of_lt npos), binade_natCast hn, ← hpr]
    clear hpr hp hl npos
    generalize ((2 ^ (52 - n.log2) : Nat) : Rat) = A at *
    generalize ((2 ^ n.log2 : Nat) : Rat) = B at *
    have := Rat.ne_of_gt h52
    grind

/-- the digit groups `Dec2.chars` prints and `ngx_atofp` reads back -/
theorem digits_recombine (c : Nat) : (c / 100 * 10 + c % 100 / 10 % 10) * 10 + c % 10 = c := by
  have e1 := Nat.div_add_mod c 100
  have e2 := Nat.div_add_mod (c % 100) 10
  have e3 : c % 100 % 10 = c % 10 := Nat.mod_mod_of_dvd c (by decide)
  have e4 : c % 100 / 10 < 10 := Nat.div_lt_of_lt_mul (Nat.mod_lt c (by decide))
  rw [Nat.mod_eq_of_lt e4]
  generalize c / 100 = x, c % 100 / 10 = y, c % 100 = z, c % 10 = w at *
  omega

end NGF.F64
