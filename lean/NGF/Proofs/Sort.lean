/-
Orders as Go's `sort` package sees them (core Lean only).

* `SWO lt`: `lt` is a strict weak order (asymmetric + negatively transitive), the exact requirement `sort` puts on a
  `less` function; `leOf lt` is the induced total preorder `a ≤ b := ¬ b < a`, the relation handed to `List.mergeSort`.
* A Go comparison chain `if k1 differs {…}; if k2 differs {…}; return less` is a lexicographic combination `lexLt`
  (one level: `ite_level`); it is a strict weak order when its steps are (`SWO.lex`,
  `SWO.ofMeasure`, `SWO.comap`), and it ties exactly where every step ties (`Incomp`, `incomp_lexLt`).
* `sorted_perm_unique`: for an antisymmetric order the sorted permutation is unique, so ANY correct sorting algorithm
  (Go's unstable `sort.Slice` included) returns the same slice.
* `stable_sort_perm_invariant` (DESIGN.md Appendix A.10): two lists whose restrictions to every equivalence class of the
  preorder coincide are sorted to the same list by a stable sort.
-/
namespace NGF.Sort

variable {α : Type _}

/-- strict weak order, Bool-valued -/
structure SWO (lt : α → α → Bool) : Prop where
  asymm : ∀ a b, lt a b = true → lt b a = false
  negtrans : ∀ a b c, lt a c = true → lt a b = true ∨ lt b c = true

def leOf (lt : α → α → Bool) (a b : α) : Bool := !lt b a

theorem SWO.irrefl {lt : α → α → Bool} (h : SWO lt) (a : α) : lt a a = false := by
  cases hh : lt a a with
  | false => rfl
  | true => have := h.asymm a a hh; rw [hh] at this; exact this

theorem SWO.trans {lt : α → α → Bool} (h : SWO lt) {a b c : α}
    (hab : lt a b = true) (hbc : lt b c = true) : lt a c = true := by
  rcases h.negtrans a c b hab with h1 | h1
  · exact h1
  · have := h.asymm b c hbc; rw [h1] at this; cases this

theorem SWO.le_total {lt : α → α → Bool} (h : SWO lt) (a b : α) :
    (leOf lt a b || leOf lt b a) = true := by
  unfold leOf
  cases hba : lt b a with
  | false => simp
  | true => have := h.asymm b a hba; simp [this]

theorem SWO.le_trans {lt : α → α → Bool} (h : SWO lt) (a b c : α)
    (hab : leOf lt a b = true) (hbc : leOf lt b c = true) : leOf lt a c = true := by
  unfold leOf at *
  cases hca : lt c a with
  | false => rfl
  | true =>
    rcases h.negtrans c b a hca with h1 | h1
    · rw [h1] at hbc; cases hbc
    · rw [h1] at hab; cases hab

/-- lexicographic combination, written the way Go comparison chains are written:
`if a <₁ b {return true}; if b <₁ a {return false}; return a <₂ b` -/
def lexLt (lt1 lt2 : α → α → Bool) (a b : α) : Bool := lt1 a b || (!lt1 b a && lt2 a b)

theorem SWO.lex {lt1 lt2 : α → α → Bool} (h1 : SWO lt1) (h2 : SWO lt2) : SWO (lexLt lt1 lt2) where
  asymm := by
    intro a b hab
    unfold lexLt at *
    cases h1ab : lt1 a b with
    | true => have := h1.asymm a b h1ab; simp [this]
    | false =>
      simp [h1ab] at hab
      obtain ⟨hba, h2ab⟩ := hab
      have := h2.asymm a b h2ab
      simp [hba, this]
  negtrans := by
    intro a b c hac
    unfold lexLt at *
    cases h1ac : lt1 a c with
    | true =>
      rcases h1.negtrans a b c h1ac with h | h
      · left; simp [h]
      · right; simp [h]
    | false =>
      simp [h1ac] at hac
      obtain ⟨hca, h2ac⟩ := hac
      cases h1ab : lt1 a b with
      | true => left; simp
      | false =>
        cases h1bc : lt1 b c with
        | true => right; simp
        | false =>
          have hba : lt1 b a = false := by
            cases hh : lt1 b a with
            | false => rfl
            | true =>
              rcases h1.negtrans b c a hh with h | h
              · rw [h] at h1bc; cases h1bc
              · rw [h] at hca; cases hca
          have hcb : lt1 c b = false := by
            cases hh : lt1 c b with
            | false => rfl
            | true =>
              rcases h1.negtrans c a b hh with h | h
              · rw [h] at hca; cases hca
              · rw [h] at h1ab; cases h1ab
          rcases h2.negtrans a b c h2ac with h | h
          · left; simp [hba, h]
          · right; simp [hcb, h]

theorem lexLt_assoc (lt1 lt2 lt3 : α → α → Bool) : lexLt (lexLt lt1 lt2) lt3 = lexLt lt1 (lexLt lt2 lt3) := by
  funext a b
  unfold lexLt
  cases lt1 a b <;> cases lt1 b a <;> simp

def Incomp (lt : α → α → Bool) (a b : α) : Prop := lt a b = false ∧ lt b a = false

theorem trichotomy (lt : α → α → Bool) (a b : α) : lt a b = true ∨ Incomp lt a b ∨ lt b a = true := by
  unfold Incomp
  cases lt a b <;> cases lt b a <;> simp

theorem incomp_lexLt {lt1 lt2 : α → α → Bool} {a b : α} :
    Incomp (lexLt lt1 lt2) a b ↔ Incomp lt1 a b ∧ Incomp lt2 a b := by
  unfold Incomp lexLt
  rw [Bool.or_eq_false_iff, Bool.or_eq_false_iff]
  constructor
  · rintro ⟨⟨h1, x⟩, h2, y⟩
    rw [h2] at x; rw [h1] at y
    exact ⟨⟨h1, h2⟩, x, y⟩
  · rintro ⟨⟨h1, h2⟩, k1, k2⟩
    rw [h1, h2]
    exact ⟨⟨rfl, k1⟩, rfl, k2⟩

theorem lexLt_eq_ite (lt1 lt2 : α → α → Bool) (a b : α) :
    lexLt lt1 lt2 a b = if lt1 a b then true else if lt1 b a then false else lt2 a b := by
  unfold lexLt
  cases lt1 a b <;> cases lt1 b a <;> rfl

/-- one level `if P {return x}; return rest` of a comparison chain, where `x`/`y` compare the two arguments in the two
directions and `P` says that they differ at this level -/
theorem ite_level {P : Prop} [Decidable P] {x y rest : Bool} (hP : P → x = true ∨ y = true)
    (hN : ¬ P → x = false ∧ y = false) : (if P then x else rest) = (x || (!y && rest)) := by
  by_cases h : P
  · rw [if_pos h]
    rcases hP h with e | e
    · rw [e]; rfl
    · rw [e]; cases x <;> rfl
  · rw [if_neg h, (hN h).1, (hN h).2]; rfl

/-- the chain `if k₁(a) != k₁(b) {return a <₁ b}; return a <₂ b`, where `<₁` orders exactly the pairs that differ in `k₁` -/
theorem ite_ne_eq_lexLt {lt1 lt2 : α → α → Bool} {a b : α} (P : Prop) [Decidable P]
    (hP : P → lt1 a b = true ∨ lt1 b a = true) (hN : ¬ P → Incomp lt1 a b) :
    (if P then lt1 a b else lt2 a b) = lexLt lt1 lt2 a b :=
  ite_level hP hN

/-- the same chain written `if k₁(a) == k₁(b) {return a <₂ b}; return a <₁ b` -/
theorem ite_eq_eq_lexLt {lt1 lt2 : α → α → Bool} {a b : α} (P : Prop) [Decidable P]
    (hP : P → Incomp lt1 a b) (hN : ¬ P → lt1 a b = true ∨ lt1 b a = true) :
    (if P then lt2 a b else lt1 a b) = lexLt lt1 lt2 a b := by
  rw [← ite_not]
  exact ite_ne_eq_lexLt (¬ P) hN (fun h => hP (Decidable.not_not.mp h))

theorem SWO.ofMeasure (f : α → Int) : SWO (fun a b => decide (f a < f b)) where
  asymm := by intro a b h; simp at *; omega
  negtrans := by
    intro a b c h
    simp at *
    omega

theorem incomp_ofMeasure {f : α → Int} {a b : α} : Incomp (fun a b => decide (f a < f b)) a b ↔ f a = f b := by
  unfold Incomp
  simp only [decide_eq_false_iff_not]
  omega

/-- the side conditions of `ite_ne_eq_lexLt` for a step `if x != y {return x > y}` on counts -/
theorem gt_chain_step (x y : Nat) :
    ((x != y) = true → decide (x > y) = true ∨ decide (y > x) = true) ∧
    (¬ (x != y) = true → decide (x > y) = false ∧ decide (y > x) = false) := by
  simp only [bne_iff_ne, ne_eq, Decidable.not_not, decide_eq_true_eq, decide_eq_false_iff_not]
  omega

/-- the side conditions of `ite_eq_eq_lexLt` for a step `if x == y {…}; return x < y` on timestamps -/
theorem lt_chain_step (x y : Int) :
    (x = y → decide (x < y) = false ∧ decide (y < x) = false) ∧
    (x ≠ y → decide (x < y) = true ∨ decide (y < x) = true) := by
  simp only [decide_eq_false_iff_not, decide_eq_true_eq]
  omega

theorem SWO.ofStrictTotal {lt : α → α → Bool}
    (irr : ∀ a, lt a a = false)
    (tr : ∀ a b c, lt a b = true → lt b c = true → lt a c = true)
    (tri : ∀ a b, lt a b = true ∨ a = b ∨ lt b a = true) : SWO lt where
  asymm := by
    intro a b hab
    cases hba : lt b a with
    | false => rfl
    | true => have := tr a b a hab hba; rw [irr a] at this; cases this
  negtrans := by
    intro a b c hac
    rcases tri a b with h | h | h
    · exact Or.inl h
    · subst h; exact Or.inr hac
    · exact Or.inr (tr b a c h hac)

theorem SWO.comap {β : Type _} {lt : α → α → Bool} (g : β → α) (h : SWO lt) :
    SWO (fun a b => lt (g a) (g b)) where
  asymm := fun a b => h.asymm (g a) (g b)
  negtrans := fun a b c => h.negtrans (g a) (g b) (g c)

theorem sorted_perm_unique {le : α → α → Bool} (s1 s2 : List α) (hp : s1.Perm s2)
    (p1 : List.Pairwise (fun a b => le a b = true) s1) (p2 : List.Pairwise (fun a b => le a b = true) s2)
    (anti : ∀ a b, a ∈ s1 → b ∈ s1 → le a b = true → le b a = true → a = b) : s1 = s2 := by
  induction s1 generalizing s2 with
  | nil => exact hp.symm.eq_nil.symm
  | cons x t1 ih =>
    cases s2 with
    | nil => exact hp.eq_nil
    | cons y t2 =>
      have hxy : x = y := by
        have hy : y ∈ x :: t1 := hp.mem_iff.mpr List.mem_cons_self
        rcases List.mem_cons.mp (hp.mem_iff.mp List.mem_cons_self) with h | h
        · exact h
        · rcases List.mem_cons.mp hy with h' | h'
          · exact h'.symm
          · exact anti x y List.mem_cons_self hy ((List.pairwise_cons.mp p1).1 y h') ((List.pairwise_cons.mp p2).1 x h)
      subst hxy
      rw [ih t2 hp.cons_inv (List.pairwise_cons.mp p1).2 (List.pairwise_cons.mp p2).2
        (fun a b ha hb => anti a b (List.mem_cons_of_mem _ ha) (List.mem_cons_of_mem _ hb))]

def equivB (le : α → α → Bool) (a b : α) : Bool := le a b && le b a

theorem equivB_leOf {lt : α → α → Bool} {a b : α} : equivB (leOf lt) a b = true ↔ Incomp lt a b := by
  unfold equivB leOf Incomp
  cases lt a b <;> cases lt b a <;> decide

section stable
variable {le : α → α → Bool}
  (tr : ∀ a b c, le a b = true → le b c = true → le a c = true)
  (tot : ∀ a b, (le a b || le b a) = true)
include tr tot

omit tr in
theorem le_refl' (a : α) : le a a = true := by
  have := tot a a; rwa [Bool.or_self] at this

omit tr in
theorem equivB_refl (a : α) : equivB le a a = true := by
  unfold equivB; rw [le_refl' tot a]; rfl

omit tot in
theorem class_pairwise (a : α) (l : List α) :
    List.Pairwise (fun x y => le x y = true) (l.filter (equivB le a)) := by
  induction l with
  | nil => exact List.Pairwise.nil
  | cons x t ih =>
    by_cases hx : equivB le a x = true
    · rw [List.filter_cons_of_pos hx]
      refine List.pairwise_cons.mpr ⟨fun y hy => ?_, ih⟩
      exact tr x a y (Bool.and_eq_true_iff.mp hx).2 (Bool.and_eq_true_iff.mp (List.mem_filter.mp hy).2).1
    · rw [List.filter_cons_of_neg hx]; exact ih

/-- stability: sorting does not change the restriction of the list to an equivalence class -/
theorem filter_mergeSort_class (l : List α) (a : α) :
    (l.mergeSort le).filter (equivB le a) = l.filter (equivB le a) := by
  have hsub : (l.filter (equivB le a)).Sublist (l.mergeSort le) :=
    List.sublist_mergeSort tr tot (class_pairwise tr a l) List.filter_sublist
  have h2 := List.Sublist.filter (equivB le a) hsub
  rw [List.filter_filter] at h2
  simp only [Bool.and_self] at h2
  have hlen : ((l.mergeSort le).filter (equivB le a)).length = (l.filter (equivB le a)).length :=
    ((List.mergeSort_perm l le).filter _).length_eq
  exact (h2.eq_of_length hlen.symm).symm

omit tr in
/-- a sorted list is determined by its restrictions to the equivalence classes: the head of each list is the head of its
own class in the other, so neither head can come strictly later than the other -/
theorem sorted_eq_of_class_eq (s1 s2 : List α)
    (p1 : List.Pairwise (fun a b => le a b = true) s1) (p2 : List.Pairwise (fun a b => le a b = true) s2)
    (h : ∀ a, s1.filter (equivB le a) = s2.filter (equivB le a)) : s1 = s2 := by
  induction s1 generalizing s2 with
  | nil =>
    cases s2 with
    | nil => rfl
    | cons y t2 =>
      have := h y
      rw [List.filter_cons_of_pos (equivB_refl tot y)] at this
      cases this
  | cons x t1 ih =>
    have hxx := equivB_refl tot x
    cases s2 with
    | nil =>
      have := h x
      rw [List.filter_cons_of_pos hxx] at this
      cases this
    | cons y t2 =>
      have hyy := equivB_refl tot y
      have hxy : x = y := by
        by_cases hxy' : equivB le x y = true
        · have := h x
          rw [List.filter_cons_of_pos hxx, List.filter_cons_of_pos hxy'] at this
          exact (List.cons.inj this).1
        · -- x occurs in s2 and y occurs in s1, so le y x and le x y: contradiction
          have hx2 : x ∈ (y :: t2).filter (equivB le x) := by
            rw [← h x, List.filter_cons_of_pos hxx]; exact List.mem_cons_self
          have hy1 : y ∈ (x :: t1).filter (equivB le y) := by
            rw [h y, List.filter_cons_of_pos hyy]; exact List.mem_cons_self
          rcases List.mem_cons.mp (List.mem_filter.mp hx2).1 with e | hxin
          · exact e
          · rcases List.mem_cons.mp (List.mem_filter.mp hy1).1 with e | hyin
            · exact e.symm
            · have lyx : le y x = true := (List.pairwise_cons.mp p2).1 x hxin
              have lxy : le x y = true := (List.pairwise_cons.mp p1).1 y hyin
              exact absurd (Bool.and_eq_true_iff.mpr ⟨lxy, lyx⟩) hxy'
      subst hxy
      rw [ih t2 (List.pairwise_cons.mp p1).2 (List.pairwise_cons.mp p2).2 fun a => ?_]
      have := h a
      by_cases ha : equivB le a x = true
      · rw [List.filter_cons_of_pos ha, List.filter_cons_of_pos ha] at this
        exact (List.cons.inj this).2
      · rw [List.filter_cons_of_neg ha, List.filter_cons_of_neg ha] at this
        exact this

/-- DESIGN.md Appendix A.10. Two lists whose restrictions to every equivalence class of the preorder
are equal (same elements in the same relative order) are sorted to the same list by a stable sort.
Duplicated elements are allowed. -/
theorem stable_sort_perm_invariant (l1 l2 : List α)
    (h : ∀ a, l1.filter (equivB le a) = l2.filter (equivB le a)) :
    l1.mergeSort le = l2.mergeSort le := by
  apply sorted_eq_of_class_eq tot _ _ (List.pairwise_mergeSort tr tot l1) (List.pairwise_mergeSort tr tot l2)
  intro a
  rw [filter_mergeSort_class tr tot l1 a, filter_mergeSort_class tr tot l2 a, h a]

end stable

/-- the first element of a stably sorted list that satisfies `sat` is a satisfying element of `l` below every satisfying
element, and the first satisfying element, in the ORIGINAL order of `l`, of its tie class -/
theorem mergeSort_find_first {le : α → α → Bool} (tr : ∀ a b c, le a b = true → le b c = true → le a c = true)
    (tot : ∀ a b, (le a b || le b a) = true) (l : List α) (sat : α → Bool) {x : α}
    (h : (l.mergeSort le).find? sat = some x) :
    x ∈ l ∧ sat x = true ∧ (∀ y ∈ l, sat y = true → le x y = true) ∧
    (l.filter (equivB le x)).find? sat = some x := by
  have hperm := List.mergeSort_perm l le
  have hsorted := List.pairwise_mergeSort tr tot l
  obtain ⟨hsat, as, bs, heq, hbefore⟩ := List.find?_eq_some_iff_append.mp h
  have hrefl : le x x = true := le_refl' tot x
  refine ⟨hperm.mem_iff.mp (by rw [heq]; simp), hsat, ?_, ?_⟩
  · intro y hy hs
    have hy' : y ∈ as ++ x :: bs := by rw [← heq]; exact hperm.mem_iff.mpr hy
    rcases List.mem_append.mp hy' with h1 | h1
    · have := hbefore y h1; simp [hs] at this
    · rcases List.mem_cons.mp h1 with e | e
      · rw [e]; exact hrefl
      · rw [heq] at hsorted
        exact (List.pairwise_cons.mp (List.pairwise_append.mp hsorted).2.1).1 y e
  · rw [← filter_mergeSort_class tr tot l x, List.find?_filter, heq]
    rw [List.find?_eq_some_iff_append]
    refine ⟨by simp [equivB, hrefl, hsat], as, bs, rfl, ?_⟩
    intro a ha
    have := hbefore a ha
    simp only [Bool.not_eq_true'] at this
    simp [this]

/-- ANY function returning a sorted permutation (the contract of Go's `sort.Slice`) agrees with
`mergeSort` when the order is antisymmetric on the elements. -/
theorem any_sort_eq_mergeSort {le : α → α → Bool}
    (tr : ∀ a b c, le a b = true → le b c = true → le a c = true)
    (tot : ∀ a b, (le a b || le b a) = true)
    (l s : List α) (hp : s.Perm l) (hs : List.Pairwise (fun a b => le a b = true) s)
    (anti : ∀ a b, a ∈ l → b ∈ l → le a b = true → le b a = true → a = b) :
    s = l.mergeSort le := by
  apply sorted_perm_unique _ _ (hp.trans (List.mergeSort_perm l le).symm) hs (List.pairwise_mergeSort tr tot l)
  intro a b ha hb
  exact anti a b (hp.mem_iff.mp ha) (hp.mem_iff.mp hb)

end NGF.Sort
