/-
`$` in the rendered tree of the fragment (C04, text step): if no guarded field except a match path contains `$`
(`PrintGuards.noDollarOutsidePaths`; the validators give that: DNS names, the `$`-free redirect hostname, the scheme enum),
then in `render (genR s order)` a `$` occurs in an argument only where the TEMPLATE wrote a variable
(`$scheme`, `$host`, `$request_uri`, `$group_…`, the fixed proxy headers, `$match_key`, `$request_id`), or in a `location`
argument (which NGINX does not interpolate); `server_name` arguments contain none (`Print.dollarsOK`).
The `$`-free instance of the generic dataflow theorem Proofs/PrintFlow, then the statements of the templates one by one.
Core Lean only.
-/
import NGF.Model.PrintGuards
import NGF.Proofs.PrintFlow
import NGF.Proofs.PrintLex
import NGF.Proofs.Mangle

namespace NGF.Print
open NGF.Nginx NGF.Pipeline NGF.Render NGF.Mangle NGF.PrintGuards

theorem tmplDollar_of_noDollar : ∀ {a : List Char}, '$' ∉ a → tmplDollar a = true
  | [], _ => rfl
  | c :: t, h => by
    have hc : c ≠ '$' := fun e => h (e ▸ List.mem_cons_self ..)
    have ht : '$' ∉ t := fun hm => h (List.mem_cons_of_mem _ hm)
    simp [tmplDollar, hc, tmplDollar_of_noDollar ht]

theorem isPrefixOf_append {p t : List Char} (b : List Char) (h : p.isPrefixOf t = true) : p.isPrefixOf (t ++ b) = true := by
  rw [List.isPrefixOf_iff_prefix] at h ⊢
  exact h.trans (List.prefix_append t b)

theorem tmplDollar_append : ∀ {a b : List Char}, tmplDollar a = true → tmplDollar b = true → tmplDollar (a ++ b) = true
  | [], _, _, hb => hb
  | c :: t, b, ha, hb => by
    simp only [tmplDollar, Bool.and_eq_true, Bool.or_eq_true, List.any_eq_true] at ha
    simp only [List.cons_append, tmplDollar, Bool.and_eq_true, Bool.or_eq_true, List.any_eq_true]
    refine ⟨ha.1.imp id ?_, tmplDollar_append ha.2 hb⟩
    rintro ⟨p, hp, hpre⟩
    exact ⟨p, hp, isPrefixOf_append b hpre⟩

theorem noDollar_digits (n : Nat) : '$' ∉ digits n :=
  NGF.Inj.no_dollar_of_plain fun _ hc => plain_of_isDigit (digits_isDigit hc)

theorem noDollar_safeVar {l : List Char} (h : '$' ∉ l) : '$' ∉ safeVar l := by
  intro hm
  simp only [safeVar, List.mem_map] at hm
  obtain ⟨c, hc, e⟩ := hm
  by_cases hd : c = '-'
  · simp [hd] at e
  · simp only [hd, if_false] at e
    exact h (e ▸ hc)

theorem tmplVars_noDollar : ∀ v ∈ tmplVars, '$' ∉ v := by
  simp only [tmplVars, List.map_cons, List.map_nil, List.forall_mem_cons]
  decide_chars

theorem tmplDollar_var {v rest : List Char} (hv : v ∈ tmplVars) (h : '$' ∉ rest) : tmplDollar ('$' :: (v ++ rest)) = true := by
  simp only [tmplDollar, Bool.and_eq_true, Bool.or_eq_true, List.any_eq_true]
  exact ⟨.inr ⟨v, hv, List.isPrefixOf_iff_prefix.mpr (List.prefix_append v rest)⟩,
    tmplDollar_of_noDollar (List.not_mem_append (tmplVars_noDollar v hv) h)⟩

/-- a word the template writes as `$<variable>` (`tmplVars` is a list of literals mapped by `String.toList`) -/
theorem tmplDollar_varLit {s v : String} (hs : s.toList = '$' :: v.toList) (hv : v.toList ∈ tmplVars) :
    tmplDollar s.toList = true := by
  rw [hs, ← List.append_nil v.toList]
  exact tmplDollar_var hv List.not_mem_nil

/-- `$group_<ns>__<name>_rule<i>`: one template variable, no further `$` -/
theorem tmplDollar_groupVar {ns name : List Char} (h1 : '$' ∉ ns) (h2 : '$' ∉ name) (i : Nat) :
    tmplDollar ('$' :: groupVar ns name i) = true := by
  have e : groupVar ns name i = "group_".toList ++ safeVar (ns ++ (lit "__" ++ (name ++ (lit "_rule" ++ digits i)))) := by
    simp only [groupVar, groupName, lit, List.append_assoc, safeVar_append]
    congr 1
  rw [e]
  refine tmplDollar_var (List.mem_map_of_mem (by simp)) (noDollar_safeVar ?_)
  exact List.not_mem_append h1 (List.not_mem_append (by decide) (List.not_mem_append h2 (List.not_mem_append (by decide) (noDollar_digits i))))

def ndP : Preds :=
  { host := fun h => '$' ∉ h, path := fun _ => True, name := fun n => '$' ∉ n, target := fun t => '$' ∉ t,
    dq := fun x => '$' ∉ x }

theorem fieldsP_of_noDollar {s : Scenario} (hs : noDollarOutsidePaths s = true) : FieldsP ndP s := by
  simp only [noDollarOutsidePaths, Bool.and_eq_true, List.all_eq_true, Bool.not_eq_true', List.contains_eq_mem,
    decide_eq_false_iff_not] at hs
  refine ⟨fun g hg l hl => .inr (hs.1 g hg l hl), ?_⟩
  intro r hr hv
  have := hs.2 r hr
  simp only [hv, Bool.not_true, Bool.false_or, Bool.and_eq_true, Bool.not_eq_true', decide_eq_false_iff_not,
    List.all_eq_true] at this
  refine ⟨this.1.1.1, this.1.1.2, this.1.2, ?_⟩
  intro rule hrule
  have nd : ∀ x : Str, (!x.contains '$') = true → '$' ∉ x := fun x h => by simpa using h
  exact ⟨fun _ _ => trivial, actionP_of_tests (P := ndP) nd nd nd _ (this.2 rule hrule)⟩

theorem confND_genR {s : Scenario} (hs : noDollarOutsidePaths s = true) (order : List Nat) : ConfP ndP (genR s order) :=
  confP_genR (P := ndP) (by show '$' ∉ Hostname.wildcardHostname; decide) (fun _ _ => trivial) (fieldsP_of_noDollar hs) order

theorem dollarOK_iff_flat :
    (∀ d, dollarOK d = true ↔ ∀ x ∈ flatDir d, stmtDollarOK x = true) ∧
    ∀ ds, dollarsOK ds = true ↔ ∀ x ∈ flatDirs ds, stmtDollarOK x = true :=
  check_iff_flat (fun _ _ => by simp only [dollarOK]; rfl) (fun _ _ _ => by simp only [dollarOK]; rfl)
    (by simp only [dollarsOK]) (fun _ _ => by simp only [dollarsOK])

theorem dollarOK_flat : ∀ (d : Dir), dollarOK d = true → ∀ x ∈ flatDir d, argsDollarOK x.name x.args = true :=
  fun d => (dollarOK_iff_flat.1 d).mp

/-- `location` arguments are not interpolated -/
theorem stmtDollarOK_location (args : List Arg) (b : Option (List Dir)) :
    stmtDollarOK (.mk "location".toList args b) = true := by simp [stmtDollarOK, Dir.name, argsDollarOK]

theorem stmtDollarOK_mk {n : List Char} {args : List Arg} (b : Option (List Dir))
    (hn : (n == "location".toList || n == "server_name".toList) = false)
    (h : args.all (fun a => tmplDollar a.1) = true) : stmtDollarOK (.mk n args b) = true := by
  rw [Bool.or_eq_false_iff] at hn
  simp only [stmtDollarOK, Dir.name, Dir.args, argsDollarOK, hn.1, hn.2, Bool.false_eq_true, if_false, h]

theorem stmtDollarOK_listen {d : Dir} {port : Nat} {extra : List String} (hd : d ∈ listenDirs port extra)
    (he : ∀ e ∈ extra, e = "default_server") : stmtDollarOK d = true := by
  have hex : (extra.map w).all (fun a => tmplDollar a.1) = true := by
    refine List.all_eq_true.mpr fun a ha => ?_
    obtain ⟨e, hee, rfl⟩ := List.mem_map.mp ha
    rw [he e hee]
    decide_chars
  simp only [listenDirs, List.mem_cons, List.not_mem_nil, or_false] at hd
  rcases hd with rfl | rfl
  · refine stmtDollarOK_mk _ (by decide_chars) ?_
    rw [List.all_cons, hex, Bool.and_true]
    exact tmplDollar_of_noDollar (noDollar_digits port)
  · refine stmtDollarOK_mk _ (by decide_chars) ?_
    rw [List.all_cons, hex, Bool.and_true]
    exact tmplDollar_of_noDollar (List.not_mem_append (s := "[::]:".toList) (by decide_chars) (noDollar_digits port))

theorem tmplDollar_matchKey : tmplDollar "$match_key".toList = true :=
  tmplDollar_varLit (v := "match_key") (by rw [String.toList_ofList, String.toList_ofList]) (List.mem_map_of_mem (by simp))

theorem tmplDollar_requestId : tmplDollar "$request_id".toList = true :=
  tmplDollar_varLit (v := "request_id") (by rw [String.toList_ofList, String.toList_ofList]) (List.mem_map_of_mem (by simp))

theorem tmplDollar_requestURI : tmplDollar requestURI = true :=
  tmplDollar_varLit (v := "request_uri") (by rw [String.toList_ofList, String.toList_ofList]) (List.mem_map_of_mem (by simp))

theorem tmplDollar_scheme : tmplDollar "$scheme".toList = true :=
  tmplDollar_varLit (v := "scheme") (by rw [String.toList_ofList, String.toList_ofList]) (List.mem_map_of_mem (by simp))

theorem tmplDollar_host : tmplDollar "$host".toList = true :=
  tmplDollar_varLit (v := "host") (by rw [String.toList_ofList, String.toList_ofList]) (List.mem_map_of_mem (by simp))

theorem noDollar_invalidBackendRef : '$' ∉ invalidBackendRef := by
  unfold invalidBackendRef
  decide_chars

theorem tmplDollar_passTarget {src : Src} {bs : List Backend} (hs : SrcP ndP src) (hb : BsP ndP bs) :
    tmplDollar (passTarget src bs) = true := by
  unfold passTarget
  refine tmplDollar_append (tmplDollar_append (by decide_chars) ?_) tmplDollar_requestURI
  unfold passHost
  split
  · exact tmplDollar_of_noDollar noDollar_invalidBackendRef
  · rename_i b
    split
    · exact tmplDollar_of_noDollar noDollar_invalidBackendRef
    · rename_i hv
      simp only [Bool.or_eq_true, beq_iff_eq, Bool.not_eq_true', not_or, Bool.not_eq_false] at hv
      exact tmplDollar_of_noDollar (hb b (by simp) hv.2)
  · exact tmplDollar_groupVar hs.1 hs.2 _

theorem tmplDollar_redirectBody {sch host : Option Str} {port : Option Nat} (h1 : ∀ x, sch = some x → '$' ∉ x)
    (h2 : ∀ x, host = some x → '$' ∉ x) : tmplDollar (redirectBody sch host port) = true := by
  unfold redirectBody
  refine tmplDollar_append (tmplDollar_append (tmplDollar_append (tmplDollar_append ?_ (by decide_chars)) ?_) ?_)
    tmplDollar_requestURI
  · cases sch with
    | none => exact tmplDollar_scheme
    | some x => exact tmplDollar_of_noDollar (h1 x rfl)
  · cases host with
    | none => exact tmplDollar_host
    | some x => exact tmplDollar_of_noDollar (h2 x rfl)
  · cases port with
    | none => rfl
    | some p => exact tmplDollar_of_noDollar (List.not_mem_append (s := [':']) (by decide) (noDollar_digits p))

/-- the name of a share ends in `%` -/
theorem pctName_not (c : Nat) : (pctName c == "location".toList || pctName c == "server_name".toList) = false := by
  have hl : (pctName c).getLast? = some '%' := by simp [pctName]
  rw [Bool.or_eq_false_iff]
  constructor
  · cases h : pctName c == "location".toList with
    | false => rfl
    | true => rw [beq_iff_eq.mp h] at hl; revert hl; decide_chars
  · cases h : pctName c == "server_name".toList with
    | false => rfl
    | true => rw [beq_iff_eq.mp h] at hl; revert hl; decide_chars

theorem stmtDollarOK_of_stmt {d : Dir} (h : Stmt ndP d) : stmtDollarOK d = true := by
  cases h with
  | fixed hm => exact (fixedStmts_tests _ hm).2
  | server ch => exact stmtDollarOK_mk _ (by decide_chars) rfl
  | listen hd he => exact stmtDollarOK_listen hd he
  | serverName hh =>
    -- `server_name`: no `$` at all
    have : '$' ∉ _ := hh
    simp [stmtDollarOK, dir, Dir.name, Dir.args, argsDollarOK, wl, this]
  | location ch hp => exact stmtDollarOK_location _ _
  | internalLocation i j ch => exact stmtDollarOK_location _ _
  | proxyPass hs hb => exact stmtDollarOK_mk _ (by decide_chars) (all_singleton (tmplDollar_passTarget hs hb))
  | redirect code port h1 h2 =>
    exact stmtDollarOK_mk _ (by decide_chars)
      (all_pair (tmplDollar_of_noDollar (noDollar_digits code)) (tmplDollar_redirectBody h1 h2))
  | status code =>
    exact stmtDollarOK_mk _ (by decide_chars) (all_pair (tmplDollar_of_noDollar (noDollar_digits code)) rfl)
  | matchKey sid idx =>
    exact stmtDollarOK_mk _ (by decide_chars) (all_pair tmplDollar_matchKey (tmplDollar_of_noDollar
      (List.not_mem_append (noDollar_digits sid) (List.not_mem_append (s := ['_']) (by decide) (noDollar_digits idx)))))
  | splitClients ch hs =>
    exact stmtDollarOK_mk _ (by decide_chars) (all_pair tmplDollar_requestId (tmplDollar_groupVar hs.1 hs.2 _))
  | share c ht =>
    exact stmtDollarOK_mk _ (pctName_not c)
      (all_singleton (tmplDollar_of_noDollar (ht.elim id fun e => e ▸ noDollar_invalidBackendRef)))

theorem dollarsOK_render {c : ConfR} (h : ConfP ndP c) : dollarsOK (render c) = true :=
  (dollarOK_iff_flat.2 _).mpr fun x hx => stmtDollarOK_of_stmt (stmts_render h x hx)

theorem dollarsOK_render_genR {s : Scenario} (hs : noDollarOutsidePaths s = true) (order : List Nat) :
    dollarsOK (render (genR s order)) = true := dollarsOK_render (confND_genR hs order)

end NGF.Print
