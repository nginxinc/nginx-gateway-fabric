/-
C18: the invariant `WF` of the provisioner model and one `HandleEventBatch` on a well-formed state, for an arbitrary
removal scan.

`WF` reads only `prov`, `cluster`, `nextID`, the keys of `gws` and `crashed` (`WF.of_store`), so `store.update` and
`setGatewayClassStatuses` keep it. On a well-formed state that has not panicked the two loop bodies of
`ensureDeploymentsMatchGateways` have closed forms (`createOne_eq`, `deleteOne_eq`: neither can fail). What a loop,
a whole `ensureDeploymentsMatchGateways` and a whole batch do is said in one shape (`ProvStep`): the result is again
well-formed and running, which keys have a Deployment, and where the old ones are untouched. That `gws`, `gcs` and
`statuses` are left alone needs no hypothesis and is kept apart (`ensureWith_store`).
-/
import NGF.Proofs.Provisioner
import NGF.Proofs.ProvisionerArgs
import NGF.Proofs.ListBasics

namespace NGF.Prov

abbrev Hist := List (List Ev × List Key)

theorem mem_arrange (order cands : List Key) (k : Key) : k ∈ arrange order cands ↔ k ∈ cands := by
  induction order generalizing cands with
  | nil => rfl
  | cons a t ih =>
    unfold arrange
    split
    · next h => by_cases e : k = a <;> simp [ih, e, h]
    · exact ih cands

theorem nodup_arrange (order cands : List Key) (h : cands.Nodup) : (arrange order cands).Nodup := by
  induction order generalizing cands with
  | nil => simpa [arrange]
  | cons a t ih =>
    simp only [arrange]
    split
    · refine List.nodup_cons.mpr ⟨?_, ih _ (h.sublist List.filter_sublist)⟩
      simp [mem_arrange]
    · exact ih cands h

/-- every order Go can pick is expressible: a permutation of the candidates arranges to itself -/
theorem arrange_self (p cands : List Key) (hp : p.Nodup) (hm : ∀ k, k ∈ p ↔ k ∈ cands) (hc : cands.Nodup) :
    arrange p cands = p := by
  induction p generalizing cands with
  | nil =>
    cases cands with
    | nil => rfl
    | cons c _ => exact absurd ((hm c).mpr (by simp)) (by simp)
  | cons a t ih =>
    have ha : a ∈ cands := (hm a).mp (by simp)
    simp only [arrange, ha, if_true]
    congr 1
    have hat := (List.nodup_cons.mp hp)
    apply ih _ hat.2
    · intro k
      simp only [List.mem_filter, bne_iff_ne, ne_eq, ← hm, List.mem_cons]
      constructor
      · exact fun hk => ⟨Or.inr hk, fun e => hat.1 (e ▸ hk)⟩
      · rintro ⟨e | e, hne⟩
        · exact absurd e hne
        · exact e
    · exact hc.sublist List.filter_sublist

/-- what holds in every reachable state, crashed or not -/
structure WF (cfg : Cfg) (s : State) : Prop where
  cluster_eq : s.cluster = s.prov.map (·.2)
  prepared   : ∀ p ∈ s.prov, ∃ i, i < s.nextID ∧ p.2 = prepare cfg.tmpl i p.1
  provKeys   : (s.prov.map (·.1)).Nodup
  gwKeys     : (s.gws.map (·.1)).Nodup
  names      : (s.prov.map (·.2.name)).Nodup
  crash      : s.crashed = none ∨ s.crashed = some .gcAbsent

theorem wf_init (cfg : Cfg) : WF cfg init := by
  constructor <;> simp [init]

theorem WF.of_store {cfg : Cfg} {s s' : State} (h : WF cfg s) (hp : s'.prov = s.prov) (hcl : s'.cluster = s.cluster)
    (hn : s'.nextID = s.nextID) (hg : (s'.gws.map (·.1)).Nodup)
    (hc : s'.crashed = none ∨ s'.crashed = some .gcAbsent) : WF cfg s' :=
  ⟨by rw [hcl, hp]; exact h.cluster_eq, by rw [hp, hn]; exact h.prepared, hp ▸ h.provKeys, hg, hp ▸ h.names, hc⟩

theorem WF.cluster_prepared {cfg : Cfg} {s : State} (h : WF cfg s) {d : Dep} (hd : d ∈ s.cluster) :
    ∃ k i, i < s.nextID ∧ d = prepare cfg.tmpl i k := by
  rw [h.cluster_eq] at hd
  obtain ⟨p, hp, rfl⟩ := List.mem_map.mp hd
  obtain ⟨i, hi, e⟩ := h.prepared p hp
  exact ⟨p.1, i, hi, e⟩

theorem WF.fresh {cfg : Cfg} {s : State} (h : WF cfg s) {d : Dep} (hd : d ∈ s.cluster) : d.name ≠ idName s.nextID := by
  obtain ⟨k, i, hi, rfl⟩ := h.cluster_prepared hd
  exact fun e => Nat.ne_of_lt hi (idName_inj e)

theorem storeUpdate_frame (s : State) (b : List Ev) :
    (storeUpdate s b).prov = s.prov ∧ (storeUpdate s b).cluster = s.cluster ∧
    (storeUpdate s b).nextID = s.nextID ∧ (storeUpdate s b).crashed = s.crashed := by
  unfold storeUpdate
  induction b generalizing s with
  | nil => exact ⟨rfl, rfl, rfl, rfl⟩
  | cons e t ih => cases e <;> exact ih _

theorem storeUpdate_prov (s : State) (b : List Ev) : (storeUpdate s b).prov = s.prov :=
  (storeUpdate_frame s b).1

theorem storeUpdate_crashed (s : State) (b : List Ev) : (storeUpdate s b).crashed = s.crashed :=
  (storeUpdate_frame s b).2.2.2

theorem storeUpdate_gwKeys {s : State} (h : (s.gws.map (·.1)).Nodup) (b : List Ev) :
    ((storeUpdate s b).gws.map (·.1)).Nodup := by
  unfold storeUpdate
  induction b generalizing s with
  | nil => exact h
  | cons e t ih =>
    apply ih
    cases e <;> first | exact h | exact nodup_keys_upsert h _ _ | exact nodup_keys_erase h _

theorem storeUpdate_wf {cfg : Cfg} {s : State} (h : WF cfg s) (b : List Ev) : WF cfg (storeUpdate s b) :=
  have f := storeUpdate_frame s b
  h.of_store f.1 f.2.1 f.2.2.1 (storeUpdate_gwKeys h.gwKeys b) (f.2.2.2 ▸ h.crash)

theorem setStatuses_ok {cfg : Cfg} {s : State} (h : cfg.gcName ∈ s.gcs) :
    setStatuses cfg s = { s with statuses := s.gcs.map (fun n => (n, gcConds cfg n)) } := by
  simp [setStatuses, h]

theorem setStatuses_crash {cfg : Cfg} {s : State} (h : cfg.gcName ∉ s.gcs) :
    setStatuses cfg s = { s with crashed := some .gcAbsent } := by
  simp [setStatuses, h]

theorem setStatuses_prov (cfg : Cfg) (s : State) : (setStatuses cfg s).prov = s.prov := by
  unfold setStatuses
  split <;> rfl

theorem setStatuses_gws (cfg : Cfg) (s : State) : (setStatuses cfg s).gws = s.gws := by
  unfold setStatuses
  split <;> rfl

theorem setStatuses_wf {cfg : Cfg} {s : State} (h : WF cfg s) (hc : s.crashed = none) : WF cfg (setStatuses cfg s) := by
  by_cases hg : cfg.gcName ∈ s.gcs
  · rw [setStatuses_ok hg]; exact h.of_store rfl rfl rfl h.gwKeys (Or.inl hc)
  · rw [setStatuses_crash hg]; exact h.of_store rfl rfl rfl h.gwKeys (Or.inr rfl)

theorem gcConds_eq (cfg : Cfg) (n : Str) :
    gcConds cfg n = if n = cfg.gcName then defaultConds else [⟨tSupportedVersion, true, tSupportedVersion⟩, conflictCond] := by
  unfold gcConds
  split <;> rfl

variable {cfg : Cfg} {s : State}

abbrev SameStore (s t : State) : Prop := t.gws = s.gws ∧ t.gcs = s.gcs ∧ t.statuses = s.statuses

theorem SameStore.trans {s t u : State} (h : SameStore s t) (h' : SameStore t u) : SameStore s u :=
  ⟨h'.1.trans h.1, h'.2.1.trans h.2.1, h'.2.2.trans h.2.2⟩

theorem createOne_store (cfg : Cfg) (s : State) (k : Key) : SameStore s (createOne cfg s k) :=
  of_ite ⟨rfl, rfl, rfl⟩ (of_ite ⟨rfl, rfl, rfl⟩ ⟨rfl, rfl, rfl⟩)

theorem deleteOne_store (s : State) (k : Key) : SameStore s (deleteOne s k) := by
  unfold deleteOne
  refine of_ite ⟨rfl, rfl, rfl⟩ ?_
  cases get? s.prov k with
  | none => exact ⟨rfl, rfl, rfl⟩
  | some d => exact of_ite ⟨rfl, rfl, rfl⟩ ⟨rfl, rfl, rfl⟩

theorem ensureWith_store (rem : Removal) (cfg : Cfg) (s : State) (order : List Key) :
    SameStore s (ensureWith rem cfg s order) :=
  List.foldlRecOn (motive := SameStore s) _ _
    (List.foldlRecOn (motive := SameStore s) _ _ ⟨rfl, rfl, rfl⟩ fun t h k _ => h.trans (createOne_store cfg t k))
    fun t h k _ => h.trans (deleteOne_store t k)

/-- `s'` is again well-formed and running; it has a Deployment exactly for the keys with `has k`, and at the keys with
`same k` the Deployment is the one `s` had -/
structure ProvStep (cfg : Cfg) (s s' : State) (has : Key → Bool) (same : Key → Prop) : Prop where
  wf       : WF cfg s'
  ok       : s'.crashed = none
  prov_has : ∀ k, hasKey s'.prov k = has k
  prov_get : ∀ k, same k → get? s'.prov k = get? s.prov k

theorem createOne_eq (h : WF cfg s) (hc : s.crashed = none) {k : Key}
    (hk : hasKey s.prov k = false) :
    createOne cfg s k =
      { s with nextID := s.nextID + 1, cluster := s.cluster ++ [prepare cfg.tmpl s.nextID k],
               prov := s.prov ++ [(k, prepare cfg.tmpl s.nextID k)] } := by
  have hany : s.cluster.any (fun e => e.name == (prepare cfg.tmpl s.nextID k).name) = false :=
    List.any_eq_false.mpr fun d hd e => h.fresh hd (beq_iff_eq.mp e)
  simp only [createOne, hc, Option.isSome_none, Bool.false_eq_true, if_false, hany, upsert, erase_eq_self hk]

theorem createOne_wf (h : WF cfg s) (hc : s.crashed = none) {k : Key}
    (hk : hasKey s.prov k = false) :
    WF cfg (createOne cfg s k) ∧ (createOne cfg s k).crashed = none ∧
    (createOne cfg s k).prov = upsert s.prov k (prepare cfg.tmpl s.nextID k) := by
  rw [createOne_eq h hc hk]
  refine ⟨⟨by simp [h.cluster_eq], ?_, ?_, h.gwKeys, ?_, Or.inl hc⟩, hc, by rw [upsert, erase_eq_self hk]⟩
  · intro p hp
    rcases List.mem_append.mp hp with hp | hp
    · obtain ⟨i, hi, e⟩ := h.prepared p hp
      exact ⟨i, Nat.lt_succ_of_lt hi, e⟩
    · rw [List.mem_singleton.mp hp]
      exact ⟨s.nextID, Nat.lt_succ_self _, rfl⟩
  · simp only [List.map_append, List.map_cons, List.map_nil]
    refine nodup_concat h.provKeys (fun hx => ?_)
    rw [hasKey_iff_mem_keys.mpr hx] at hk
    cases hk
  · simp only [List.map_append, List.map_cons, List.map_nil]
    refine nodup_concat h.names (fun hx => ?_)
    obtain ⟨p, hp, e⟩ := List.mem_map.mp hx
    exact h.fresh (h.cluster_eq ▸ List.mem_map_of_mem hp) e

theorem createFold_spec (ks : List Key) (h : WF cfg s) (hc : s.crashed = none)
    (hn : ks.Nodup) (hk : ∀ k ∈ ks, hasKey s.prov k = false) :
    ProvStep cfg s (ks.foldl (createOne cfg) s) (fun k' => hasKey s.prov k' || decide (k' ∈ ks))
      (fun k' => hasKey s.prov k' = true) := by
  induction ks generalizing s with
  | nil => exact ⟨h, hc, fun k' => by simp, fun _ _ => rfl⟩
  | cons k t ih =>
    have hk0 := hk k List.mem_cons_self
    have hnt := List.nodup_cons.mp hn
    obtain ⟨w, c, p⟩ := createOne_wf h hc hk0
    have hk' : ∀ k' ∈ t, hasKey (createOne cfg s k).prov k' = false := fun k' hk' => by
      rw [p, hasKey_upsert, hk k' (List.mem_cons_of_mem _ hk')]
      exact decide_eq_false fun e => hnt.1 (e ▸ hk')
    have r := ih w c hnt.2 hk'
    refine ⟨r.wf, r.ok, fun k' => ?_, fun k' hk'' => ?_⟩
    · rw [List.foldl_cons, r.prov_has, p, hasKey_upsert]
      simp only [List.mem_cons, Bool.decide_or, Bool.or_assoc]
    · have hne : k' ≠ k := fun e => by rw [e, hk0] at hk''; cases hk''
      rw [List.foldl_cons, r.prov_get k' (by rw [p, hasKey_upsert, hk'']; rfl), p, get?_upsert, if_neg hne]

/-- for a key without an entry both sides are `s` -/
theorem deleteOne_eq (h : WF cfg s) (hc : s.crashed = none) (k : Key) :
    deleteOne s k = { s with cluster := (erase s.prov k).map (·.2), prov := erase s.prov k } := by
  cases hg : get? s.prov k with
  | none =>
    have hk : hasKey s.prov k = false := by rw [hasKey_eq_isSome_get?, hg]; rfl
    have e : deleteOne s k = s := by simp only [deleteOne, hg, ite_self]
    rw [e, erase_eq_self hk, ← h.cluster_eq]
  | some d =>
    have hmem := mem_of_get?_some hg
    have hany : s.cluster.any (fun e => e.name == d.name) = true := by
      rw [h.cluster_eq]
      simp only [List.any_map, List.any_eq_true, Function.comp_apply, beq_iff_eq]
      exact ⟨(k, d), hmem, rfl⟩
    have hfilter : s.cluster.filter (fun e => e.name != d.name) = (erase s.prov k).map (·.2) := by
      rw [h.cluster_eq, List.filter_map, erase]
      congr 1
      apply List.filter_congr
      intro p hp
      -- keys and names are both free of duplicates, so "same name as `d`" and "same key as `k`" select the same entry
      have hiff : p.2.name = d.name ↔ p.1 = k :=
        ⟨fun e => congrArg (·.1) (inj_of_nodup_map h.names _ hp _ hmem e),
         fun e => congrArg (·.2.name) (inj_of_nodup_map h.provKeys _ hp _ hmem e)⟩
      rw [Function.comp_apply, Bool.eq_iff_iff, bne_iff_ne, bne_iff_ne, ne_eq, ne_eq, hiff]
    simp only [deleteOne, hc, Option.isSome_none, Bool.false_eq_true, if_false, hg, hany, if_true, hfilter]

theorem deleteOne_wf (h : WF cfg s) (hc : s.crashed = none) (k : Key) :
    WF cfg (deleteOne s k) ∧ (deleteOne s k).crashed = none ∧ (deleteOne s k).prov = erase s.prov k := by
  rw [deleteOne_eq h hc k]
  exact ⟨⟨rfl, fun p hp => h.prepared p (List.mem_filter.mp hp).1, nodup_keys_erase h.provKeys k, h.gwKeys,
    h.names.sublist ((List.filter_sublist (l := s.prov)).map _), Or.inl hc⟩, hc, rfl⟩

theorem deleteFold_spec (ks : List Key) (h : WF cfg s) (hc : s.crashed = none) :
    ProvStep cfg s (ks.foldl deleteOne s) (fun k' => hasKey s.prov k' && !decide (k' ∈ ks)) (fun k' => k' ∉ ks) := by
  induction ks generalizing s with
  | nil => exact ⟨h, hc, fun k' => by simp, fun _ _ => rfl⟩
  | cons k t ih =>
    obtain ⟨w, c, p⟩ := deleteOne_wf h hc k
    have r := ih w c
    refine ⟨r.wf, r.ok, fun k' => ?_, fun k' hk' => ?_⟩
    · rw [List.foldl_cons, r.prov_has, p, hasKey_erase]
      by_cases e : k' = k <;> simp [e]
    · simp only [List.mem_cons, not_or] at hk'
      rw [List.foldl_cons, r.prov_get k' hk'.2, p, get?_erase, if_neg hk'.1]

theorem mem_gwsWithoutDeps (hg : (s.gws.map (·.1)).Nodup) (k : Key) :
    k ∈ gwsWithoutDeps cfg s ↔ get? s.gws k = some cfg.gcName ∧ hasKey s.prov k = false := by
  simp only [gwsWithoutDeps, List.mem_map, List.mem_filter, Bool.and_eq_true, beq_iff_eq, Bool.not_eq_true']
  constructor
  · rintro ⟨⟨a, c⟩, ⟨hm, hc, hp⟩, rfl⟩
    simp only at hc hp ⊢
    exact ⟨hc ▸ get?_of_mem hg hm, hp⟩
  · rintro ⟨h1, h2⟩
    exact ⟨(k, cfg.gcName), ⟨mem_of_get?_some h1, rfl, h2⟩, rfl⟩

theorem nodup_gwsWithoutDeps (hg : (s.gws.map (·.1)).Nodup) :
    (gwsWithoutDeps cfg s).Nodup :=
  hg.sublist ((List.filter_sublist (l := s.gws)).map _)

theorem mem_removedPreFix (cfg : Cfg) (s : State) (k : Key) :
    k ∈ removedPreFix cfg s ↔ hasKey s.prov k = true ∧ hasKey s.gws k = false :=
  (mem_keys_filter (q := fun k => !hasKey s.gws k)).trans (by simp)

theorem mem_removedGwsWithDeps (cfg : Cfg) (s : State) (k : Key) :
    k ∈ removedGwsWithDeps cfg s ↔ hasKey s.prov k = true ∧ get? s.gws k ≠ some cfg.gcName :=
  (mem_keys_filter (q := fun k => get? s.gws k != some cfg.gcName)).trans (by simp)

theorem ensureWith_spec (rem : Removal) (order : List Key) (h : WF cfg s)
    (hc : s.crashed = none) :
    ProvStep cfg s (ensureWith rem cfg s order)
      (fun k => (hasKey s.prov k || decide (get? s.gws k = some cfg.gcName)) && !decide (k ∈ rem cfg s))
      (fun k => hasKey s.prov k = true ∧ k ∉ rem cfg s) := by
  have hn := nodup_arrange order _ (nodup_gwsWithoutDeps (cfg := cfg) h.gwKeys)
  have hk : ∀ k ∈ arrange order (gwsWithoutDeps cfg s), hasKey s.prov k = false := fun k hk =>
    ((mem_gwsWithoutDeps h.gwKeys k).mp ((mem_arrange _ _ k).mp hk)).2
  have c := createFold_spec _ h hc hn hk
  have d := deleteFold_spec (rem cfg s) c.wf c.ok
  refine ⟨d.wf, d.ok, fun k => ?_, fun k hk => (d.prov_get k hk.2).trans (c.prov_get k hk.1)⟩
  unfold ensureWith
  rw [d.prov_has, c.prov_has]
  congr 1
  cases hp : hasKey s.prov k
  · simp only [Bool.false_or, mem_arrange, mem_gwsWithoutDeps h.gwKeys, hp, and_true]
  · rfl

section Generic
variable (rem : Removal)

theorem stepWith_ok {b : List Ev} {o : List Key} (hc : s.crashed = none)
    (hg : cfg.gcName ∈ (storeUpdate s b).gcs) :
    stepWith rem cfg s b o = ensureWith rem cfg (setStatuses cfg (storeUpdate s b)) o := by
  have hcs : (storeUpdate s b).crashed = none := (storeUpdate_crashed s b).trans hc
  simp [stepWith, hc, setStatuses_ok hg, hcs]

theorem stepWith_crash {b : List Ev} {o : List Key} (hc : s.crashed = none)
    (hg : cfg.gcName ∉ (storeUpdate s b).gcs) :
    stepWith rem cfg s b o = { storeUpdate s b with crashed := some .gcAbsent } := by
  simp [stepWith, hc, setStatuses_crash hg]

theorem stepWith_crashed {b : List Ev} {o : List Key} (hc : s.crashed ≠ none) :
    stepWith rem cfg s b o = s := by
  cases h : s.crashed with
  | none => exact absurd h hc
  | some c => simp [stepWith, h]

/-- the removal scan reads the state after `store.update` and `setGatewayClassStatuses` -/
theorem stepWith_spec {b : List Ev} (h : WF cfg s) (hc : s.crashed = none)
    (hg : cfg.gcName ∈ (storeUpdate s b).gcs) (o : List Key) :
    ProvStep cfg s (stepWith rem cfg s b o)
      (fun k => (hasKey s.prov k || decide (get? (storeUpdate s b).gws k = some cfg.gcName)) &&
        !decide (k ∈ rem cfg (setStatuses cfg (storeUpdate s b))))
      (fun k => hasKey s.prov k = true ∧ k ∉ rem cfg (setStatuses cfg (storeUpdate s b))) := by
  have hcs : (storeUpdate s b).crashed = none := (storeUpdate_crashed s b).trans hc
  have e := ensureWith_spec rem o (setStatuses_wf (storeUpdate_wf h b) hcs)
    (by rw [setStatuses_ok hg]; exact hcs)
  have hp : (setStatuses cfg (storeUpdate s b)).prov = s.prov := (setStatuses_prov ..).trans (storeUpdate_prov s b)
  rw [stepWith_ok rem hc hg]
  exact ⟨e.wf, e.ok, fun k => by rw [e.prov_has, hp, setStatuses_gws],
    fun k hk => by rw [e.prov_get k (by rw [hp]; exact hk), hp]⟩

theorem stepWith_wf (h : WF cfg s) (b : List Ev) (o : List Key) :
    WF cfg (stepWith rem cfg s b o) := by
  by_cases hc : s.crashed = none
  · by_cases hg : cfg.gcName ∈ (storeUpdate s b).gcs
    · exact (stepWith_spec rem h hc hg o).wf
    · rw [stepWith_crash rem hc hg]
      exact (storeUpdate_wf h b).of_store rfl rfl rfl (storeUpdate_wf h b).gwKeys (Or.inr rfl)
  · rw [stepWith_crashed rem hc]; exact h

theorem stepWith_ok_iff (h : WF cfg s) (b : List Ev) (o : List Key) :
    (stepWith rem cfg s b o).crashed = none ↔ s.crashed = none ∧ cfg.gcName ∈ (storeUpdate s b).gcs := by
  by_cases hc : s.crashed = none
  · by_cases hg : cfg.gcName ∈ (storeUpdate s b).gcs
    · simp [hc, hg, (stepWith_spec rem h hc hg o).ok]
    · simp [hc, hg, stepWith_crash rem hc hg]
  · simp [hc, stepWith_crashed rem hc]

theorem stepWith_gws (hc : s.crashed = none) (b : List Ev) (o : List Key) :
    (stepWith rem cfg s b o).gws = (storeUpdate s b).gws := by
  by_cases hg : cfg.gcName ∈ (storeUpdate s b).gcs
  · rw [stepWith_ok rem hc hg]; exact (ensureWith_store rem cfg _ o).1.trans (setStatuses_gws ..)
  · rw [stepWith_crash rem hc hg]

theorem stepWith_statuses {b : List Ev} (hc : s.crashed = none)
    (hg : cfg.gcName ∈ (storeUpdate s b).gcs) (o : List Key) :
    (stepWith rem cfg s b o).gcs = (storeUpdate s b).gcs ∧
    (stepWith rem cfg s b o).statuses = (storeUpdate s b).gcs.map (fun n => (n, gcConds cfg n)) := by
  rw [stepWith_ok rem hc hg, setStatuses_ok hg]; exact (ensureWith_store rem cfg _ o).2

theorem runWith_wf {cfg : Cfg} (hist : Hist) {s : State} (h : WF cfg s) : WF cfg (runWith rem cfg s hist) := by
  induction hist generalizing s with
  | nil => exact h
  | cons x t ih => exact ih (stepWith_wf rem h x.1 x.2)

theorem runWith_crashed_stays {cfg : Cfg} (hist : Hist) {s : State} (hc : s.crashed ≠ none) :
    runWith rem cfg s hist = s := by
  induction hist with
  | nil => rfl
  | cons x t ih => simp only [runWith]; rw [stepWith_crashed rem hc]; exact ih

theorem runWith_snoc (cfg : Cfg) (s : State) (hist : Hist) (b : List Ev) (o : List Key) :
    runWith rem cfg s (hist ++ [(b, o)]) = stepWith rem cfg (runWith rem cfg s hist) b o := by
  induction hist generalizing s with
  | nil => rfl
  | cons x t ih => exact ih _

theorem runWith_snoc_ok {hist : Hist} {b : List Ev} {o : List Key} (h : WF cfg s)
    (hc : (runWith rem cfg s (hist ++ [(b, o)])).crashed = none) :
    (runWith rem cfg s hist).crashed = none ∧
    cfg.gcName ∈ (storeUpdate (runWith rem cfg s hist) b).gcs :=
  (stepWith_ok_iff rem (runWith_wf rem hist h) b o).mp (runWith_snoc rem cfg s hist b o ▸ hc)

/-- `P` may also speak of the history still to come -/
theorem runWith_induct {cfg : Cfg} (P : State → Hist → Prop)
    (hstep : ∀ s b o t, WF cfg s → s.crashed = none → cfg.gcName ∈ (storeUpdate s b).gcs →
      P s ((b, o) :: t) → P (stepWith rem cfg s b o) t)
    (hist : Hist) (s : State) (h : WF cfg s) (h0 : P s hist) (hc' : (runWith rem cfg s hist).crashed = none) :
    P (runWith rem cfg s hist) [] := by
  induction hist generalizing s with
  | nil => exact h0
  | cons x t ih =>
    simp only [runWith] at hc' ⊢
    by_cases hs : (stepWith rem cfg s x.1 x.2).crashed = none
    · obtain ⟨hc, hg⟩ := (stepWith_ok_iff rem h _ _).mp hs
      exact ih _ (stepWith_wf rem h _ _) (hstep s x.1 x.2 t h hc hg h0) hc'
    · rw [runWith_crashed_stays rem t hs] at hc'
      exact absurd hc' hs

end Generic

end NGF.Prov
