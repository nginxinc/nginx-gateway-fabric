/-
C12 — the composed model (handler ∘ apply transaction ∘ reload oracle) over batch sequences: `ApplyOk`
(success of a batch in terms of the environment only) and the closed forms of the remembered result
(`run_lastErr_false_iff`) and of readiness (`run_ready_iff`).
-/
import NGF.Model.HandlerVer
import NGF.Proofs.Reload
import NGF.Proofs.HandlerVer

namespace NGF.HandlerVer
open NGF.C12

/-- A batch that builds a configuration ends without error — stated over the ENVIRONMENT only (what
`ReplaceFiles` did, what the master did during `Reload(v)`, the Plus API) and the result `le`
remembered before the batch: for Plus + endpoints-only with the remembered result ok (`apiOnly`) the
API result alone; otherwise all files written, `Running b.oracle v`, and
(Plus) the API. -/
def ApplyOk (plus le : Bool) (b : Batch) (v : Nat) : Prop :=
  if apiOnly plus le b = true then b.apiOk = true
  else b.files = .ok ∧ Running b.oracle v ∧ (plus = true → b.apiOk = true)

theorem hstep_err_false_iff (plus : Bool) (s : H) (b : Batch) (hct : b.ct ≠ .noChange) :
    (hstep plus s b).2.err = false ↔ ApplyOk plus s.lastErr b (s.version + 1) := by
  -- the negation of `hstep_err_iff`, with a nil `Reload` spelt out as `Running`
  rw [← Bool.not_eq_true, hstep_err_iff]
  unfold ApplyOk
  split
  · simp [hct]
  · rw [← reload_res_none_iff]
    simp [hct, Batch.writeOk, isOk_iff, Option.isSome_iff_ne_none]

theorem hstep_lastErr_false_iff (plus : Bool) (s : H) (b : Batch) :
    (hstep plus s b).1.lastErr = false ↔
      (b.ct = .noChange ∧ s.lastErr = false) ∨
        (b.ct ≠ .noChange ∧ ApplyOk plus s.lastErr b (s.version + 1)) := by
  rw [hstep_lastErr]
  by_cases hct : b.ct = .noChange
  · simp [hct]
  · simp only [hct, if_false, false_and, false_or, ne_eq, not_false_eq_true, true_and]
    exact hstep_err_false_iff plus s b hct

theorem hrun_append (plus : Bool) : ∀ (pre bs : List Batch) (s : H),
    hrun plus s (pre ++ bs) =
      ((hrun plus (hrun plus s pre).1 bs).1, (hrun plus s pre).2 ++ (hrun plus (hrun plus s pre).1 bs).2)
  | [], bs, s => by simp [hrun_nil]
  | b :: pre, bs, s => by
    simp only [List.cons_append, hrun_cons]
    rw [hrun_append plus pre bs (hstep plus s b).1]

theorem hrun_snoc_state (plus : Bool) (pre : List Batch) (b : Batch) (s : H) :
    (hrun plus s (pre ++ [b])).1 = (hstep plus (hrun plus s pre).1 b).1 := by
  rw [hrun_append]; simp [hrun_cons, hrun_nil]

theorem applies_append : ∀ (pre bs : List Batch), applies (pre ++ bs) = applies pre + applies bs
  | [], bs => by simp [applies]
  | b :: pre, bs => by simp only [List.cons_append, applies, applies_append pre bs]; omega

theorem applies_noChange : ∀ (bs : List Batch), (∀ b ∈ bs, b.ct = .noChange) → applies bs = 0
  | [], _ => rfl
  | b :: bs, h => by
    simp only [applies, h b List.mem_cons_self, if_true, Nat.zero_add]
    exact applies_noChange bs (fun x hx => h x (List.mem_cons_of_mem _ hx))

theorem run_noChange_keeps (plus : Bool) : ∀ (bs : List Batch) (s : H),
    (∀ b ∈ bs, b.ct = .noChange) →
      (hrun plus s bs).1.lastErr = s.lastErr ∧ (hrun plus s bs).1.version = s.version ∧
        (∀ e ∈ (hrun plus s bs).2, e = Emit.none)
  | [], s, _ => by simp [hrun_nil]
  | b :: bs, s, h => by
    have hb := h b List.mem_cons_self
    obtain ⟨i1, i2, i3⟩ := run_noChange_keeps plus bs (hstep plus s b).1
      (fun x hx => h x (List.mem_cons_of_mem _ hx))
    rw [hrun_cons]
    refine ⟨?_, ?_, ?_⟩
    · rw [i1, hstep_lastErr]; simp [hb]
    · rw [i2, hstep_version]; simp [hb]
    · intro e he
      rcases List.mem_cons.1 he with rfl | he
      · rw [hstep_noChange plus s b hb]
      · exact i3 e he

/-- the last batch that built a configuration, and the batches before it -/
def lastApply : List Batch → Option (List Batch × Batch)
  | [] => none
  | b :: bs =>
    match lastApply bs with
    | some (pre, x) => some (b :: pre, x)
    | none => if b.ct = .noChange then none else some ([], b)

theorem lastApply_spec : ∀ (bs : List Batch),
    match lastApply bs with
    | none => ∀ b ∈ bs, b.ct = .noChange
    | some (pre, x) => x.ct ≠ .noChange ∧ ∃ post, bs = pre ++ x :: post ∧ ∀ b ∈ post, b.ct = .noChange
  | [] => by simp [lastApply]
  | b :: bs => by
    have ih := lastApply_spec bs
    simp only [lastApply]
    cases h : lastApply bs with
    | some px =>
      obtain ⟨pre, x⟩ := px
      rw [h] at ih
      obtain ⟨hx, post, hbs, hpost⟩ := ih
      exact ⟨hx, post, by simp [hbs], hpost⟩
    | none =>
      rw [h] at ih
      by_cases hb : b.ct = .noChange
      · simp only [hb, if_true]
        intro x hx
        rcases List.mem_cons.1 hx with rfl | hx
        · exact hb
        · exact ih x hx
      · simp only [hb, if_false]
        exact ⟨hb, bs, rfl, ih⟩

/-- closed form of the remembered result, from any state: the last batch that built a configuration
decides, with the version the handler has reached by then -/
theorem run_lastErr_false_iff (plus : Bool) : ∀ (bs : List Batch) (s : H),
    (hrun plus s bs).1.lastErr = false ↔
      match lastApply bs with
      | none => s.lastErr = false
      | some (pre, x) =>
        ApplyOk plus (hrun plus s pre).1.lastErr x ((hrun plus s pre).1.version + 1)
  | [], s => by simp [hrun_nil, lastApply]
  | b :: bs, s => by
    rw [hrun_cons]
    have ih := run_lastErr_false_iff plus bs (hstep plus s b).1
    simp only [lastApply]
    cases h : lastApply bs with
    | some px =>
      obtain ⟨pre, x⟩ := px
      rw [h] at ih
      simp only at ih ⊢
      rw [ih, hrun_cons plus s b pre]
    | none =>
      rw [h] at ih
      simp only at ih ⊢
      rw [ih, hstep_lastErr_false_iff]
      by_cases hb : b.ct = .noChange <;> simp [hb, hrun_nil]

/-- Since /repo c94173a: while a failed apply is remembered EVERY batch that builds a configuration
goes through `updateNginxConf` (Plus endpoints-only included); so if none of the following batches
does, the failure stays remembered. -/
theorem run_lastErr_stays (plus : Bool) : ∀ (post : List Batch) (s : H), s.lastErr = true →
    (∀ e ∈ (hrun plus s post).2, e.generated = false) → (hrun plus s post).1.lastErr = true
  | [], s, h, _ => by simpa [hrun_nil] using h
  | b :: post, s, h, hg => by
    rw [hrun_cons] at hg ⊢
    have h0 := hg _ List.mem_cons_self
    have hrest : ∀ e ∈ (hrun plus (hstep plus s b).1 post).2, e.generated = false :=
      fun e he => hg e (List.mem_cons_of_mem _ he)
    by_cases hct : b.ct = .noChange
    · exact run_lastErr_stays plus post _ (by rw [hstep_lastErr]; simpa [hct] using h) hrest
    · exfalso
      rw [hstep_change plus s b hct] at h0
      have : (apply plus s.lastErr b (s.version + 1)).generated = true :=
        (apply_generated_iff plus s.lastErr b _).2 ⟨hct, by simp [apiOnly, h]⟩
      simp only at h0
      rw [this] at h0; cases h0

theorem hstep_generated_ok (plus : Bool) (s : H) (b : Batch)
    (hg : (hstep plus s b).2.generated = true) (he : (hstep plus s b).1.lastErr = false) :
    b.files = .ok ∧ Running b.oracle (s.version + 1 : Nat) := by
  have hct : b.ct ≠ .noChange := by
    intro hc; rw [hstep_noChange plus s b hc] at hg; simp [Emit.none] at hg
  rw [hstep_change plus s b hct] at hg
  have ha := ((apply_generated_iff plus s.lastErr b _).1 hg).2
  rcases (hstep_lastErr_false_iff plus s b).1 he with ⟨hn, _⟩ | ⟨_, hok⟩
  · exact absurd hn hct
  · simp only [ApplyOk, ha, Bool.false_eq_true, if_false] at hok
    exact ⟨hok.1, hok.2.1⟩

/-- after any batch, from any state, the checker is settled: the pod is ready or a first-batch error
is stored -/
theorem hstep_settled (plus : Bool) (s : H) (b : Batch) :
    (hstep plus s b).1.ready = true ∨ (hstep plus s b).1.firstBatchErr = true := by
  rw [hstep_state]
  split
  · cases hf : s.firstBatchErr <;> simp [hf]
  · generalize (hstep plus s b).2.err = e
    state_cases s e

/-- The pod is ready after a sequence iff it was ready before, or the first batch needed no change
while no first-batch error was stored, or some batch applied a configuration without error.  (After
the first batch the checker is settled, so a later `NoChange` batch cannot be the one.) -/
theorem run_ready_iff (plus : Bool) : ∀ (bs : List Batch) (s : H),
    (hrun plus s bs).1.ready = true ↔
      s.ready = true ∨ (∃ b rest, bs = b :: rest ∧ b.ct = .noChange ∧ s.firstBatchErr = false) ∨
        ∃ pre b post, bs = pre ++ b :: post ∧ b.ct ≠ .noChange ∧
          (hstep plus (hrun plus s pre).1 b).2.err = false
  | [], s => by simp [hrun_nil]
  | b :: bs, s => by
    rw [hrun_cons]
    simp only
    rw [run_ready_iff plus bs, hstep_ready_iff]
    constructor
    · rintro ((hr | ⟨hn, hf⟩ | ⟨hc, he⟩) | ⟨b', rest, _, _, hf⟩ | ⟨pre, x, post, rfl, hx, hok⟩)
      · exact .inl hr
      · exact .inr (.inl ⟨b, bs, rfl, hn, hf⟩)
      · exact .inr (.inr ⟨[], b, bs, rfl, hc, he⟩)
      · -- a later `NoChange` batch finds the checker settled: the pod was ready already
        rcases hstep_settled plus s b with hr | hfb
        · rcases (hstep_ready_iff plus s b).1 hr with hr | ⟨hn, hf⟩ | ⟨hc, he⟩
          · exact .inl hr
          · exact .inr (.inl ⟨b, bs, rfl, hn, hf⟩)
          · exact .inr (.inr ⟨[], b, bs, rfl, hc, he⟩)
        · rw [hf] at hfb; cases hfb
      · exact .inr (.inr ⟨b :: pre, x, post, rfl, hx, by rwa [hrun_cons]⟩)
    · rintro (hr | ⟨b', rest, hbs, hn, hf⟩ | ⟨pre, x, post, hbs, hx, hok⟩)
      · exact .inl (.inl hr)
      · obtain ⟨rfl, rfl⟩ := List.cons.inj hbs
        exact .inl (.inr (.inl ⟨hn, hf⟩))
      · cases pre with
        | nil =>
          obtain ⟨rfl, rfl⟩ := List.cons.inj hbs
          exact .inl (.inr (.inr ⟨hx, hok⟩))
        | cons p pre =>
          obtain ⟨rfl, rfl⟩ := List.cons.inj hbs
          exact .inr (.inr ⟨pre, x, post, rfl, hx, by rwa [hrun_cons] at hok⟩)

end NGF.HandlerVer
