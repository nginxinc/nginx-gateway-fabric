/-
C09 — restricting a history to the healthy resources commutes with running the updater: the restricted
run is in the state `clean` of the original one (`FSim`, `fsim_step`).
-/
import NGF.Model.LeaderFaults
import NGF.Proofs.LeaderWiring

namespace NGF.Leader

def hasReqs (w : Write) : Bool := !w.2.isEmpty

/-- the saved map as the healthy resources see it -/
def clean (fails : Req → Bool) (s : Saved) : Saved := (mapV (attempt fails) s).filter hasReqs

theorem del_filter (g : Group) (p : Write → Bool) (s : Saved) : del g (s.filter p) = (del g s).filter p := by
  simp only [del, List.filter_filter]
  apply List.filter_congr
  intro x _
  exact Bool.and_comm _ _

theorem clean_del (fails : Req → Bool) (g : Group) (s : Saved) : clean fails (del g s) = del g (clean fails s) := by
  simp only [clean, ← del_mapV, del_filter]

theorem clean_put (fails : Req → Bool) (g : Group) (r : List Req) (s : Saved) :
    clean fails (put g r s) =
      if (attempt fails r).isEmpty then del g (clean fails s)
      else put g (attempt fails r) (clean fails s) := by
  unfold put
  rw [← clean_del]
  by_cases h : (attempt fails r).isEmpty = true <;> simp [clean, mapV, hasReqs, h]

theorem not_mem_keys_of_get_none {g : Group} : ∀ {s : Saved}, get g s = none → g ∉ keys s
  | [], _, hm => nomatch hm
  | (k, v) :: t, h, hm => by
    by_cases hk : k = g
    · rw [get, if_pos hk] at h; cases h
    · rw [get, if_neg hk] at h
      rcases List.mem_cons.1 hm with e | hm'
      · exact hk e.symm
      · exact not_mem_keys_of_get_none h hm'

theorem get_filter (p : Write → Bool) (g : Group) : ∀ {s : Saved}, (keys s).Nodup →
    get g (s.filter p) = (get g s).filter fun r => p (g, r)
  | [], _ => rfl
  | (k, v) :: t, hn => by
    rw [keys, List.map_cons, List.nodup_cons] at hn
    by_cases hk : k = g
    · subst hk
      rw [get, if_pos rfl, Option.filter]
      by_cases hp : p (k, v) = true
      · rw [List.filter_cons_of_pos hp, get, if_pos rfl, if_pos hp]
      · rw [List.filter_cons_of_neg hp, if_neg hp]
        exact get_none_of_not_mem fun hm => hn.1 ((List.filter_sublist.map _).subset hm)
    · rw [get, if_neg hk, ← get_filter p g hn.2]
      by_cases hp : p (k, v) = true
      · rw [List.filter_cons_of_pos hp, get, if_neg hk]
      · rw [List.filter_cons_of_neg hp]

theorem flush_filter (p : Write → Bool) : ∀ (o : List Group) (s : Saved), (keys s).Nodup →
    (flush o s).filter p = flush o (s.filter p)
  | [], _, _ => rfl
  | g :: gs, s, hn => by
    have hf := get_filter p g hn
    rw [flush, flush, hf]
    cases hg : get g s with
    | none => exact flush_filter p gs s hn
    | some r =>
      have ih := flush_filter p gs (del g s) (nodup_del g hn)
      rw [hg] at hf
      rw [Option.filter]
      by_cases hp : p (g, r) = true
      · simp only [hp, if_true, List.filter_cons_of_pos, ih, del_filter]
      · -- the only entry of `g` was dropped, so deleting `g` afterwards changes nothing
        rw [Option.filter, if_neg hp] at hf
        simp only [if_neg hp, List.filter_cons_of_neg hp, ih]
        rw [← del_filter, del_eq_self (not_mem_keys_of_get_none hf)]

theorem attempt_isEmpty_of_isEmpty (fails : Req → Bool) {r : List Req} (h : r.isEmpty = true) :
    (attempt fails r).isEmpty = true := by
  have : r = [] := by simpa using h
  subst this
  rfl

/-- the restricted run is in the state `clean` of the original run -/
structure FSim (fails : Req → Bool) (s v : LState) : Prop where
  en : v.enabled = s.enabled
  sv : v.saved = clean fails s.saved
  nd : (keys s.saved).Nodup

theorem fsim_step {fails : Req → Bool} {s v : LState} (h : FSim fails s v) (op : Op) :
    FSim fails (step s op).1 (step v (restrictOp fails op)).1 ∧
      visible (outcome fails (step s op).2) = visible (step v (restrictOp fails op)).2 := by
  obtain ⟨en, sv, nd⟩ := h
  by_cases he : s.enabled = true
  · -- the leader writes at once, in both runs
    rw [enabled_step he, enabled_step (en.trans he)]
    exact ⟨⟨en, sv, nd⟩, by cases op <;> simp [restrictOp, after, outcome, visible]⟩
  have he' : s.enabled = false := by simpa using he
  have hv : v.enabled = false := by rw [en, he']
  cases op with
  | update g r =>
    -- both runs only change their maps, and `clean` commutes with `del` and `put`
    rw [restrictOp, disabled_update he' g r, disabled_update hv g (attempt fails r)]
    refine ⟨⟨rfl, ?_, ?_⟩, rfl⟩
    · by_cases hr : r.isEmpty = true
      · simp only [hr, attempt_isEmpty_of_isEmpty fails hr, if_true, clean_del, sv]
      · simp only [hr, Bool.false_eq_true, if_false, clean_put, sv]
    · by_cases hr : r.isEmpty = true
      · simpa [hr] using nodup_del g nd
      · simpa [hr] using nodup_put g r nd
  | enable o =>
    simp only [restrictOp, step, he', hv, Bool.false_eq_true, if_false]
    refine ⟨⟨rfl, by simp [clean, mapV], by simp [keys]⟩, ?_⟩
    simp only [outcome, visible, Out.writes.injEq]
    have h1 : (flush o s.saved).map (fun w => (w.1, attempt fails w.2)) = flush o (mapV (attempt fails) s.saved) := by
      rw [flush_mapV]; rfl
    have hnd : (keys (mapV (attempt fails) s.saved)).Nodup := by
      have : keys (mapV (attempt fails) s.saved) = keys s.saved := by simp [keys, mapV]
      rw [this]; exact nd
    rw [h1]
    show (flush o (mapV (attempt fails) s.saved)).filter hasReqs = (flush o v.saved).filter hasReqs
    have h2 := flush_filter hasReqs o (mapV (attempt fails) s.saved) hnd
    rw [h2, sv]
    -- everything saved by the restricted run is non-empty already
    have : (flush o (clean fails s.saved)).filter hasReqs = flush o (clean fails s.saved) := by
      have hnd' : (keys (clean fails s.saved)).Nodup := hnd.sublist (List.filter_sublist.map _)
      rw [flush_filter hasReqs o _ hnd']
      simp [clean]
    rw [this]
    rfl

theorem fsim_init (fails : Req → Bool) : FSim fails init init :=
  ⟨rfl, rfl, List.nodup_nil⟩

theorem run_restrict_of_fsim {fails : Req → Bool} (ops : List Op) {s v : LState} (h : FSim fails s v) :
    (run s ops).map (fun o => visible (outcome fails o)) =
      (run v (restrictOps fails ops)).map visible := by
  induction ops generalizing s v with
  | nil => rfl
  | cons op ops ih =>
    obtain ⟨h', e⟩ := fsim_step h op
    simp only [restrictOps, List.map_cons, run]
    rw [e]
    congr 1
    exact ih h'

end NGF.Leader
