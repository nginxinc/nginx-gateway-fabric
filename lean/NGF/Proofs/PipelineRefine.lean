/-
C02 refinement proof, composition: inside the server NGINX selected, the location it selects and the first njs
match it satisfies belong to a candidate no other hitting candidate of the server `beats` (`server_pick`); together with
the server stage (`pool_iff_server_entries`) this gives `nginxEvalConf (gen s) q = routeF s q` for every scenario of the
fragment and every well-formed request (`refines_fragment`; stated in Props/C02.lean as `route_refines_spec_fragment`).
-/
import NGF.Proofs.PipelineServer
import NGF.Proofs.PipelineLoc
import NGF.Proofs.PipelineNjs
import NGF.Proofs.PipelineOrder

namespace NGF.Pipeline
open NGF.Precedence NGF.NginxEval

/-- the annotated entries of server `(p, n)` -/
def xmine (g : Gateway) (routes : List Route) (p : Nat) (n : Str) : List XE :=
  (xentries g routes).filter fun x => x.port == p && x.host == n

theorem mine_eq (g : Gateway) (routes : List Route) (p : Nat) (n : Str) :
    mineOf (entries g routes) p n = (xmine g routes p n).map entryOf := by
  unfold mineOf
  rw [entries_eq_map, List.filter_map]; rfl

/-- the sorted match rules of one path rule: `actOfKey (entries g routes) p n k = ruleAct p (esK g routes p n k)` -/
def esK (g : Gateway) (routes : List Route) (p : Nat) (n : Str) (k : Key) : List Entry :=
  sortEntries ((mineOf (entries g routes) p n).filter fun e => pathKey e == k)

/-- the locations of server `(p, n)`: `serverOf_eq`, with the path rules in the form the location stage takes them -/
theorem serverOf_locs (g : Gateway) (routes : List Route) (p : Nat) (n : Str) :
    (serverOf (entries g routes) p n).locs =
      (genLocs (rulesOf (keysOf (entries g routes) p n))).map
        (tagLoc (keysOf (entries g routes) p n) (actOfKey (entries g routes) p n)) :=
  congrArg CServer.locs (serverOf_eq (entries g routes) p n)

theorem mem_xkeys {g : Gateway} {routes : List Route} {p : Nat} {n : Str} {k : Key} :
    k ∈ keysOf (entries g routes) p n ↔ ∃ x ∈ xmine g routes p n, (x.c.m.exact, x.c.m.path) = k := by
  unfold keysOf
  rw [mine_eq, List.mem_eraseDups]
  simp only [List.map_map, List.mem_map, Function.comp]
  rfl

theorem xe_matchOK {g : Gateway} {routes : List Route} (ok : ScenOK g routes) {x : XE}
    (hx : x ∈ xentries g routes) : matchOK x.c.m = true := by
  obtain ⟨l, _, r, hr, _, _, _, hh, _, ir, hir, jm, hjm, rfl⟩ := mem_xentries.mp hx
  exact ok.matches_ r hr ir.2 (enumFrom_snd_mem hir) jm.2 (enumFrom_snd_mem hjm)

theorem mem_xmine {g : Gateway} {routes : List Route} {p : Nat} {n : Str} {x : XE} :
    x ∈ xmine g routes p n ↔ x ∈ xentries g routes ∧ x.port = p ∧ x.host = n := by
  simp [xmine, List.mem_filter]

theorem keysOK_of {g : Gateway} {routes : List Route} (ok : ScenOK g routes) (p : Nat) (n : Str) :
    KeysOK (keysOf (entries g routes) p n) := by
  refine ⟨nodup_eraseDups _, ?_, ?_⟩
  · intro k hk
    obtain ⟨x, hx, rfl⟩ := mem_xkeys.mp hk
    have := xe_matchOK ok (mem_xmine.mp hx).1
    simp only [matchOK, Bool.and_eq_true, beq_iff_eq] at this
    exact this.1.1.1
  · intro k hk hk1
    obtain ⟨x, hx, rfl⟩ := mem_xkeys.mp hk
    have := xe_matchOK ok (mem_xmine.mp hx).1
    simp only [matchOK, Bool.and_eq_true, Bool.or_eq_true, beq_iff_eq, bne_iff_ne, ne_eq] at this
    simp only at hk1
    rcases this.1.1.2 with (h | h) | h
    · rw [hk1] at h; cases h
    · left; exact h
    · right
      simp only [endsSlash, beq_eq_false_iff_ne, ne_eq]
      exact h

/-- the tail of `nginxEvalConf`: location selection and the content of the location -/
def locEval (sv : CServer) (q : Req) : Outcome :=
  match selectLoc (sv.locs.map toLoc) q.path with
  | .loc l =>
    match sv.locs.find? (fun cl => cl.exact == l.exact && cl.path == l.path) with
    | some cl => evalLocAct q cl.act
    | none => .status 404
  | .autoRedirect _ => .status 301
  | .none => .status 404

/-- Location stage on the generated server: NGINX ends in the location of a path rule that hits the request path and
that no other hitting path rule of the server outranks — or, when no path rule hits, answers 404. -/
theorem locEval_serverOf {g : Gateway} {routes : List Route} (ok : ScenOK g routes) (p : Nat) (n : Str) {q : Req}
    (hq : q.path.head? = some '/') (hsh : (serverOf (entries g routes) p n).locs.all locShadowOK = true) :
    (∃ k ∈ keysOf (entries g routes) p n, khit k q.path = true ∧
      (∀ k' ∈ keysOf (entries g routes) p n, khit k' q.path = true →
        (k'.1 = true → k.1 = true) ∧ (k'.1 = k.1 → k'.2.length ≤ k.2.length)) ∧
      locEval (serverOf (entries g routes) p n) q = evalLocAct q (ruleAct p (esK g routes p n k)) ∧
      ∃ e ∈ esK g routes p n k, isPathOnly e.m = true) ∨
    ((∀ k ∈ keysOf (entries g routes) p n, khit k q.path = false) ∧
      locEval (serverOf (entries g routes) p n) q = .status 404) := by
  have hlocs := serverOf_locs g routes p n
  have kok := keysOK_of ok p n
  have hte : ∀ gl, (toLoc (tagLoc (keysOf (entries g routes) p n) (actOfKey (entries g routes) p n) gl)).exact = gl.exact := fun gl => tagLoc_exact _ _ gl
  have htp : ∀ gl, (toLoc (tagLoc (keysOf (entries g routes) p n) (actOfKey (entries g routes) p n) gl)).path = gl.path := fun gl => tagLoc_path _ _ gl
  unfold locEval
  rw [hlocs] at hsh
  rw [hlocs, List.map_map]
  rcases select_fragment kok hq (toLoc ∘ tagLoc (keysOf (entries g routes) p n) (actOfKey (entries g routes) p n)) hte htp with ⟨gl, hgl, hsel, hcase⟩ | ⟨hsel, hnone⟩
  · rw [hsel]
    simp only [Function.comp]
    rw [List.find?_map]
    cases hfind : (genLocs (rulesOf (keysOf (entries g routes) p n))).find?
        ((fun cl => cl.exact == (toLoc (tagLoc (keysOf (entries g routes) p n) (actOfKey (entries g routes) p n) gl)).exact && cl.path == (toLoc (tagLoc (keysOf (entries g routes) p n) (actOfKey (entries g routes) p n) gl)).path) ∘
          tagLoc (keysOf (entries g routes) p n) (actOfKey (entries g routes) p n)) with
    | none =>
      exfalso
      have := List.find?_eq_none.mp hfind gl hgl
      simp only [Function.comp, Bool.and_eq_true, beq_iff_eq, not_and] at this
      exact this rfl rfl
    | some gl' =>
      have hgl' : gl' ∈ genLocs (rulesOf (keysOf (entries g routes) p n)) := List.mem_of_find?_eq_some hfind
      have hp' := List.find?_some hfind
      simp only [Function.comp, toLoc, tagLoc_exact, tagLoc_path, Bool.and_eq_true, beq_iff_eq] at hp'
      -- the location found by modifier and path is `gl` itself
      have hgg : gl' = gl := by
        cases gl'; cases gl
        simp only [GenLoc.mk.injEq]
        exact ⟨hp'.1, hp'.2, genLocs_rule_unique kok hgl' hgl hp'.1 hp'.2⟩
      subst hgg
      simp only [Option.map_some]
      rcases hcase with ⟨k, hk, hhit, hbest⟩ | ⟨hlen, hnone⟩
      · left
        have hF : tagLoc (keysOf (entries g routes) p n) (actOfKey (entries g routes) p n) gl' =
            { exact := gl'.exact, path := gl'.path, act := ruleAct p (esK g routes p n k) } := by
          unfold tagLoc; rw [hk]; rfl
        refine ⟨k, List.mem_of_getElem? hk, hhit, hbest, by rw [hF], ?_⟩
        have := List.all_eq_true.mp hsh _ (List.mem_map.mpr ⟨gl', hgl', rfl⟩)
        rw [hF] at this
        exact pathOnly_of_shadowOK p _ _ _ this
      · right
        refine ⟨hnone, ?_⟩
        have hF : tagLoc (keysOf (entries g routes) p n) (actOfKey (entries g routes) p n) gl' =
            { exact := gl'.exact, path := gl'.path, act := .direct (.status 404) } := by
          unfold tagLoc; rw [hlen, List.getElem?_eq_none (Nat.le_refl _)]
        rw [hF]; rfl
  · right
    rw [hsel]
    exact ⟨hnone, rfl⟩

/-- the order handed to the stable sort, on annotated entries -/
def leX (a b : XE) : Bool := Precedence.le (keyC a.c) (keyC b.c)

/-- Rule stage: the location of path rule `k` answers with the action of an entry `x` of that rule whose conditions
the request satisfies, such that no other satisfied entry of the rule has priority over `x`, nor — on a tie — an
earlier source position. -/
theorem rule_pick {g : Gateway} {routes : List Route} (ok : ScenOK g routes) (p : Nat) (n : Str) {q : Req}
    (hqh : ∀ h ∈ q.headers, h.2.contains ',' = false) (k : Key)
    (hpo : ∃ e ∈ esK g routes p n k, isPathOnly e.m = true) :
    ∃ x ∈ xmine g routes p n, (x.c.m.exact, x.c.m.path) = k ∧ condsHit x.c.m q = true ∧
      evalLocAct q (ruleAct p (esK g routes p n k)) = evalAct q (actOf p x.c.action) ∧
      ∀ y ∈ xmine g routes p n, (y.c.m.exact, y.c.m.path) = k → condsHit y.c.m q = true →
        HP y.c x.c = false ∧ (HP x.c y.c = false → idxLt y.c x.c = false) := by
  -- the sorted list, in annotated terms
  let XK := (xmine g routes p n).filter fun x => pathKey (entryOf x) == k
  have hXK : ((xmine g routes p n).map entryOf).filter (fun e => pathKey e == k) = XK.map entryOf := by
    rw [List.filter_map]; rfl
  have hsort : esK g routes p n k = (XK.mergeSort leX).map entryOf := by
    unfold esK sortEntries
    rw [mine_eq, hXK]
    exact (List.map_mergeSort (f := entryOf) (r := leX) (s := fun a b => Precedence.le a.key b.key) (l := XK)
      (fun a _ b _ => rfl)).symm
  have tr : ∀ a b c : XE, leX a b = true → leX b c = true → leX a c = true :=
    fun a b c => le_trans' (keyC a.c) (keyC b.c) (keyC c.c)
  have tot : ∀ a b : XE, (leX a b || leX b a) = true := fun a b => le_total' (keyC a.c) (keyC b.c)
  have hperm := List.mergeSort_perm XK leX
  have hXKmem : ∀ {z : XE}, z ∈ XK ↔ z ∈ xmine g routes p n ∧ (z.c.m.exact, z.c.m.path) = k := by
    intro z
    simp only [XK, List.mem_filter, beq_iff_eq]
    rfl
  -- the njs list evaluates like `find?` with `condsHit`
  have htest : ∀ e ∈ esK g routes p n k, Njs.testMatch (njsReq q) (njsMatchOf e.m) = .ok (condsHit e.m q) := by
    intro e he
    rw [hsort] at he
    obtain ⟨z, hz, rfl⟩ := List.mem_map.mp he
    have hz' : z ∈ XK := hperm.mem_iff.mp hz
    exact testMatch_eq_condsHit (xe_matchOK ok (mem_xmine.mp (hXKmem.mp hz').1).1) hqh
  have heval := evalLocAct_ruleAct p q (esK g routes p n k) htest
  rw [hsort, List.find?_map] at heval
  -- a path-only entry exists, so the search succeeds
  obtain ⟨e0, he0, hpo0⟩ := hpo
  rw [hsort] at he0
  obtain ⟨z0, hz0, rfl⟩ := List.mem_map.mp he0
  cases hfind : (XK.mergeSort leX).find? ((fun e : Entry => condsHit e.m q) ∘ entryOf) with
  | none =>
    exfalso
    have := List.find?_eq_none.mp hfind z0 hz0
    exact this (condsHit_of_pathOnly hpo0 q)
  | some x =>
    rw [hfind] at heval
    simp only [Option.map_some] at heval
    obtain ⟨hxm, hsat, hmin, hfirst⟩ := NGF.Sort.mergeSort_find_first tr tot XK _ hfind
    have hxk := hXKmem.mp hxm
    refine ⟨x, hxk.1, hxk.2, hsat, by rw [hsort]; exact heval, ?_⟩
    intro y hy hyk hysat
    have hyK : y ∈ XK := hXKmem.mpr ⟨hy, hyk⟩
    have hle := hmin y hyK hysat
    have hHPyx : HP y.c x.c = false := by
      simp only [leX, Precedence.le, Bool.not_eq_true'] at hle
      exact hle
    refine ⟨hHPyx, ?_⟩
    intro hHPxy
    -- x is the first element of the whole entry list satisfying a provenance-blind predicate
    let P : XE → Bool := fun z =>
      (z.port == p && z.host == n) && (pathKey (entryOf z) == k) && NGF.Sort.equivB leX x z && condsHit z.c.m q
    have hPfind : (xentries g routes).find? P = some x := by
      have : (XK.filter (NGF.Sort.equivB leX x)).find? ((fun e : Entry => condsHit e.m q) ∘ entryOf) =
          (xentries g routes).find? P := by
        simp only [XK, xmine, List.find?_filter]
        congr 1
        funext z
        simp only [P, Function.comp, Bool.decide_and, Bool.decide_eq_true, Bool.and_assoc]
        rfl
      rw [← this]; exact hfirst
    have hblind : Blind P := by
      intro z z' h1 h2 h3 h4 h5 h6
      have hk' : keyC z.c = keyC z'.c := by simp [keyC, h3, h4, h5, h6]
      simp only [P, entryOf, pathKey, NGF.Sort.equivB, leX, h1, h2, h3, hk']
    have hPy : P y = true := by
      have h1 := (mem_xmine.mp hy)
      have heq : NGF.Sort.equivB leX x y = true := by
        simp only [NGF.Sort.equivB, leX, Precedence.le, Bool.and_eq_true, Bool.not_eq_true']
        exact ⟨hHPyx, hHPxy⟩
      have hkk : (pathKey (entryOf y) == k) = true := by
        rw [beq_iff_eq]; exact hyk
      simp [P, h1.2.1, h1.2.2, heq, hkk, hysat]
    have hx1 := mem_xmine.mp hxk.1
    have hy1 := mem_xmine.mp hy
    obtain ⟨hns, hname⟩ := HP_incomp hHPyx hHPxy
    exact first_has_least_index ok.ids hblind hPfind hy1.1 hPy (hy1.2.1.trans hx1.2.1.symm)
      (hy1.2.2.trans hx1.2.2.symm) hns hname

theorem same_len_hit {b : Bool} {p1 p2 q : Str} (hq : q.head? = some '/') (h1 : khit (b, p1) q = true)
    (h2 : khit (b, p2) q = true) (hl : p1.length = p2.length) : p1 = p2 := by
  cases b with
  | true =>
    simp only [khit, ↓reduceIte, beq_iff_eq] at h1 h2
    rw [h1, h2]
  | false =>
    have pre : ∀ {p : Str}, khit (false, p) q = true → p <+: q := fun h => prefixHit_prefix hq h
    exact (List.prefix_of_prefix_length_le (pre h1) (pre h2) (Nat.le_of_eq hl)).eq_of_length hl

/-- Server-internal stage, composed: inside server `(p, n)` NGINX answers 404 when no entry's path hits; otherwise it
performs the action of an entry whose path and conditions hit and that no other such entry of the server `beats`. -/
theorem server_pick {g : Gateway} {routes : List Route} (ok : ScenOK g routes) (p : Nat) (n : Str) {q : Req}
    (hq : q.path.head? = some '/') (hqh : ∀ h ∈ q.headers, h.2.contains ',' = false)
    (hsh : (serverOf (entries g routes) p n).locs.all locShadowOK = true) :
    ((∀ y ∈ xmine g routes p n, pathHit y.c.m q.path = false) ∧
      locEval (serverOf (entries g routes) p n) q = .status 404) ∨
    (∃ x ∈ xmine g routes p n, pathHit x.c.m q.path = true ∧ condsHit x.c.m q = true ∧
      locEval (serverOf (entries g routes) p n) q = evalAct q (actOf p x.c.action) ∧
      ∀ y ∈ xmine g routes p n, pathHit y.c.m q.path = true → condsHit y.c.m q = true → beats y.c x.c = false) := by
  rcases locEval_serverOf ok p n hq hsh with ⟨k, hk, hhit, hbest, heval, hpo⟩ | ⟨hnone, heval⟩
  · right
    obtain ⟨x, hx, rfl, hsat, hact, hmin⟩ := rule_pick ok p n hqh k hpo
    refine ⟨x, hx, hhit, hsat, heval.trans hact, ?_⟩
    intro y hy hyhit hysat
    have hyk : (y.c.m.exact, y.c.m.path) ∈ keysOf (entries g routes) p n := mem_xkeys.mpr ⟨y, hy, rfl⟩
    have hb := hbest _ hyk hyhit
    simp only at hb
    rw [beats_split]
    by_cases he : y.c.m.exact = x.c.m.exact
    · have hlen := hb.2 he
      by_cases hl : y.c.m.path.length = x.c.m.path.length
      · have hpath : y.c.m.path = x.c.m.path := by
          refine same_len_hit hq (b := x.c.m.exact) ?_ ?_ hl
          · rw [← he]; exact hyhit
          · exact hhit
        have hyk' : (y.c.m.exact, y.c.m.path) = (x.c.m.exact, x.c.m.path) := by rw [he, hpath]
        obtain ⟨h1, h2⟩ := hmin y hy hyk' hysat
        simp only [he, hl, bne_self_eq_false, Bool.false_eq_true, ↓reduceIte, h1, Bool.false_or]
        cases hxy : HP x.c y.c with
        | true => simp
        | false => simp [h2 hxy]
      · have : (y.c.m.path.length != x.c.m.path.length) = true := by simpa using hl
        have hgt : ¬ y.c.m.path.length > x.c.m.path.length := by omega
        simp [he, this, hgt]
    · have hne : (y.c.m.exact != x.c.m.exact) = true := by simpa using he
      simp only [hne, ↓reduceIte]
      cases hy1 : y.c.m.exact with
      | false => rfl
      | true => exact absurd (hy1.trans (hb.1 hy1).symm) he
  · exact Or.inl ⟨fun y hy => hnone _ (mem_xkeys.mpr ⟨y, hy, rfl⟩), heval⟩

theorem reqOK_unpack {q : Req} (h : reqOK q = true) :
    (isWildName q.host = false ∧ q.host ≠ catchAll) ∧ q.host.length < 100000 ∧ q.path.head? = some '/' ∧
    ∀ h ∈ q.headers, h.2.contains ',' = false := by
  simp only [reqOK, Bool.and_eq_true, Bool.not_eq_true', bne_iff_ne, ne_eq, decide_eq_true_eq, beq_iff_eq,
    List.all_eq_true] at h
  exact ⟨⟨h.1.1.1.1, h.1.1.1.2⟩, h.1.1.2, h.1.2, h.2⟩

theorem nginxEvalConf_locEval (c : Conf) (q : Req) :
    nginxEvalConf c q =
      if !c.ports.contains q.port then .refused
      else match selectName ((c.servers.filter (·.port == q.port)).map (·.name)) q.host with
        | none => .status 404
        | some n =>
          match (c.servers.filter (·.port == q.port)).find? (·.name == n) with
          | none => .status 404
          | some sv => locEval sv q := rfl

/-- among the generated servers — possibly carrying something along (`F`, undone by `π`) — port and name identify the
server of the pair `(p, n)` -/
theorem find?_serverOf_with {β} (F : CServer → β) (π : β → CServer) (hπ : ∀ sv, π (F sv) = sv) (es : List Entry)
    (hosts : List (Nat × Str)) (p : Nat) (n : Str) :
    ((hosts.map fun ph => F (serverOf es ph.1 ph.2)).filter (fun x => (π x).port == p)).find?
        (fun x => (π x).name == n) =
      if (p, n) ∈ hosts then some (F (serverOf es p n)) else none := by
  have : ((fun x : β => decide (((π x).port == p) = true ∧ ((π x).name == n) = true)) ∘
      fun ph : Nat × Str => F (serverOf es ph.1 ph.2)) = (· == (p, n)) := by
    funext ⟨a, b⟩
    simp only [Function.comp, hπ, serverOf_port, serverOf_name, Bool.decide_and, Bool.decide_eq_true]
    rfl
  rw [List.find?_filter, List.find?_map, this, find?_beq]
  split <;> rfl

theorem find?_serverOf (es : List Entry) (hosts : List (Nat × Str)) (p : Nat) (n : Str) :
    ((hosts.map fun ph => serverOf es ph.1 ph.2).filter (·.port == p)).find? (·.name == n) =
      if (p, n) ∈ hosts then some (serverOf es p n) else none :=
  find?_serverOf_with id id (fun _ => rfl) es hosts p n

theorem nginxEvalConf_gen {s : Scenario} {g : Gateway} (hw : winner s = some g) {q : Req}
    (hport : g.listeners.any (·.port == q.port) = true) :
    nginxEvalConf (gen s) q =
      match selectName (((hostsOf g s.routes).filter (·.1 == q.port)).map (·.2)) q.host with
      | none => .status 404
      | some n =>
        if (q.port, n) ∈ hostsOf g s.routes then locEval (serverOf (entries g s.routes) q.port n) q
        else .status 404 := by
  have hports : (gen s).ports.contains q.port = true := (gen_ports_contains hw q.port).trans hport
  have hsrv := gen_servers hw
  have hnames : ((gen s).servers.filter (·.port == q.port)).map (·.name) =
      ((hostsOf g s.routes).filter (·.1 == q.port)).map (·.2) := by
    rw [hsrv, List.filter_map, List.map_map]; rfl
  rw [nginxEvalConf_locEval, hports, hnames]
  simp only [Bool.not_true, Bool.false_eq_true, ↓reduceIte]
  cases selectName (((hostsOf g s.routes).filter (·.1 == q.port)).map (·.2)) q.host with
  | none => rfl
  | some n =>
    simp only
    rw [hsrv, find?_serverOf]
    by_cases hmem : (q.port, n) ∈ hostsOf g s.routes <;> simp only [hmem, ↓reduceIte]

/-- The end-to-end refinement on the region "the port is served": server selection, location selection, the njs
matcher and the action, composed. -/
theorem refines_served {s : Scenario} {g : Gateway} (hw : winner s = some g) {q : Req}
    (hport : g.listeners.any (·.port == q.port) = true) (hf : inFragment s = true) (hn : noShadow (gen s) = true)
    (hp : namesPlain s = true) (hr : routesHaveRules s = true) (hq : reqOK q = true) :
    nginxEvalConf (gen s) q = routeF s q := by
  have ok := scenOK_of hw hf hp hr
  obtain ⟨hconc, _, hpath, hqh⟩ := reqOK_unpack hq
  have hroute : routeF s q =
      match best ((((specCands g s.routes q.port).filter (candCovers · q.host)).filter
          (fun c => candSpec c == ((specCands g s.routes q.port).filter (candCovers · q.host)).foldl
            (fun acc c => max acc (candSpec c)) 0)).filter fun c => pathHit c.m q.path && condsHit c.m q) with
      | some c => specAction q c.action
      | none => .status 404 := by
    unfold routeF
    simp only [hw, hport, Bool.not_true, Bool.false_eq_true, ↓reduceIte]
    rfl
  rw [nginxEvalConf_gen hw hport, hroute]
  have hnamemem : ∀ m, m ∈ ((hostsOf g s.routes).filter (·.1 == q.port)).map (·.2) ↔ (q.port, m) ∈ hostsOf g s.routes :=
    fun m => mem_filter_fst_map_snd
  cases hsel : selectName (((hostsOf g s.routes).filter (·.1 == q.port)).map (·.2)) q.host with
  | none =>
    have hnone := selectName_none hconc hsel
    have hcov := no_covering_of_unselected ok (p := q.port) hconc.1
      (fun m hm => hnone m ((hnamemem m).mpr hm))
    simp only [hcov, List.filter_nil, best]
  | some n =>
    obtain ⟨hnmem, hncov, hnmax⟩ := selectName_most_specific hconc hsel
    have hnh : (q.port, n) ∈ hostsOf g s.routes := (hnamemem n).mp hnmem
    simp only [hnh, ↓reduceIte]
    have hpool := pool_iff_server_entries ok hconc hnh hncov
      (fun m hm hc => hnmax m ((hnamemem m).mpr hm) hc)
    generalize hhit : ((((specCands g s.routes q.port).filter (candCovers · q.host)).filter
          (fun c => candSpec c == ((specCands g s.routes q.port).filter (candCovers · q.host)).foldl
            (fun acc c => max acc (candSpec c)) 0)).filter fun c => pathHit c.m q.path && condsHit c.m q) = hit
    have hhitmem : ∀ c, c ∈ hit ↔ (⟨q.port, n, c⟩ : XE) ∈ xentries g s.routes ∧ pathHit c.m q.path = true ∧
        condsHit c.m q = true := by
      intro c
      rw [← hhit, List.mem_filter, hpool c, Bool.and_eq_true]
    have hxmine : ∀ c, (⟨q.port, n, c⟩ : XE) ∈ xentries g s.routes ↔ (⟨q.port, n, c⟩ : XE) ∈ xmine g s.routes q.port n := by
      intro c; simp [mem_xmine]
    have hsh : (serverOf (entries g s.routes) q.port n).locs.all locShadowOK = true := by
      rw [noShadow_eq] at hn
      have hsv : serverOf (entries g s.routes) q.port n ∈ (gen s).servers := by
        rw [gen_servers hw]; exact List.mem_map.mpr ⟨(q.port, n), hnh, rfl⟩
      exact List.all_eq_true.mp hn _ hsv
    rcases server_pick ok q.port n hpath hqh hsh with ⟨hnohit, heval⟩ | ⟨x, hx, hxhit, hxsat, heval, hxmin⟩
    · -- nothing hits: the hit set is empty
      have : hit = [] := by
        cases hh : hit with
        | nil => rfl
        | cons c cs =>
          exfalso
          have hc : c ∈ hit := by rw [hh]; exact List.mem_cons_self
          obtain ⟨h1, h2, _⟩ := (hhitmem c).mp hc
          have := hnohit _ ((hxmine c).mp h1)
          simp only at this
          rw [this] at h2; cases h2
      rw [heval, this]; rfl
    · -- the entry NGINX picks is an unbeaten member of the hit set
      have hx1 := mem_xmine.mp hx
      have hxeq : x = ⟨q.port, n, x.c⟩ := by rw [← hx1.2.1, ← hx1.2.2]
      have hxhitm : x.c ∈ hit := (hhitmem x.c).mpr ⟨by rw [← hxeq]; exact hx1.1, hxhit, hxsat⟩
      cases hb : best hit with
      | none => rw [best_eq_none.mp hb] at hxhitm; cases hxhitm
      | some c =>
        obtain ⟨hcm, hcmax⟩ := best_spec hb
        obtain ⟨hc1, hc2, hc3⟩ := (hhitmem c).mp hcm
        have h1 : beats x.c c = false := hcmax _ hxhitm
        have h2 : beats c x.c = false := hxmin _ ((hxmine c).mp hc1) hc2 hc3
        obtain ⟨hns, hname, hidx, _⟩ := beats_incomp h1 h2
        have hcs : c ∈ specCands g s.routes q.port := (cand_of_xe ok hconc.1 hc1).1
        have hxs : x.c ∈ specCands g s.routes x.port := (cand_of_xe ok hconc.1 hx1.1).1
        have hact : x.c.action = c.action := action_of_identity ok.ids hxs hcs hns hname hidx
        simp only
        rw [heval, hact, evalAct_actOf]

theorem refines_fragment (s : Scenario) (q : Req) (hf : inFragment s = true) (hn : noShadow (gen s) = true)
    (hp : namesPlain s = true) (hr : routesHaveRules s = true) (hq : reqOK q = true) :
    nginxEvalConf (gen s) q = routeF s q := by
  cases hw : winner s with
  | none => exact refines_no_gateway s q hw
  | some g =>
    cases hport : g.listeners.any (·.port == q.port) with
    | false => exact refines_unused_port s q g hw hport
    | true => exact refines_served hw hport hf hn hp hr hq

end NGF.Pipeline
