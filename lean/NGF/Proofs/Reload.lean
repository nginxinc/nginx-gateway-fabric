/-
C12 — a poll succeeds exactly at the first `done` observation within the budget; `WaitForCorrectVersion`
and `Reload` return nil exactly when their polls do (`WaitWitness`, `Running`).
-/
import NGF.Model.Reload

namespace NGF.Reload

theorem pollLoop_of_witness {α : Type} (f : α → Tick) {x : α} (hd : f x = .done) :
    ∀ (i : Nat) (l : List α) (b : Nat), i ≤ b → l[i]? = some x →
      (∀ k, k < i → ∃ y, l[k]? = some y ∧ f y = .retry) →
      pollLoop f b l = (.ok, b - i, l.drop (i + 1))
  | _, [], _, _, hx, _ => by cases hx
  | 0, y :: ys, b, _, hx, _ => by
    obtain rfl : y = x := Option.some.inj hx
    rw [pollLoop, hd]; rfl
  | i + 1, y :: ys, b + 1, hi, hx, hr => by
    obtain ⟨z, hz, hfz⟩ := hr 0 (Nat.succ_pos _)
    obtain rfl : y = z := Option.some.inj hz
    rw [pollLoop, hfz, if_neg (Nat.succ_ne_zero b)]
    show pollLoop f b ys = (.ok, b + 1 - (i + 1), ys.drop (i + 1))
    rw [Nat.add_sub_add_right]
    exact pollLoop_of_witness f hd i ys b (Nat.le_of_succ_le_succ hi) hx
      fun k hk => hr (k + 1) (Nat.succ_lt_succ hk)

theorem pollLoop_ok_iff {α : Type} (f : α → Tick) (l : List α) (b b' : Nat) (l' : List α) :
    pollLoop f b l = (.ok, b', l') ↔
      ∃ i, i ≤ b ∧ (∃ x, l[i]? = some x ∧ f x = .done) ∧
        (∀ k, k < i → ∃ y, l[k]? = some y ∧ f y = .retry) ∧ b' = b - i ∧ l' = l.drop (i + 1) := by
  constructor
  · induction l generalizing b with
    | nil => simp [pollLoop]
    | cons x xs ih =>
      intro h
      rw [pollLoop] at h
      split at h
      · next hx =>
        simp only [Prod.mk.injEq, true_and] at h
        exact ⟨0, Nat.zero_le _, ⟨x, rfl, hx⟩, nofun, h.1.symm, h.2.symm⟩
      · simp at h
      · next hx =>
        split at h
        · simp at h
        · obtain ⟨i, hi, ⟨y, hy, hfy⟩, hbefore, hb, hl⟩ := ih _ h
          refine ⟨i + 1, by omega, ⟨y, hy, hfy⟩, ?_, by omega, hl⟩
          intro k hk
          cases k with
          | zero => exact ⟨x, rfl, hx⟩
          | succ k => exact hbefore k (Nat.lt_of_succ_lt_succ hk)
  · rintro ⟨i, hi, ⟨x, hx, hd⟩, hbefore, rfl, rfl⟩
    exact pollLoop_of_witness f hd i l b hi hx hbefore

/-- the poll only consumes: it read `l.length - rest.length` observations -/
theorem pollLoop_rest_le {α : Type} (f : α → Tick) :
    ∀ (l : List α) (b : Nat), (pollLoop f b l).2.2.length ≤ l.length
  | [], b => by simp [pollLoop]
  | x :: xs, b => by
    cases hx : f x <;> simp only [pollLoop, hx, List.length_cons]
    · split
      · simp
      · exact Nat.le_succ_of_le (pollLoop_rest_le f xs (b - 1))
    · simp
    · simp

theorem childTick_done {prev : Nat} {x : ChildRead} :
    childTick prev x = .done ↔ ∃ c, x = .content c ∧ c ≠ prev := by
  cases x with
  | err => simp [childTick]
  | content c => by_cases h : c = prev <;> simp [childTick, h]

theorem childTick_retry {prev : Nat} {x : ChildRead} :
    childTick prev x = .retry ↔ x = .content prev := by
  cases x with
  | err => simp [childTick]
  | content c => by_cases h : c = prev <;> simp [childTick, h]

theorem verTick_done {n : Int} {x : VerObs} : verTick n x = .done ↔ x = .ver n := by
  cases x with
  | err => simp [verTick]
  | ver v => by_cases h : v = n <;> simp [verTick, h]

theorem verTick_retry {n : Int} {x : VerObs} :
    verTick n x = .retry ↔ ∃ v, x = .ver v ∧ v ≠ n := by
  cases x with
  | err => simp [verTick]
  | ver v => by_cases h : v = n <;> simp [verTick, h]

theorem pidTick_done {x : PidObs} : pidTick x = .done ↔ x = .present := by
  cases x <;> simp [pidTick]

theorem pidTick_retry {x : PidObs} : pidTick x = .retry ↔ x = .missing := by
  cases x <;> simp [pidTick]

/-- what the observations must have been for `WaitForCorrectVersion` to return nil -/
def WaitWitness (prev : Nat) (children : List ChildRead) (versions : List VerObs) (budget : Nat)
    (n : Int) (i j : Nat) : Prop :=
  i + j ≤ budget ∧
  (∃ c, children[i]? = some (.content c) ∧ c ≠ prev) ∧
  (∀ k, k < i → children[k]? = some (.content prev)) ∧
  versions[j]? = some (.ver n) ∧
  (∀ k, k < j → ∃ v, versions[k]? = some (.ver v) ∧ v ≠ n)

theorem wait_ok_iff (prev : Nat) (children : List ChildRead) (versions : List VerObs)
    (budget : Nat) (n : Int) :
    (waitForCorrectVersion prev children versions budget n).res = none ↔
      ∃ i j, WaitWitness prev children versions budget n i j := by
  -- nil is returned exactly when both polls succeed, the second with what the first left of the budget
  have h : (waitForCorrectVersion prev children versions budget n).res = none ↔
      ∃ b rest b2 r2, pollLoop (childTick prev) budget children = (.ok, b, rest) ∧
        pollLoop (verTick n) b versions = (.ok, b2, r2) := by
    unfold waitForCorrectVersion
    rcases pollLoop (childTick prev) budget children with ⟨r, b, rest⟩
    cases r <;> simp
    rcases pollLoop (verTick n) b versions with ⟨r2, b2, rest2⟩
    cases r2 <;> simp
  rw [h]
  simp only [pollLoop_ok_iff, childTick_done, childTick_retry, verTick_done, verTick_retry]
  constructor
  · rintro ⟨_, _, _, _, ⟨i, hi, ⟨_, hx, c, rfl, hne⟩, hbef, rfl, rfl⟩,
      j, hj, ⟨_, hy, rfl⟩, hbef2, rfl, rfl⟩
    refine ⟨i, j, by omega, ⟨c, hx, hne⟩, fun k hk => ?_, hy, fun k hk => ?_⟩
    · obtain ⟨_, hy, rfl⟩ := hbef k hk; exact hy
    · obtain ⟨_, hz, v, rfl, hv⟩ := hbef2 k hk; exact ⟨v, hz, hv⟩
  · rintro ⟨i, j, hij, ⟨c, hc, hne⟩, hbef, hj, hbef2⟩
    refine ⟨_, _, _, _, ⟨i, by omega, ⟨_, hc, c, rfl, hne⟩, fun k hk => ⟨_, hbef k hk, rfl⟩, rfl, rfl⟩,
      j, by omega, ⟨_, hj, rfl⟩, fun k hk => ?_, rfl, rfl⟩
    obtain ⟨v, hv, hvn⟩ := hbef2 k hk
    exact ⟨_, hv, v, rfl, hvn⟩

end NGF.Reload

namespace NGF.C12
open NGF.Reload

/-- What must have been observed for `Reload(n)` to return nil. -/
def Running (o : Oracle) (n : Int) : Prop :=
  (∃ p, findMainProcess o = .ok p) ∧
  ∃ prev, o.prevRead = .content prev ∧ o.kill = true ∧
    ∃ i j, WaitWitness prev o.children o.versions o.budget n i j

theorem reload_res_none_iff (o : Oracle) (n : Int) : (reload o n).res = none ↔ Running o n := by
  unfold reload Running
  cases hf : findMainProcess o with
  | error e => simp
  | ok p =>
    cases hp : o.prevRead with
    | err => simp
    | content prev =>
      cases hk : o.kill with
      | false => simp
      | true =>
        simp only [Bool.not_true, Bool.false_eq_true, if_false]
        rw [wait_ok_iff]
        constructor
        · rintro ⟨i, j, h⟩; exact ⟨⟨p, rfl⟩, prev, rfl, by simp, i, j, h⟩
        · rintro ⟨_, prev', hpe, _, i, j, h⟩
          cases hpe; exact ⟨i, j, h⟩

/-- sub-list test on characters, for finding template fragments -/
def containsSub (s t : List Char) : Bool :=
  match s with
  | [] => t.isEmpty
  | c :: cs => t.isPrefixOf (c :: cs) || containsSub cs t

end NGF.C12
