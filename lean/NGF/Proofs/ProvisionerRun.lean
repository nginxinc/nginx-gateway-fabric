/-
C18: one batch under each of the two removal scans (`step_prov`, `stepPreFix_prov`), and what whole histories keep
(induction over batches, `runWith_induct`): the exact match for the code in the tree;
for the pre-fix code the two inclusions it kept, the missing inclusion on histories that never re-point a provisioned
Gateway (`noAwayHist`), and a syntactic condition on the events that puts a history in that region (`ClassStable`).
-/
import NGF.Proofs.ProvisionerInv

namespace NGF.Prov

variable {cfg : Cfg} {s : State}

/-! ### one batch under each of the two removal scans -/

theorem step_prov {b : List Ev} (h : WF cfg s) (hc : s.crashed = none)
    (hg : cfg.gcName ∈ (storeUpdate s b).gcs) (o : List Key) (k : Key) :
    hasKey (step cfg s b o).prov k = true ↔ get? (step cfg s b o).gws k = some cfg.gcName := by
  show hasKey (stepWith removedGwsWithDeps cfg s b o).prov k = true ↔ get? (stepWith removedGwsWithDeps cfg s b o).gws k = _
  rw [(stepWith_spec removedGwsWithDeps h hc hg o).prov_has, stepWith_gws removedGwsWithDeps hc]
  simp only [Bool.and_eq_true, Bool.or_eq_true, decide_eq_true_eq, Bool.not_eq_true', decide_eq_false_iff_not,
    mem_removedGwsWithDeps, setStatuses_prov, setStatuses_gws, storeUpdate_prov]
  constructor
  · rintro ⟨h1 | h1, h2⟩
    · exact Classical.byContradiction fun hne => h2 ⟨h1, hne⟩
    · exact h1
  · intro h1
    exact ⟨Or.inr h1, fun hx => hx.2 h1⟩

theorem step_retained {b : List Ev} (h : WF cfg s) (hc : s.crashed = none)
    (hg : cfg.gcName ∈ (storeUpdate s b).gcs) (o : List Key) (k : Key) (hk : hasKey s.prov k = true)
    (hs : get? (step cfg s b o).gws k = some cfg.gcName) :
    get? (step cfg s b o).prov k = get? s.prov k :=
  (stepWith_spec removedGwsWithDeps h hc hg o).prov_get k ⟨hk, fun hx => ((mem_removedGwsWithDeps cfg _ k).mp hx).2
      (by rw [setStatuses_gws, ← stepWith_gws removedGwsWithDeps hc b o]; exact hs)⟩

theorem stepPreFix_prov {b : List Ev} (h : WF cfg s) (hc : s.crashed = none)
    (hg : cfg.gcName ∈ (storeUpdate s b).gcs) (o : List Key) (k : Key) :
    hasKey (stepPreFix cfg s b o).prov k = true ↔
      (hasKey s.prov k = true ∧ hasKey (storeUpdate s b).gws k = true) ∨
        get? (storeUpdate s b).gws k = some cfg.gcName := by
  show hasKey (stepWith removedPreFix cfg s b o).prov k = true ↔ _
  rw [(stepWith_spec removedPreFix h hc hg o).prov_has]
  simp only [Bool.and_eq_true, Bool.or_eq_true, decide_eq_true_eq, Bool.not_eq_true', decide_eq_false_iff_not,
    mem_removedPreFix, setStatuses_prov, setStatuses_gws, storeUpdate_prov]
  constructor
  · rintro ⟨h1 | h1, h2⟩
    · exact Or.inl ⟨h1, Classical.byContradiction fun hn => h2 ⟨h1, by simpa using hn⟩⟩
    · exact Or.inr h1
  · rintro (⟨h1, h2⟩ | h1)
    · exact ⟨Or.inl h1, fun hx => by rw [h2] at hx; cases hx.2⟩
    · exact ⟨Or.inr h1, fun hx => by rw [hasKey_of_get?_some h1] at hx; cases hx.2⟩

def Exact (cfg : Cfg) (s : State) : Prop :=
  ∀ k, hasKey s.prov k = true ↔ get? s.gws k = some cfg.gcName

theorem run_wf (cfg : Cfg) (hist : Hist) : WF cfg (run cfg init hist) :=
  runWith_wf removedGwsWithDeps hist (wf_init cfg)

theorem run_snoc (cfg : Cfg) (hist : Hist) (b : List Ev) (o : List Key) :
    run cfg init (hist ++ [(b, o)]) = stepWith removedGwsWithDeps cfg (run cfg init hist) b o :=
  runWith_snoc removedGwsWithDeps cfg init hist b o

theorem run_exact (cfg : Cfg) (hist : Hist) (hc : (run cfg init hist).crashed = none) :
    Exact cfg (run cfg init hist) :=
  runWith_induct removedGwsWithDeps (fun s _ => Exact cfg s)
    (fun s b o _ h hc hg _ => step_prov h hc hg o)
    hist init (wf_init cfg) (fun k => by simp [init]) hc

/-- the two inclusions that the pre-fix code maintained -/
structure Sem (cfg : Cfg) (s : State) : Prop where
  dep_has_gateway : ∀ k, hasKey s.prov k = true → hasKey s.gws k = true
  class_has_dep   : ∀ k, get? s.gws k = some cfg.gcName → hasKey s.prov k = true

theorem stepPreFix_sem {b : List Ev} (h : WF cfg s) (hc : s.crashed = none)
    (hg : cfg.gcName ∈ (storeUpdate s b).gcs) (o : List Key) : Sem cfg (stepPreFix cfg s b o) := by
  have g : (stepPreFix cfg s b o).gws = (storeUpdate s b).gws := stepWith_gws removedPreFix hc b o
  constructor
  · intro k hk
    rw [g]
    rcases (stepPreFix_prov h hc hg o k).mp hk with h1 | h1
    · exact h1.2
    · exact hasKey_of_get?_some h1
  · intro k hk
    exact (stepPreFix_prov h hc hg o k).mpr (Or.inr (g ▸ hk))

theorem runPreFix_sem (cfg : Cfg) (hist : Hist) (hc : (runPreFix cfg init hist).crashed = none) :
    Sem cfg (runPreFix cfg init hist) :=
  runWith_induct removedPreFix (fun s _ => Sem cfg s) (fun s b o _ h hc hg _ => stepPreFix_sem h hc hg o) hist init
    (wf_init cfg) (by constructor <;> simp [init]) hc

/-- No Gateway that has a Deployment before the batch is, after the batch's `store.update`, stored
with a class other than the configured one. -/
def noAway (cfg : Cfg) (s : State) (b : List Ev) : Bool :=
  s.prov.all (fun p => match get? (storeUpdate s b).gws p.1 with
    | some c => c == cfg.gcName
    | none => true)

def noAwayHist (cfg : Cfg) : State → Hist → Bool
  | _, [] => true
  | s, (b, o) :: rest => noAway cfg s b && noAwayHist cfg (stepPreFix cfg s b o) rest

theorem noAway_spec {b : List Ev} (h : noAway cfg s b = true) {k : Key}
    (hk : hasKey s.prov k = true) {c : Str} (hc : get? (storeUpdate s b).gws k = some c) : c = cfg.gcName := by
  obtain ⟨d, hd⟩ := hasKey_iff_mem.mp hk
  have := List.all_eq_true.mp h (k, d) hd
  simp only [hc, beq_iff_eq] at this
  exact this

/-- the inclusion that failed before the fix: every Deployment's Gateway names the configured class -/
def Match (cfg : Cfg) (s : State) : Prop := ∀ k, hasKey s.prov k = true → get? s.gws k = some cfg.gcName

theorem stepPreFix_match {b : List Ev} (h : WF cfg s) (hc : s.crashed = none)
    (hg : cfg.gcName ∈ (storeUpdate s b).gcs) (o : List Key) (hna : noAway cfg s b = true) :
    Match cfg (stepPreFix cfg s b o) := by
  intro k hk
  show get? (stepWith removedPreFix cfg s b o).gws k = _
  rw [stepWith_gws removedPreFix hc]
  rcases (stepPreFix_prov h hc hg o k).mp hk with ⟨h1, h2⟩ | h1
  · obtain ⟨c, hcc⟩ := get?_some_of_hasKey h2
    rw [hcc, noAway_spec hna h1 hcc]
  · exact h1

theorem runPreFix_match (cfg : Cfg) (hist : Hist) (s : State) (h : WF cfg s) (h0 : Match cfg s)
    (hna : noAwayHist cfg s hist = true) (hc' : (runPreFix cfg s hist).crashed = none) :
    Match cfg (runPreFix cfg s hist) :=
  (runWith_induct removedPreFix (fun s t => noAwayHist cfg s t = true ∧ Match cfg s)
    (fun s b o t h hc hg hP => by
      have hna := Bool.and_eq_true_iff.mp hP.1
      exact ⟨hna.2, stepPreFix_match h hc hg o hna.1⟩)
    hist s h ⟨hna, h0⟩ hc').2

/-- the (Gateway, class) pairs upserted by a batch / a history -/
def upsertsOf (b : List Ev) : List (Key × Str) :=
  b.filterMap (fun e => match e with | .upsertGw k c => some (k, c) | _ => none)

def upserts (hist : Hist) : List (Key × Str) := hist.flatMap (fun x => upsertsOf x.1)

/-- no Gateway appears with two different class names anywhere in the history -/
def ClassStable (hist : Hist) : Prop :=
  ∀ k c c', (k, c) ∈ upserts hist → (k, c') ∈ upserts hist → c = c'

theorem mem_upsertsOf {b : List Ev} {k : Key} {c : Str} : (k, c) ∈ upsertsOf b ↔ .upsertGw k c ∈ b := by
  simp only [upsertsOf, List.mem_filterMap]
  constructor
  · rintro ⟨e, he, h⟩
    cases e <;> simp only [Option.some.injEq, Prod.mk.injEq, reduceCtorEq] at h
    rw [← h.1, ← h.2]
    exact he
  · exact fun h => ⟨_, h, rfl⟩

theorem storeUpdate_gws_src {b : List Ev} {s : State} {k : Key} {c : Str}
    (h : get? (storeUpdate s b).gws k = some c) : get? s.gws k = some c ∨ (k, c) ∈ upsertsOf b := by
  rw [mem_upsertsOf]
  unfold storeUpdate at h
  induction b generalizing s with
  | nil => exact Or.inl h
  | cons e t ih =>
    rcases ih h with h' | h'
    · cases e with
      | upsertGw k' c' =>
        rw [show (storeUpdate1 s (.upsertGw k' c')).gws = upsert s.gws k' c' from rfl, get?_upsert] at h'
        split at h'
        · next hk =>
          cases h'
          exact Or.inr (hk ▸ List.mem_cons_self)
        · exact Or.inl h'
      | deleteGw k' =>
        rw [show (storeUpdate1 s (.deleteGw k')).gws = erase s.gws k' from rfl, get?_erase] at h'
        split at h'
        · cases h'
        · exact Or.inl h'
      | _ => exact Or.inl h'
    · exact Or.inr (List.mem_cons_of_mem _ h')

/-- `ClassStable hist` is `Functional (upserts hist)` -/
def Functional (U : List (Key × Str)) : Prop := ∀ k c c', (k, c) ∈ U → (k, c') ∈ U → c = c'

/-- ghost invariant: `U` collects the upserts seen so far -/
structure Src (cfg : Cfg) (s : State) (U : List (Key × Str)) : Prop where
  gws  : ∀ k c, get? s.gws k = some c → (k, c) ∈ U
  prov : ∀ k, hasKey s.prov k = true → (k, cfg.gcName) ∈ U

theorem Src.after_update {U : List (Key × Str)} (hs : Src cfg s U) {b : List Ev} {k : Key} {c : Str}
    (h : get? (storeUpdate s b).gws k = some c) : (k, c) ∈ U ++ upsertsOf b :=
  (storeUpdate_gws_src h).elim (fun h' => List.mem_append_left _ (hs.gws k c h')) (List.mem_append_right _)

theorem Src.step {U : List (Key × Str)} (hs : Src cfg s U) (h : WF cfg s) (b : List Ev)
    (o : List Key) : Src cfg (stepPreFix cfg s b o) (U ++ upsertsOf b) := by
  by_cases hc : s.crashed = none
  · refine ⟨fun k c hk => hs.after_update (stepWith_gws removedPreFix hc b o ▸ hk), fun k hk => ?_⟩
    by_cases hg : cfg.gcName ∈ (storeUpdate s b).gcs
    · rcases (stepPreFix_prov h hc hg o k).mp hk with h' | h'
      · exact List.mem_append_left _ (hs.prov k h'.1)
      · exact hs.after_update h'
    · rw [show stepPreFix cfg s b o = _ from stepWith_crash removedPreFix hc hg] at hk
      exact List.mem_append_left _ (hs.prov k (storeUpdate_prov s b ▸ hk))
  · rw [show stepPreFix cfg s b o = s from stepWith_crashed removedPreFix hc]
    exact ⟨fun k c hk => List.mem_append_left _ (hs.gws k c hk), fun k hk => List.mem_append_left _ (hs.prov k hk)⟩

/-- a provisioned Gateway was upserted with the configured class, so it is not upserted with another one -/
theorem Src.noAway {U : List (Key × Str)} (hs : Src cfg s U) {b : List Ev}
    (hf : Functional (U ++ upsertsOf b)) : noAway cfg s b = true := by
  simp only [NGF.Prov.noAway, List.all_eq_true]
  intro p hp
  split
  · next c hc =>
    exact beq_iff_eq.mpr (hf p.1 c cfg.gcName (hs.after_update hc)
      (List.mem_append_left _ (hs.prov p.1 (hasKey_iff_mem.mpr ⟨p.2, hp⟩))))
  · rfl

theorem noAwayHist_of_stable (cfg : Cfg) (hist : Hist) (s : State) (U : List (Key × Str)) (h : WF cfg s)
    (hs : Src cfg s U) (hf : Functional (U ++ upserts hist)) : noAwayHist cfg s hist = true := by
  induction hist generalizing s U with
  | nil => rfl
  | cons x t ih =>
    obtain ⟨b, o⟩ := x
    have hsplit : U ++ upserts ((b, o) :: t) = (U ++ upsertsOf b) ++ upserts t := by
      simp [upserts, List.flatMap_cons, List.append_assoc]
    rw [hsplit] at hf
    simp only [noAwayHist, Bool.and_eq_true]
    exact ⟨hs.noAway fun k c c' h1 h2 => hf k c c' (List.mem_append_left _ h1) (List.mem_append_left _ h2),
      ih _ _ (stepWith_wf removedPreFix h b o) (hs.step h b o) hf⟩

theorem noAwayHist_of_classStable (cfg : Cfg) (hist : Hist) (h : ClassStable hist) :
    noAwayHist cfg init hist = true :=
  noAwayHist_of_stable cfg hist init [] (wf_init cfg)
    ⟨by intro k c hk; simp [init] at hk, by intro k hk; simp [init] at hk⟩
    (by rw [List.nil_append]; exact h)

end NGF.Prov
