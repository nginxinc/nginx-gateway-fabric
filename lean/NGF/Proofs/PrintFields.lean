/-
Dataflow of the guarded strings of a `Pipeline.Scenario` through `Render.genR` and `Render.render` (C04, text step):
if every guarded field is lexically safe (`PrintGuards.fieldsSafe`), every word of the rendered directive tree is
(`Print.dirsOK (render (genR s order))`), for all scenarios and port orders. Two steps:

  `confOK_genR`   fieldsSafe s → ConfOK (genR s order)     the lexical instance of Proofs/PrintFlow `confP_genR`
  `dirsOK_render` ConfOK c → dirsOK (render c)             every directive of the tree is a statement of the templates
                                                           (Proofs/PrintFlow `stmts_render`), and a statement whose holes hold
                                                           safe strings has safe words (`stmtOK_of_stmt`): the templates add
                                                           only safe literal text, numbers and mangled names
Core Lean only.
-/
import NGF.Model.PrintGuards
import NGF.Proofs.PrintLex
import NGF.Proofs.PrintFlow
import NGF.Proofs.SplitClientsPrint
import NGF.Proofs.Mangle

namespace NGF.Print
open NGF.Nginx NGF.Pipeline NGF.Render NGF.Mangle NGF.PrintGuards NGF.Inj

theorem tailChar_of_headChar {c : Char} (h : headChar c = true) : tailChar c = true := by
  simp only [headChar, Bool.not_eq_true', Bool.or_eq_false_iff] at h
  simp only [tailChar, Bool.not_eq_true', Bool.or_eq_false_iff]
  exact ⟨⟨⟨h.1.1.1.1.1.1.1, h.1.1.1.1.1.1.2⟩, h.1.1.1.1.1.2⟩, h.1.1.2⟩

theorem headChar_of_isDigit {c : Char} (h : c.isDigit = true) : headChar c = true := plain_startOK (plain_of_isDigit h)

theorem bareOK_of_all_head {l : List Char} (hne : l ≠ []) (h : ∀ c ∈ l, headChar c = true) : bareOK l = true := by
  cases l with
  | nil => exact absurd rfl hne
  | cons c t =>
    simp only [bareOK, Bool.and_eq_true, List.all_eq_true]
    exact ⟨h c (List.mem_cons_self ..), fun x hx => tailChar_of_headChar (h x (List.mem_cons_of_mem _ hx))⟩

theorem bareOK_tail {l : List Char} (h : bareOK l = true) : l.all tailChar = true := by
  cases l with
  | nil => simp [bareOK] at h
  | cons c t =>
    simp only [bareOK, Bool.and_eq_true] at h
    simp only [List.all_cons, Bool.and_eq_true]
    exact ⟨tailChar_of_headChar h.1, h.2⟩

theorem bareOK_append {a t : List Char} (ha : bareOK a = true) (ht : t.all tailChar = true) : bareOK (a ++ t) = true := by
  cases a with
  | nil => simp [bareOK] at ha
  | cons c r =>
    simp only [bareOK, Bool.and_eq_true] at ha
    simp only [List.cons_append, bareOK, Bool.and_eq_true, List.all_append]
    exact ⟨ha.1, ha.2, ht⟩

theorem bareOK_cons {c : Char} {t : List Char} (hc : headChar c = true) (ht : t.all tailChar = true) :
    bareOK (c :: t) = true := by simp [bareOK, hc, ht]

theorem bareOK_ne_nil {l : List Char} (h : bareOK l = true) : l ≠ [] := by
  intro e; subst e; simp [bareOK] at h

theorem digits_head (n : Nat) : ∀ c ∈ digits n, headChar c = true :=
  fun _ hc => headChar_of_isDigit (digits_isDigit hc)

theorem digits_tail (n : Nat) : (digits n).all tailChar = true :=
  List.all_eq_true.mpr fun c hc => tailChar_of_headChar (digits_head n c hc)

theorem bareOK_digits (n : Nat) : bareOK (digits n) = true := bareOK_of_all_head (digits_ne_nil n) (digits_head n)

theorem dqOK_append {a b : List Char} (ha : dqOK a = true) (hb : dqOK b = true) : dqOK (a ++ b) = true := by
  simp only [dqOK, List.all_append, Bool.and_eq_true] at *
  exact ⟨ha, hb⟩

theorem dqOK_digits (n : Nat) : dqOK (digits n) = true := by
  simp only [dqOK, List.all_eq_true, Bool.not_eq_true', Bool.or_eq_false_iff, beq_eq_false_iff_ne]
  intro c hc
  have hp := plain_of_isDigit (digits_isDigit hc)
  exact ⟨plain_ne hp (by decide), plain_ne hp (by decide)⟩

/-- `convertStringToSafeVariableName` keeps tail characters -/
theorem safeVar_tail {l : List Char} (h : l.all tailChar = true) : (safeVar l).all tailChar = true := by
  simp only [safeVar, List.all_map, List.all_eq_true, Function.comp] at *
  intro c hc
  by_cases e : c = '-'
  · simp [e]; decide
  · simp [e, h c hc]

theorem groupVar_tail {ns name : List Char} (h1 : ns.all tailChar = true) (h2 : name.all tailChar = true) (i : Nat) :
    (groupVar ns name i).all tailChar = true := by
  apply safeVar_tail
  simp only [groupName, lit, List.all_append, Bool.and_eq_true]
  exact ⟨⟨⟨⟨⟨by decide, h1⟩, by decide⟩, h2⟩, by decide⟩, digits_tail i⟩

def lexP : Preds :=
  { host := fun h => bareOK h = true, path := fun p => bareOK p = true, name := fun n => n.all tailChar = true,
    target := fun t => bareOK t = true, dq := fun x => dqOK x = true }

abbrev SrcOK := SrcP lexP
abbrev BsOK := BsP lexP
abbrev LocActOK := LocActP lexP
abbrev ConfOK := ConfP lexP

theorem argOK_wl {s : List Char} (h : bareOK s = true) : argOK (wl s) = true := h

theorem listenDirs_ok {d : Dir} {port : Nat} {extra : List String} (hd : d ∈ listenDirs port extra)
    (he : ∀ e ∈ extra, e = "default_server") : stmtOK d = true := by
  have hex : (extra.map w).all argOK = true := by
    refine List.all_eq_true.mpr fun a ha => ?_
    obtain ⟨e, hee, rfl⟩ := List.mem_map.mp ha
    rw [he e hee]
    decide_chars
  simp only [listenDirs, List.mem_cons, List.not_mem_nil, or_false] at hd
  rcases hd with rfl | rfl
  · refine stmtOK_mk _ (by decide_chars) ?_
    rw [List.all_cons, hex, Bool.and_true]
    exact bareOK_digits port
  · refine stmtOK_mk _ (by decide_chars) ?_
    rw [List.all_cons, hex, Bool.and_true]
    exact bareOK_append (a := "[::]:".toList) (by decide_chars) (digits_tail port)

theorem invalidBackendRef_ok : bareOK invalidBackendRef = true := by
  unfold invalidBackendRef
  decide_chars

theorem passHost_tail {src : Src} {bs : List Backend} (hs : SrcOK src) (hb : BsOK bs) :
    (passHost src bs).all tailChar = true := by
  unfold passHost
  split
  · exact bareOK_tail invalidBackendRef_ok
  · rename_i b
    split
    · exact bareOK_tail invalidBackendRef_ok
    · rename_i hv
      simp only [Bool.or_eq_true, beq_iff_eq, Bool.not_eq_true', not_or, Bool.not_eq_false] at hv
      exact bareOK_tail (hb b (by simp) hv.2)
  · simp only [List.all_cons, Bool.and_eq_true]
    exact ⟨by decide, groupVar_tail hs.1 hs.2 _⟩

theorem passTarget_ok {src : Src} {bs : List Backend} (hs : SrcOK src) (hb : BsOK bs) :
    bareOK (passTarget src bs) = true := by
  unfold passTarget
  rw [List.append_assoc]
  refine bareOK_append (by decide_chars) ?_
  simp only [List.all_append, Bool.and_eq_true]
  exact ⟨passHost_tail hs hb, by decide_chars⟩

theorem redirectBody_ok {sch host : Option Str} {port : Option Nat} (h1 : ∀ x, sch = some x → dqOK x = true)
    (h2 : ∀ x, host = some x → dqOK x = true) : dqOK (redirectBody sch host port) = true := by
  unfold redirectBody
  refine dqOK_append (dqOK_append (dqOK_append (dqOK_append ?_ (by decide_chars)) ?_) ?_) (by decide_chars)
  · cases sch with
    | none => decide_chars
    | some x => exact h1 x rfl
  · cases host with
    | none => decide_chars
    | some x => exact h2 x rfl
  · cases port with
    | none => rfl
    | some p => exact dqOK_append (a := [':']) (by decide) (dqOK_digits p)

theorem locArgs_ok {k : Bool × Str} (h : bareOK k.2 = true) : (locArgs k).all argOK = true := by
  unfold locArgs
  split
  · exact all_pair (by decide_chars) h
  · exact all_singleton h

theorem internalLocPath_ok (i j : Nat) : bareOK (internalLocPath i j) = true := by
  simp only [internalLocPath, lit, List.append_assoc]
  refine bareOK_append (by decide_chars) ?_
  simp only [List.all_append, Bool.and_eq_true]
  exact ⟨by decide_chars, digits_tail i, by decide_chars, digits_tail j⟩

theorem matchKey_ok (sid idx : Nat) : bareOK (matchKey sid idx) = true := by
  refine bareOK_append (bareOK_digits sid) ?_
  simp only [List.all_cons, Bool.and_eq_true]
  exact ⟨by decide, digits_tail idx⟩

/-- `%.2f` of a share followed by `%` -/
theorem pctName_ok (c : Nat) : bareOK (pctName c) = true := by
  obtain ⟨i1, _⟩ := NGF.SplitClientsJudge.natDigitsAux_spec (c / 100 + 1) (c / 100) [] (by omega) (by intro c hc; simp at hc)
  have a := NGF.SplitClientsJudge.digitChar_props (c % 100 / 10)
  have b := NGF.SplitClientsJudge.digitChar_props (c % 10)
  apply bareOK_of_all_head
  · simp [pctName, NGF.SplitClients.centsDec, NGF.F64.Dec2.chars]
  · intro x hx
    simp only [pctName, NGF.SplitClients.centsDec, NGF.F64.Dec2.chars, Bool.false_eq_true, if_false, List.nil_append,
      List.mem_append, List.mem_cons, List.not_mem_nil, or_false, NGF.F64.natDigits] at hx
    rcases hx with (hx | rfl | rfl | rfl) | rfl
    · exact headChar_of_isDigit (i1 x hx).1
    · decide
    · exact headChar_of_isDigit a.1
    · exact headChar_of_isDigit b.1
    · decide

theorem stmtOK_of_stmt {d : Dir} (h : Stmt lexP d) : stmtOK d = true := by
  cases h with
  | fixed hm => exact (fixedStmts_tests _ hm).1
  | server ch => exact stmtOK_mk _ (by decide_chars) rfl
  | listen hd he => exact listenDirs_ok hd he
  | serverName hh => exact stmtOK_mk _ (by decide_chars) (all_singleton hh)
  | location ch hp => exact stmtOK_mk _ (by decide_chars) (locArgs_ok hp)
  | internalLocation i j ch => exact stmtOK_mk _ (by decide_chars) (all_singleton (internalLocPath_ok i j))
  | proxyPass hs hb => exact stmtOK_mk _ (by decide_chars) (all_singleton (passTarget_ok hs hb))
  | redirect code port h1 h2 =>
    exact stmtOK_mk _ (by decide_chars) (all_pair (bareOK_digits code) (redirectBody_ok h1 h2))
  | status code => exact stmtOK_mk _ (by decide_chars) (all_pair (bareOK_digits code) rfl)
  | matchKey sid idx => exact stmtOK_mk _ (by decide_chars) (all_pair (by dsimp only [w]; decide_chars) (matchKey_ok sid idx))
  | splitClients ch hs =>
    exact stmtOK_mk _ (by decide_chars)
      (all_pair (by dsimp only [w]; decide_chars) (argOK_wl (bareOK_cons (by decide) (groupVar_tail hs.1 hs.2 _))))
  | share c ht => exact stmtOK_mk _ (pctName_ok c) (all_singleton (ht.elim id fun e => e ▸ invalidBackendRef_ok))

theorem dirsOK_render {c : ConfR} (h : ConfOK c) : dirsOK (render c) = true :=
  (dirsOK_iff_flat _).mpr fun x hx => stmtOK_of_stmt (stmts_render h x hx)

theorem fieldsP_of_safe {s : Scenario} (hs : fieldsSafe s = true) : FieldsP lexP s := by
  simp only [fieldsSafe, Bool.and_eq_true, List.all_eq_true] at hs
  refine ⟨?_, ?_⟩
  · intro g hg l hl
    have := hs.1 g hg l hl
    simp only [listenerSafe, Bool.or_eq_true, List.isEmpty_iff] at this
    exact this
  · intro r hr hv
    have := hs.2 r hr
    simp only [routeSafe, hv, Bool.not_true, Bool.false_or, Bool.and_eq_true, List.all_eq_true, ruleSafe] at this
    refine ⟨List.all_eq_true.mpr this.1.1.1, List.all_eq_true.mpr this.1.1.2, this.1.2, ?_⟩
    intro rule hrule
    exact ⟨(this.2 rule hrule).1, actionP_of_tests (P := lexP) (fun _ => id) (fun _ => id) (fun _ => id) _ (this.2 rule hrule).2⟩

theorem confOK_genR {s : Scenario} (hs : fieldsSafe s = true) (order : List Nat) : ConfOK (genR s order) :=
  confP_genR (P := lexP) (by show bareOK Hostname.wildcardHostname = true; decide) (fun _ hp => bareOK_append hp (by decide)) (fieldsP_of_safe hs) order

theorem dirsOK_render_genR {s : Scenario} (hs : fieldsSafe s = true) (order : List Nat) :
    dirsOK (render (genR s order)) = true := dirsOK_render (confOK_genR hs order)

end NGF.Print
