/-
C02 refinement proof: generic list lemmas and the provenance-annotated view of `Pipeline.entries`.

`xentries g routes` is `entries g routes` with every entry carrying the specification candidate it stems from
(listener hostname, route hostname, rule index, match index): `entries = xentries.map entryOf` (`entries_eq_map`), in the
SAME order, so that the order-dependent steps of the generator (stable sort, first njs match) can be related to the
positional tie-breakers of the specification (`ruleIdx`, `matchIdx`). Proof-only: nothing here is executed.
-/
import NGF.Model.Pipeline
import NGF.Proofs.Pipeline

namespace NGF.Pipeline
open NGF.Hostname (hmatch moreSpecific accepted)

theorem enumFrom_eq_zipIdx {α} : ∀ (l : List α) (s : Nat), enumFrom s l = (l.zipIdx s).map fun p => (p.2, p.1)
  | [], _ => rfl
  | x :: xs, s => by rw [enumFrom, List.zipIdx_cons, List.map_cons, enumFrom_eq_zipIdx xs]

theorem mem_enumFrom {α} {l : List α} {s i : Nat} {a : α} : (i, a) ∈ enumFrom s l ↔ s ≤ i ∧ l[i - s]? = some a := by
  rw [enumFrom_eq_zipIdx, ← List.mk_mem_zipIdx_iff_le_and_getElem?_sub, List.mem_map]
  constructor
  · rintro ⟨⟨b, j⟩, h, e⟩; cases e; exact h
  · intro h; exact ⟨(a, i), h, rfl⟩

theorem enumFrom_fun {α} {l : List α} {s i : Nat} {a b : α} (h1 : (i, a) ∈ enumFrom s l) (h2 : (i, b) ∈ enumFrom s l) :
    a = b := by
  have := (mem_enumFrom.mp h1).2.symm.trans (mem_enumFrom.mp h2).2
  simpa using this

theorem enumFrom_snd_mem {α} {l : List α} {s : Nat} {p : Nat × α} (h : p ∈ enumFrom s l) : p.2 ∈ l := by
  obtain ⟨i, a⟩ := p
  exact List.mem_of_getElem? (mem_enumFrom.mp h).2

theorem mem_enumFrom_of_mem {α} {l : List α} {a : α} (h : a ∈ l) (s : Nat) : ∃ i, (i, a) ∈ enumFrom s l := by
  obtain ⟨j, hj⟩ := List.getElem?_of_mem h
  exact ⟨s + j, mem_enumFrom.mpr ⟨by omega, by simpa using hj⟩⟩

theorem enumFrom_flatMap_snd {α β} (f : α → List β) : ∀ (l : List α) (s : Nat),
    (enumFrom s l).flatMap (fun p => f p.2) = l.flatMap f
  | [], _ => rfl
  | x :: xs, s => by simp [enumFrom, enumFrom_flatMap_snd f xs (s + 1)]

theorem enumFrom_map_snd {α β} (f : α → β) : ∀ (l : List α) (s : Nat), (enumFrom s l).map (fun p => f p.2) = l.map f
  | [], _ => rfl
  | x :: xs, s => by simp [enumFrom, enumFrom_map_snd f xs (s + 1)]

theorem enumFrom_findSome_min {α β} {f : Nat × α → Option β} : ∀ {l : List α} {s : Nat} {b : β},
    (enumFrom s l).findSome? f = some b →
    ∃ i a, (i, a) ∈ enumFrom s l ∧ f (i, a) = some b ∧ ∀ i' a', (i', a') ∈ enumFrom s l → i' < i → f (i', a') = none
  | [], s, b, h => by simp [enumFrom] at h
  | x :: xs, s, b, h => by
    simp only [enumFrom, List.findSome?_cons] at h
    cases hf : f (s, x) with
    | some v =>
      rw [hf] at h; simp only [Option.some.injEq] at h; subst h
      refine ⟨s, x, by simp [enumFrom], hf, ?_⟩
      intro i' a' hm hlt
      have := (mem_enumFrom.mp hm).1
      omega
    | none =>
      rw [hf] at h
      obtain ⟨i, a, hm, hfi, hmin⟩ := enumFrom_findSome_min (l := xs) h
      refine ⟨i, a, by simp [enumFrom, hm], hfi, ?_⟩
      intro i' a' hm' hlt
      simp only [enumFrom, List.mem_cons, Prod.mk.injEq] at hm'
      rcases hm' with ⟨rfl, rfl⟩ | hm'
      · exact hf
      · exact hmin i' a' hm' hlt

theorem enumFrom_find_min {α} {p : Nat × α → Bool} {l : List α} {s : Nat} {b : Nat × α}
    (h : (enumFrom s l).find? p = some b) :
    b ∈ enumFrom s l ∧ p b = true ∧ ∀ i' a', (i', a') ∈ enumFrom s l → i' < b.1 → p (i', a') = false := by
  rw [List.find?_eq_findSome?_guard] at h
  obtain ⟨i, a, hm, hg, hmin⟩ := enumFrom_findSome_min h
  obtain ⟨rfl, hp⟩ := Option.guard_eq_some_iff.mp hg
  exact ⟨hm, hp, fun i' a' hm' hlt => Option.guard_eq_none_iff.mp (hmin i' a' hm' hlt)⟩

theorem find?_beq {α} [BEq α] [LawfulBEq α] (a : α) : ∀ l : List α, l.find? (· == a) = if a ∈ l then some a else none
  | [] => rfl
  | x :: xs => by
    rw [List.find?_cons]
    by_cases h : x = a
    · subst h; simp
    · have hb : (x == a) = false := by simpa using h
      have hm : a ∈ x :: xs ↔ a ∈ xs := by
        rw [List.mem_cons]; exact ⟨fun o => o.resolve_left fun e => h e.symm, Or.inr⟩
      simp only [hb, find?_beq a xs, hm]

/-- `Pipeline.nodup` really is duplicate-freeness -/
theorem pairwise_of_nodup {α} [BEq α] [LawfulBEq α] {l : List α} (h : nodup l = true) : l.Pairwise (· ≠ ·) :=
  nodup_of_eraseDups_length (by simpa [nodup] using h)

theorem eraseDups_eq_self_of_pairwise {γ} [BEq γ] [LawfulBEq γ] : ∀ {l : List γ}, l.Pairwise (· ≠ ·) → l.eraseDups = l
  | [], _ => by simp
  | a :: as, h => by
    rw [List.eraseDups_cons]
    have hp := List.pairwise_cons.mp h
    have : as.filter (fun b => !b == a) = as := List.filter_eq_self.mpr (by
      intro b hb; simpa using fun e => hp.1 b hb e.symm)
    rw [this, eraseDups_eq_self_of_pairwise hp.2]

theorem nodup_map_inj {α β} [BEq β] [LawfulBEq β] {l : List α} {f : α → β} (h : nodup (l.map f) = true)
    {a b : α} (ha : a ∈ l) (hb : b ∈ l) (e : f a = f b) : a = b := by
  have hp := pairwise_of_nodup h
  induction l with
  | nil => cases ha
  | cons x xs ih =>
    simp only [List.map_cons, List.pairwise_cons, List.mem_map, ne_eq, forall_exists_index, and_imp,
      forall_apply_eq_imp_iff₂] at hp
    rcases List.mem_cons.mp ha with rfl | ha' <;> rcases List.mem_cons.mp hb with rfl | hb'
    · rfl
    · exact absurd e (hp.1 b hb')
    · exact absurd e.symm (hp.1 a ha')
    · exact ih (by
        have hp' : (xs.map f).Pairwise (· ≠ ·) := hp.2
        simp only [nodup, beq_iff_eq]
        exact (eraseDups_eq_self_of_pairwise hp').symm ▸ rfl) ha' hb' hp.2

theorem getElem?_inj_of_pairwise {α} {l : List α} (hp : l.Pairwise (· ≠ ·)) {i j : Nat} {a : α}
    (hi : l[i]? = some a) (hj : l[j]? = some a) : i = j :=
  getElem?_inj_of_nodup hp hi hj

theorem mem_filter_fst_map_snd {α β} [BEq α] [LawfulBEq α] {l : List (α × β)} {p : α} {m : β} :
    m ∈ (l.filter (·.1 == p)).map (·.2) ↔ (p, m) ∈ l := by
  simp only [List.mem_map, List.mem_filter, beq_iff_eq]
  constructor
  · rintro ⟨ph, ⟨h1, h2⟩, rfl⟩
    rw [← h2]; exact h1
  · intro h; exact ⟨(p, m), ⟨h, rfl⟩, rfl⟩

/-- an entry together with the specification candidate it stems from -/
structure XE where
  port : Nat
  host : Str
  c : Cand

def keyC (c : Cand) : Precedence.MatchKey :=
  { hasMethod := !c.m.method.isEmpty, nHeaders := c.m.headers.length, nQuery := c.m.query.length,
    age := c.age, ns := bytes c.ns, name := bytes c.name }

def entryOf (x : XE) : Entry :=
  { port := x.port, host := x.host, m := x.c.m, key := keyC x.c, action := x.c.action }

/-- `findAcceptedHostnames` with the route hostname each accepted hostname stems from (`[]` = the route has none) -/
def acceptedX (l : Str) (rs : List Str) : List (Str × Str) :=
  if rs.isEmpty then [(if l.isEmpty then NGF.Hostname.wildcardHostname else l, [])]
  else rs.filterMap fun r => if hmatch l r then some (moreSpecific l r, r) else none

theorem accepted_eq_map (l : Str) (rs : List Str) : accepted l rs = (acceptedX l rs).map (·.1) := by
  unfold accepted acceptedX
  by_cases h : rs.isEmpty = true
  · simp only [h, ↓reduceIte]
    by_cases hl : l.isEmpty = true <;> simp [hl]
  · simp only [h, Bool.false_eq_true, ↓reduceIte, List.map_filterMap]
    congr 1
    funext r
    by_cases hm : hmatch l r = true <;> simp [hm]

theorem mem_acceptedX {l : Str} {rs : List Str} {hh : Str × Str} :
    hh ∈ acceptedX l rs ↔
      (rs = [] ∧ hh = (if l.isEmpty then NGF.Hostname.wildcardHostname else l, [])) ∨
      (rs ≠ [] ∧ hh.2 ∈ rs ∧ hmatch l hh.2 = true ∧ hh.1 = moreSpecific l hh.2) := by
  by_cases hrs : rs = []
  · subst hrs
    simp [acceptedX]
  · simp only [acceptedX, List.isEmpty_eq_false_iff.mpr hrs, Bool.false_eq_true, ↓reduceIte, List.mem_filterMap, hrs,
      false_and, false_or, ne_eq, not_false_eq_true, true_and]
    constructor
    · rintro ⟨r, hr, hx⟩
      cases hm : hmatch l r with
      | false => simp [hm] at hx
      | true =>
        simp only [hm, ↓reduceIte, Option.some.injEq] at hx
        subst hx
        exact ⟨hr, hm, rfl⟩
    · rintro ⟨hr, hm, e⟩
      exact ⟨hh.2, hr, by rw [hm, ← e]; rfl⟩

def acceptedXAt (g : Gateway) (l : Listener) (r : Route) : List (Str × Str) :=
  if refersTo g l r && nsAllowed g l r then acceptedX l.host r.hostnames else []

theorem acceptedAt_eq_map (g : Gateway) (l : Listener) (r : Route) :
    acceptedAt g l r = (acceptedXAt g l r).map (·.1) := by
  unfold acceptedAt acceptedXAt
  by_cases h : (refersTo g l r && nsAllowed g l r) = true
  · simp only [h, ↓reduceIte, accepted_eq_map]
  · simp [h]

def mkX (l : Listener) (r : Route) (hh : Str × Str) (ir : Nat × Rule) (jm : Nat × Match) : XE :=
  { port := l.port, host := hh.1, c := mkCand l r hh.2 ir.1 ir.2 jm.1 jm.2 }

def xrouteEntries (l : Listener) (hosts : List (Str × Str)) (r : Route) : List XE :=
  (enumFrom 0 r.rules).flatMap fun ir => hosts.flatMap fun hh => (enumFrom 0 ir.2.ms).map fun jm => mkX l r hh ir jm

def xblock (g : Gateway) (l : Listener) (r : Route) : List XE :=
  if r.valid then xrouteEntries l (acceptedXAt g l r) r else []

def xentries (g : Gateway) (routes : List Route) : List XE :=
  g.listeners.flatMap fun l => routes.flatMap fun r => xblock g l r

theorem routeEntries_eq_map (l : Listener) (hosts : List (Str × Str)) (r : Route) :
    routeEntries l.port (hosts.map (·.1)) r = (xrouteEntries l hosts r).map entryOf := by
  unfold routeEntries xrouteEntries
  rw [List.map_flatMap, ← enumFrom_flatMap_snd _ r.rules 0]
  apply flatMap_congr_mem
  intro ir _
  rw [List.map_flatMap, List.flatMap_map]
  apply flatMap_congr_mem
  intro hh _
  rw [List.map_map, ← enumFrom_map_snd _ ir.2.ms 0]
  rfl

theorem entries_eq_map (g : Gateway) (routes : List Route) : entries g routes = (xentries g routes).map entryOf := by
  unfold entries xentries
  rw [List.map_flatMap]
  apply flatMap_congr_mem
  intro l _
  rw [List.map_flatMap]
  apply flatMap_congr_mem
  intro r _
  unfold xblock
  by_cases hv : r.valid = true
  · simp only [hv, ↓reduceIte, acceptedAt_eq_map, routeEntries_eq_map]
  · simp [hv]

theorem mem_xentries {g : Gateway} {routes : List Route} {x : XE} :
    x ∈ xentries g routes ↔
    ∃ l ∈ g.listeners, ∃ r ∈ routes, r.valid = true ∧ refersTo g l r = true ∧ nsAllowed g l r = true ∧
      ∃ hh ∈ acceptedX l.host r.hostnames, ∃ ir ∈ enumFrom 0 r.rules, ∃ jm ∈ enumFrom 0 ir.2.ms,
        x = mkX l r hh ir jm := by
  unfold xentries xblock xrouteEntries acceptedXAt
  simp only [List.mem_flatMap]
  constructor
  · rintro ⟨l, hl, r, hr, hx⟩
    by_cases hv : r.valid = true
    · simp only [hv, ↓reduceIte, List.mem_flatMap, List.mem_map] at hx
      obtain ⟨ir, hir, hh, hhh, jm, hjm, rfl⟩ := hx
      by_cases ha : (refersTo g l r && nsAllowed g l r) = true
      · simp only [ha, ↓reduceIte] at hhh
        simp only [Bool.and_eq_true] at ha
        exact ⟨l, hl, r, hr, hv, ha.1, ha.2, hh, hhh, ir, hir, jm, hjm, rfl⟩
      · simp [ha] at hhh
    · simp [hv] at hx
  · rintro ⟨l, hl, r, hr, hv, h1, h2, hh, hhh, ir, hir, jm, hjm, rfl⟩
    refine ⟨l, hl, r, hr, ?_⟩
    simp only [hv, ↓reduceIte, h1, h2, Bool.and_self, List.mem_flatMap, List.mem_map]
    exact ⟨ir, hir, hh, hhh, jm, hjm, rfl⟩

end NGF.Pipeline
