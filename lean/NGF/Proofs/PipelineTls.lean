/-
C16, pipeline level: helper lemmas about `NGF.Model.PipelineTls` (the TLS layer on the pipeline fragment model).
Both projections serve the projection of `winnerT` (`winner_proj`, `gen_proj`). The fold computing
`listenersForHost[h]` (`ownerOf_spec`) and the key-pair fold (`keyPairsFrom_sound`, `_complete`, `_nodup`) give what
every SSL server of `genT` is in terms of the served Gateway's listeners (`mem_ssl`, the raw shape; `mem_ssl_cases`,
over the listeners). The SSL part and the plain-HTTP part do not read each other's listeners
(`ssl_part_filter_invariant`, `genT_http_eraseTls`). Which server NGINX selects for an SNI name (`presented_some`,
`nameCovers_covers`). The stateful port conflict resolver keeps `PCInv` (`pcInv_step`). Core Lean only.
-/
import NGF.Model.PipelineTls
import NGF.Proofs.TlsOwner
import NGF.Proofs.TlsBind
import NGF.Proofs.Pipeline

namespace NGF.PipelineTls
open NGF.Pipeline

theorem olderGw_proj (keep keep' : GatewayT → ListenerT → Bool) (a b : GatewayT) :
    olderGw (projGw keep a) (projGw keep' b) = olderGw (bare a) (bare b) := rfl

theorem oldest_map (keep : GatewayT → ListenerT → Bool) (l : List GatewayT) :
    oldest (l.map (projGw keep)) = (oldestT l).map (projGw keep) := by
  induction l with
  | nil => rfl
  | cons g gs ih =>
    simp only [List.map_cons, oldest, oldestT, ih]
    cases oldestT gs with
    | none => rfl
    | some b =>
      simp only [Option.map_some, olderGw_proj]
      by_cases h : olderGw (bare b) (bare g) = true <;> simp [h]

theorem winner_proj (keep : GatewayT → ListenerT → Bool) (s : ScenarioT) :
    winner (proj keep s) = (winnerT s).map (projGw keep) := by
  unfold winner winnerT
  have hc : classOurs (proj keep s) = classOurs (allPart s) := rfl
  rw [hc]
  split
  · have : (proj keep s).gateways.filter (·.cls == (proj keep s).cls) =
        (s.gateways.filter (·.cls == s.cls)).map (projGw keep) := by
      simp only [proj, List.filter_map]
      rfl
    rw [this, oldest_map]
  · rfl

theorem oldestT_mem {l : List GatewayT} {g : GatewayT} (h : oldestT l = some g) : g ∈ l := by
  induction l generalizing g with
  | nil => simp [oldestT] at h
  | cons a as ih =>
    simp only [oldestT] at h
    cases hb : oldestT as with
    | none => simp [hb] at h; simp [h]
    | some b =>
      simp only [hb] at h
      split at h
      · simp at h; subst h; exact List.mem_cons_of_mem _ (ih hb)
      · simp at h; simp [h]

theorem winnerT_mem {s : ScenarioT} {g : GatewayT} (h : winnerT s = some g) : g ∈ s.gateways := by
  unfold winnerT at h
  split at h
  · exact (List.mem_filter.mp (oldestT_mem h)).1
  · simp at h

theorem genT_none {s : ScenarioT} (hw : winnerT s = none) :
    genT s = { http := gen (httpPart s), ssl := [], sslPorts := [], keyPairs := [] } := by
  simp [genT, hw]

theorem gen_proj (keep : GatewayT → ListenerT → Bool) {s : ScenarioT} {gT : GatewayT} (hw : winnerT s = some gT) :
    gen (proj keep s) =
      { ports := ((projGw keep gT).listeners.map (·.port)).eraseDups
        servers := (hostsOf (projGw keep gT) s.routes).map fun ph =>
          serverOf (entries (projGw keep gT) s.routes) ph.1 ph.2 } := by
  have : winner (proj keep s) = some (projGw keep gT) := by rw [winner_proj, hw]; rfl
  simp only [gen, this]
  rfl

theorem gen_httpsPart {s : ScenarioT} {gT : GatewayT} (hw : winnerT s = some gT) :
    gen (httpsPart s) =
      { ports := ((projGw (validHttps s) gT).listeners.map (·.port)).eraseDups
        servers := (hostsOf (projGw (validHttps s) gT) s.routes).map fun ph =>
          serverOf (entries (projGw (validHttps s) gT) s.routes) ph.1 ph.2 } :=
  gen_proj _ hw

theorem gen_httpPart {s : ScenarioT} {gT : GatewayT} (hw : winnerT s = some gT) :
    gen (httpPart s) =
      { ports := ((projGw (fun g l => validHttp g l) gT).listeners.map (·.port)).eraseDups
        servers := (hostsOf (projGw (fun g l => validHttp g l) gT) s.routes).map fun ph =>
          serverOf (entries (projGw (fun g l => validHttp g l) gT) s.routes) ph.1 ph.2 } :=
  gen_proj _ hw

theorem mem_projGw_listeners {keep : GatewayT → ListenerT → Bool} {g : GatewayT} {l : Listener}
    (h : l ∈ (projGw keep g).listeners) : ∃ lT ∈ g.listeners, keep g lT = true ∧ lT.base = l := by
  simp only [projGw, List.mem_map, List.mem_filter] at h
  obtain ⟨lT, ⟨h1, h2⟩, h3⟩ := h
  exact ⟨lT, h1, h2, h3⟩

/-- `acceptedAt` only reads the identity of the Gateway -/
theorem acceptedAt_projGw (keep keep' : GatewayT → ListenerT → Bool) (g : GatewayT) (l : Listener) (r : Route) :
    acceptedAt (projGw keep g) l r = acceptedAt (projGw keep' g) l r := rfl

/-- a valid route attached to `l` carries hostname `h` -/
def carries (g : Gateway) (routes : List Route) (h : Str) (l : ListenerT) : Bool := (accHosts g routes l.base).contains h

theorem carries_iff {g : Gateway} {routes : List Route} {h : Str} {l : ListenerT} :
    carries g routes h l = true ↔ ∃ r ∈ routes, r.valid = true ∧ h ∈ acceptedAt g l.base r := by
  simp only [carries, accHosts, List.contains_iff_mem, List.mem_flatMap]
  constructor
  · rintro ⟨r, hr, hm⟩
    by_cases hv : r.valid = true
    · simp only [hv, if_true] at hm; exact ⟨r, hr, hv, hm⟩
    · simp [hv] at hm
  · rintro ⟨r, hr, hv, hm⟩
    exact ⟨r, hr, by simpa [hv] using hm⟩

theorem acceptedAt_covers {g : Gateway} {l : Listener} {r : Route} {h : Str} (hm : h ∈ acceptedAt g l r) :
    Tls.covers l.host h = true := by
  unfold acceptedAt at hm
  split at hm
  · rw [Tls.findAccepted_eq_hostname] at hm
    exact Tls.accepted_covers _ _ _ hm
  · simp at hm

theorem carries_covers {g : Gateway} {routes : List Route} {h : Str} {l : ListenerT}
    (hc : carries g routes h l = true) : Tls.covers l.base.host h = true := by
  obtain ⟨r, _, _, hm⟩ := carries_iff.mp hc
  exact acceptedAt_covers hm

theorem ownerStep_eq (g : Gateway) (routes : List Route) (h : Str) (acc : Option ListenerT) (l : ListenerT) :
    ownerStep g routes h acc l =
      if carries g routes h l then Tls.moreSpecificOf (·.base.host) acc l else acc := by
  cases acc <;> rfl

theorem ownerFrom_spec (g : Gateway) (routes : List Route) (h : Str) :
    ∀ (ls : List ListenerT) (acc : Option ListenerT),
      (∀ a, acc = some a → Tls.covers a.base.host h = true) →
      ∀ w, ownerFrom g routes h acc ls = some w →
        ((w ∈ ls ∧ carries g routes h w = true) ∨ acc = some w) ∧
        (∀ l ∈ ls, carries g routes h l = true → Tls.rank l.base.host ≤ Tls.rank w.base.host) ∧
        (∀ a, acc = some a → Tls.rank a.base.host ≤ Tls.rank w.base.host) := by
  intro ls
  induction ls with
  | nil =>
    intro acc _ w hw
    refine ⟨Or.inr hw, fun _ hl _ => (nomatch hl), fun a ha => ?_⟩
    rw [show acc = some w from hw] at ha; cases ha; exact Nat.le_refl _
  | cons l ls ih =>
    intro acc hcov w hw
    simp only [ownerFrom] at hw
    rw [ownerStep_eq] at hw
    by_cases hc : carries g routes h l = true
    · -- `l` is upserted: the entry becomes `a'`, which is `l` or the entry so far
      have hcl := carries_covers hc
      obtain ⟨a', ha', hal, hla, hpa⟩ :=
        Tls.moreSpecificOf_spec (host := fun x : ListenerT => x.base.host) (acc := acc) (l := l) hcl hcov
      rw [if_pos hc, ha'] at hw
      have hca : Tls.covers a'.base.host h = true := hal.elim (fun e => e ▸ hcl) (hcov a')
      obtain ⟨h1, h2, h3⟩ := ih (some a') (fun a e => by cases e; exact hca) w hw
      refine ⟨?_, fun l' hl' hc' => ?_, fun a ha => Nat.le_trans (hpa a ha) (h3 _ rfl)⟩
      · rcases h1 with ⟨hm, hcw⟩ | he
        · exact .inl ⟨List.mem_cons_of_mem _ hm, hcw⟩
        · cases he
          exact hal.elim (fun e => .inl ⟨e ▸ List.mem_cons_self, e ▸ hc⟩) .inr
      · rcases List.mem_cons.mp hl' with rfl | e
        · exact Nat.le_trans hla (h3 _ rfl)
        · exact h2 l' e hc'
    · rw [if_neg hc] at hw
      obtain ⟨h1, h2, h3⟩ := ih acc hcov w hw
      refine ⟨h1.imp (fun ⟨hm, hcw⟩ => ⟨List.mem_cons_of_mem _ hm, hcw⟩) id, fun l' hl' hc' => ?_, h3⟩
      rcases List.mem_cons.mp hl' with rfl | e
      · exact absurd hc' hc
      · exact h2 l' e hc'

theorem ownerStep_isSome {g : Gateway} {routes : List Route} {h : Str} {acc : Option ListenerT} {l : ListenerT}
    (hs : acc.isSome = true ∨ carries g routes h l = true) : (ownerStep g routes h acc l).isSome = true := by
  rw [ownerStep_eq]
  by_cases hc : carries g routes h l = true
  · rw [if_pos hc]; exact Tls.moreSpecificOf_isSome _ acc l
  · rw [if_neg hc]; exact hs.resolve_right hc

theorem ownerFrom_isSome (g : Gateway) (routes : List Route) (h : Str) :
    ∀ (ls : List ListenerT) (acc : Option ListenerT),
      (acc.isSome = true ∨ ∃ l ∈ ls, carries g routes h l = true) → (ownerFrom g routes h acc ls).isSome = true := by
  intro ls
  induction ls with
  | nil => intro acc hs; rcases hs with hs | ⟨l, hl, _⟩
           · simpa [ownerFrom] using hs
           · simp at hl
  | cons l ls ih =>
    intro acc hs
    simp only [ownerFrom]
    apply ih
    rcases hs with hs | ⟨l', hl', hc'⟩
    · exact Or.inl (ownerStep_isSome (Or.inl hs))
    · rcases List.mem_cons.mp hl' with e | e
      · subst e; exact Or.inl (ownerStep_isSome (Or.inr hc'))
      · exact Or.inr ⟨l', e, hc'⟩

theorem ownerOf_spec {g : Gateway} {routes : List Route} {ls : List ListenerT} {h : Str} {w : ListenerT}
    (hw : ownerOf g routes ls h = some w) :
    w ∈ ls ∧ carries g routes h w = true ∧
      ∀ l ∈ ls, carries g routes h l = true → Tls.rank l.base.host ≤ Tls.rank w.base.host := by
  obtain ⟨h1, h2, _⟩ := ownerFrom_spec g routes h ls none (by simp) w hw
  rcases h1 with ⟨hm, hc⟩ | he
  · exact ⟨hm, hc, h2⟩
  · simp at he

theorem ownerOf_isSome {g : Gateway} {routes : List Route} {ls : List ListenerT} {h : Str} {l : ListenerT}
    (hl : l ∈ ls) (hc : carries g routes h l = true) : (ownerOf g routes ls h).isSome = true :=
  ownerFrom_isSome g routes h ls none (Or.inr ⟨l, hl, hc⟩)

theorem validHttps_iff {s : ScenarioT} {g : GatewayT} {l : ListenerT} :
    validHttps s g l = true ↔ l.https = true ∧ conflicted g l = false ∧ resolution s g l = .ok := by
  simp [validHttps, and_assoc]

theorem valid_cert {s : ScenarioT} {g : GatewayT} {l : ListenerT} (h : validHttps s g l = true) :
    ∃ c, l.cert = some c ∧ (c.1 = g.ns ∨ Tls.secretRefAllowed s.grants g.ns c.1 c.2 = true) ∧
      ∃ sec, Tls.findSecret s.secrets c.1 c.2 = some sec ∧ sec.isTLS = true ∧ sec.pairOK = true := by
  have hr := (validHttps_iff.mp h).2.2
  unfold resolution at hr
  obtain ⟨h0, _, _, hp, sec, hf, h1, h2⟩ := Tls.resolveRef_ok_iff.1 hr
  cases hc : l.cert with
  | none => simp [certRefOf, hc] at h0
  | some c =>
    simp only [certRefOf, hc] at hp hf
    exact ⟨c, rfl, hp, sec, hf, h1, h2⟩

theorem kpStep_cases (secrets : List Tls.SecretObj) (m : List Tls.KeyPair) (l : ListenerT) :
    kpStep secrets m l = m ∨ ∃ c sec, l.cert = some c ∧ Tls.findSecret secrets c.1 c.2 = some sec ∧
      kpStep secrets m l = Tls.insertKP m ⟨Tls.keyPairId c, sec.cert, sec.key⟩ := by
  unfold kpStep
  cases l.cert with
  | none => exact .inl rfl
  | some c =>
    dsimp only
    cases hs : Tls.findSecret secrets c.1 c.2 with
    | none => exact .inl rfl
    | some sec => exact .inr ⟨c, sec, rfl, hs, rfl⟩

theorem kpStep_mem {secrets : List Tls.SecretObj} {m : List Tls.KeyPair} {l : ListenerT} {k : Tls.KeyPair}
    (h : k ∈ kpStep secrets m l) :
    k ∈ m ∨ ∃ c sec, l.cert = some c ∧ Tls.findSecret secrets c.1 c.2 = some sec ∧
      k = ⟨Tls.keyPairId c, sec.cert, sec.key⟩ := by
  rcases kpStep_cases secrets m l with e | ⟨c, sec, hc, hs, e⟩ <;> rw [e] at h
  · exact Or.inl h
  · exact (Tls.mem_insertKP h).elim (fun e => Or.inr ⟨c, sec, hc, hs, e⟩) Or.inl

theorem keyPairsFrom_sound (secrets : List Tls.SecretObj) :
    ∀ (ls : List ListenerT) (m : List Tls.KeyPair) (k : Tls.KeyPair), k ∈ keyPairsFrom secrets m ls →
      k ∈ m ∨ ∃ l ∈ ls, ∃ c sec, l.cert = some c ∧ Tls.findSecret secrets c.1 c.2 = some sec ∧
        k = ⟨Tls.keyPairId c, sec.cert, sec.key⟩ := by
  intro ls
  induction ls with
  | nil => intro m k h; exact Or.inl h
  | cons l ls ih =>
    intro m k h
    simp only [keyPairsFrom] at h
    rcases ih _ k h with h1 | ⟨l', hl', rest⟩
    · rcases kpStep_mem h1 with h2 | ⟨c, sec, hc, hs, e⟩
      · exact Or.inl h2
      · exact Or.inr ⟨l, List.mem_cons_self, c, sec, hc, hs, e⟩
    · exact Or.inr ⟨l', List.mem_cons_of_mem _ hl', rest⟩

theorem insertKP_has_id (m : List Tls.KeyPair) (k : Tls.KeyPair) (i : List Char)
    (h : k.id = i ∨ ∃ x ∈ m, x.id = i) : ∃ x ∈ Tls.insertKP m k, x.id = i := by
  unfold Tls.insertKP
  rcases h with h | ⟨x, hx, hi⟩
  · exact ⟨k, by simp, h⟩
  · by_cases e : x.id = k.id
    · exact ⟨k, by simp, by rw [← e, hi]⟩
    · exact ⟨x, by simp [hx, e], hi⟩

theorem kpStep_keeps_id {secrets : List Tls.SecretObj} {m : List Tls.KeyPair} {l : ListenerT} {i : List Char}
    (h : ∃ x ∈ m, x.id = i) : ∃ x ∈ kpStep secrets m l, x.id = i := by
  rcases kpStep_cases secrets m l with e | ⟨_, _, _, _, e⟩ <;> rw [e]
  · exact h
  · exact insertKP_has_id _ _ _ (Or.inr h)

theorem keyPairsFrom_keeps_id (secrets : List Tls.SecretObj) :
    ∀ (ls : List ListenerT) (m : List Tls.KeyPair) (i : List Char), (∃ x ∈ m, x.id = i) →
      ∃ x ∈ keyPairsFrom secrets m ls, x.id = i := by
  intro ls
  induction ls with
  | nil => intro m i h; exact h
  | cons l ls ih => intro m i h; exact ih _ i (kpStep_keeps_id h)

theorem keyPairsFrom_complete (secrets : List Tls.SecretObj) :
    ∀ (ls : List ListenerT) (m : List Tls.KeyPair) (l : ListenerT), l ∈ ls →
      ∀ c sec, l.cert = some c → Tls.findSecret secrets c.1 c.2 = some sec →
        ∃ x ∈ keyPairsFrom secrets m ls, x.id = Tls.keyPairId c := by
  intro ls
  induction ls with
  | nil => intro m l hl; simp at hl
  | cons a as ih =>
    intro m l hl c sec hc hs
    simp only [keyPairsFrom]
    rcases List.mem_cons.mp hl with e | e
    · subst e
      apply keyPairsFrom_keeps_id
      simp only [kpStep, hc, hs]
      exact insertKP_has_id _ _ _ (Or.inl rfl)
    · exact ih _ l e c sec hc hs

def idsNodup (m : List Tls.KeyPair) : Prop := (m.map (·.id)).Nodup

theorem insertKP_nodup {m : List Tls.KeyPair} (k : Tls.KeyPair) (h : idsNodup m) : idsNodup (Tls.insertKP m k) := by
  unfold idsNodup Tls.insertKP at *
  simp only [List.map_cons, List.nodup_cons, List.mem_map, List.mem_filter]
  refine ⟨?_, ?_⟩
  · rintro ⟨x, ⟨_, hx⟩, e⟩
    simp at hx; exact hx e
  · exact (List.Nodup.sublist (List.Sublist.map _ List.filter_sublist) h)

theorem keyPairsFrom_nodup (secrets : List Tls.SecretObj) :
    ∀ (ls : List ListenerT) (m : List Tls.KeyPair), idsNodup m → idsNodup (keyPairsFrom secrets m ls) := by
  intro ls
  induction ls with
  | nil => intro m h; exact h
  | cons l ls ih =>
    intro m h
    simp only [keyPairsFrom]
    apply ih
    rcases kpStep_cases secrets m l with e | ⟨_, _, _, _, e⟩ <;> rw [e]
    · exact h
    · exact insertKP_nodup _ h

theorem genT_some {s : ScenarioT} {gT : GatewayT} (hw : winnerT s = some gT) :
    genT s =
      { http := gen (httpPart s)
        ssl := ((gen (httpsPart s)).servers.map fun sv =>
                  (sv, (ownerOf (projGw (validHttps s) gT) s.routes
                          ((sslListeners s gT).filter (·.base.port == sv.port)) sv.name).bind kpOf)) ++
               listenerOnly (projGw (validHttps s) gT) s.routes (sslListeners s gT)
        sslPorts := (gen (httpsPart s)).ports
        keyPairs := keyPairsFrom s.secrets [] (sslListeners s gT) } := by
  simp [genT, hw]

theorem genT_keyPairs {s : ScenarioT} {gT : GatewayT} (hw : winnerT s = some gT) :
    (genT s).keyPairs = keyPairsFrom s.secrets [] (sslListeners s gT) := by rw [genT_some hw]

theorem mem_sslListeners {s : ScenarioT} {gT : GatewayT} {l : ListenerT} :
    l ∈ sslListeners s gT ↔ l ∈ gT.listeners ∧ validHttps s gT l = true := by
  simp [sslListeners]

theorem valid_listener_keypair {s : ScenarioT} {gT : GatewayT} {w : ListenerT} (hw : w ∈ sslListeners s gT) :
    ∃ c sec, w.cert = some c ∧ kpOf w = some (Tls.keyPairId c) ∧ Tls.findSecret s.secrets c.1 c.2 = some sec ∧
      ∃ k ∈ keyPairsFrom s.secrets [] (sslListeners s gT), k.id = Tls.keyPairId c ∧
        ∃ l' ∈ sslListeners s gT, ∃ c' sec', l'.cert = some c' ∧ Tls.findSecret s.secrets c'.1 c'.2 = some sec' ∧
          Tls.keyPairId c' = Tls.keyPairId c ∧ k.cert = sec'.cert ∧ k.key = sec'.key := by
  obtain ⟨c, hc, _, sec, hs, _, _⟩ := valid_cert (mem_sslListeners.mp hw).2
  obtain ⟨k, hk, hid⟩ := keyPairsFrom_complete s.secrets _ [] w hw c sec hc hs
  refine ⟨c, sec, hc, by simp [kpOf, hc], hs, k, hk, hid, ?_⟩
  rcases keyPairsFrom_sound s.secrets _ [] k hk with h0 | ⟨l', hl', c', sec', hc', hs', e⟩
  · simp at h0
  · refine ⟨l', hl', c', sec', hc', hs', ?_, ?_, ?_⟩
    · rw [← hid, e]
    · rw [e]
    · rw [e]

theorem serverName_eq (h : Str) : serverName h = Tls.listenerServerName h := by
  cases h <;> rfl

theorem covers_serverName (h : Str) : Tls.covers h (serverName h) = true :=
  serverName_eq h ▸ Tls.covers_listenerServerName h

theorem mem_ssl {s : ScenarioT} {gT : GatewayT} (hw : winnerT s = some gT) {sv : CServer} {kp : Option (List Char)}
    (h : (sv, kp) ∈ (genT s).ssl) :
    (sv ∈ (gen (httpsPart s)).servers ∧
      kp = (ownerOf (projGw (validHttps s) gT) s.routes
              ((sslListeners s gT).filter (·.base.port == sv.port)) sv.name).bind kpOf) ∨
    (∃ l ∈ sslListeners s gT,
      (nroutes (projGw (validHttps s) gT) s.routes l.base = 0 ∨ serverName l.base.host = Hostname.wildcardHostname) ∧
      sv = serverOf [] l.base.port (serverName l.base.host) ∧ kp = kpOf l) := by
  rw [genT_some hw] at h
  simp only [List.mem_append, List.mem_map] at h
  rcases h with ⟨sv', hsv, e⟩ | h
  · simp only [Prod.mk.injEq] at e
    obtain ⟨rfl, rfl⟩ := e
    exact Or.inl ⟨hsv, rfl⟩
  · simp only [listenerOnly, List.mem_map, List.mem_filter, Prod.mk.injEq] at h
    obtain ⟨l, ⟨hl, hc⟩, rfl, rfl⟩ := h
    refine Or.inr ⟨l, hl, ?_, rfl, rfl⟩
    simpa using hc

theorem mem_portListeners {s : ScenarioT} {gT : GatewayT} {p : Nat} {l : ListenerT} :
    l ∈ (sslListeners s gT).filter (·.base.port == p) ↔ l ∈ gT.listeners ∧ validHttps s gT l = true ∧ l.base.port = p := by
  rw [List.mem_filter, mem_sslListeners, beq_iff_eq, and_assoc]

/-- the two kinds of SSL servers in terms of the served Gateway: the server of a hostname presents the key pair of
`listenersForHost[name]` — a valid HTTPS listener of the port carrying the name, at least as specific as every other
one; the server generated for a listener itself presents that listener's key pair -/
theorem mem_ssl_cases {s : ScenarioT} {gT : GatewayT} (hw : winnerT s = some gT) {sv : CServer} {kp : Option (List Char)}
    (h : (sv, kp) ∈ (genT s).ssl) :
    (∃ w ∈ gT.listeners, validHttps s gT w = true ∧ w.base.port = sv.port ∧
        carries (projGw (validHttps s) gT) s.routes sv.name w = true ∧ kp = kpOf w ∧
        ∀ l ∈ gT.listeners, validHttps s gT l = true → l.base.port = sv.port →
          carries (projGw (validHttps s) gT) s.routes sv.name l = true → Tls.rank l.base.host ≤ Tls.rank w.base.host) ∨
    (∃ l ∈ gT.listeners, validHttps s gT l = true ∧ l.base.port = sv.port ∧ sv.name = serverName l.base.host ∧
        kp = kpOf l ∧
        (nroutes (projGw (validHttps s) gT) s.routes l.base = 0 ∨ serverName l.base.host = Hostname.wildcardHostname)) := by
  rcases mem_ssl hw h with ⟨hsv, hkp⟩ | ⟨l, hl, hc, rfl, rfl⟩
  · left
    -- the server exists because a valid route attached to some listener of the port carries its name
    rw [gen_httpsPart hw] at hsv
    obtain ⟨ph, hph, rfl⟩ := List.mem_map.mp hsv
    obtain ⟨l0, hl0, hp0, r, hr, hv, hacc⟩ := mem_hostsOf hph
    obtain ⟨lT, hlT, hvalid, rfl⟩ := mem_projGw_listeners hl0
    have hcar : carries (projGw (validHttps s) gT) s.routes ph.2 lT = true := carries_iff.mpr ⟨r, hr, hv, hacc⟩
    have hsome := ownerOf_isSome (mem_portListeners.mpr ⟨hlT, hvalid, hp0⟩) hcar
    cases ho : ownerOf (projGw (validHttps s) gT) s.routes ((sslListeners s gT).filter (·.base.port == ph.1)) ph.2 with
    | none => rw [ho] at hsome; cases hsome
    | some w =>
      obtain ⟨hwm, hwc, hmax⟩ := ownerOf_spec ho
      obtain ⟨hwl, hwv, hwp⟩ := mem_portListeners.mp hwm
      exact ⟨w, hwl, hwv, hwp, hwc, hkp.trans (congrArg (·.bind kpOf) ho),
        fun l hl hv hp hc => hmax l (mem_portListeners.mpr ⟨hl, hv, hp⟩) hc⟩
  · obtain ⟨hl1, hl2⟩ := mem_sslListeners.mp hl
    exact Or.inr ⟨l, hl1, hl2, rfl, rfl, rfl, hc⟩

theorem oldestT_mapGw (f : GatewayT → List ListenerT) (l : List GatewayT) :
    oldestT (l.map (mapGw f)) = (oldestT l).map (mapGw f) := by
  induction l with
  | nil => rfl
  | cons g gs ih =>
    simp only [List.map_cons, oldestT, ih]
    cases oldestT gs with
    | none => rfl
    | some b =>
      simp only [Option.map_some]
      have : olderGw (bare (mapGw f b)) (bare (mapGw f g)) = olderGw (bare b) (bare g) := rfl
      rw [this]
      by_cases h : olderGw (bare b) (bare g) = true <;> simp [h]

theorem winnerT_mapScen (f : GatewayT → List ListenerT) (s : ScenarioT) :
    winnerT (mapScen f s) = (winnerT s).map (mapGw f) := by
  unfold winnerT
  have hc : classOurs (allPart (mapScen f s)) = classOurs (allPart s) := rfl
  rw [hc]
  split
  · have : (mapScen f s).gateways.filter (·.cls == (mapScen f s).cls) =
        (s.gateways.filter (·.cls == s.cls)).map (mapGw f) := by
      simp only [mapScen, List.filter_map]
      rfl
    rw [this, oldestT_mapGw]
  · rfl

theorem projGw_validHttps (s : ScenarioT) (gT : GatewayT) :
    projGw (validHttps s) gT = { bare gT with listeners := (sslListeners s gT).map (·.base) } := rfl

theorem sslPart_congr {s s' : ScenarioT} {gT gT' : GatewayT} (hw : winnerT s = some gT) (hw' : winnerT s' = some gT')
    (hid : bare gT' = bare gT) (hv : sslListeners s' gT' = sslListeners s gT)
    (hr : s'.routes = s.routes) (hsec : s'.secrets = s.secrets) :
    (genT s').ssl = (genT s).ssl ∧ (genT s').sslPorts = (genT s).sslPorts ∧ (genT s').keyPairs = (genT s).keyPairs := by
  rw [genT_some hw, genT_some hw', gen_httpsPart hw, gen_httpsPart hw', projGw_validHttps s' gT', hid, hv, hr, hsec]
  exact ⟨rfl, rfl, rfl⟩

theorem sslPart_none {s s' : ScenarioT} (hw : winnerT s = none) (hw' : winnerT s' = none) :
    (genT s').ssl = (genT s).ssl ∧ (genT s').sslPorts = (genT s).sslPorts ∧ (genT s').keyPairs = (genT s).keyPairs := by
  rw [genT_none hw, genT_none hw']
  exact ⟨rfl, rfl, rfl⟩

theorem conflicted_eq (g : GatewayT) (l : ListenerT) : conflicted g l = g.listeners.any fun o => clash o l := rfl

/-- filtering the listeners: a listener filter `keep` that keeps every valid HTTPS listener and, for every HTTPS
listener whose Secret resolves, every listener clashing with it, does not change the SSL part -/
theorem ssl_part_filter_invariant (s : ScenarioT) (keep : GatewayT → ListenerT → Bool)
    (ha : ∀ g l, l ∈ g.listeners → validHttps s g l = true → keep g l = true)
    (hb : ∀ g l o, l ∈ g.listeners → o ∈ g.listeners → l.https = true → resolution s g l = .ok → clash o l = true →
      keep g o = true) :
    let s' := mapScen (fun g => g.listeners.filter (keep g)) s
    (genT s').ssl = (genT s).ssl ∧ (genT s').sslPorts = (genT s).sslPorts ∧ (genT s').keyPairs = (genT s).keyPairs := by
  intro s'
  have hw' : winnerT s' = (winnerT s).map (mapGw fun g => g.listeners.filter (keep g)) := winnerT_mapScen _ s
  cases hw : winnerT s with
  | none => rw [hw] at hw'; exact sslPart_none hw hw'
  | some gT =>
    rw [hw] at hw'
    simp only [Option.map_some] at hw'
    -- a listener of the Gateway is as valid after the filtering as before
    have hvalid : ∀ l ∈ gT.listeners,
        validHttps s' (mapGw (fun g => g.listeners.filter (keep g)) gT) l = validHttps s gT l := by
      intro l hl
      unfold validHttps
      show (l.https && !conflicted _ l && decide (resolution s gT l = .ok)) = _
      by_cases hh : l.https = true
      · by_cases hr : resolution s gT l = .ok
        · -- whatever clashes with a resolved HTTPS listener is kept
          have hconf : conflicted (mapGw (fun g => g.listeners.filter (keep g)) gT) l = conflicted gT l :=
            Bool.eq_iff_iff.mpr (by
              simp only [conflicted_eq, mapGw, List.any_filter, List.any_eq_true, Bool.and_eq_true]
              exact ⟨fun ⟨o, ho, _, hc⟩ => ⟨o, ho, hc⟩, fun ⟨o, ho, hc⟩ => ⟨o, ho, hb gT l o hl ho hh hr hc, hc⟩⟩)
          rw [hconf]
        · simp [hr]
      · simp [hh]
    have hv : sslListeners s' (mapGw (fun g => g.listeners.filter (keep g)) gT) = sslListeners s gT := by
      simp only [sslListeners, mapGw, List.filter_filter]
      refine List.filter_congr fun l hl => ?_
      have := hvalid l hl
      simp only [mapGw] at this
      rw [this]
      cases hx : validHttps s gT l
      · simp
      · simp [ha gT l hl hx]
    exact sslPart_congr hw hw' rfl hv rfl rfl

theorem genT_http (s : ScenarioT) : (genT s).http = gen (httpPart s) := by
  unfold genT
  split <;> rfl

theorem httpPart_congr {s s' : ScenarioT} {gT gT' : GatewayT} (hw : winnerT s = some gT) (hw' : winnerT s' = some gT')
    (hg : projGw (fun g l => validHttp g l) gT' = projGw (fun g l => validHttp g l) gT) (hr : s'.routes = s.routes) :
    (genT s').http = (genT s).http := by
  rw [genT_http, genT_http, gen_httpPart hw, gen_httpPart hw', hg, hr]

theorem httpPart_none {s s' : ScenarioT} (hw : winnerT s = none) (hw' : winnerT s' = none) :
    (genT s').http = (genT s).http := by
  have h1 : winner (httpPart s) = none := by unfold httpPart; rw [winner_proj, hw]; rfl
  have h2 : winner (httpPart s') = none := by unfold httpPart; rw [winner_proj, hw']; rfl
  rw [genT_http, genT_http]
  simp only [gen, h1, h2]

theorem clash_erase (o l : ListenerT) : clash (eraseL o) (eraseL l) = clash o l := by
  simp [clash, eraseL, ListenerT.fieldsOK]

theorem validHttp_erase (g : GatewayT) (l : ListenerT) :
    validHttp (mapGw (fun g => g.listeners.map eraseL) g) (eraseL l) = validHttp g l := by
  unfold validHttp
  rw [conflicted_eq, conflicted_eq]
  simp only [mapGw, List.any_map]
  have : ((fun o => clash o (eraseL l)) ∘ eraseL) = fun o => clash o l := by
    funext o; exact clash_erase o l
  rw [this]
  rfl

theorem projGw_http_erase (g : GatewayT) :
    projGw (fun g l => validHttp g l) (mapGw (fun g => g.listeners.map eraseL) g) = projGw (fun g l => validHttp g l) g := by
  unfold projGw
  simp only [Gateway.mk.injEq]
  refine ⟨rfl, rfl, rfl, rfl, ?_⟩
  show ((g.listeners.map eraseL).filter _).map _ = _
  rw [List.filter_map, List.map_map]
  have h1 : ((fun l => validHttp (mapGw (fun g => g.listeners.map eraseL) g) l) ∘ eraseL) = fun l => validHttp g l := by
    funext l; exact validHttp_erase g l
  have h2 : ((fun (x : ListenerT) => x.base) ∘ eraseL) = fun x => x.base := by funext l; rfl
  rw [h1, h2]

/-- `(genT s).http` does not read the Secrets, the ReferenceGrants, or which Secret a listener names -/
theorem genT_http_eraseTls (s : ScenarioT) : (genT (eraseTls s)).http = (genT s).http := by
  have hw' : winnerT (eraseTls s) = (winnerT s).map (mapGw fun g => g.listeners.map eraseL) := winnerT_mapScen _ s
  cases hw : winnerT s with
  | none => rw [hw] at hw'; exact httpPart_none hw hw'
  | some gT =>
    rw [hw] at hw'
    exact httpPart_congr hw hw' (projGw_http_erase gT) rfl

theorem ssl_port_iff {s : ScenarioT} {gT : GatewayT} (hw : winnerT s = some gT) (p : Nat) :
    p ∈ (genT s).sslPorts ↔ ∃ l ∈ gT.listeners, validHttps s gT l = true ∧ l.base.port = p := by
  rw [genT_some hw, gen_httpsPart hw]
  simp only [List.mem_eraseDups, List.mem_map]
  constructor
  · rintro ⟨l0, hl0, rfl⟩
    obtain ⟨lT, h1, h2, rfl⟩ := mem_projGw_listeners hl0
    exact ⟨lT, h1, h2, rfl⟩
  · rintro ⟨l, hl, hv, rfl⟩
    refine ⟨l.base, ?_, rfl⟩
    simp only [projGw, List.mem_map, List.mem_filter]
    exact ⟨l, ⟨hl, hv⟩, rfl⟩

theorem nameCovers_covers {n q : Pipeline.Str} (hc : n ≠ NGF.NginxEval.catchAll) (h : nameCovers n q = true) :
    Tls.covers n q = true := by
  unfold nameCovers at h
  simp only [Bool.or_eq_true, beq_iff_eq] at h
  rcases h with (h | h) | h
  · exact absurd h hc
  · subst h; exact Tls.covers_self _
  · unfold NGF.NginxEval.wildCovers at h
    simp only [Bool.and_eq_true] at h
    have hw : Tls.isWild n = true := by
      rw [← Tls.isWild_eq_hostname]; exact h.1
    have hs := List.isSuffixOf_iff_suffix.mp h.2
    simp only [List.drop_one] at hs
    simp only [Tls.covers, hw, Bool.true_and, Bool.or_eq_true, decide_eq_true_eq, List.isSuffixOf_iff_suffix, List.drop_one]
    exact Or.inr hs

/-- the SSL server NGINX selects for an SNI name -/
theorem presented_some {c : ConfT} {p : Nat} {sni : Str} {kp : Option (List Char)}
    (hq : NGF.NginxEval.isWildName sni = false ∧ sni ≠ NGF.NginxEval.catchAll)
    (h : presented c p sni = some kp) (hk : kp ≠ none) :
    p ∈ c.sslPorts ∧ ∃ sv, (sv, kp) ∈ c.ssl ∧ sv.port = p ∧ nameCovers sv.name sni = true := by
  unfold presented at h
  by_cases hp : c.sslPorts.contains p = true
  · simp only [hp, Bool.not_true, Bool.false_eq_true, if_false] at h
    refine ⟨by simpa using hp, ?_⟩
    cases hsel : NGF.NginxEval.selectName ((c.ssl.filter (·.1.port == p)).map (·.1.name)) sni with
    | none => simp only [hsel] at h; cases h; exact absurd rfl hk
    | some n =>
      simp only [hsel] at h
      obtain ⟨_, hcov, _⟩ := selectName_most_specific hq hsel
      cases hf : (c.ssl.filter (·.1.port == p)).find? (·.1.name == n) with
      | none => simp only [hf] at h; cases h; exact absurd rfl hk
      | some sv =>
        simp only [hf, Option.some.injEq] at h
        have hm := List.mem_of_find?_eq_some hf
        have hn := List.find?_some hf
        simp only [List.mem_filter, beq_iff_eq] at hm
        simp only [beq_iff_eq] at hn
        refine ⟨sv.1, ?_, hm.2, by rw [hn]; exact hcov⟩
        rw [← h]; exact hm.1
  · have hp' : p ∉ c.sslPorts := by simpa using hp
    simp at h
    exact absurd h.1 hp'

/-- listeners of both protocol groups among `ls` on port `p` -/
def Mixed (ls : List ListenerT) (p : Nat) : Prop :=
  ∃ a ∈ ls, ∃ b ∈ ls, a.base.port = p ∧ b.base.port = p ∧ a.https ≠ b.https

/-- invariant of the resolver state after the listeners `done` were processed -/
structure PCInv (st : PCState) (done : List ListenerT) : Prop where
  owner : ∀ p, st.owner.lookup p = (done.find? (·.base.port == p)).map (·.https)
  conf : ∀ p, p ∈ st.conflictedPorts ↔ ∃ a ∈ done, ∃ b ∈ done, a.base.port = p ∧ b.base.port = p ∧ a.https ≠ b.https
  byPort : (∀ o ∈ done, o.base.port ∉ st.conflictedPorts → o ∈ st.byPort) ∧ (∀ o ∈ st.byPort, o ∈ done)
  invalid : ∀ o, o ∈ st.invalid ↔ o ∈ done ∧ o.base.port ∈ st.conflictedPorts

theorem mem_snoc {x l : ListenerT} {done : List ListenerT} : x ∈ done ++ [l] ↔ x ∈ done ∨ x = l := by
  rw [List.mem_append, List.mem_singleton]

/-- one more listener adds a conflict only on its own port, with an earlier listener of the other group -/
theorem mixed_snoc {done : List ListenerT} {l : ListenerT} {p : Nat} :
    Mixed (done ++ [l]) p ↔ Mixed done p ∨ (l.base.port = p ∧ ∃ a ∈ done, a.base.port = p ∧ a.https ≠ l.https) := by
  constructor
  · rintro ⟨a, ha, b, hb, h1, h2, h3⟩
    rcases mem_snoc.mp ha with ha' | rfl <;> rcases mem_snoc.mp hb with hb' | rfl
    · exact .inl ⟨a, ha', b, hb', h1, h2, h3⟩
    · exact .inr ⟨h2, a, ha', h1, h3⟩
    · exact .inr ⟨h1, b, hb', h2, Ne.symm h3⟩
    · exact absurd rfl h3
  · rintro (⟨a, ha, b, hb, h⟩ | ⟨hp, a, ha, hap, hne⟩)
    · exact ⟨a, mem_snoc.mpr (.inl ha), b, mem_snoc.mpr (.inl hb), h⟩
    · exact ⟨a, mem_snoc.mpr (.inl ha), l, mem_snoc.mpr (.inr rfl), hap, hp, hne⟩

theorem find?_port_append (done : List ListenerT) (l : ListenerT) (p : Nat) :
    ((done ++ [l]).find? (·.base.port == p)) =
      ((done.find? (·.base.port == p)).or (if l.base.port == p then some l else none)) := by
  rw [List.find?_append]
  congr 1
  by_cases h : (l.base.port == p) = true <;> simp [List.find?, h]

theorem find?_snoc_seen {done : List ListenerT} {l : ListenerT} (hs : ∃ a ∈ done, a.base.port = l.base.port) (p : Nat) :
    (done ++ [l]).find? (·.base.port == p) = done.find? (·.base.port == p) := by
  rw [find?_port_append]
  by_cases hp : l.base.port = p
  · obtain ⟨a, ha, hap⟩ := hs
    have : (done.find? (·.base.port == p)).isSome = true :=
      List.find?_isSome.mpr ⟨a, ha, by rw [hap, hp]; exact beq_self_eq_true p⟩
    cases hf : done.find? (·.base.port == p) with
    | none => rw [hf] at this; cases this
    | some x => rfl
  · rw [if_neg (by simpa using hp), Option.or_none]

theorem pcInv_step {st : PCState} {done : List ListenerT} (hi : PCInv st done) (l : ListenerT) :
    PCInv (pcStep st l) (done ++ [l]) := by
  obtain ⟨hA, hB, ⟨hC1, hC2⟩, hD⟩ := hi
  have hB : ∀ p, p ∈ st.conflictedPorts ↔ Mixed done p := hB
  -- what the four branches of `pcStep` share.  A port seen before keeps its owner:
  have howner : (∃ a ∈ done, a.base.port = l.base.port) →
      ∀ p, st.owner.lookup p = ((done ++ [l]).find? (·.base.port == p)).map (·.https) :=
    fun hs p => by rw [find?_snoc_seen hs]; exact hA p
  -- the conflicted ports stay when `l` clashes with nobody, or only on a port that is conflicted already:
  have hconf : (∀ a ∈ done, a.base.port = l.base.port → a.https ≠ l.https → Mixed done l.base.port) →
      ∀ p, p ∈ st.conflictedPorts ↔ Mixed (done ++ [l]) p := by
    intro hx p
    rw [hB p, mixed_snoc]
    exact ⟨Or.inl, fun h => h.elim id fun ⟨hp, a, ha, hap, hne⟩ => hp ▸ hx a ha (hap.trans hp.symm) hne⟩
  -- `l` joins `listenersByPort`, whatever ports become conflicted:
  have hby : ∀ cp' : List Nat, (∀ p ∈ st.conflictedPorts, p ∈ cp') →
      (∀ o ∈ done ++ [l], o.base.port ∉ cp' → o ∈ l :: st.byPort) ∧ (∀ o ∈ l :: st.byPort, o ∈ done ++ [l]) := by
    intro cp' hsub
    refine ⟨fun o ho hn => ?_, fun o ho => ?_⟩
    · rcases mem_snoc.mp ho with ho | rfl
      · exact List.mem_cons_of_mem _ (hC1 o ho fun h => hn (hsub _ h))
      · exact List.mem_cons_self
    · rcases List.mem_cons.mp ho with rfl | ho
      · exact mem_snoc.mpr (.inr rfl)
      · exact mem_snoc.mpr (.inl (hC2 o ho))
  -- nothing becomes invalid while the port of `l` is not conflicted:
  have hinv : l.base.port ∉ st.conflictedPorts →
      ∀ o, o ∈ st.invalid ↔ o ∈ done ++ [l] ∧ o.base.port ∈ st.conflictedPorts := by
    intro hn o
    rw [hD o, mem_snoc]
    exact ⟨fun ⟨h1, h2⟩ => ⟨.inl h1, h2⟩, fun ⟨h1, h2⟩ => ⟨h1.resolve_right fun e => hn (e ▸ h2), h2⟩⟩
  unfold pcStep
  by_cases hcp : st.conflictedPorts.contains l.base.port = true
  · -- the port is already conflicted: `l` becomes invalid
    have hcp' : l.base.port ∈ st.conflictedPorts := List.contains_iff_mem.mp hcp
    have hm := (hB _).mp hcp'
    have ⟨a, ha, _, _, hap, _, _⟩ := hm
    rw [if_pos hcp]
    refine ⟨howner ⟨a, ha, hap⟩, hconf fun _ _ _ _ => hm, ⟨fun o ho hn => ?_, fun o ho => mem_snoc.mpr (.inl (hC2 o ho))⟩,
      fun o => ?_⟩
    · rcases mem_snoc.mp ho with ho | rfl
      · exact hC1 o ho hn
      · exact absurd hcp' hn
    · rw [List.mem_cons, hD o, mem_snoc]
      exact ⟨fun h => h.elim (fun e => ⟨.inr e, e ▸ hcp'⟩) fun ⟨h1, h2⟩ => ⟨.inl h1, h2⟩,
        fun ⟨h1, h2⟩ => h1.elim (fun h => .inr ⟨h, h2⟩) .inl⟩
  · have hcp' : l.base.port ∉ st.conflictedPorts := fun h => hcp (List.contains_iff_mem.mpr h)
    rw [if_neg hcp]
    have hfind := (hA l.base.port).symm
    cases hlk : st.owner.lookup l.base.port with
    | none =>
      -- the first listener of the port: it owns the port
      rw [hlk] at hfind
      have hnone := Option.map_eq_none_iff.mp hfind
      have hno : ∀ o ∈ done, o.base.port ≠ l.base.port := fun o ho e => by
        simpa [e] using List.find?_eq_none.mp hnone o ho
      refine ⟨fun p => ?_, hconf fun a ha hap _ => absurd hap (hno a ha), hby _ fun _ h => h, hinv hcp'⟩
      rw [find?_port_append]
      by_cases hp : l.base.port = p
      · subst hp
        simp [List.lookup, hnone]
      · have hp2 : (p == l.base.port) = false := beq_eq_false_iff_ne.mpr (Ne.symm hp)
        simp [List.lookup, hp2, hp, hA p]
    | some grp =>
      -- the first listener `f` of the port decided the protocol group
      rw [hlk] at hfind
      obtain ⟨f, hff, hfg⟩ := Option.map_eq_some_iff.mp hfind
      have hfm : f ∈ done := List.mem_of_find?_eq_some hff
      have hfp : f.base.port = l.base.port := by simpa using List.find?_some hff
      dsimp only
      by_cases hg : (grp != l.https) = true
      · -- the other protocol group: the port becomes conflicted, with every listener seen on it
        have hne : f.https ≠ l.https := by rw [hfg]; simpa using hg
        rw [if_pos hg]
        refine ⟨howner ⟨f, hfm, hfp⟩, fun p => ?_, hby _ fun _ h => List.mem_cons_of_mem _ h, fun o => ?_⟩
        · show _ ↔ Mixed _ p
          rw [List.mem_cons, hB p, mixed_snoc]
          constructor
          · rintro (rfl | h)
            · exact .inr ⟨rfl, f, hfm, hfp, hne⟩
            · exact .inl h
          · rintro (h | ⟨hp, _⟩)
            · exact .inr h
            · exact .inl hp.symm
        · -- the port was not conflicted, so every listener seen on it is still in `listenersByPort`
          have hport : (o ∈ st.byPort ∧ o.base.port = l.base.port) ↔ (o ∈ done ∧ o.base.port = l.base.port) :=
            ⟨fun ⟨h1, h2⟩ => ⟨hC2 o h1, h2⟩, fun ⟨h1, h2⟩ => ⟨hC1 o h1 (h2 ▸ hcp'), h2⟩⟩
          simp only [List.mem_cons, List.mem_append, List.mem_filter, List.not_mem_nil, or_false, beq_iff_eq, hD o, hport]
          constructor
          · rintro (rfl | ⟨h1, h2⟩ | ⟨h1, h2⟩)
            · exact ⟨.inr rfl, .inl rfl⟩
            · exact ⟨.inl h1, .inl h2⟩
            · exact ⟨.inl h1, .inr h2⟩
          · rintro ⟨h1 | rfl, h2⟩
            · exact h2.elim (fun h2 => .inr (.inl ⟨h1, h2⟩)) fun h2 => .inr (.inr ⟨h1, h2⟩)
            · exact .inl rfl
      · -- the same protocol group
        have heq : f.https = l.https := by rw [hfg]; simpa using hg
        rw [if_neg hg]
        exact ⟨howner ⟨f, hfm, hfp⟩,
          hconf fun a ha hap hne => ⟨a, ha, f, hfm, hap, hfp, fun e => hne (e.trans heq)⟩, hby _ fun _ h => h, hinv hcp'⟩

theorem pcInv_foldl (ls : List ListenerT) : ∀ (st : PCState) (done : List ListenerT), PCInv st done →
    PCInv (ls.foldl pcStep st) (done ++ ls) := by
  induction ls with
  | nil => intro st done h; simpa using h
  | cons l ls ih =>
    intro st done h
    have := ih (pcStep st l) (done ++ [l]) (pcInv_step h l)
    simpa using this

theorem pcInv_run (ls : List ListenerT) : PCInv (pcRun ls) (ls.filter (·.fieldsOK)) := by
  have h0 : PCInv {} [] := ⟨by intro p; rfl, by intro p; simp, ⟨by simp, by simp⟩, by intro o; simp⟩
  simpa [pcRun] using pcInv_foldl (ls.filter (·.fieldsOK)) {} [] h0

end NGF.PipelineTls
