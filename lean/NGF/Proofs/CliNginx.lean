/-
The NGINX tokenizer (`lexFrom`, the model of `ngx_conf_read_token`) on lexically safe words, and from
there on the text of the mgmt template: every line of the block is `name arg;` with safe `name` and `arg`
(`lex_directive`), so the file parses to exactly the directives that were written.
-/
import NGF.Proofs.Cli
import NGF.Proofs.CharLits

namespace NGF.Cli
open NGF.CliSpec

theorem safeChar_facts {c : Char} (h : isSafeArgChar c = true) :
    isWs c = false ∧ c ≠ ';' ∧ c ≠ '{' ∧ c ≠ '}' ∧ c ≠ '#' ∧ c ≠ '"' ∧ c ≠ '\'' ∧ c ≠ '\\' ∧ c ≠ '$' := by
  rw [isSafeArgChar, String.toList_ofList] at h
  simp only [Bool.and_eq_true, decide_eq_true_eq, Bool.not_eq_true', contains_false_iff, List.mem_cons,
    List.not_mem_nil, or_false, not_or] at h
  obtain ⟨⟨lo, _⟩, a1, a2, a3, a4, a5, a6, a7, a8⟩ := h
  -- the four white-space bytes lie below the printable range
  have ws : ∀ d : Char, d.toNat < 33 → (c == d) = false := fun d hd => by
    simp only [beq_eq_false_iff_ne, ne_eq]; intro e; subst e; omega
  refine ⟨?_, a1, a2, a3, a7, a4, a5, a8, a6⟩
  simp only [isWs, ws ' ' (by decide), ws '\t' (by decide), ws '\r' (by decide), ws '\n' (by decide), Bool.or_self]

theorem lexFrom_seg {l l' : Lex} {a b : Str} (h : lexFrom l a = l') : lexFrom l (a ++ b) = lexFrom l' b := by
  subst h
  exact List.foldl_append ..

theorem step_bare_safe {toks : List Tok} {acc : Str} {c : Char} (h : isSafeArgChar c = true) :
    step ⟨toks, .bare acc⟩ c = ⟨toks, .bare (c :: acc)⟩ := by
  obtain ⟨w, a1, a2, _, _, _, _, a7, a8⟩ := safeChar_facts h
  simp [step, endBare, w, a1, a2, a7, a8]

theorem step_space_safe {toks : List Tok} {c : Char} (h : isSafeArgChar c = true) :
    step ⟨toks, .space⟩ c = ⟨toks, .bare [c]⟩ := by
  obtain ⟨w, a1, a2, a3, a4, a5, a6, a7, a8⟩ := safeChar_facts h
  simp [step, w, a1, a2, a3, a4, a5, a6, a7, a8]

theorem lex_bare_run {toks : List Tok} {acc w rest : Str} (hw : ∀ c ∈ w, isSafeArgChar c = true) :
    lexFrom ⟨toks, .bare acc⟩ (w ++ rest) = lexFrom ⟨toks, .bare (w.reverse ++ acc)⟩ rest := by
  induction w generalizing acc with
  | nil => rfl
  | cons c cs ih =>
    have hc := hw c (by simp)
    simp only [lexFrom, List.cons_append, List.foldl_cons, step_bare_safe hc]
    have := ih (acc := c :: acc) (fun x hx => hw x (by simp [hx]))
    simp only [lexFrom] at this
    rw [this]
    simp

theorem lex_ws {toks : List Tok} {c : Char} {rest : Str} (h : isWs c = true) :
    lexFrom ⟨toks, .space⟩ (c :: rest) = lexFrom ⟨toks, .space⟩ rest := by
  simp only [lexFrom, List.foldl_cons, step, h, if_true]

theorem lex_word {toks : List Tok} {w rest : Str} (e : Char) (hs : safeBareArg w = true) :
    lexFrom ⟨toks, .space⟩ (w ++ e :: rest) = lexFrom (step ⟨toks, .bare w.reverse⟩ e) rest := by
  simp only [safeBareArg, Bool.and_eq_true, Bool.not_eq_true', List.all_eq_true] at hs
  cases w with
  | nil => simp at hs
  | cons c cs =>
    have hcs : ∀ x ∈ cs, isSafeArgChar x = true := fun x hx => hs.2 x (by simp [hx])
    have h1 : lexFrom ⟨toks, .space⟩ (c :: cs ++ e :: rest) = lexFrom ⟨toks, .bare [c]⟩ (cs ++ e :: rest) := by
      simp only [lexFrom, List.cons_append, List.foldl_cons, step_space_safe (hs.2 c (by simp))]
    rw [h1, lex_bare_run hcs]
    simp [lexFrom]

theorem lex_directive {toks : List Tok} {name arg rest : Str} (hn : safeBareArg name = true)
    (ha : safeBareArg arg = true) :
    lexFrom ⟨toks, .space⟩ (name ++ ' ' :: (arg ++ ';' :: rest))
      = lexFrom ⟨.semi :: .word arg :: .word name :: toks, .space⟩ rest := by
  rw [lex_word ' ' hn]
  simp only [step, endBare, isWs, beq_self_eq_true, Bool.true_or, if_true, emit, List.reverse_reverse]
  rw [lex_word ';' ha]
  simp [step, endBare, isWs]

theorem safeBareArg_append {a b : Str} (ha : safeBareArg a = true) (hb : b.all isSafeArgChar = true) :
    safeBareArg (a ++ b) = true := by
  simp only [safeBareArg, Bool.and_eq_true, Bool.not_eq_true', List.all_eq_true] at ha hb ⊢
  refine ⟨by cases a <;> simp_all, ?_⟩
  intro c hc
  rcases List.mem_append.mp hc with m | m
  · exact ha.2 c m
  · exact hb c m

theorem safe_words : safeBareArg "resolver".toList = true ∧ safeBareArg "usage_report".toList = true ∧
    safeBareArg "endpoint=".toList = true := by decide_chars

theorem safe_endpoint_arg {v : Str} (hs : v.all isSafeArgChar = true) : safeBareArg ("endpoint=".toList ++ v) = true :=
  safeBareArg_append safe_words.2.2 hs

theorem lex_resolver {toks : List Tok} {v rest : Str} (hs : safeBareArg v = true) :
    lexFrom ⟨toks, .space⟩ ("resolver".toList ++ ' ' :: (v ++ ';' :: rest))
      = lexFrom ⟨.semi :: .word v :: .word "resolver".toList :: toks, .space⟩ rest :=
  lex_directive safe_words.1 hs

theorem lex_usage_report {toks : List Tok} {v rest : Str} (hs : v.all isSafeArgChar = true) :
    lexFrom ⟨toks, .space⟩ ("usage_report".toList ++ ' ' :: ("endpoint=".toList ++ v ++ ';' :: rest))
      = lexFrom ⟨.semi :: .word ("endpoint=".toList ++ v) :: .word "usage_report".toList :: toks, .space⟩ rest :=
  lex_directive safe_words.2.1 (safe_endpoint_arg hs)

theorem line_one_argument {name arg : Str} (hn : safeBareArg name = true) (ha : safeBareArg arg = true) :
    parseConf ('\t' :: (name ++ ' ' :: (arg ++ ';' :: ['\n']))) = some [.simple [name, arg]] := by
  rw [parseConf, tokens, lex_ws rfl, lex_directive hn ha]
  rfl

theorem usage_report_line_verbatim {v : Str} (hs : v.all isSafeArgChar = true) :
    parseConf ("\tusage_report endpoint=".toList ++ v ++ ";\n".toList) =
      some [.simple ["usage_report".toList, "endpoint=".toList ++ v]] := by
  have e : "\tusage_report endpoint=".toList ++ v ++ ";\n".toList =
      '\t' :: ("usage_report".toList ++ ' ' :: ("endpoint=".toList ++ v ++ ';' :: ['\n'])) := by
    -- the characters of the literals as in `NGF.Proofs.CharLits`, then a computation on lists
    repeat rw [String.toList_ofList]
    rfl
  rw [e]
  exact line_one_argument safe_words.2.1 (safe_endpoint_arg hs)

theorem safe_not_empty {s : Str} (h : safeBareArg s = true) : s.isEmpty = false := by
  simp only [safeBareArg, Bool.and_eq_true, Bool.not_eq_true'] at h; exact h.1

def epToks (ep : Str) : List Tok :=
  if ep.isEmpty then [] else [.word "usage_report".toList, .word ("endpoint=".toList ++ ep), .semi]

def resToks (res : Str) : List Tok :=
  if res.isEmpty then [] else [.word "resolver".toList, .word res, .semi]

def tailToks : List Tok :=
  [.word "license_token".toList, .word "/etc/nginx/secrets/license.jwt".toList, .semi,
   .word "deployment_context".toList, .word "/etc/nginx/main-includes/deployment_ctx.json".toList, .semi, .rbrace]

theorem seg_head (toks : List Tok) :
    lexFrom ⟨toks, .space⟩ "\nmgmt {".toList = ⟨.lbrace :: .word "mgmt".toList :: toks, .space⟩ := by
  repeat rw [String.toList_ofList]
  rfl

theorem seg_ep (toks : List Tok) {ep : Str} (h : ep = [] ∨ safeBareArg ep = true) :
    lexFrom ⟨toks, .space⟩ (if ep.isEmpty then [] else "\n\tusage_report endpoint=".toList ++ ep ++ ";".toList)
      = ⟨(epToks ep).reverse ++ toks, .space⟩ := by
  rcases h with rfl | h
  · rfl
  · have e : "\n\tusage_report endpoint=".toList ++ ep ++ ";".toList =
        '\n' :: '\t' :: ("usage_report".toList ++ ' ' :: ("endpoint=".toList ++ ep ++ ';' :: [])) := by
      repeat rw [String.toList_ofList]
      rfl
    have hall : ep.all isSafeArgChar = true := by
      simp only [safeBareArg, Bool.and_eq_true] at h; exact h.2
    simp only [epToks, safe_not_empty h, Bool.false_eq_true, if_false]
    rw [e, lex_ws rfl, lex_ws rfl, lex_usage_report hall]
    rfl

theorem seg_res (toks : List Tok) {res : Str} (h : res = [] ∨ safeBareArg res = true) :
    lexFrom ⟨toks, .space⟩ (if res.isEmpty then [] else "\n\tresolver ".toList ++ res ++ ";".toList)
      = ⟨(resToks res).reverse ++ toks, .space⟩ := by
  rcases h with rfl | h
  · rfl
  · have e : "\n\tresolver ".toList ++ res ++ ";".toList =
        '\n' :: '\t' :: ("resolver".toList ++ ' ' :: (res ++ ';' :: [])) := by
      repeat rw [String.toList_ofList]
      rfl
    simp only [resToks, safe_not_empty h, Bool.false_eq_true, if_false]
    rw [e, lex_ws rfl, lex_ws rfl, lex_resolver h]
    rfl

theorem seg_tail (toks : List Tok) :
    lexFrom ⟨toks, .space⟩ "\n\tlicense_token /etc/nginx/secrets/license.jwt;\n\tdeployment_context /etc/nginx/main-includes/deployment_ctx.json;\n}\n".toList
      = ⟨tailToks.reverse ++ toks, .space⟩ := by
  have e : "\n\tlicense_token /etc/nginx/secrets/license.jwt;\n\tdeployment_context /etc/nginx/main-includes/deployment_ctx.json;\n}\n".toList =
      '\n' :: '\t' :: ("license_token".toList ++ ' ' :: ("/etc/nginx/secrets/license.jwt".toList ++ ';' ::
        '\n' :: '\t' :: ("deployment_context".toList ++ ' ' ::
          ("/etc/nginx/main-includes/deployment_ctx.json".toList ++ ';' :: ['\n', '}', '\n'])))) := by
    repeat rw [String.toList_ofList]
    rfl
  have hw : safeBareArg "license_token".toList = true ∧ safeBareArg "/etc/nginx/secrets/license.jwt".toList = true ∧
      safeBareArg "deployment_context".toList = true ∧
      safeBareArg "/etc/nginx/main-includes/deployment_ctx.json".toList = true := by decide_chars
  rw [e, lex_ws rfl, lex_ws rfl, lex_directive hw.1 hw.2.1, lex_ws rfl, lex_ws rfl, lex_directive hw.2.2.1 hw.2.2.2]
  rfl

theorem tokens_render {ep res : Str} (hep : ep = [] ∨ safeBareArg ep = true)
    (hres : res = [] ∨ safeBareArg res = true) :
    tokens (renderMgmtRaw ep res) =
      some ([.word "mgmt".toList, .lbrace] ++ epToks ep ++ resToks res ++ tailToks) := by
  have h1 := (lexFrom_seg (seg_head [])).trans (seg_ep _ hep)
  have h2 := (lexFrom_seg h1).trans (seg_res _ hres)
  have h3 := (lexFrom_seg h2).trans (seg_tail _)
  unfold tokens renderMgmtRaw
  rw [h3]
  simp only [List.reverse_append, List.reverse_reverse, List.reverse_cons, List.reverse_nil, List.nil_append,
    List.cons_append, List.append_assoc]

/-- the directives written for the two values (`expectEp ++ expectRes` of `mgmtConfOK`) -/
def valueDirs (ep res : Str) : List Dir :=
  (if ep.isEmpty then [] else [Dir.simple ["usage_report".toList, "endpoint=".toList ++ ep]]) ++
  (if res.isEmpty then [] else [Dir.simple ["resolver".toList, res]])

theorem mem_valueDirs {ep res : Str} {d : Dir} (h : d ∈ valueDirs ep res) :
    d = .simple ["usage_report".toList, "endpoint=".toList ++ ep] ∨ d = .simple ["resolver".toList, res] := by
  rcases List.mem_append.mp h with h | h
  · by_cases e : ep.isEmpty = true
    · rw [if_pos e] at h; cases h
    · rw [if_neg e] at h; exact .inl (List.mem_singleton.mp h)
  · by_cases e : res.isEmpty = true
    · rw [if_pos e] at h; cases h
    · rw [if_neg e] at h; exact .inr (List.mem_singleton.mp h)

theorem parse_render {ep res : Str} (hep : ep = [] ∨ safeBareArg ep = true)
    (hres : res = [] ∨ safeBareArg res = true) :
    parseConf (renderMgmtRaw ep res) = some (.block ["mgmt".toList] :: (valueDirs ep res ++
      [.simple ["license_token".toList, "/etc/nginx/secrets/license.jwt".toList],
       .simple ["deployment_context".toList, "/etc/nginx/main-includes/deployment_ctx.json".toList]] ++ [.close])) := by
  rw [parseConf, tokens_render hep hres, epToks, resToks, valueDirs]
  cases ep.isEmpty <;> cases res.isEmpty <;> rfl

/-- the three tests of `mgmtConfOK` on the body of the block, for any test `p` of being a fixed directive -/
theorem block_shape {p : Dir → Bool} {E F : List Dir} (hE : ∀ d ∈ E, p d = false) (hF : ∀ d ∈ F, p d = true)
    (h2 : F.length ≥ 2) :
    ((E ++ F ++ [Dir.close]).getLast? == some Dir.close) = true ∧
    ((E ++ F ++ [Dir.close]).dropLast.filter (!p ·) == E) = true ∧
    decide (((E ++ F ++ [Dir.close]).dropLast.filter p).length ≥ 2) = true := by
  have h1 : E.filter (!p ·) = E := List.filter_eq_self.mpr fun d m => by simp [hE d m]
  have h3 : F.filter (!p ·) = [] := List.filter_eq_nil_iff.mpr fun d m => by simp [hF d m]
  have h4 : E.filter p = [] := List.filter_eq_nil_iff.mpr fun d m => by simp [hE d m]
  have h5 : F.filter p = F := List.filter_eq_self.mpr fun d m => hF d m
  simp [List.filter_append, h1, h3, h4, h5, h2]

/-- of the four directive names the template writes, which are among the fixed ones of `mgmtConfOK` -/
theorem fixed_names :
    let fixed := ["license_token", "deployment_context", "ssl_verify", "ssl_trusted_certificate",
      "ssl_certificate", "ssl_certificate_key"].map String.toList
    fixed.contains "usage_report".toList = false ∧ fixed.contains "resolver".toList = false ∧
    fixed.contains "license_token".toList = true ∧ fixed.contains "deployment_context".toList = true := by
  simp only [List.map]
  decide_chars

/-- The file the mgmt template produces for lexically safe (or absent) endpoint and resolver values
has exactly the intended directives with the values as single arguments. -/
theorem mgmtConfOK_render {ep res : Str} (hep : ep = [] ∨ safeBareArg ep = true)
    (hres : res = [] ∨ safeBareArg res = true) : mgmtConfOK (renderMgmtRaw ep res) ep res = true := by
  rw [mgmtConfOK, parse_render hep hres]
  simp only [beq_self_eq_true, Bool.true_and, Bool.and_eq_true]
  refine block_shape (E := valueDirs ep res) ?_ ?_ ?_
  · intro d hd
    rcases mem_valueDirs hd with rfl | rfl
    · exact fixed_names.1
    · exact fixed_names.2.1
  · intro d hd
    simp only [List.mem_cons, List.not_mem_nil, or_false] at hd
    rcases hd with rfl | rfl
    · exact fixed_names.2.2.1
    · exact fixed_names.2.2.2
  · exact Nat.le_refl 2

theorem nginxAddr_safe {v : Str} (h : v = [] ∨ safeBareArg v = true) :
    nginxAddr v = [] ∨ safeBareArg (nginxAddr v) = true := by
  unfold nginxAddr
  split
  · right
    rcases h with rfl | h
    · rename_i hc; simp at hc
    · simp only [safeBareArg, Bool.and_eq_true, Bool.not_eq_true', List.all_eq_true] at h ⊢
      exact ⟨rfl, List.forall_mem_cons.mpr ⟨by decide, List.forall_mem_append.mpr
        ⟨h.2, List.forall_mem_cons.mpr ⟨by decide, nofun⟩⟩⟩⟩
  · exact h

/-- the file `generateMgmtFiles` produces (values through `nginxAddr`) has exactly the intended directives -/
theorem mgmtConfOK_generated {ep res : Str} (hep : ep = [] ∨ safeBareArg ep = true)
    (hres : res = [] ∨ safeBareArg res = true) :
    mgmtConfOK (renderMgmt ep res) (nginxAddr ep) (nginxAddr res) = true :=
  mgmtConfOK_render (nginxAddr_safe hep) (nginxAddr_safe hres)

end NGF.Cli
