/-
C01 — soundness of the relevance predicates of the concrete instance `NGF.Store.Mini`
(footprint lemmas: `build` reads a Service only through a route that references it, a slice only
through a route that references its owner).
-/
import NGF.Model.StoreMini
import NGF.Proofs.Store

namespace NGF.Store.Mini

theorem gr_ext {g h : Gr} (h1 : ∀ r, g.rv r = h.rv r) (h2 : ∀ r sl, g.ep r sl = h.ep r sl)
    (h3 : ∀ k, g.refd k = h.refd k) : g = h := by
  cases g; cases h
  simp only [Gr.mk.injEq]
  exact ⟨funext h1, funext fun r => funext (h2 r), funext h3⟩

theorem lookup_refd : ∀ (rs : List (Nat × Nat)) (r k : Nat),
    rs.lookup r = some k → rs.any (·.2 == k) = true
  | [], _, _, h => by simp at h
  | (a, b) :: rs, r, k, h => by
    simp only [List.lookup] at h
    simp only [List.any_cons, Bool.or_eq_true]
    split at h
    · left; simp at h; simp [h]
    · right; exact lookup_refd rs r k h

theorem filter_of_lookup_none : ∀ (rs : List (Nat × Nat)) (r : Nat),
    rs.lookup r = none → rs.filter (·.1 != r) = rs
  | [], _, _ => rfl
  | (a, b) :: rs, r, h => by
    simp only [List.lookup] at h
    split at h
    · simp at h
    · next hne =>
      have : (a != r) = true := by
        simp only [bne_iff_ne, ne_eq]
        intro hab; subst hab; simp at hne
      simp [List.filter, this, filter_of_lookup_none rs r h]

theorem upd_none_of_none {β : Type} (f : Nat → Option β) (k : Nat) (h : f k = none) : upd f k none = f := by
  funext j
  simp only [upd]
  split
  · next hj => rw [hj, h]
  · rfl

theorem build_svc_irrelevant (c : Cl) (key : Nat) (v : Option Nat)
    (h : (build c).refd key = false) :
    build { c with svcs := upd c.svcs key v } = build c := by
  apply gr_ext
  · intro r
    simp only [build]
    cases hl : c.routes.lookup r with
    | none => rfl
    | some k =>
      have hk : (build c).refd k = true := lookup_refd _ _ _ hl
      have : k ≠ key := by intro hkk; rw [hkk, h] at hk; cases hk
      simp [upd, this]
  · intro r sl; rfl
  · intro k; rfl

theorem epOf_unreferenced (c : Cl) (r : Nat) (x : Option (Nat × Nat))
    (h : ∀ o a, x = some (o, a) → (build c).refd o = false) : epOf (c.routes.lookup r) x = none := by
  cases hl : c.routes.lookup r with
  | none => rfl
  | some k =>
    cases x with
    | none => rfl
    | some p =>
      have hne : p.1 ≠ k := fun hk => by
        have := h p.1 p.2 rfl
        rw [hk, show (build c).refd k = true from lookup_refd _ _ _ hl] at this
        cases this
      simp [epOf, hne]

theorem build_slice_irrelevant (c : Cl) (key : Nat) (new : Option (Nat × Nat))
    (hnew : ∀ o a, new = some (o, a) → (build c).refd o = false)
    (hold : ∀ o a, c.slices key = some (o, a) → (build c).refd o = false) :
    build { c with slices := upd c.slices key new } = build c := by
  apply gr_ext
  · intro r; rfl
  · intro r sl
    simp only [build, upd]
    by_cases hsl : sl = key
    · subst hsl
      rw [if_pos rfl, epOf_unreferenced c r new hnew, epOf_unreferenced c r _ hold]
    · rw [if_neg hsl]
  · intro k; rfl

/-- deleting an absent object leaves the store as it is (`storeAfter` returns early, the cluster agrees) -/
theorem storeRS_delete_absent (t : Cl) (e : Ev) (ho : e.obj = none)
    (hn : (getRS t e.kind e.key).isNone = true) : storeRS e t = t := by
  obtain ⟨kind, key, obj, orc⟩ := e
  simp only at ho hn
  subst ho
  cases kind with
  | slice => rfl
  | route =>
    simp only [getRS, Option.isNone_map, Option.isNone_iff_eq_none] at hn
    simp [storeRS, delRoute, filter_of_lookup_none _ _ hn]
  | svc =>
    simp only [getRS, Option.isNone_map, Option.isNone_iff_eq_none] at hn
    simp [storeRS, upd_none_of_none _ _ hn]

theorem sliceApply_other (e : Ev) (c : Cl) (h : e.kind ≠ .slice) : sliceApply e c = c := by
  obtain ⟨kind, key, obj, orc⟩ := e
  cases kind <;> simp_all [sliceApply]

theorem storeAfter_eq_storeRS (s : Cl) (e : Ev) : storeAfter ops s e = storeRS e s := by
  refine storeAfter_eq_store ops s e (fun hp => ?_) (storeRS_delete_absent s e)
  obtain ⟨kind, key, obj, orc⟩ := e
  cases kind
  · cases hp
  · cases hp
  · rfl

/-- PRE-FIX code: the relevance predicates are sound for every mutation except those that take a slice
away from a referenced Service (delete, or owner label change). -/
theorem sound_current : Sound ops build rel watchAll Eq adm :=
  sound_of_copy ops build rel adm (fun s e => storeAfter_eq_storeRS _ e) fun s e ha hv => by
    show build (storeRS e (sliceApply e s)) = build s
    obtain ⟨kind, key, obj, orc⟩ := e
    cases kind with
    | route =>
      -- no predicate: judged irrelevant only as the delete of an absent route
      cases obj with
      | some o => simp [verdict, ops] at hv
      | none =>
        have hn : (getRS s .route key).isNone = true := by simpa [verdict, ops, sliceApply] using hv
        exact congrArg build (storeRS_delete_absent s ⟨.route, key, none, orc⟩ rfl hn)
    | svc =>
      cases obj with
      | some o => exact build_svc_irrelevant s key _ (by simpa [verdict, ops, rel] using hv)
      | none =>
        by_cases hn : (getRS s .svc key).isNone = true
        · exact congrArg build (storeRS_delete_absent s ⟨.svc, key, none, orc⟩ rfl hn)
        · exact build_svc_irrelevant s key none (by simpa [verdict, ops, rel, sliceApply, hn] using hv)
    | slice =>
      simp only [adm] at ha
      refine build_slice_irrelevant s key _ (fun o a hnew => ?_) (fun o a hold => ?_)
      · cases obj with
        | none => cases hnew
        | some ob =>
          cases hnew
          simpa [verdict, ops, rel] using hv
      · simp only [hold] at ha
        cases obj with
        | none => simpa using ha
        | some ob =>
          simp only [Option.map_some, beq_iff_eq, Option.some.injEq, Bool.or_eq_true, Bool.not_eq_true'] at ha
          rcases ha with h | h
          · rw [← h]; simpa [verdict, ops, rel] using hv
          · exact h

theorem storeR_delete_absent (s : Cl) (e : Ev) (ho : e.obj = none)
    (hn : (opsR.get s e.kind e.key).isNone = true) : opsR.store e s = s := by
  show sliceApply e (storeRS e s) = s
  obtain ⟨kind, key, obj, orc⟩ := e
  simp only at ho; subst ho
  cases kind with
  | slice =>
    have h0 : s.slices key = none := by simpa [opsR] using hn
    simp [storeRS, sliceApply, upd_none_of_none _ _ h0]
  | route => exact storeRS_delete_absent s ⟨.route, key, none, orc⟩ rfl hn
  | svc => exact storeRS_delete_absent s ⟨.svc, key, none, orc⟩ rfl hn

/-- The code in the tree (slices persisted, predicate sees stored and new object): sound for EVERY mutation. -/
theorem sound_repaired : Sound opsR build relR watchAll Eq (fun _ _ => true) :=
  sound_of_copy opsR build relR _
    (fun s e => storeAfter_eq_store opsR s e (fun hp => nomatch hp) (storeR_delete_absent s e)) fun s e _ hv => by
    show build (sliceApply e (storeRS e s)) = build s
    rcases verdict_false (fun _ => rfl) rfl hv with ⟨ho, hn⟩ | ⟨hp, hr⟩
    · exact congrArg build (storeR_delete_absent s e ho hn)
    · obtain ⟨kind, key, obj, orc⟩ := e
      cases kind with
      | route => cases hp
      | svc =>
        have hr : (build s).refd key = false := hr
        cases obj <;> exact build_svc_irrelevant s key _ hr
      | slice =>
        simp only [relR, opsR, Bool.or_eq_false_iff] at hr
        refine build_slice_irrelevant s key (obj.map fun o => (o.ref, o.val)) (fun o a hnew => ?_) (fun o a hold => ?_)
        · cases obj with
          | none => cases hnew
          | some ob => cases hnew; exact hr.1
        · simpa [hold] using hr.2

end NGF.Store.Mini
