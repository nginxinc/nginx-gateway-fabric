/-
C01 over the pipeline model — helper lemmas for `NGF.Model.StorePipeline`: keyed lists; what a Service / EndpointSlice
event at an unreferenced key leaves unchanged (configuration: `PipelineRefs.genR_services_congr`; upstreams; statuses); and
`Sound` for the instantiated store machine.
-/
import NGF.Model.StorePipeline
import NGF.Proofs.Store
import NGF.Proofs.PipelineRefs
import NGF.Proofs.PipelineEndpoints
import NGF.Proofs.PipelineStatus

namespace NGF.StorePipeline
open NGF.Store
open NGF.Pipeline (Gateway winner)
open NGF.PipelineRefs
open NGF.PipelineEndpoints
open NGF.RefGrant (Grant GBackendRef)

variable {α β : Type}

theorem find?_eraseP_disjoint (p q : α → Bool) : ∀ (l : List α), (∀ a ∈ l, q a = true → p a = false) →
    (l.eraseP q).find? p = l.find? p
  | [], _ => rfl
  | a :: l, h => by
    by_cases hq : q a = true
    · have hp := h a List.mem_cons_self hq
      simp [hq, hp]
    · have ih := find?_eraseP_disjoint p q l (fun b hb => h b (List.mem_cons_of_mem _ hb))
      simp [hq, List.find?_cons, ih]

theorem find?_flatMap_eraseP (f : α → List β) (p : β → Bool) (q : α → Bool) : ∀ (l : List α),
    (∀ a ∈ l, q a = true → ∀ b ∈ f a, p b = false) →
    ((l.eraseP q).flatMap f).find? p = (l.flatMap f).find? p
  | [], _ => rfl
  | a :: l, h => by
    by_cases hq : q a = true
    · have hp : (f a).find? p = none := by
        rw [List.find?_eq_none]; intro b hb; simp [h a List.mem_cons_self hq b hb]
      simp [hq, List.flatMap_cons, List.find?_append, hp]
    · have ih := find?_flatMap_eraseP f p q l (fun b hb => h b (List.mem_cons_of_mem _ hb))
      simp [hq, List.flatMap_cons, List.find?_append, ih]

theorem kDel_of_kGet_none (key : α → Key) (k : Key) (l : List α) (h : kGet key k l = none) : kDel key k l = l := by
  unfold kGet at h; unfold kDel
  rw [List.find?_eq_none] at h
  exact List.eraseP_of_forall_not (fun a ha => by simpa using h a ha)

theorem kDel_split (key : α → Key) (k : Key) (l : List α) (x : α) (h : kGet key k l = some x) :
    key x = k ∧ ∃ l1 l2, l = l1 ++ x :: l2 ∧ kDel key k l = l1 ++ l2 := by
  unfold kGet at h; unfold kDel
  induction l with
  | nil => simp at h
  | cons a l ih =>
    by_cases ha : (key a == k) = true
    · simp only [List.find?_cons, ha] at h
      cases h
      exact ⟨by simpa using ha, [], l, rfl, by simp [ha]⟩
    · simp only [List.find?_cons, ha] at h
      obtain ⟨hk, l1, l2, e1, e2⟩ := ih h
      exact ⟨hk, a :: l1, l2, by rw [e1]; rfl, by simp [ha, e2]⟩

/-- the `spec.ports` entry `servicePort` looks for -/
def portPred (ns name : String) (port : Nat) (i : PortInfo) : Bool := i.ns == ns && i.name == name && i.sp.port == port

/-- `l'` answers every lookup at keys other than `k` as `l` does: `services[svcNsName]` and the `spec.ports` entries -/
structure OffKey (k : Key) (l l' : List SvcObj) : Prop where
  svc : ∀ ns name, (ns, name) ≠ k → lookupSvc (l'.map toService) ns name = lookupSvc (l.map toService) ns name
  port : ∀ ns name port, (ns, name) ≠ k →
    (l'.flatMap toPorts).find? (portPred ns name port) = (l.flatMap toPorts).find? (portPred ns name port)

theorem svcPred_false {a : SvcObj} {k : Key} {ns name : String} (hq : (svcKey a == k) = true) (hne : (ns, name) ≠ k) :
    ((toService a).ns == ns && (toService a).name == name) = false :=
  Bool.eq_false_iff.2 fun h => by
    simp only [Bool.and_eq_true, beq_iff_eq, toService] at h hq
    exact hne (by rw [← hq, svcKey, h.1, h.2])

theorem portPred_false {a : SvcObj} {k : Key} {ns name : String} {port : Nat} (hq : (svcKey a == k) = true)
    (hne : (ns, name) ≠ k) : ∀ b ∈ toPorts a, portPred ns name port b = false := by
  intro b hb
  simp only [toPorts, List.mem_map] at hb
  obtain ⟨sp, _, rfl⟩ := hb
  simp only [portPred, show (a.ns == ns && a.name == name) = false from svcPred_false hq hne, Bool.false_and]

theorem offKey_kDel (k : Key) (l : List SvcObj) : OffKey k l (kDel svcKey k l) where
  svc ns name hne := by
    unfold lookupSvc kDel
    rw [List.find?_map, List.find?_map]
    congr 1
    exact find?_eraseP_disjoint _ _ l (fun a _ hq => svcPred_false hq hne)
  port ns name port hne := by
    unfold kDel
    exact find?_flatMap_eraseP toPorts _ _ l (fun a _ hq => portPred_false hq hne)

theorem offKey_kPut (x : SvcObj) (l : List SvcObj) : OffKey (svcKey x) l (kPut svcKey x l) where
  svc ns name hne := by
    have h0 := svcPred_false (a := x) (k := svcKey x) (by simp) hne
    have := (offKey_kDel (svcKey x) l).svc ns name hne
    unfold kPut
    unfold lookupSvc at this ⊢
    rw [List.map_cons, List.find?_cons, h0]
    exact this
  port ns name port hne := by
    have h0 : (toPorts x).find? (portPred ns name port) = none := by
      rw [List.find?_eq_none]; intro b hb
      simp [portPred_false (a := x) (k := svcKey x) (by simp) hne b hb]
    have := (offKey_kDel (svcKey x) l).port ns name port hne
    unfold kPut
    rw [List.flatMap_cons, List.find?_append, h0]
    simpa using this

def withSvcs (c : PCl) (l' : List SvcObj) : PCl := { c with svcs := l' }

theorem referencedServices_services (c : ScenarioR) (svcs' : List Service) :
    referencedServices { c with services := svcs' } = referencedServices c := by
  unfold referencedServices
  rw [show winner (resolve { c with services := svcs' }) = winner (resolve c) from winner_resolve c c.grants svcs']

/-- C06's `referencedServices` (read off `winner`) is contained in the graph's `ReferencedServices` -/
theorem referencedServices_subset {c : ScenarioR} {k : Key} (h : k ∈ referencedServices c) : k ∈ referencedSvcs c := by
  unfold referencedServices at h
  unfold referencedSvcs
  cases hw : winner (resolve c) with
  | none => simp [hw] at h
  | some g =>
    rw [PipelineStatus.graphGateway_of_winner hw]
    simpa [hw] using h

theorem not_referencedServices {c : ScenarioR} {k : Key} (h : k ∉ referencedSvcs c) : k ∉ referencedServices c :=
  fun hm => h (referencedServices_subset hm)

theorem backend_referenced {c : ScenarioE} {b : GBackendRef} (hb : b ∈ backends c) :
    (b.svcNs, b.svcName) ∈ referencedServices c.base := by
  obtain ⟨_, g, hw, r, hr, hatt, ru, hru, refs, hact, ref, href, hns, hname, hok, _⟩ := backends_provenance hb
  rw [hns, hname]
  exact mem_referencedServices hw hr hatt hru hact href hok

section
variable (c : PCl) {k : Key} {l' : List SvcObj} (hoff : OffKey k c.svcs l')
include hoff

theorem backends_offKey (hk : k ∉ referencedServices c.toR) : backends (withSvcs c l').toE = backends c.toE := by
  unfold backends
  have hw : winner (resolve (withSvcs c l').toE.base) = winner (resolve c.toE.base) :=
    winner_resolve c.toR c.grants (l'.map toService)
  rw [hw]
  cases hwg : winner (resolve c.toE.base) with
  | none => rfl
  | some g =>
    simp only
    apply flatMap_congr_mem
    intro l hl
    show ((c.routes.filter (attachedAt g l)).flatMap (routeBackends (withSvcs c l').toE)) =
         ((c.routes.filter (attachedAt g l)).flatMap (routeBackends c.toE))
    apply flatMap_congr_mem
    intro r hr
    obtain ⟨hr, ha⟩ := List.mem_filter.mp hr
    have hatt : attached g r = true := attached_iff.mpr ⟨l, hl, ha⟩
    unfold routeBackends
    apply flatMap_congr_mem
    intro ru hru
    cases hact : ru.action with
    | redirect code sch hst p => rfl
    | forward refs =>
      refine congrArg (List.filter _) (List.map_congr_left fun ref href => ?_)
      exact resolveRef_services_congr fun hok => hoff.svc _ _ fun hkey =>
        hk (hkey ▸ mem_referencedServices (c := c.toR) hwg hr hatt hru hact href hok)

theorem upstreamsOf_offKey (hk : k ∉ referencedServices c.toR) : upstreamsOf (withSvcs c l').toE = upstreamsOf c.toE := by
  unfold upstreamsOf
  rw [backends_offKey c hoff hk]
  apply dedupByName_congr
  intro b hb
  have hne : (b.svcNs, b.svcName) ≠ k := fun e => hk (e ▸ backend_referenced hb)
  have hp : servicePort (withSvcs c l').toE b.svcNs b.svcName b.port = servicePort c.toE b.svcNs b.svcName b.port :=
    congrArg (fun o : Option PortInfo => match o with | some i => i.sp | none => ⟨"", b.port, .int 0⟩)
      (hoff.port b.svcNs b.svcName b.port hne)
  unfold toUp
  rw [hp]
  rfl

end

/-- everything of a route that attachment / binding / the status keys read — all but the rules -/
structure SameShell (a b : Pipeline.Route) : Prop where
  ns : a.ns = b.ns
  name : a.name = b.name
  parents : a.parents = b.parents
  hostnames : a.hostnames = b.hostnames

/-- everything of a scenario the statuses read besides its routes -/
structure SameFrame (s t : Pipeline.Scenario) : Prop where
  cls : s.cls = t.cls
  ctlr : s.ctlr = t.ctlr
  classes : s.classes = t.classes
  gateways : s.gateways = t.gateways

theorem SameFrame.symm {s t : Pipeline.Scenario} (h : SameFrame s t) : SameFrame t s :=
  ⟨h.cls.symm, h.ctlr.symm, h.classes.symm, h.gateways.symm⟩

open NGF.PipelineStatus

theorem graphGateway_frame {s t : Pipeline.Scenario} (h : SameFrame s t) : graphGateway s = graphGateway t := by
  unfold graphGateway classState Pipeline.classOurs ours
  rw [h.cls, h.ctlr, h.classes, h.gateways]

theorem ours_frame {s t : Pipeline.Scenario} (h : SameFrame s t) : ours s = ours t := by
  unfold ours; rw [h.cls, h.gateways]

theorem sectionNameRefs_congr {s t : Pipeline.Scenario} (h : SameFrame s t) {a b : Pipeline.Route} (hp : a.parents = b.parents) :
    sectionNameRefs s a = sectionNameRefs t b := by
  unfold sectionNameRefs namesOurs
  rw [ours_frame h, hp]

theorem bindOne_shell (g : Gateway) {a b : Pipeline.Route} (h : SameShell a b) (l : Pipeline.Listener) :
    bindOne g a l = bindOne g b l := by
  unfold bindOne Pipeline.nsAllowed
  rw [h.ns, h.hostnames]

theorem boundListeners_shell (gw : Gateway) (v : Bool) {a b : Pipeline.Route} (h : SameShell a b) (p : Pipeline.Parent) :
    boundListeners gw v a p = boundListeners gw v b p := by
  unfold boundListeners
  simp only [bindOne_shell gw h]

theorem routeConds_congr {a b : Pipeline.Route} (hv : a.valid = b.valid) (hr : a.rules = b.rules) : routeConds a = routeConds b := by
  unfold routeConds; rw [hv, hr]

/-- the status of a route depends on its rules only when it bears a status (and then only through `routeConds`) -/
theorem routeParentStatuses_congr {s t : Pipeline.Scenario} (hf : SameFrame s t) {a b : Pipeline.Route} (hs : SameShell a b)
    (hc : statusBearing s a = true → routeConds a = routeConds b) (e : Bool) (g : Int) :
    routeParentStatuses s e g a = routeParentStatuses t e g b := by
  unfold routeParentStatuses
  rw [← graphGateway_frame hf, ← sectionNameRefs_congr hf hs.parents, ← hf.ctlr]
  cases hg : graphGateway s with
  | none => rfl
  | some gg =>
    obtain ⟨gw, v⟩ := gg
    simp only
    cases hsn : sectionNameRefs s a with
    | none => rfl
    | some refs =>
      cases refs with
      | nil => rfl
      | cons p ps =>
        simp only
        have hb : statusBearing s a = true := by simp [statusBearing, hg, hsn]
        have hp : toPrepRef gw v a = toPrepRef gw v b := by
          funext p
          simp only [toPrepRef, attachment, tryAttach, bindOne_shell gw hs]
        rw [← hc hb, hp]

theorem listenerRoutes_map_congr (s t : Pipeline.Scenario) (hf : SameFrame s t) (xs : List α) (f f' : α → Pipeline.Route)
    (hs : s.routes = xs.map f) (ht : t.routes = xs.map f') (h : ∀ x ∈ xs, SameShell (f x) (f' x))
    (gw : Gateway) (l : Pipeline.Listener) :
    (listenerRoutes s gw l).map routeKeyStr = (listenerRoutes t gw l).map routeKeyStr := by
  unfold listenerRoutes
  rw [hs, ht, List.filter_map, List.filter_map, List.map_map, List.map_map]
  refine (congrArg _ (List.filter_congr fun x hx => ?_)).trans (List.map_congr_left fun x hx => ?_)
  · simp only [Function.comp]
    rw [sectionNameRefs_congr hf (h x hx).parents]
    cases sectionNameRefs t (f' x) with
    | none => rfl
    | some refs => simp only [boundListeners_shell gw true (h x hx)]
  · have hx := (List.mem_filter.mp hx).1
    simp only [Function.comp, routeKeyStr, (h x hx).ns, (h x hx).name]

theorem gatewayStatus_congr (s t : Pipeline.Scenario) (hf : SameFrame s t) (xs : List α) (f f' : α → Pipeline.Route)
    (hs : s.routes = xs.map f) (ht : t.routes = xs.map f') (h : ∀ x ∈ xs, SameShell (f x) (f' x)) (e : Bool) (g : Int) :
    gatewayStatus s e g = gatewayStatus t e g := by
  have hp : ∀ gw v, toPrepGateway s gw v g = toPrepGateway t gw v g := by
    intro gw v
    unfold toPrepGateway
    simp only [listenerRoutes_map_congr s t hf xs f f' hs ht h gw]
  unfold gatewayStatus
  simp only [graphGateway_frame hf, hp]

theorem statusBearing_congr {s t : Pipeline.Scenario} (hf : SameFrame s t) {a b : Pipeline.Route} (hp : a.parents = b.parents) :
    statusBearing s a = statusBearing t b := by
  unfold statusBearing
  rw [graphGateway_frame hf, sectionNameRefs_congr hf hp]

theorem sameFrame_withSvcs (c : PCl) (l' : List SvcObj) : SameFrame (resolve (withSvcs c l').toR) (resolve c.toR) :=
  ⟨rfl, rfl, rfl, rfl⟩

theorem sameShell_resolveRoute (gs gs' : List Grant) (svcs svcs' : List Service) (r : RouteR) :
    SameShell (resolveRoute gs svcs r) (resolveRoute gs' svcs' r) := ⟨rfl, rfl, rfl, rfl⟩

theorem svcCovered_spec {c : PCl} (h : svcCovered c = true) {r : RouteR} (hr : r ∈ c.routes) (hv : r.valid = true)
    (hb : statusBearing (resolve c.toR) (shell r) = true) {k : Key} (hk : k ∈ routeSvcNames c.grants r) :
    k ∈ referencedSvcs c.toR := by
  unfold svcCovered at h
  have := List.all_eq_true.mp h r hr
  simp only [hv, hb, Bool.and_self, Bool.not_true, Bool.false_or, List.all_eq_true] at this
  exact List.contains_iff_mem.mp (this k hk)

section
variable (c : PCl) {k : Key} {l' : List SvcObj} (hoff : OffKey k c.svcs l')
include hoff

theorem routeConds_offKey (hk : k ∉ referencedSvcs c.toR) (hcov : svcCovered c = true) {r : RouteR} (hr : r ∈ c.routes)
    (hb : statusBearing (resolve c.toR) (shell r) = true) :
    routeConds (resolveRoute c.grants (l'.map toService) r) = routeConds (resolveRoute c.grants (c.svcs.map toService) r) := by
  cases hv : r.valid with
  | false => simp [routeConds, resolveRoute, hv]
  | true =>
    refine routeConds_congr (a := resolveRoute c.grants (l'.map toService) r)
      (b := resolveRoute c.grants (c.svcs.map toService) r) rfl (List.map_congr_left fun ru hru => ?_)
    exact congrArg (Pipeline.Rule.mk ru.ms) (resolveAction_services_congr ru.action fun refs hact ref href hok =>
      hoff.svc _ _ fun hkey => hk (hkey ▸ svcCovered_spec hcov hr hv hb (mem_routeSvcNames hru hact href hok)))

theorem routeStatuses_offKey (hk : k ∉ referencedSvcs c.toR) (hcov : svcCovered c = true) :
    routeStatuses (resolve (withSvcs c l').toR) = routeStatuses (resolve c.toR) := by
  unfold routeStatuses
  show (c.routes.map (resolveRoute c.grants (l'.map toService))).map _ = (c.routes.map (resolveRoute c.grants (c.svcs.map toService))).map _
  rw [List.map_map, List.map_map]
  apply List.map_congr_left
  intro r hr
  refine congrArg (Prod.mk _) ?_
  apply routeParentStatuses_congr (sameFrame_withSvcs c l') (sameShell_resolveRoute _ _ _ _ r)
  intro hb
  apply routeConds_offKey c hoff hk hcov hr
  rw [← hb]
  exact statusBearing_congr (sameFrame_withSvcs c l').symm rfl

/-- **One rebuild does not see a Service change at an unreferenced key** — configuration, upstreams, `ReferencedServices`;
and the statuses too, as long as every Service a status-bearing route names is covered by `ReferencedServices`. -/
theorem pBuild_offKey (st : Bool) (hk : k ∉ referencedSvcs c.toR) (hcov : st = true → svcCovered c = true) :
    pBuild st (withSvcs c l') = pBuild st c := by
  have hconf : Pipeline.gen (resolve (withSvcs c l').toR) = Pipeline.gen (resolve c.toR) :=
    genR_services_congr c.toR (l'.map toService) k.1 k.2 (not_referencedServices hk) fun ns name hne =>
      hoff.svc ns name fun e => hne ⟨congrArg Prod.fst e, congrArg Prod.snd e⟩
  have hups := upstreamsOf_offKey c hoff (not_referencedServices hk)
  have hrefd : referencedSvcs (withSvcs c l').toR = referencedSvcs c.toR := by
    unfold referencedSvcs
    rw [graphGateway_frame (sameFrame_withSvcs c l')]
    rfl
  cases st with
  | false => simp only [pBuild, hconf, hups, hrefd, Bool.false_eq_true, if_false]
  | true =>
    have hroutes := routeStatuses_offKey c hoff hk (hcov rfl)
    have hgw := gatewayStatus_congr (resolve (withSvcs c l').toR) (resolve c.toR) (sameFrame_withSvcs c l') c.routes
      (resolveRoute c.grants (l'.map toService)) (resolveRoute c.grants (c.svcs.map toService)) rfl rfl
      (fun r _ => sameShell_resolveRoute _ _ _ _ r) false 0
    have hign : ignoredGateways (resolve (withSvcs c l').toR) = ignoredGateways (resolve c.toR) := by
      unfold ignoredGateways
      rw [graphGateway_frame (sameFrame_withSvcs c l'), ours_frame (sameFrame_withSvcs c l')]
    simp only [pBuild, hconf, hups, hroutes, hgw, hign, hrefd, if_true]

end

def withSlices (c : PCl) (l' : List SliceObj) : PCl := { c with slices := l' }

/-- inserting (read from right to left: removing) ONE slice whose owner is not referenced changes nothing of a rebuild:
`endpointslice_irrelevant_inert` of C13 with the hypothesis the relevance predicate actually provides -/
theorem pBuild_slice_insert (st : Bool) (c : PCl) (l1 l2 : List SliceObj) (x : SliceObj) (hs : c.slices = l1 ++ l2)
    (h : (x.slice.ns, ownerName x.slice) ∉ referencedSvcs c.toR) :
    pBuild st (withSlices c (l1 ++ x :: l2)) = pBuild st c := by
  have hu : upstreamsOf (withSlices c (l1 ++ x :: l2)).toE = upstreamsOf c.toE := by
    unfold upstreamsOf
    rw [show backends (withSlices c (l1 ++ x :: l2)).toE = backends c.toE from rfl]
    apply dedupByName_congr
    intro b hb
    unfold toUp
    rw [show (withSlices c (l1 ++ x :: l2)).toE.slices = l1.map (·.slice) ++ x.slice :: l2.map (·.slice) by
          simp [withSlices, PCl.toE],
      show c.toE.slices = l1.map (·.slice) ++ l2.map (·.slice) by simp [PCl.toE, hs],
      upstreamEndpoints_insert _ _ fun ⟨e1, e2⟩ => h (referencedServices_subset (by
        rw [ownerName, e2, e1]; exact backend_referenced hb))]
    rfl
  unfold pBuild
  rw [hu]
  rfl

theorem withSlices_self (c : PCl) : withSlices c c.slices = c := by cases c; rfl

theorem pBuild_slice_del (st : Bool) (c : PCl) (key : Key) :
    (∀ y, kGet sliceKey key c.slices = some y → (key.1, ownerName y.slice) ∉ referencedSvcs c.toR) →
    pBuild st (withSlices c (kDel sliceKey key c.slices)) = pBuild st c := by
  intro h
  cases hg : kGet sliceKey key c.slices with
  | none => rw [kDel_of_kGet_none _ _ _ hg, withSlices_self]
  | some y =>
    obtain ⟨hy, l1, l2, e1, e2⟩ := kDel_split sliceKey key c.slices y hg
    rw [e2]
    have := pBuild_slice_insert st (withSlices c (l1 ++ l2)) l1 l2 y rfl
      (by rw [show y.slice.ns = key.1 from hy ▸ rfl]; exact h y hg)
    rw [← this]
    show pBuild st (withSlices c (l1 ++ y :: l2)) = pBuild st c
    rw [← e1, withSlices_self]

/-- creating or replacing the slice of a key: the stored slice of the key goes, then the new one comes — neither is
seen by a rebuild when its owner is not referenced -/
theorem pBuild_slice_put (st : Bool) (c : PCl) (x : SliceObj)
    (hnew : (x.slice.ns, ownerName x.slice) ∉ referencedSvcs c.toR)
    (hold : ∀ y, kGet sliceKey (sliceKey x) c.slices = some y → (x.slice.ns, ownerName y.slice) ∉ referencedSvcs c.toR) :
    pBuild st (withSlices c (kPut sliceKey x c.slices)) = pBuild st c :=
  (pBuild_slice_insert st (withSlices c (kDel sliceKey (sliceKey x) c.slices)) [] _ x rfl hnew).trans
    (pBuild_slice_del st c (sliceKey x) hold)

theorem not_referenced_of_sliceReferenced {refd : List Key} {ns : String} {y : SliceObj}
    (h : sliceReferenced refd ns (some (.slice y)) = false) : (ns, ownerName y.slice) ∉ refd :=
  fun hm => by rw [sliceReferenced, List.contains_iff_mem.mpr hm] at h; cases h

theorem pStore_delete_absent (c : PCl) (e : PEvent) (ho : e.obj = none) (hn : (getObj c e.kind e.key).isNone = true) :
    pOps.store e c = c := by
  show (match e.obj with | some o => putObj o c | none => delKey e.kind e.key c) = c
  rw [ho]
  show delKey e.kind e.key c = c
  generalize e.kind = k at hn
  cases k <;> simp only [delKey, kDel_of_kGet_none _ _ _ (by simpa [getObj] using hn)]

theorem wfEvent_some {k : PKind} {key : Key} {o : PObj} {orc : Bool} (h : wfEvent ⟨k, key, some o, orc⟩ = true) :
    o.kind = k ∧ o.key = key := by
  simpa [wfEvent] using h

theorem pAdm_cov {st : Bool} {t : PCl} {e : PEvent} (ha : pAdm st t e = true) (hk : e.kind = .service) :
    st = true → svcCovered t = true := by
  intro hst
  simp only [pAdm, Bool.and_eq_true, Bool.or_eq_true, Bool.not_eq_true'] at ha
  rcases ha.2 with h | h
  · simp [hst, hk] at h
  · exact h

/-- **The relevance predicates of the tree are sound for the pipeline build**, store and cluster coincide (every mutation
is delivered and stored). Only Service and EndpointSlice events are judged at all: a Service by its key, a slice by the
owner of the stored and of the new object. -/
theorem pSound (st : Bool) : Sound pOps (pBuild st) pRel pWatch Eq (pAdm st) :=
  sound_of_copy pOps (pBuild st) pRel (pAdm st)
    (fun s e => storeAfter_eq_store pOps s e (fun hp => nomatch hp) (pStore_delete_absent s e)) fun s e ha hv => by
    show pBuild st (pOps.store e s) = pBuild st s
    rcases verdict_false (fun _ => rfl) rfl hv with ⟨ho, hn⟩ | ⟨hp, hr⟩
    · rw [pStore_delete_absent s e ho hn]
    · obtain ⟨kind, key, obj, orc⟩ := e
      have hwf : wfEvent ⟨kind, key, obj, orc⟩ = true := (Bool.and_eq_true_iff.1 ha).1
      cases kind with
      | gatewayClass => cases hp
      | gateway => cases hp
      | httpRoute => cases hp
      | referenceGrant => cases hp
      | service =>
        have hk : key ∉ referencedSvcs s.toR := fun hm => by
          rw [show pRel _ _ _ = (referencedSvcs s.toR).contains key from rfl, List.contains_iff_mem.mpr hm] at hr
          cases hr
        cases obj with
        | none => exact pBuild_offKey s (offKey_kDel key s.svcs) st hk (pAdm_cov ha rfl)
        | some o =>
          obtain ⟨ho, rfl⟩ := wfEvent_some hwf
          cases o with
          | svc x => exact pBuild_offKey s (offKey_kPut x s.svcs) st hk (pAdm_cov ha rfl)
          | _ => cases ho
      | endpointSlice =>
        have hr : (sliceReferenced (referencedSvcs s.toR) key.1 obj ||
            sliceReferenced (referencedSvcs s.toR) key.1 (getObj s .endpointSlice key)) = false := hr
        rw [Bool.or_eq_false_iff] at hr
        have hold : ∀ y, kGet sliceKey key s.slices = some y → (key.1, ownerName y.slice) ∉ referencedSvcs s.toR :=
          fun y hy => not_referenced_of_sliceReferenced (by simpa [getObj, hy] using hr.2)
        cases obj with
        | none => exact pBuild_slice_del st s key hold
        | some o =>
          obtain ⟨ho, rfl⟩ := wfEvent_some hwf
          cases o with
          | slice x => exact pBuild_slice_put st s x (not_referenced_of_sliceReferenced hr.1) hold
          | _ => cases ho

end NGF.StorePipeline
