/-
C09 — the wiring judge's vocabulary (`groupOfKind`, `ofGroup`) applied to what the MODEL flushes: when every
request submitted under a group addresses a resource kind of that group, the per-group part of the flushed
writes is exactly the list passed by the last call for the group.
-/
import NGF.Model.LeaderWiringJudge
import NGF.Proofs.LeaderWiring

namespace NGF.Leader

/-- every request submitted under group `g` that is in the table addresses a kind that belongs to `g` -/
def KindsOk (tbl : List SReq) (ops : List Op) : Prop :=
  ∀ g r, Op.update g r ∈ ops → ∀ q ∈ resources tbl r, groupOfKind q.kind = g

theorem lastSub_mem {g : Group} {r : List Req} : ∀ {ops : List Op}, lastSub g ops = some r →
    Op.update g r ∈ ops
  | [], h => by simp [lastSub] at h
  | .enable _ :: ops, h => List.mem_cons_of_mem _ (lastSub_mem (ops := ops) (by simpa [lastSub] using h))
  | .update g' r' :: ops, h => by
    simp only [lastSub] at h
    cases hl : lastSub g ops with
    | some x =>
      rw [hl] at h
      simp only [Option.some.injEq] at h
      subst h
      exact List.mem_cons_of_mem _ (lastSub_mem hl)
    | none =>
      rw [hl] at h
      by_cases hg : g' = g
      · subst hg
        simp only [if_true, Option.some.injEq] at h
        subst h
        exact List.mem_cons_self
      · simp [hg] at h

theorem ofGroup_append (g : Group) (a b : List SReq) : ofGroup g (a ++ b) = ofGroup g a ++ ofGroup g b := by
  simp [ofGroup]

theorem ofGroup_all {g : Group} {l : List SReq} (h : ∀ q ∈ l, groupOfKind q.kind = g) : ofGroup g l = l := by
  simp only [ofGroup]
  exact List.filter_eq_self.2 (fun q hq => by simp [h q hq])

theorem ofGroup_none {g k : Group} {l : List SReq} (hk : ¬ k = g) (h : ∀ q ∈ l, groupOfKind q.kind = k) :
    ofGroup g l = [] := by
  simp only [ofGroup]
  apply List.filter_eq_nil_iff.2
  intro q hq
  rw [h q hq]
  simpa using hk

theorem ofGroup_flush (tbl : List SReq) (g : Group) : ∀ (ws : List Write), (keys ws).Nodup →
    (∀ w ∈ ws, ∀ q ∈ resources tbl w.2, groupOfKind q.kind = w.1) →
    ofGroup g ((ws.map fun w => resources tbl w.2).flatten) = resources tbl ((get g ws).getD [])
  | [], _, _ => by simp [get, resources, ofGroup]
  | (k, v) :: t, hn, hk => by
    have hn' : (keys t).Nodup := by
      simp only [keys, List.map_cons, List.nodup_cons] at hn
      simpa [keys] using hn.2
    have ih := ofGroup_flush tbl g t hn' (fun w hw => hk w (List.mem_cons_of_mem _ hw))
    have hv : ∀ q ∈ resources tbl v, groupOfKind q.kind = k := hk (k, v) List.mem_cons_self
    simp only [List.map_cons, List.flatten_cons, ofGroup_append, ih]
    by_cases e : k = g
    · subst e
      have hnot : k ∉ keys t := by
        simp only [keys, List.map_cons, List.nodup_cons] at hn
        simpa [keys] using hn.1
      rw [ofGroup_all hv, get_none_of_not_mem hnot]
      simp [get, resources]
    · rw [ofGroup_none e hv]
      simp [get, e]

end NGF.Leader
