/-
The invariant `GoodConf` of the enriched configuration (everything the well-formedness of the rendered directives
rests on) and its proof for `genR s order` under the decidable hypotheses `inFragment s` and `namesSafe s`.
`initializeExternalLocations` is modelled twice: `Precedence.extLocs` (C02, keys `(exact?, path)`, used by `genR`) and
`Mangle.externalLocs` (C03, keys `(path, PathType)`, about which `serverExternalLocs_nodup` is proved); `extLocs_bridge`
identifies the two.
-/
import NGF.Proofs.RenderDirs

namespace NGF.Render
open NGF.Pipeline NGF.Nginx NGF.Mangle
open NGF.Precedence (PathRule GenLoc extLocs hasExact hasPrefix)

def actsOf : RLocAct → List RAct
  | .direct a => [a]
  | .njs ms => ms.map (·.act)

structure GoodServer (sv : RServer) : Prop where
  name_ne : sv.name ≠ []
  idx_inj : sv.rules.Pairwise fun a b => a.idx ≠ b.idx
  ext_nodup : (sv.rules.flatMap (·.ext)).Nodup
  /-- external prefix locations end in `/` -/
  ext_shape : ∀ r ∈ sv.rules, ∀ k ∈ r.ext, k.1 = true ∨ k.2.getLast? = some '/'
  root_free : sv.root404 = true → ∀ r ∈ sv.rules, (false, ['/']) ∉ r.ext

/-- `GoodServer` speaks of the name, the path rules and the root flag only -/
theorem GoodServer.congr {a b : RServer} (h : GoodServer a) (hn : b.name = a.name) (hr : b.rules = a.rules)
    (h4 : b.root404 = a.root404) : GoodServer b :=
  ⟨hn ▸ h.name_ne, hr ▸ h.idx_inj, hr ▸ h.ext_nodup, hr ▸ h.ext_shape, hr ▸ h4 ▸ h.root_free⟩

theorem goodServer_of_no_rules {sv : RServer} (hn : sv.name ≠ []) (hr : sv.rules = []) : GoodServer sv := by
  refine ⟨hn, ?_, ?_, ?_, ?_⟩ <;> rw [hr]
  · exact .nil
  · exact .nil
  · exact fun _ h => nomatch h
  · exact fun _ _ h => nomatch h

/-- what a proxied action needs: upstream names without `$`, a safe group source, and its split_clients block -/
def GoodAct (c : ConfR) : RAct → Prop
  | .proxy src bs => (∀ b ∈ bs, '$' ∉ b.target) ∧ SafeSrc src ∧ (bs.length > 1 → ∃ g ∈ c.groups, g.1 = src ∧ needsSplit g = true)
  | _ => True

structure GoodConf (c : ConfR) : Prop where
  dports_nodup : (c.dports.map (·.1)).Nodup
  hosts_nodup : (c.servers.map fun sv => (sv.port, sv.name)).Nodup
  sids_nodup : (c.servers.map (·.sid)).Nodup
  servers : ∀ sv ∈ c.servers, GoodServer sv
  groups_keys : (c.groups.map (·.1)).Nodup
  groups_safe : ∀ g ∈ c.groups, SafeSrc g.1
  acts : ∀ sv ∈ c.servers, ∀ r ∈ sv.rules, ∀ a ∈ actsOf r.act, GoodAct c a
  /-- every server listens on a TCP port -/
  ports_ok : (∀ d ∈ c.dports, 1 ≤ d.1 ∧ d.1 ≤ 65535) ∧ ∀ sv ∈ c.servers, 1 ≤ sv.port ∧ sv.port ≤ 65535

/-! ### external locations: the bridge to `Mangle.serverExternalLocs` -/

def conv (k : Bool × Str) : List Char × PathType := (k.2, if k.1 then .exact else .prefix)

theorem conv_inj {a b : Bool × Str} (e : conv a = conv b) : a = b := by
  obtain ⟨a1, a2⟩ := a
  obtain ⟨b1, b2⟩ := b
  simp only [conv, Prod.mk.injEq] at e
  obtain ⟨e1, e2⟩ := e
  subst e1
  cases a1 <;> cases b1 <;> simp_all

theorem has_iff (keys : List (Bool × Str)) (p : Str) :
    hasExact (keys.map toRule) p = decide ((p, PathType.exact) ∈ keys.map conv) ∧
    hasPrefix (keys.map toRule) p = decide ((p, PathType.prefix) ∈ keys.map conv) := by
  unfold hasExact hasPrefix
  constructor
  all_goals
    rw [List.any_map, Bool.eq_iff_iff]
    simp only [List.any_eq_true, Function.comp_def, List.mem_map, decide_eq_true_eq, toRule, conv, Prod.mk.injEq,
      Bool.and_eq_true, beq_iff_eq]
    refine exists_congr fun k => and_congr_right fun _ => ?_
    cases k.1 <;> simp [and_comm]

theorem extLocs_bridge (keys : List (Bool × Str)) (i : Nat) (k : Bool × Str) :
    (extLocs (keys.map toRule) i (toRule k)).map (fun gl => (gl.exact, gl.path)) =
      externalLocs (fun p t => decide ((p, t) ∈ keys.map conv)) (conv k).1 (conv k).2 := by
  obtain ⟨ex, p⟩ := k
  cases ex with
  | true => simp [extLocs, toRule, conv, externalLocs]
  | false =>
    simp only [extLocs, toRule, conv, externalLocs, Bool.not_false, Bool.true_and, Bool.false_eq_true, ↓reduceIte,
      (has_iff keys _).1, (has_iff keys _).2, NGF.Precedence.endsSlash]
    by_cases hs : p.getLast? = some '/'
    · simp [hs]
    · have hs' : (p.getLast? == some '/') = false := by simpa using hs
      simp only [hs', Bool.not_false, ↓reduceIte, hs]
      by_cases h1 : (p, PathType.exact) ∈ keys.map conv <;> by_cases h2 : (p ++ ['/'], PathType.prefix) ∈ keys.map conv <;>
        simp [h1, h2]

theorem extKeys_nodup {keys : List (Bool × Str)} (hn : keys.Nodup) :
    ((enumFrom 0 keys).flatMap fun ik =>
      (extLocs (keys.map toRule) ik.1 (toRule ik.2)).map fun gl => (gl.exact, gl.path)).Nodup := by
  have e : ((enumFrom 0 keys).flatMap fun ik =>
      (extLocs (keys.map toRule) ik.1 (toRule ik.2)).map fun gl => (gl.exact, gl.path)) =
      serverExternalLocs (keys.map conv) := by
    simp only [extLocs_bridge]
    rw [enumFrom_flatMap_snd (fun k => externalLocs (fun p t => decide ((p, t) ∈ keys.map conv)) (conv k).1 (conv k).2)]
    unfold serverExternalLocs
    rw [List.flatMap_map]
  rw [e]
  exact serverExternalLocs_nodup _ (nodup_map_of_inj hn (fun a _ b _ h => conv_inj h))

theorem mem_extLocs_shape {keys : List (Bool × Str)} {i : Nat} {k : Bool × Str} {x : Bool × Str}
    (h : x ∈ (extLocs (keys.map toRule) i (toRule k)).map fun gl => (gl.exact, gl.path)) :
    (x.1 = true ∧ x.2 = k.2) ∨
    (x.1 = false ∧ x.2.getLast? = some '/' ∧ (x.2 = k.2 ∨ x.2 = k.2 ++ ['/'])) := by
  rw [extLocs_bridge] at h
  rcases mem_externalLocs h with ⟨_, rfl⟩ | ⟨_, hl, rfl⟩ | ⟨_, _, _, rfl⟩ | ⟨_, _, _, rfl⟩
  · exact Or.inl ⟨rfl, rfl⟩
  · exact Or.inr ⟨rfl, hl, Or.inl rfl⟩
  · exact Or.inr ⟨rfl, by simp [conv], Or.inr rfl⟩
  · exact Or.inl ⟨rfl, rfl⟩

theorem mem_actsOf_ruleActR {port : Nat} {mrs : List REntry} {a : RAct} (h : a ∈ actsOf (ruleActR port mrs)) :
    ∃ x ∈ mrs, a = actOfR port x.src x.e.action := by
  match mrs with
  | [] => simp [ruleActR, actsOf] at h
  | [x] =>
    simp only [ruleActR] at h
    by_cases hp : isPathOnly x.e.m = true
    · simp only [hp, ↓reduceIte, actsOf, List.mem_singleton] at h
      exact ⟨x, List.mem_singleton.mpr rfl, h⟩
    · simp only [hp, Bool.false_eq_true, ↓reduceIte, actsOf, List.map_cons, List.map_nil, List.mem_singleton, rmatchOf] at h
      exact ⟨x, List.mem_singleton.mpr rfl, h⟩
  | x :: y :: rest =>
    simp only [ruleActR, actsOf, List.map_map, List.mem_map, Function.comp_def, rmatchOf] at h
    obtain ⟨z, hz, rfl⟩ := h
    exact ⟨z, hz, rfl⟩

theorem goodServer_core {mine : List REntry} {keys : List (Bool × Str)} (sid port : Nat) {h : Str}
    (hK : (mine.map pathKeyR).eraseDups = keys) (hname : h ≠ [])
    (hpath : ∀ x ∈ mine, x.e.m.path ≠ []) : GoodServer (serverCoreR mine keys sid port h) := by
  have hn : keys.Nodup := hK ▸ nodup_eraseDups _
  have hkp : ∀ k ∈ keys, k.2 ≠ [] := by
    intro k hk
    rw [← hK, List.mem_eraseDups] at hk
    obtain ⟨x, hx, rfl⟩ := List.mem_map.mp hk
    exact hpath x hx
  refine ⟨hname, ?_, ?_, ?_, ?_⟩
  · simp only [serverCoreR]
    rw [List.pairwise_map]
    exact pairwise_of_nodup (enumFrom_nodup _ _) fun a ha b hb hne => rank_ne_of_enum hn ha hb hne
  · simp only [serverCoreR]
    rw [List.flatMap_map]
    exact extKeys_nodup hn
  · intro r hr k hk
    simp only [serverCoreR, List.mem_map] at hr
    obtain ⟨ik, _, rfl⟩ := hr
    rcases mem_extLocs_shape hk with ⟨h1, _⟩ | ⟨_, h2, _⟩
    · exact Or.inl h1
    · exact Or.inr h2
  · intro hroot r hr hk
    simp only [serverCoreR, List.mem_map] at hr
    obtain ⟨ik, hik, rfl⟩ := hr
    simp only [serverCoreR, Bool.not_eq_true', List.any_eq_false, List.mem_map, beq_iff_eq] at hroot
    have hmem := enumFrom_mem_snd hik
    rcases mem_extLocs_shape hk with ⟨h1, _⟩ | ⟨_, _, h3 | h3⟩
    · simp at h1
    · exact hroot (toRule ik.2) ⟨ik.2, hmem, rfl⟩ (by simpa [toRule] using h3.symm)
    · have : ik.2.2 = [] := by
        cases hp : ik.2.2 with
        | nil => rfl
        | cons c cs => rw [hp] at h3; simp at h3
      exact hkp ik.2 hmem this

theorem moreSpecific_ne_nil {l r : Str} (hr : r ≠ []) (hm : NGF.Hostname.hmatch l r = true) :
    NGF.Hostname.moreSpecific l r ≠ [] := by
  unfold NGF.Hostname.moreSpecific
  by_cases e : l = r
  · subst e; simp [hr]
  · have b1 : (l == r) = false := by simpa using e
    simp only [b1, Bool.false_eq_true, ↓reduceIte]
    by_cases hl : l.isEmpty = true
    · simp [hl, hr]
    · have hl' : l ≠ [] := by intro h; simp [h] at hl
      simp only [hl, Bool.false_eq_true, ↓reduceIte]
      have hre : r.isEmpty = false := by cases r <;> simp_all
      simp only [hre, Bool.false_eq_true, ↓reduceIte]
      cases hwa : NGF.Hostname.isWild l with
      | true =>
        cases hwb : NGF.Hostname.isWild r with
        | true =>
          simp only [↓reduceIte]
          by_cases hlab : NGF.Hostname.labels l > NGF.Hostname.labels r
          · simp [hlab, hl']
          · simp [hlab, hr]
        | false => simp [hr]
      | false =>
        cases hwb : NGF.Hostname.isWild r with
        | true => simp [hl']
        | false =>
          unfold NGF.Hostname.hmatch at hm
          have b2 : (r == l) = false := by simpa using (fun x : r = l => e x.symm)
          simp [hl, b2, NGF.Hostname.wildcardMatch, hwa, hwb] at hm

theorem hostsOf_name_ne_nil {s : Scenario} {g : Gateway} (hf : inFragment s = true) (hw : winner s = some g)
    {ph : Nat × Str} (h : ph ∈ hostsOf g s.routes) : ph.2 ≠ [] := by
  unfold hostsOf at h
  rw [List.mem_eraseDups] at h
  simp only [List.mem_flatMap] at h
  obtain ⟨l, hl, r, hr, hx⟩ := h
  by_cases hv : r.valid = true
  · simp only [hv, ↓reduceIte, List.mem_map] at hx
    obtain ⟨hn, hacc, rfl⟩ := hx
    show hn ≠ []
    unfold inFragment at hf
    simp only [hw, Bool.and_eq_true, List.all_eq_true] at hf
    have hro := hf.1.2 r hr
    unfold routeOK at hro
    simp only [Bool.and_eq_true, List.all_eq_true] at hro
    have hhost : ∀ x ∈ r.hostnames, x ≠ [] := by
      intro x hx
      have := hro.1.1 x hx
      unfold hostOK at this
      intro e; subst e; simp at this
    have hgw := hf.2
    unfold gatewayOK at hgw
    simp only [Bool.and_eq_true, List.all_eq_true, Bool.or_eq_true] at hgw
    unfold acceptedAt at hacc
    by_cases hc : (refersTo g l r && nsAllowed g l r) = true
    · simp only [hc, ↓reduceIte] at hacc
      unfold NGF.Hostname.accepted at hacc
      by_cases he : r.hostnames.isEmpty = true
      · simp only [he, ↓reduceIte] at hacc
        by_cases hle : l.host.isEmpty = true
        · simp only [hle, ↓reduceIte, List.mem_singleton] at hacc
          subst hacc; simp [NGF.Hostname.wildcardHostname]
        · simp only [hle, Bool.false_eq_true, ↓reduceIte, List.mem_singleton] at hacc
          subst hacc; intro e; simp [e] at hle
      · simp only [he, Bool.false_eq_true, ↓reduceIte, List.mem_filterMap] at hacc
        obtain ⟨rh, hrh, hsome⟩ := hacc
        by_cases hm : NGF.Hostname.hmatch l.host rh = true
        · simp only [hm, ↓reduceIte, Option.some.injEq] at hsome
          subst hsome
          exact moreSpecific_ne_nil (hhost rh hrh) hm
        · simp [hm] at hsome
    · simp [hc] at hacc
  · simp [hv] at hx

/-- the action of an entry is good in a configuration whose groups are those of the entries: a split group is found
under the source of the entry because a source determines the action -/
theorem goodAct_entry {c : ConfR} {es : List REntry} (hc : c.groups = groupsOf es) (hes : ∀ x ∈ es, SafeEntry x)
    (hdet : ∀ y ∈ es, ∀ x ∈ es, y.src = x.src → y.e.action = x.e.action) {x : REntry} (hx : x ∈ es) (port : Nat) :
    GoodAct c (actOfR port x.src x.e.action) := by
  cases hact : x.e.action with
  | redirect code scheme host p => trivial
  | forward bs =>
    have hsafe := hes x hx
    refine ⟨fun b hb => hsafe.targets b (by rw [hact]; exact hb), hsafe.toSrc, fun hlen => ?_⟩
    have hk : x.src ∈ (es.map fun x => (x.src, backendsOf x.e.action)).map (·.1) := by
      rw [List.map_map]; exact List.mem_map.mpr ⟨x, hx, rfl⟩
    obtain ⟨gr, hgr, hg1⟩ := List.mem_map.mp (mem_dedupKey_key (seen := []) hk List.not_mem_nil)
    refine ⟨gr, hc ▸ hgr, hg1, ?_⟩
    obtain ⟨y, hy, rfl⟩ := List.mem_map.mp (dedupKey_sub hgr).1
    simp only [needsSplit, hdet y hy x hx hg1, hact, backendsOf, decide_eq_true_eq]
    exact hlen

/-- the per-server part needs only `inFragment` -/
theorem goodServers_genR {s : Scenario} (order : List Nat) (hf : inFragment s = true) :
    ∀ sv ∈ (genR s order).servers, GoodServer sv := by
  unfold genR
  cases hw : winner s with
  | none => simp
  | some g =>
    intro sv hsv
    simp only at hsv
    obtain ⟨ph, hph, rfl⟩ := List.mem_map.mp hsv
    rw [serverOfR_eq_core]
    refine goodServer_core _ _ rfl (hostsOf_name_ne_nil hf hw hph) ?_
    intro x hx
    have hx' := (List.mem_filter.mp hx).1
    have := path_head_of_inFragment hf hx'
    intro e; rw [e] at this; simp at this

theorem goodConf_genR {s : Scenario} (order : List Nat) (hf : inFragment s = true) (hs : namesSafe s = true)
    (hp : portsOK s = true) : GoodConf (genR s order) := by
  have hservers := goodServers_genR order hf
  unfold genR at hservers ⊢
  cases hw : winner s with
  | none =>
    exact ⟨by simp, by simp, by simp, by simp, by simp, by simp, by simp, by simp⟩
  | some g =>
    rw [hw] at hservers
    simp only at hservers ⊢
    have hhosts : (hostsOf g s.routes).Nodup := by unfold hostsOf; exact nodup_eraseDups _
    have hes : ∀ x ∈ entriesR g s.routes, SafeEntry x := fun x hx => safe_of_namesSafe hs hx
    have hport : ∀ p ∈ (g.listeners.map (·.port)).eraseDups, 1 ≤ p ∧ p ≤ 65535 := by
      intro p hpm
      rw [List.mem_eraseDups] at hpm
      obtain ⟨l, hl, rfl⟩ := List.mem_map.mp hpm
      unfold portsOK at hp
      simp only [hw, List.all_eq_true, Bool.and_eq_true, decide_eq_true_eq] at hp
      exact hp l hl
    refine ⟨?_, ?_, ?_, ?_, ?_, ?_, ?_, ⟨?_, ?_⟩⟩
    rotate_left 7
    · intro d hd
      obtain ⟨p, hpm, rfl⟩ := List.mem_map.mp hd
      exact hport p hpm
    · intro sv hsv
      obtain ⟨ph, hph, rfl⟩ := List.mem_map.mp hsv
      exact hport ph.1 (hostsOf_port hph)
    · simp only [List.map_map, Function.comp_def, List.map_id']
      exact nodup_eraseDups _
    · rw [List.map_map]
      exact (List.map_id' _).symm ▸ hhosts
    · rw [List.map_map]
      exact nodup_map_of_inj hhosts (fun a ha b hb e => sidOf_inj ha hb (mem_portOrder (hostsOf_port ha)) e)
    · exact hservers
    · exact dedupKey_keys_nodup _ _
    · intro gr hgr
      obtain ⟨hm, _⟩ := dedupKey_sub hgr
      obtain ⟨x, hx, rfl⟩ := List.mem_map.mp hm
      exact (hes x hx).toSrc
    · intro sv hsv r hr a ha
      obtain ⟨ph, _, rfl⟩ := List.mem_map.mp hsv
      rw [serverOfR_eq_core] at hr
      simp only [serverCoreR, List.mem_map] at hr
      obtain ⟨ik, _, rfl⟩ := hr
      obtain ⟨x, hx, rfl⟩ := mem_actsOf_ruleActR ha
      have hx1 : x ∈ entriesR g s.routes := by
        have := (List.mergeSort_perm _ _).mem_iff.mp hx
        exact (List.mem_filter.mp (List.mem_filter.mp this).1).1
      exact goodAct_entry rfl hes (fun y hy x hx e => src_determines_action hf hy hx e) hx1 _

end NGF.Render
