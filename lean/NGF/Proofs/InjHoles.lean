/-
`holesGo` evaluated on the UTF-8 bytes of the template strings.

The template strings stand inside the generated constants and `holesGo` converts them itself, out of reach of the
rewrite `decide_chars` does (Proofs/CharLits says why a literal is not left to `String.toList`). For those, `chars`
reads an ASCII string off its bytes and falls back on `toList` otherwise, so `s.toList = chars s` for every string
(`toList_eq_chars`); `holesGoC` is `holesGo` on `chars`. Core Lean only.
-/
import NGF.Model.InjHoles

namespace NGF.Inj
open NGF.Nginx

def bytes (t : String) : List UInt8 := t.toByteArray.data.toList

def asciiChars : List UInt8 → Option (List Char)
  | [] => some []
  | b :: bs => if b < 128 then (asciiChars bs).map (Char.ofNat b.toNat :: ·) else none

theorem bytes_ofList (l : List Char) : bytes (String.ofList l) = l.flatMap String.utf8EncodeChar := by
  simp [bytes, List.utf8Encode]

theorem utf8EncodeChar_of_gt {c : Char} (h : ¬ c.toNat ≤ 127) :
    ∃ b bs, String.utf8EncodeChar c = b :: bs ∧ 128 ≤ b.toNat := by
  have lead : ∀ y k m : Nat, 0 < k → 128 ≤ m → k + m ≤ 256 → 128 ≤ (UInt8.ofNat (y % k + m)).toNat := by
    intro y k m hk hm hkm
    have := Nat.mod_lt y hk
    rw [UInt8.toNat_ofNat', Nat.mod_eq_of_lt (by omega)]
    omega
  unfold String.utf8EncodeChar
  refine (if_neg h).symm ▸ ?_
  split
  · exact ⟨_, _, rfl, lead _ _ _ (by decide) (by decide) (by decide)⟩
  · split
    · exact ⟨_, _, rfl, lead _ _ _ (by decide) (by decide) (by decide)⟩
    · exact ⟨_, _, rfl, lead _ _ _ (by decide) (by decide) (by decide)⟩

theorem head_bytes (c : Char) (l : List Char) :
    ∃ b bs, (c :: l).flatMap String.utf8EncodeChar = b :: bs ∧
      if c.toNat ≤ 127 then b.toNat = c.toNat ∧ bs = l.flatMap String.utf8EncodeChar else 128 ≤ b.toNat := by
  by_cases h : c.toNat ≤ 127
  · have he : String.utf8EncodeChar c = [UInt8.ofNat c.toNat] := if_pos h
    refine ⟨_, _, by rw [List.flatMap_cons, he]; rfl, ?_⟩
    rw [if_pos h, UInt8.toNat_ofNat']
    exact ⟨by omega, rfl⟩
  · obtain ⟨b, bs, he, hb⟩ := utf8EncodeChar_of_gt h
    exact ⟨b, _, by rw [List.flatMap_cons, he]; rfl, by rwa [if_neg h]⟩

theorem toList_of_asciiChars {t : String} {cs : List Char} (h : asciiChars (bytes t) = some cs) :
    t.toList = cs := by
  obtain ⟨l, rfl⟩ := t.exists_eq_ofList
  rw [String.toList_ofList, bytes_ofList] at *
  induction l generalizing cs with
  | nil => simpa [asciiChars] using h
  | cons c l ih =>
    obtain ⟨b, bs, e, hb⟩ := head_bytes c l
    rw [e, asciiChars] at h
    split at h
    · rename_i hlt
      obtain ⟨cs', h', rfl⟩ := Option.map_eq_some_iff.mp h
      split at hb
      · rw [hb.1, Char.ofNat_toNat, ih (hb.2 ▸ h')]
      · exact absurd (UInt8.lt_iff_toNat_lt.mp hlt) (by simp; omega)
    · cases h

theorem head_hash (t : String) : (t.toList.head? == some '#') = ((bytes t).head? == some 35) := by
  obtain ⟨l, rfl⟩ := t.exists_eq_ofList
  rw [String.toList_ofList, bytes_ofList]
  cases l with
  | nil => rfl
  | cons c l =>
    obtain ⟨b, bs, e, hb⟩ := head_bytes c l
    have hc : c = '#' ↔ c.toNat = 35 := ⟨fun h => h ▸ rfl, fun h => by rw [← Char.ofNat_toNat c, h]⟩
    have hb' : b = 35 ↔ b.toNat = 35 := ⟨fun h => h ▸ rfl, fun h => UInt8.toNat_inj.mp h⟩
    rw [e, Bool.eq_iff_iff]
    simp only [List.head?_cons, beq_iff_eq, Option.some.injEq, hc, hb']
    split at hb <;> omega

def chars (s : String) : List Char := (asciiChars (bytes s)).getD s.toList

theorem toList_eq_chars (s : String) : s.toList = chars s := by
  unfold chars
  cases h : asciiChars (bytes s) with
  | none => rfl
  | some cs => exact toList_of_asciiChars h

def nextLitC : List (Bool × String) → List Char
  | (false, t) :: _ => (chars t).take 2
  | _ => []

theorem nextLit_eq_nextLitC : ∀ rest, nextLit rest = nextLitC rest
  | (false, t) :: _ => by rw [nextLit, nextLitC, toList_eq_chars]
  | (true, _) :: _ => rfl
  | [] => rfl

/-- An action is recognised by its first byte alone, so the text of `#if`, `#range`, … is never decoded. -/
def holesGoC (name : List Char) : Option LexSt → List (Bool × String) → List Hole
  | _, [] => []
  | st, (false, t) :: rest => holesGoC name (feed st (chars t)) rest
  | st, (true, e) :: rest =>
    if (bytes e).head? == some 35 then holesGoC name st rest
    else
      { template := name, expr := chars e, ctx := match st with | some s => ctxOfMode s.mode | none => .broken,
        next := nextLitC rest } :: holesGoC name (feed st ['x']) rest

theorem holesGo_eq_holesGoC (name : List Char) (st : Option LexSt) (segs : List (Bool × String)) :
    holesGo name st segs = holesGoC name st segs := by
  induction segs generalizing st with
  | nil => rfl
  | cons p rest ih =>
    obtain ⟨b, t⟩ := p
    cases b with
    | false => rw [holesGo, holesGoC, toList_eq_chars, ih]
    | true =>
      simp only [holesGo, holesGoC]
      rw [head_hash, toList_eq_chars, nextLit_eq_nextLitC, ih, ih]
      rfl

theorem holesOf_eq_holesGoC (name : String) (segs : List (Bool × String)) :
    holesOf name segs = (holesGoC (chars name) (some LexSt.init) segs).eraseDups := by
  rw [holesOf, holesGo_eq_holesGoC, toList_eq_chars]

end NGF.Inj
