/-
C11 — the file manager model (`NGF.Model.FileMgr`) under arbitrary fault schedules.

Everything is said about `get`, path by path. Code that only calls `Remove` (the first loop of `ReplaceFiles`,
`ClearFolders`) satisfies `OnlyRemoves` wherever a fault stops it; `WriteFile` touches one path; a loop that
completes has taken the continuing branch at every step, which gives the exact disk (`removeLoop_ok`,
`writeLoop_ok` via `expectAfter`, `clearLoop_ok`) and which operations can have been hit (`removeLoop_ok_iff`: a
`Remove` by ENOENT at most; `writeLoop_ok_iff`: none). `Tracked` is then preserved
because the path is appended to `lastWrittenPaths` before `WriteFile` runs (`writeLoop_present`).
-/
import NGF.Model.FileMgr

namespace NGF.FileMgr

theorem forall_lt_add {P : Nat → Prop} (a b : Nat) :
    (∀ j, j < a + b → P j) ↔ (∀ j, j < a → P j) ∧ ∀ j, j < b → P (a + j) := by
  constructor
  · exact fun h => ⟨fun j hj => h j (by omega), fun j hj => h _ (by omega)⟩
  · rintro ⟨h1, h2⟩ j hj
    by_cases hja : j < a
    · exact h1 j hja
    · have := h2 (j - a) (by omega)
      rwa [show a + (j - a) = j by omega] at this

/-! ### `get` after the primitive operations -/

theorem erase_cons (x : String) (o : FileObj) (r : FS) (p : String) :
    erase ((x, o) :: r) p = if x = p then erase r p else (x, o) :: erase r p := by
  by_cases h : x = p <;> simp [erase, h]

theorem get_cons (x : String) (o : FileObj) (r : FS) (p : String) :
    get ((x, o) :: r) p = if x = p then some o else get r p := rfl

theorem get_erase (fs : FS) (p q : String) :
    get (erase fs p) q = if p = q then none else get fs q := by
  induction fs with
  | nil => simp [erase, get]
  | cons e r ih =>
    obtain ⟨x, o⟩ := e
    rw [erase_cons]
    grind [get_cons]

theorem get_put (fs : FS) (p q : String) (o : FileObj) :
    get (put fs p o) q = if p = q then some o else get fs q := by
  rw [put, get_cons, get_erase]
  by_cases h : p = q <;> simp [h]

theorem get_create (fs : FS) (p q : String) :
    get (create fs p) q =
      if p = q then some ⟨[], match get fs p with | some o => o.mode | none => createMode⟩
      else get fs q := by
  unfold create
  cases hg : get fs p <;> simp [get_put]

/-- `chmod` and `write` change the file at `p`, if there is one -/
theorem get_update (g : FileObj → FileObj) (fs : FS) (p q : String) :
    get (match get fs p with | some o => put fs p (g o) | none => fs) q =
      if p = q then (get fs p).map g else get fs q := by
  cases hg : get fs p with
  | none => grind
  | some o => simp [get_put]

theorem get_chmod (fs : FS) (p q : String) (m : Nat) :
    get (chmod fs p m) q =
      if p = q then (get fs p).map (fun o => { o with mode := m }) else get fs q :=
  get_update _ fs p q

theorem get_write (fs : FS) (p q : String) (b : List Nat) :
    get (write fs p b) q =
      if p = q then (get fs p).map (fun o => { o with content := o.content ++ b }) else get fs q :=
  get_update _ fs p q

theorem get_create_self (fs : FS) (p : String) :
    get (create fs p) p = some ⟨[], match get fs p with | some o => o.mode | none => createMode⟩ := by
  rw [get_create, if_pos rfl]

theorem get_chmod_create (fs : FS) (p : String) (m : Nat) : get (chmod (create fs p) p m) p = some ⟨[], m⟩ := by
  simp [get_chmod, get_create]

theorem get_write_chmod_create (fs : FS) (p : String) (m : Nat) (b : List Nat) :
    get (write (chmod (create fs p) p m) p b) p = some ⟨b, m⟩ := by
  simp [get_write, get_chmod, get_create]

theorem mem_keys_iff (fs : FS) (p : String) : p ∈ keys fs ↔ get fs p ≠ none := by
  induction fs with
  | nil => simp [keys, get]
  | cons e r ih => simp only [keys, List.map_cons, List.mem_cons] at ih ⊢; grind [get_cons]

/-! ### code that only removes

The loops that call `Remove` stop anywhere under a fault schedule; what holds of the disk then has one shape. -/

/-- `fs'` is `fs` with some files removed, each of them in `S` -/
def OnlyRemoves (S : String → Prop) (fs' fs : FS) : Prop :=
  ∀ q, get fs' q = get fs q ∨ (get fs' q = none ∧ S q)

theorem OnlyRemoves.refl {S : String → Prop} {fs : FS} : OnlyRemoves S fs fs := fun _ => .inl rfl

section
variable {S : String → Prop} {fs₂ fs₁ fs : FS}

theorem OnlyRemoves.erase (fs : FS) {p : String} (hp : S p) : OnlyRemoves S (erase fs p) fs := by
  intro q
  rw [get_erase]
  by_cases h : p = q
  · exact .inr ⟨if_pos h, h ▸ hp⟩
  · exact .inl (if_neg h)

theorem OnlyRemoves.trans (h₂ : OnlyRemoves S fs₂ fs₁) (h₁ : OnlyRemoves S fs₁ fs) : OnlyRemoves S fs₂ fs := by
  intro q
  rcases h₂ q with h | h
  · rw [h]; exact h₁ q
  · exact .inr h

theorem OnlyRemoves.present (h : OnlyRemoves S fs₁ fs) {q : String} (hq : get fs₁ q ≠ none) : get fs q ≠ none := by
  rcases h q with h | ⟨h, _⟩
  · exact h ▸ hq
  · exact absurd h hq

end

/-! ### `WriteFile` -/

variable (b : Bool) (B : List String) (sch : Sched)

/-- the file object `WriteFile f` leaves on success -/
def objOf (f : File) : FileObj := ⟨f.content, modeOf f.typ⟩

section
variable (k : Nat) (fs : FS) (f : File)

theorem writeFile_ne {q : String} (h : f.path ≠ q) :
    get (writeFile sch k fs f).fs q = get fs q := by
  unfold writeFile
  split <;> try rfl
  split <;> try (simp [get_create, h])
  split <;> simp [get_write, get_chmod, get_create, h]

theorem writeFile_present (q : String)
    (h : get (writeFile sch k fs f).fs q ≠ none) : get fs q ≠ none ∨ q = f.path := by
  by_cases hq : f.path = q
  · exact .inr hq.symm
  · rw [writeFile_ne sch k fs f hq] at h; exact .inl h

/-- Under every fault schedule (errors, partial writes, a crash at any operation) the file that
`WriteFile f` works on is afterwards untouched, or empty, or carries the requested mode and a prefix of
the requested content: content never sits in the file under another mode than the one asked for. -/
theorem writeFile_safe :
    get (writeFile sch k fs f).fs f.path = get fs f.path ∨
    ∃ o, get (writeFile sch k fs f).fs f.path = some o ∧
      (o.content = [] ∨ (o.mode = modeOf f.typ ∧ o.content <+: f.content)) := by
  unfold writeFile
  split
  · exact .inl rfl
  · exact .inl rfl
  · split
    · exact .inr ⟨_, get_create_self .., .inl rfl⟩
    · exact .inr ⟨_, get_create_self .., .inl rfl⟩
    · split
      · exact .inr ⟨_, get_write_chmod_create .., .inr ⟨rfl, List.take_prefix _ _⟩⟩
      · exact .inr ⟨_, get_write_chmod_create .., .inr ⟨rfl, List.take_prefix _ _⟩⟩
      · exact .inr ⟨_, get_chmod_create .., .inl rfl⟩
      · exact .inr ⟨_, get_write_chmod_create .., .inr ⟨rfl, List.prefix_refl _⟩⟩

theorem writeFile_of_noFault {sch : Sched} {k : Nat} (h : ∀ j, j < 3 → sch (k + j) = none) (fs : FS) (f : File) :
    writeFile sch k fs f =
      ⟨write (chmod (create fs f.path) f.path (modeOf f.typ)) f.path f.content, k + 3, .ok⟩ := by
  have h0 : sch k = none := h 0 (by decide)
  simp [writeFile, h0, h 1 (by decide), h 2 (by decide)]

/-- `WriteFile` succeeds iff NONE of its three operations is hit by a fault of any kind (whatever error value
the operation would return) -/
theorem writeFile_ok_iff :
    (writeFile sch k fs f).out = .ok ↔ ∀ j, j < 3 → sch (k + j) = none := by
  constructor
  · intro h
    unfold writeFile at h
    split at h <;> try (simp at h)
    split at h <;> try (simp at h)
    split at h <;> try (simp at h)
    intro j hj
    match j, hj with
    | 0, _ | 1, _ | 2, _ => assumption
  · intro h
    rw [writeFile_of_noFault h]

theorem writeFile_ok_eq {sch : Sched} {k : Nat} {fs : FS} {f : File} (h : (writeFile sch k fs f).out = .ok) :
    writeFile sch k fs f =
      ⟨write (chmod (create fs f.path) f.path (modeOf f.typ)) f.path f.content, k + 3, .ok⟩ :=
  writeFile_of_noFault ((writeFile_ok_iff sch k fs f).1 h) fs f

theorem writeFile_ok
    (h : (writeFile sch k fs f).out = .ok) :
    get (writeFile sch k fs f).fs f.path = some (objOf f) := by
  rw [writeFile_ok_eq h]
  exact get_write_chmod_create ..

end

/-! ### the two loops of `ReplaceFiles` -/

theorem removeLoop_cons_of {sch : Sched} {k : Nat} (h : sch k = none ∨ sch k = some .enoent) (fs : FS) (p : String)
    (ps : List String) : removeLoop sch k fs (p :: ps) = removeLoop sch (k + 1) (erase fs p) ps := by
  rw [removeLoop]
  rcases h with h | h <;> simp [h]

theorem removeLoop_cons_ok {sch : Sched} {k : Nat} {fs : FS} {p : String} {ps : List String}
    (h : (removeLoop sch k fs (p :: ps)).out = .ok) : sch k = none ∨ sch k = some .enoent := by
  rw [removeLoop] at h
  split at h <;> simp_all

theorem removeLoop_cons_iff (k : Nat) (fs : FS) (p : String) (ps : List String) :
    (removeLoop sch k fs (p :: ps)).out = .ok ↔
      (sch k = none ∨ sch k = some .enoent) ∧ (removeLoop sch (k + 1) (erase fs p) ps).out = .ok :=
  ⟨fun h => ⟨removeLoop_cons_ok h, by rwa [removeLoop_cons_of (removeLoop_cons_ok h)] at h⟩,
    fun ⟨h0, h⟩ => by rwa [removeLoop_cons_of h0]⟩

theorem removeLoop_onlyRemoves (ps : List String) :
    ∀ (k : Nat) (fs : FS), OnlyRemoves (fun _ => True) (removeLoop sch k fs ps).fs fs := by
  induction ps with
  | nil => intro k fs; exact .refl
  | cons p ps ih =>
    intro k fs
    have step := (ih (k + 1) (erase fs p)).trans (.erase fs trivial)
    unfold removeLoop
    split
    · exact .refl
    · exact step
    · exact .refl
    · exact step

theorem removeLoop_ok (ps : List String) :
    ∀ (k : Nat) (fs : FS), (removeLoop sch k fs ps).out = .ok →
      (removeLoop sch k fs ps).k = k + ps.length ∧
      ∀ q, get (removeLoop sch k fs ps).fs q = if q ∈ ps then none else get fs q := by
  induction ps with
  | nil => intro k fs _; exact ⟨rfl, fun q => by simp [removeLoop]⟩
  | cons p ps ih =>
    intro k fs h
    have step := removeLoop_cons_of (removeLoop_cons_ok h) fs p ps
    rw [step] at h ⊢
    obtain ⟨hk, hg⟩ := ih (k + 1) (erase fs p) h
    refine ⟨by rw [hk, List.length_cons]; omega, fun q => ?_⟩
    rw [hg q, get_erase]
    grind

theorem removeLoop_ok_iff (ps : List String) :
    ∀ (k : Nat) (fs : FS), (removeLoop sch k fs ps).out = .ok ↔
      ∀ j, j < ps.length → sch (k + j) = none ∨ sch (k + j) = some .enoent := by
  induction ps with
  | nil => intro k fs; exact ⟨fun _ _ hj => absurd hj (Nat.not_lt_zero _), fun _ => rfl⟩
  | cons p ps ih =>
    intro k fs
    rw [removeLoop_cons_iff, ih, List.length_cons, Nat.add_comm ps.length, forall_lt_add]
    simp only [Nat.lt_one_iff, forall_eq, Nat.add_zero, Nat.add_assoc]

theorem removeLoopE_true (ps : List String) :
    ∀ (k : Nat) (fs : FS), removeLoopE true sch k fs ps = removeLoop sch k fs ps := by
  induction ps with
  | nil => intro k fs; rfl
  | cons p ps ih =>
    intro k fs
    unfold removeLoopE removeLoop
    split <;> simp [ih]

/-- what a path holds after the files were written one after the other (later entries win) -/
def expectAfter : List File → String → Option FileObj → Option FileObj
  | [], _, b => b
  | f :: r, q, b => expectAfter r q (if f.path = q then some (objOf f) else b)

theorem expectAfter_not_mem (F : List File) (q : String) (b : Option FileObj)
    (h : q ∉ F.map (·.path)) : expectAfter F q b = b := by
  induction F generalizing b with
  | nil => rfl
  | cons f r ih => grind [expectAfter]

theorem expectAfter_cases (F : List File) (q : String) (b : Option FileObj) :
    q ∉ F.map (·.path) ∨ ∃ f ∈ F, f.path = q ∧ expectAfter F q b = some (objOf f) := by
  induction F generalizing b with
  | nil => exact .inl (by simp)
  | cons f r ih =>
    simp only [expectAfter]
    rcases ih (if f.path = q then some (objOf f) else b) with hn | ⟨g, hg, hp, he⟩
    · by_cases hf : f.path = q
      · exact .inr ⟨f, by simp, hf, by simp [hf, expectAfter_not_mem r q _ hn]⟩
      · refine .inl ?_
        simp only [List.map_cons, List.mem_cons, not_or]
        exact ⟨fun e => hf e.symm, hn⟩
    · exact .inr ⟨g, List.mem_cons_of_mem _ hg, hp, he⟩

theorem expectAfter_nodup (F : List File) (hnd : (F.map (·.path)).Nodup) (b : Option FileObj)
    (f : File) (hf : f ∈ F) : expectAfter F f.path b = some (objOf f) := by
  induction F generalizing b with
  | nil => simp at hf
  | cons g r ih =>
    simp only [List.map_cons, List.nodup_cons] at hnd
    simp only [expectAfter]
    rcases List.mem_cons.mp hf with rfl | hr
    · simp [expectAfter_not_mem r _ _ hnd.1]
    · exact ih hnd.2 _ hr

theorem writeLoop_cons (k : Nat) (fs : FS) (last : List String) (f : File)
    (rest : List File) :
    writeLoop b sch k fs last (f :: rest) =
      if (writeFile sch k fs f).out = .ok then
        writeLoop b sch (writeFile sch k fs f).k (writeFile sch k fs f).fs (last ++ [f.path]) rest
      else ⟨(writeFile sch k fs f).fs, if b then last ++ [f.path] else last, (writeFile sch k fs f).k,
        (writeFile sch k fs f).out⟩ := by
  rw [writeLoop]
  cases h : (writeFile sch k fs f).out <;> simp

theorem writeLoop_cons_iff (k : Nat) (fs : FS) (last : List String) (f : File)
    (r : List File) : (writeLoop b sch k fs last (f :: r)).out = .ok ↔
      (writeFile sch k fs f).out = .ok ∧
        (writeLoop b sch (k + 3) (writeFile sch k fs f).fs (last ++ [f.path]) r).out = .ok := by
  by_cases hok : (writeFile sch k fs f).out = .ok
  · rw [writeLoop_cons, if_pos hok, show (writeFile sch k fs f).k = k + 3 by rw [writeFile_ok_eq hok]]
    exact ⟨fun h => ⟨hok, h⟩, And.right⟩
  · rw [writeLoop_cons, if_neg hok]
    exact ⟨fun h => absurd h hok, fun h => absurd h.1 hok⟩

theorem writeLoop_ok (F : List File) :
    ∀ (k : Nat) (fs : FS) (last : List String), (writeLoop b sch k fs last F).out = .ok →
      (writeLoop b sch k fs last F).last = last ++ F.map (·.path) ∧
      ∀ q, get (writeLoop b sch k fs last F).fs q = expectAfter F q (get fs q) := by
  induction F with
  | nil => intro k fs last _; simp [writeLoop, expectAfter]
  | cons f r ih =>
    intro k fs last h
    have hok := ((writeLoop_cons_iff ..).1 h).1
    rw [writeLoop_cons, if_pos hok] at h ⊢
    obtain ⟨hl, hg⟩ := ih _ _ _ h
    refine ⟨by simp [hl], fun q => ?_⟩
    rw [hg q, expectAfter]
    by_cases hq : f.path = q
    · subst hq; simp [writeFile_ok sch k fs f hok]
    · simp [hq, writeFile_ne sch k fs f hq]

theorem writeLoop_ok_iff (F : List File) :
    ∀ (k : Nat) (fs : FS) (last : List String), (writeLoop b sch k fs last F).out = .ok ↔
      ∀ j, j < 3 * F.length → sch (k + j) = none := by
  induction F with
  | nil => intro k fs last; exact ⟨fun _ _ hj => absurd hj (Nat.not_lt_zero _), fun _ => rfl⟩
  | cons f r ih =>
    intro k fs last
    rw [writeLoop_cons_iff, writeFile_ok_iff, ih, List.length_cons,
      show 3 * (r.length + 1) = 3 + 3 * r.length by omega, forall_lt_add]
    simp only [Nat.add_assoc]

/-- Under every schedule: tracked paths are never forgotten, and a file present after the second loop was present
before or belongs to the set — and then, in the current code (`before = true`), it is tracked. -/
theorem writeLoop_present (F : List File) :
    ∀ (k : Nat) (fs : FS) (last : List String),
      (∀ p ∈ last, p ∈ (writeLoop b sch k fs last F).last) ∧
      ∀ q, get (writeLoop b sch k fs last F).fs q ≠ none →
        get fs q ≠ none ∨ (q ∈ F.map (·.path) ∧ (b = true → q ∈ (writeLoop b sch k fs last F).last)) := by
  induction F with
  | nil => intro k fs last; exact ⟨fun _ h => h, fun _ h => .inl h⟩
  | cons f r ih =>
    intro k fs last
    by_cases hok : (writeFile sch k fs f).out = .ok
    · rw [writeLoop_cons, if_pos hok]
      obtain ⟨hm, hp⟩ := ih (writeFile sch k fs f).k (writeFile sch k fs f).fs (last ++ [f.path])
      refine ⟨fun p hpl => hm p (by simp [hpl]), fun q hq => ?_⟩
      rcases hp q hq with h | ⟨h, hb⟩
      · rcases writeFile_present sch k fs f q h with h' | h'
        · exact .inl h'
        · exact .inr ⟨by simp [h'], fun _ => hm q (by simp [h'])⟩
      · exact .inr ⟨by simp [h], hb⟩
    · rw [writeLoop_cons, if_neg hok]
      refine ⟨fun p hpl => by cases b <;> simp [hpl], fun q hq => ?_⟩
      rcases writeFile_present sch k fs f q hq with h' | h'
      · exact .inl h'
      · exact .inr ⟨by simp [h'], fun hb => by simp [hb, h']⟩

/-! ### `ReplaceFiles` and `Tracked` -/

/-- every file present in the managed folders is tracked by the manager or is one of `B` (bootstrap) -/
def Tracked (B : List String) (s : St) : Prop := ∀ q, get s.fs q ≠ none → q ∈ s.last ∨ q ∈ B

/-- every file of the abstract disk lies directly in one of the managed folders -/
def InFolders (fs : FS) : Prop := ∀ q, get fs q ≠ none → dirOf q ∈ managedFolders

/-- all paths of a file set lie directly in the managed folders -/
def PathsManaged (F : List File) : Prop := ∀ f ∈ F, dirOf f.path ∈ managedFolders

theorem replaceFilesV_eq (s : St) (F : List File) :
    replaceFilesV b sch s F =
      let r := removeLoop sch 0 s.fs s.last
      if r.out = .ok then
        let w := writeLoop b sch r.k r.fs [] F
        ⟨⟨w.fs, w.last⟩, w.out, w.k⟩
      else ⟨⟨r.fs, s.last⟩, r.out, r.k⟩ := by
  rw [replaceFilesV]
  cases h : (removeLoop sch 0 s.fs s.last).out <;> simp [h]

theorem replaceFilesV_ok_inv {b : Bool} {sch : Sched} {s : St} {F : List File}
    (h : (replaceFilesV b sch s F).out = .ok) : (removeLoop sch 0 s.fs s.last).out = .ok :=
  Decidable.byContradiction fun hne => hne (by rwa [replaceFilesV_eq, if_neg hne] at h)

theorem replaceFiles_tracked (s : St) (F : List File)
    (h : Tracked B s) : Tracked B (replaceFiles sch s F).st := by
  intro q hq
  rw [replaceFiles] at hq ⊢
  by_cases hok : (removeLoop sch 0 s.fs s.last).out = .ok
  · rw [replaceFilesV_eq, if_pos hok] at hq ⊢
    rcases (writeLoop_present true sch F _ _ []).2 q hq with h1 | ⟨_, h1⟩
    · -- present after the first loop: not a tracked path, so present before and hence in `B`
      rw [(removeLoop_ok sch s.last 0 s.fs hok).2 q] at h1
      by_cases hl : q ∈ s.last
      · simp [hl] at h1
      · exact .inr ((h q (by simpa [hl] using h1)).resolve_left hl)
    · exact .inl (h1 rfl)
  · rw [replaceFilesV_eq, if_neg hok] at hq ⊢
    exact h q ((removeLoop_onlyRemoves sch s.last 0 s.fs).present hq)

theorem replaceFilesV_ok (s : St) (F : List File)
    (h : (replaceFilesV b sch s F).out = .ok) :
    (replaceFilesV b sch s F).st.last = F.map (·.path) ∧
    ∀ q, get (replaceFilesV b sch s F).st.fs q =
      expectAfter F q (if q ∈ s.last then none else get s.fs q) := by
  have hok := replaceFilesV_ok_inv h
  rw [replaceFilesV_eq, if_pos hok] at h ⊢
  obtain ⟨hl, hg⟩ := writeLoop_ok b sch F _ _ [] h
  refine ⟨by simpa using hl, fun q => ?_⟩
  rw [← (removeLoop_ok sch s.last 0 s.fs hok).2 q]
  exact hg q

/-- from a tracked state, a successful replacement (either variant) leaves exactly its set outside `B`: what was
on disk and not in `B` was tracked, hence removed by the first loop -/
theorem replaceFilesV_ok_exact (s : St) (F : List File)
    (ht : Tracked B s) (hok : (replaceFilesV b sch s F).out = .ok) (q : String) (hq : q ∉ B) :
    get (replaceFilesV b sch s F).st.fs q = expectAfter F q none := by
  rw [(replaceFilesV_ok b sch s F hok).2 q]
  by_cases hlq : q ∈ s.last
  · rw [if_pos hlq]
  · have : get s.fs q = none := Decidable.byContradiction fun hne => (ht q hne).elim hlq hq
    rw [if_neg hlq, this]

/-- **When `ReplaceFiles` returns nil.** Exactly when every `Remove` is not hit or answers ENOENT and no operation of
the write phase is hit by a fault of any kind. -/
theorem replaceFilesV_ok_iff (s : St) (F : List File) :
    (replaceFilesV b sch s F).out = .ok ↔
      (∀ j, j < s.last.length → sch j = none ∨ sch j = some .enoent) ∧
      ∀ j, j < 3 * F.length → sch (s.last.length + j) = none := by
  have hrem := removeLoop_ok_iff sch s.last 0 s.fs
  simp only [Nat.zero_add] at hrem
  constructor
  · intro h
    have hok := replaceFilesV_ok_inv h
    rw [replaceFilesV_eq, if_pos hok] at h
    have := (writeLoop_ok_iff b sch F _ _ _).1 h
    rw [(removeLoop_ok sch s.last 0 s.fs hok).1, Nat.zero_add] at this
    exact ⟨hrem.1 hok, this⟩
  · rintro ⟨h1, h2⟩
    have hok := hrem.2 h1
    rw [replaceFilesV_eq, if_pos hok]
    refine (writeLoop_ok_iff b sch F _ _ _).2 ?_
    rwa [(removeLoop_ok sch s.last 0 s.fs hok).1, Nat.zero_add]

theorem replaceFilesV_present (s : St) (F : List File) (q : String)
    (h : get (replaceFilesV b sch s F).st.fs q ≠ none) :
    get s.fs q ≠ none ∨ q ∈ F.map (·.path) := by
  have rem := removeLoop_onlyRemoves sch s.last 0 s.fs
  by_cases hok : (removeLoop sch 0 s.fs s.last).out = .ok
  · rw [replaceFilesV_eq, if_pos hok] at h
    exact ((writeLoop_present b sch F _ _ []).2 q h).imp rem.present And.left
  · rw [replaceFilesV_eq, if_neg hok] at h
    exact .inl (rem.present h)

theorem replaceFiles_inFolders (s : St) (F : List File)
    (hs : InFolders s.fs) (hF : PathsManaged F) : InFolders (replaceFiles sch s F).st.fs := by
  intro q hq
  rcases replaceFilesV_present true sch s F q hq with h | h
  · exact hs q h
  · obtain ⟨f, hf, rfl⟩ := List.mem_map.mp h
    exact hF f hf

theorem replaceFiles_noFaults (s : St) (F : List File) : (replaceFiles noFaults s F).out = .ok :=
  (replaceFilesV_ok_iff true noFaults s F).2 ⟨fun _ _ => .inl rfl, fun _ _ => rfl⟩

theorem replaceFilesE_true (s : St) (F : List File) :
    replaceFilesE true sch s F = replaceFiles sch s F := by
  unfold replaceFilesE replaceFiles replaceFilesV
  simp only [removeLoopE_true]

/-- the variant that does not recognise ENOENT: a tracked path that is not on disk stops the removal loop at
once, without any injected fault, and leaves the state as it was -/
theorem replaceFilesE_false_stuck (s : St) (p : String) (ps : List String) (F : List File)
    (hl : s.last = p :: ps) (hp : get s.fs p = none) :
    (replaceFilesE false noFaults s F).out = .failed ∧ (replaceFilesE false noFaults s F).st = s := by
  unfold replaceFilesE
  rw [hl]
  simp only [removeLoopE, noFaults, hp, and_self, if_true]
  cases s; simp_all

/-! ### `ClearFolders` -/

/-- `dirOf` of a literal, run on its characters (why: `NGF.Proofs.CharLits`) -/
theorem dirOf_ofList {l d : List Char} (h : dirChars l [] [] = d) :
    dirOf (String.ofList l) = String.ofList d := by
  rw [dirOf, String.toList_ofList, h]

theorem dirOf_mem {d : List Char} {ds : List String} (hd : String.ofList d ∈ ds) {l : List Char}
    (h : dirChars l [] [] = d) : dirOf (String.ofList l) ∈ ds :=
  dirOf_ofList h ▸ hd

theorem mem_insertSorted (p q : String) (l : List String) :
    q ∈ insertSorted p l ↔ q = p ∨ q ∈ l := by
  induction l with
  | nil => simp [insertSorted]
  | cons a r ih => unfold insertSorted; grind

theorem mem_sortPaths (q : String) (l : List String) : q ∈ sortPaths l ↔ q ∈ l := by
  induction l with
  | nil => simp [sortPaths]
  | cons a r ih => simp [sortPaths, mem_insertSorted, ih]

theorem mem_entries (fs : FS) (d q : String) :
    q ∈ entries fs d ↔ get fs q ≠ none ∧ dirOf q = d := by
  simp [entries, mem_sortPaths, mem_keys_iff]

theorem clearEntries_onlyRemoves (ps : List String) :
    ∀ (k : Nat) (fs : FS), OnlyRemoves (· ∉ ignorePaths) (clearEntries sch k fs ps).fs fs := by
  induction ps with
  | nil => intro k fs; exact .refl
  | cons p ps ih =>
    intro k fs
    unfold clearEntries
    split
    · exact ih k fs
    · next hign =>
      have one : OnlyRemoves (· ∉ ignorePaths) (erase fs p) fs := .erase fs (by simpa using hign)
      split
      · exact .refl
      · exact one
      · exact .refl
      · exact (ih (k + 1) (erase fs p)).trans one

theorem clearEntries_ok (ps : List String) :
    ∀ (k : Nat) (fs : FS), (clearEntries sch k fs ps).out = .ok →
      ∀ q, get (clearEntries sch k fs ps).fs q =
        if q ∈ ps ∧ q ∉ ignorePaths then none else get fs q := by
  induction ps with
  | nil => intro k fs _ q; simp [clearEntries]
  | cons p ps ih =>
    intro k fs h q
    unfold clearEntries at h ⊢
    by_cases hign : ignorePaths.contains p = true
    · rw [if_pos hign] at h ⊢
      have hp : p ∈ ignorePaths := by simpa using hign
      rw [ih k fs h q]
      grind
    · rw [if_neg hign] at h ⊢
      have hp : p ∉ ignorePaths := by simpa using hign
      cases hs : sch k with
      | some f => cases f <;> simp [hs] at h
      | none =>
        simp only [hs] at h ⊢
        rw [ih (k + 1) (erase fs p) h q, get_erase]
        grind

theorem clearEntries_noFaults (ps : List String) :
    ∀ (k : Nat) (fs : FS), (clearEntries noFaults k fs ps).out = .ok := by
  induction ps with
  | nil => intro k fs; rfl
  | cons p ps ih =>
    intro k fs
    unfold clearEntries
    split
    · exact ih k fs
    · simp only [noFaults]; exact ih (k + 1) _

theorem clearLoop_onlyRemoves (ds : List String) :
    ∀ (k : Nat) (fs : FS), OnlyRemoves (· ∉ ignorePaths) (clearLoop sch k fs ds).fs fs := by
  induction ds with
  | nil => intro k fs; exact .refl
  | cons d ds ih =>
    intro k fs
    unfold clearLoop
    split
    · exact .refl
    · exact .refl
    · have one := clearEntries_onlyRemoves sch (entries fs d) (k + 1) fs
      simp only
      split
      · exact (ih _ _).trans one
      · exact one

theorem clearLoop_ok (ds : List String) :
    ∀ (k : Nat) (fs : FS), (clearLoop sch k fs ds).out = .ok →
      ∀ q, get (clearLoop sch k fs ds).fs q =
        if dirOf q ∈ ds ∧ q ∉ ignorePaths then none else get fs q := by
  induction ds with
  | nil => intro k fs _ q; simp [clearLoop]
  | cons d ds ih =>
    intro k fs h q
    unfold clearLoop at h ⊢
    cases hs : sch k with
    | some f => cases f <;> simp [hs] at h
    | none =>
      simp only [hs] at h ⊢
      cases hok : (clearEntries sch (k + 1) fs (entries fs d)).out with
      | failed => simp [hok] at h
      | crashed => simp [hok] at h
      | ok =>
        simp only [hok] at h ⊢
        -- a file of folder `d` is an entry of `d` exactly if it is on disk; if it is not, both sides are `none`
        rw [ih _ _ h q, clearEntries_ok sch _ _ _ hok q]
        simp only [mem_entries, List.mem_cons]
        grind

theorem clearLoop_noFaults (ds : List String) :
    ∀ (k : Nat) (fs : FS), (clearLoop noFaults k fs ds).out = .ok := by
  induction ds with
  | nil => intro k fs; rfl
  | cons d ds ih =>
    intro k fs
    unfold clearLoop
    simp only [noFaults, clearEntries_noFaults]
    exact ih _ _

end NGF.FileMgr
