/-
The RFC 4291 text forms of IPv6 addresses are accepted by the model of `net.ParseIP` (`isV6`), and a string with
a single colon is not one.  With that, what the optional-port validator accepts is an NGINX `address[:port]`
once `nginxAddr` has put a bare IPv6 address between brackets.
-/
import NGF.Proofs.Cli

namespace NGF.Cli
open NGF.CliSpec

theorem splitOnC_joinC_append {c : Char} {l : List Str} {x : Str} (hne : l ≠ []) (h : ∀ f ∈ l, c ∉ f) :
    splitOnC c (joinC c l ++ c :: x) = l ++ splitOnC c x := by
  induction l with
  | nil => exact absurd rfl hne
  | cons f rest ih =>
    cases rest with
    | nil => simp [joinC, splitOnC_append_sep (h f (by simp))]
    | cons g gs =>
      simp only [joinC, List.append_assoc, List.cons_append]
      rw [splitOnC_append_sep (h f (by simp))]
      have := ih (by simp) (fun y hy => h y (by simp [hy]))
      simp only [List.cons_append] at this ⊢
      rw [this]

theorem hexGroup_facts {g : Str} (h : hexGroupOK g = true) : g ≠ [] ∧ ':' ∉ g := by
  refine ⟨?_, fun m => absurd (hexGroupOK_chars h _ m) (by decide)⟩
  rintro rfl
  cases h

/-- field lists as they occur after "::" or in a full address: every field non-empty and colon-free -/
def FieldsOK (r : List Str) : Prop := ∀ f ∈ r, f ≠ [] ∧ ':' ∉ f

theorem v6Units_cons_empty (rest : List Str) : v6Units ([] :: rest) = v6Units rest := by
  cases rest with
  | nil => rfl
  | cons g gs => simp [v6Units]

theorem v6Units_hex_append {l rest : List Str} (hl : ∀ g ∈ l, hexGroupOK g = true) (hne : rest ≠ []) :
    v6Units (l ++ rest) = (v6Units rest).map (· + l.length) := by
  induction l with
  | nil => simp
  | cons g gs ih =>
    have hg := hl g (by simp)
    have hge : g.isEmpty = false := by have := (hexGroup_facts hg).1; cases g <;> simp_all
    have ih' := ih (fun x hx => hl x (by simp [hx]))
    cases hr : gs ++ rest with
    | nil => simp at hr; exact absurd hr.2 hne
    | cons a as =>
      simp only [List.cons_append, hr, v6Units, hge, Bool.false_eq_true, if_false, hg, if_true]
      rw [← hr, ih']
      cases v6Units rest <;> simp [Nat.add_assoc]

theorem normLead_id {f : Str} {rest : List Str} (h : f ≠ []) : normLead (f :: rest) = some (f :: rest) := by
  cases f with
  | nil => exact absurd rfl h
  | cons c cs => simp [normLead]

theorem normTrail_id {xs : List Str} {last : Str} (h : last ≠ []) :
    normTrail (xs ++ [last]) = some (xs ++ [last]) := by
  cases last with
  | nil => exact absurd rfl h
  | cons c cs => simp [normTrail]

theorem normTrail_ellipsis (xs : List Str) : normTrail (xs ++ [[], []]) = some (xs ++ [[]]) := by
  simp [normTrail]

theorem filter_empty_fields {r : List Str} (h : FieldsOK r) : (r.filter (·.isEmpty)) = [] := by
  apply List.filter_eq_nil_iff.mpr
  intro f hf
  have := (h f hf).1
  cases f <;> simp_all

theorem list_snoc {α} {r : List α} (h : r ≠ []) : ∃ xs last, r = xs ++ [last] :=
  ⟨r.dropLast, r.getLast h, (List.dropLast_concat_getLast h).symm⟩

theorem isV6_full {fs : List Str} (hf : FieldsOK fs) (hu : v6Units fs = some 8) : isV6 (joinC ':' fs) = true := by
  have hne : fs ≠ [] := by intro e; subst e; simp [v6Units] at hu
  obtain ⟨xs, last, e⟩ := list_snoc hne
  have hlast : last ≠ [] := (hf last (by simp [e])).1
  unfold isV6
  rw [splitOnC_joinC hne (fun f m => (hf f m).2)]
  cases fs with
  | nil => exact absurd rfl hne
  | cons f rest =>
    rw [normLead_id (hf f (by simp)).1]
    simp only [Option.bind_some]
    rw [e, normTrail_id hlast, ← e]
    simp [hu, filter_empty_fields hf]

theorem isV6_compressed {l r : List Str} {u : Nat} (hl : ∀ g ∈ l, hexGroupOK g = true) (hr : FieldsOK r)
    (hu : v6Units r = some u) (hsum : l.length + u ≤ 7) :
    isV6 (joinC ':' l ++ ':' :: ':' :: joinC ':' r) = true := by
  have hlf : FieldsOK l := fun g m => hexGroup_facts (hl g m)
  -- after both normalisations the fields are `l`, the ellipsis, `r`, whichever of `l`, `r` is empty
  have hlead : normLead (splitOnC ':' (joinC ':' l ++ ':' :: ':' :: joinC ':' r)) =
      some (l ++ [] :: splitOnC ':' (joinC ':' r)) := by
    cases l with
    | nil => simp [joinC, splitOnC, normLead]
    | cons g gs =>
      rw [splitOnC_joinC_append (List.cons_ne_nil _ _) (fun f m => (hlf f m).2)]
      simp only [splitOnC, beq_self_eq_true, if_true]
      rw [List.cons_append, normLead_id (hlf g (by simp)).1]
  have htrail : normTrail (l ++ [] :: splitOnC ':' (joinC ':' r)) = some (l ++ [] :: r) := by
    by_cases hr0 : r = []
    · subst hr0; exact normTrail_ellipsis l
    · obtain ⟨xs, last, e⟩ := list_snoc hr0
      have : l ++ [] :: r = (l ++ [] :: xs) ++ [last] := by rw [e]; simp
      rw [splitOnC_joinC hr0 (fun f m => (hr f m).2), this, normTrail_id (hr last (by simp [e])).1]
  have hcnt : ((l ++ [] :: r).filter (fun (x : Str) => x.isEmpty)).length = 1 := by
    rw [List.filter_append, filter_empty_fields hlf]
    simp [filter_empty_fields hr]
  unfold isV6
  rw [hlead, Option.bind_some, htrail]
  dsimp only
  rw [v6Units_hex_append hl (List.cons_ne_nil _ _), v6Units_cons_empty, hu]
  simp only [hcnt, Option.map_some]
  simp at hsum ⊢; omega

theorem v6Units_groups {gs : List Str} (hg : ∀ g ∈ gs, hexGroupOK g = true) : v6Units gs = some gs.length := by
  by_cases hne : gs = []
  · subst hne; rfl
  obtain ⟨xs, last, e⟩ := list_snoc hne
  subst e
  have hx : ∀ g ∈ xs, hexGroupOK g = true := fun g m => hg g (by simp [m])
  have hlast := hg last (by simp)
  have hle : last.isEmpty = false := by have := (hexGroup_facts hlast).1; cases last <;> simp_all
  rw [v6Units_hex_append hx (by simp)]
  simp [v6Units, hle, hlast, Nat.add_comm]

theorem v6Units_groups_v4 {gs : List Str} {q : Str} (hg : ∀ g ∈ gs, hexGroupOK g = true) (hq : isV4 q = true) :
    v6Units (gs ++ [q]) = some (gs.length + 2) := by
  have hqe : q.isEmpty = false := by
    cases q with
    | nil => simp [isV4, splitOnC] at hq
    | cons _ _ => rfl
  have hqh : hexGroupOK q = false := by
    cases hh : hexGroupOK q
    · rfl
    · exfalso
      -- a dotted quad contains '.', which is not a hex digit
      have hdot : '.' ∈ q := by
        by_cases m : '.' ∈ q
        · exact m
        · simp [isV4, splitOnC_no_sep m] at hq
      exact absurd (hexGroupOK_chars hh _ hdot) (by decide)
  rw [v6Units_hex_append hg (by simp)]
  simp [v6Units, hqe, hqh, hq, Nat.add_comm]

theorem fieldsOK_groups {gs : List Str} (hg : ∀ g ∈ gs, hexGroupOK g = true) : FieldsOK gs :=
  fun g m => hexGroup_facts (hg g m)

theorem fieldsOK_groups_v4 {gs : List Str} {q : Str} (hg : ∀ g ∈ gs, hexGroupOK g = true) (hq : isV4 q = true) :
    FieldsOK (gs ++ [q]) := by
  intro f m
  rcases List.mem_append.mp m with m | m
  · exact hexGroup_facts (hg f m)
  · simp only [List.mem_singleton] at m; subst m
    refine ⟨?_, isV4_no_colon hq⟩
    intro e; subst e; simp [isV4, splitOnC] at hq

theorem colon_mem_joinC {a b : Str} {rest : List Str} : ':' ∈ joinC ':' (a :: b :: rest) := by
  simp [joinC]

theorem isV6_of_parseIP {h : Str} (hp : parseIP h = true) (hc : ':' ∈ h) : isV6 h = true := by
  rw [parseIP, List.contains_iff_mem.mpr hc, if_pos rfl] at hp
  exact hp

theorem isV6_one_colon_false {a b : Str} (ha : ':' ∉ a) (hb : ':' ∉ b) : isV6 (a ++ ':' :: b) = false := by
  unfold isV6
  rw [splitOnC_append_sep ha, splitOnC_no_sep hb]
  cases a with
  | nil =>
    cases b with
    | nil => simp [normLead, normTrail]
    | cons c cs => simp [normLead]
  | cons x xs =>
    cases b with
    | nil => simp [normLead, normTrail]
    | cons c cs =>
      simp only [normLead, Option.bind_some]
      have : normTrail [x :: xs, c :: cs] = some [x :: xs, c :: cs] := by simp [normTrail]
      rw [this]
      simp only [v6Units, List.isEmpty_cons, Bool.false_eq_true, if_false]
      by_cases h1 : hexGroupOK (x :: xs) = true
      · simp only [h1, if_true]
        by_cases h2 : hexGroupOK (c :: cs) = true
        · simp [h2]
        · by_cases h3 : isV4 (c :: cs) = true
          · simp [h2, h3]
          · simp [h2, h3]
      · simp [h1]

theorem ngxPortOK_of_portCheck {bits lo hi : Nat} {p : Str} (hlo : 1 ≤ lo) (hhi : hi ≤ 65535)
    (h : portCheck bits lo hi p = .ok) (hs : (p.isEmpty || p.head? == some '+' || p.head? == some '-') = false) :
    ngxPortOK p = true ∧ ∀ c ∈ p, isDigit c = true := by
  obtain ⟨v, hv, v1, v2⟩ := portCheck_ok h
  obtain ⟨c, cs, ds, n, rfl, rfl, hne, hn, rfl, hr⟩ := parseInt_iff.mp hv
  simp only [List.isEmpty_cons, List.head?_cons, Bool.false_or, Bool.or_eq_false_iff] at hs
  have hcp : (c == '+') = false := by simpa using hs.1
  have hm : (c == '-') = false := by simpa using hs.2
  simp only [hcp, hm, Bool.or_self, Bool.false_eq_true, if_false] at hn hr v1 v2
  have hall := digitsVal_all hn
  refine ⟨?_, hall⟩
  simp only [ngxPortOK, List.isEmpty_cons, Bool.not_false, Bool.true_and, hn, Bool.and_eq_true,
    List.all_eq_true, decide_eq_true_eq]
  exact ⟨hall, by omega, by omega⟩

theorem dns_no_colon {s : Str} (h : isDNS1123Subdomain s = true) : ':' ∉ s :=
  fun m => absurd ((dns_chars h).2 _ m) (by decide)

theorem lowerByte_colon {e : Char} (h : lowerByte e = ':') : e = ':' := by
  unfold lowerByte at h
  by_cases hu : isUpper e = true
  · have hlt : e.toNat < 128 := by
      simp only [isUpper, Bool.and_eq_true, decide_eq_true_eq] at hu; omega
    have tbl : ∀ n < 128, isUpper (Char.ofNat n) = true →
        Char.ofNat ((Char.ofNat n).toNat + 32) ≠ ':' := by decide +kernel
    have := tbl e.toNat hlt
    rw [Char.ofNat_toNat] at this
    simp only [hu, if_true] at h
    exact absurd h (this hu)
  · simpa [hu] using h

/-- the fifth byte of the prefix is a colon in either case -/
theorem unixPrefix_colon {s : Str} (h : hasUnixPrefix s = true) : ':' ∈ s := by
  rw [hasUnixPrefix, beq_iff_eq, String.toList_ofList] at h
  have : ':' ∈ (s.take 5).map lowerByte := by rw [h]; decide
  obtain ⟨e, he, hl⟩ := List.mem_map.mp this
  rw [lowerByte_colon hl] at he
  exact List.mem_of_mem_take he

theorem nginxAddrOk_hostChars {s : Str} (hch : ∀ c ∈ s, isHostChar c = true) (hu : hasUnixPrefix s = false) :
    nginxAddrOk s = match splitFirst ':' s with
      | some (h, p) => !h.isEmpty && ngxPortOK p
      | none => !s.isEmpty := by
  have h1 : s.contains '/' = false := contains_false_iff.mpr fun m => absurd (hch _ m) (by decide)
  have h2 : s.contains '?' = false := contains_false_iff.mpr fun m => absurd (hch _ m) (by decide)
  cases s with
  | nil => rfl
  | cons c rest =>
    have hcb : (c == '[') = false :=
      beq_eq_false_iff_ne.mpr fun e => absurd (hch c List.mem_cons_self) (by rw [e]; decide)
    rw [nginxAddrOk, hu, if_neg Bool.false_ne_true]
    simp only [hcb, Bool.false_eq_true, if_false, ngxInetUrl, h1, h2, Bool.or_self]
    rfl

theorem nginxAddrOk_bare_host {s : Str} (hk : hostOK s = true) (hc : ':' ∉ s) : nginxAddrOk s = true := by
  obtain ⟨ne, hch⟩ := hostOK_chars hk
  rw [nginxAddrOk_hostChars hch (Bool.eq_false_iff.mpr fun hu => hc (unixPrefix_colon hu)), splitFirst_eq_none.mpr hc, List.isEmpty_eq_false_iff.mpr ne]
  rfl

theorem nginxAddrOk_plain {h p : Str} (hk : hostOK h = true) (hc : ':' ∉ h) (hp : ngxPortOK p = true)
    (hd : ∀ c ∈ p, isDigit c = true) (hu : hasUnixPrefix (h ++ ':' :: p) = false) :
    nginxAddrOk (h ++ ':' :: p) = true := by
  obtain ⟨ne, hch⟩ := hostOK_chars hk
  -- the colon and the digits of the port are host bytes too
  have hall : ∀ c ∈ h ++ ':' :: p, isHostChar c = true :=
    List.forall_mem_append.mpr ⟨hch, List.forall_mem_cons.mpr
      ⟨by decide, fun c m => by simp [isHostChar, isHex, hd c m]⟩⟩
  rw [nginxAddrOk_hostChars hall hu, splitFirst_append_sep hc]
  dsimp only
  rw [List.isEmpty_eq_false_iff.mpr ne, hp]
  rfl

theorem not_unix_bracket (rest : Str) : hasUnixPrefix ('[' :: rest) = false := by
  rw [hasUnixPrefix, String.toList_ofList]
  exact Bool.eq_false_iff.mpr fun e => absurd (List.cons.inj (beq_iff_eq.mp e)).1 (by decide)

theorem nginxAddrOk_bracket {h after : Str} (h6 : isV6 h = true)
    (ha : after = [] ∨ ∃ p, after = ':' :: p ∧ ngxPortOK p = true) :
    nginxAddrOk ('[' :: (h ++ ']' :: after)) = true := by
  have hf := splitFirst_append_sep (c := ']') (r := after) fun m => absurd (isV6_chars h6 _ m) (by decide)
  unfold nginxAddrOk
  rw [not_unix_bracket]
  rcases ha with rfl | ⟨p, rfl, hp⟩
  · simp [ngxInet6Url, hf, h6]
  · simp [ngxInet6Url, hf, h6, hp]

theorem bare_v6_accepted {cfg : Cfg} {h : Str} (hp : parseIP h = true) (hc : ':' ∈ h) :
    validateEndpointOptionalPort cfg h = .ok := by
  have hk : hostOK h = true := hostOK_iff.mpr (.inl ⟨List.ne_nil_of_mem hc, hp⟩)
  have h6 := isV6_of_parseIP hp hc
  obtain ⟨b1, b2⟩ := hostOK_no_bracket hk
  cases hs : splitHostPort h with
  | error k =>
    refine validateOpt_iff.mpr ⟨List.ne_nil_of_mem hc, .inl ⟨k, hs, ?_, hk⟩⟩
    -- without brackets SplitHostPort can only fail with "missing port" or "too many colons"
    unfold splitHostPort at hs
    rw [List.contains_iff_mem.mpr hc] at hs
    cases h with
    | nil => cases hc
    | cons c rest =>
      have hcb : (c == '[') = false := beq_eq_false_iff_ne.mpr fun e => b1 (by rw [e]; exact List.mem_cons_self)
      simp only [Bool.not_true, Bool.false_eq_true, if_false, hcb] at hs
      cases hl : splitLast ':' (c :: rest) with
      | none => simp only [hl] at hs; cases hs; rfl
      | some q =>
        obtain ⟨a, b⟩ := q
        simp only [hl, contains_false_iff.mpr b1, contains_false_iff.mpr b2, Bool.false_eq_true, if_false] at hs
        split at hs
        · cases hs; rfl
        · cases hs
  | ok q =>
    obtain ⟨a, b⟩ := q
    exfalso
    rcases splitHostPort_ok hs with ⟨e, n1, _, _, n2, _⟩ | ⟨e, _⟩
    · subst e
      rw [isV6_one_colon_false n1 n2] at h6
      exact absurd h6 (by simp)
    · subst e; exact b1 (by simp)

theorem bare_v6_not_nginx_addr {h : Str} (hp : parseIP h = true) (hc : ':' ∈ h) : nginxAddrOk h = false := by
  have h6 := isV6_of_parseIP hp hc
  have hk : hostOK h = true := hostOK_iff.mpr (.inl ⟨List.ne_nil_of_mem hc, hp⟩)
  cases hu : hasUnixPrefix h with
  | true => unfold nginxAddrOk; rw [hu]; rfl
  | false =>
    -- NGINX reads what follows the first colon as the port, and an IPv6 literal has a second colon there
    rw [nginxAddrOk_hostChars (hostOK_chars hk).2 hu]
    cases hf : splitFirst ':' h with
    | none => exact absurd hc (splitFirst_eq_none.mp hf)
    | some q =>
      obtain ⟨a, b⟩ := q
      obtain ⟨e, na⟩ := splitFirst_some hf
      have hb : ':' ∈ b := Classical.byContradiction fun m => by
        rw [e, isV6_one_colon_false na m] at h6; cases h6
      have : b.all isDigit = false :=
        Bool.eq_false_iff.mpr fun hall => absurd (List.all_eq_true.mp hall _ hb) (by decide)
      simp [ngxPortOK, this]

theorem bracketV6_nginx_addr {h : Str} (hp : parseIP h = true) (hc : ':' ∈ h) :
    nginxAddrOk (bracketV6 h) = true := by
  unfold bracketV6 nginxAddr
  rw [List.contains_iff_mem.mpr hc, hp]
  exact nginxAddrOk_bracket (isV6_of_parseIP hp hc) (.inl rfl)

theorem bracketV6_id {v : Str} (h : (v.contains ':' && parseIP v) = false) : bracketV6 v = v := by
  unfold bracketV6 nginxAddr; rw [h]; rfl

theorem unix_letter_table : ∀ n < 128, isHostChar (Char.ofNat n) = true →
    (lowerByte (Char.ofNat n) = 'u' ∨ lowerByte (Char.ofNat n) = 'n' ∨ lowerByte (Char.ofNat n) = 'i' ∨
      lowerByte (Char.ofNat n) = 'x') → lowerByte (Char.ofNat n) = Char.ofNat n := by decide +kernel

theorem unix_letter {c : Char} (h : isHostChar c = true)
    (hl : lowerByte c = 'u' ∨ lowerByte c = 'n' ∨ lowerByte c = 'i' ∨ lowerByte c = 'x') : lowerByte c = c := by
  have := unix_letter_table c.toNat (epChar_lt (hostChar_ep h))
  rw [Char.ofNat_toNat] at this
  exact this h hl

theorem unixPrefix_host {h p : Str} (hch : ∀ c ∈ h, isHostChar c = true) (hc : ':' ∉ h)
    (hu : hasUnixPrefix (h ++ ':' :: p) = true) : h = "unix".toList := by
  rw [hasUnixPrefix, beq_iff_eq, String.toList_ofList] at hu
  -- the colon after `h` meets one of the five bytes of the prefix: it must be the fifth
  rcases h with _ | ⟨a, _ | ⟨b, _ | ⟨c, _ | ⟨d, _ | ⟨e, rest⟩⟩⟩⟩⟩ <;>
    simp only [List.cons_append, List.nil_append, List.take, List.map, List.cons.injEq] at hu
  · exact absurd hu.1 (by decide)
  · exact absurd hu.2.1 (by decide)
  · exact absurd hu.2.2.1 (by decide)
  · exact absurd hu.2.2.2.1 (by decide)
  · obtain ⟨ea, eb, ec, ed, _⟩ := hu
    rw [unix_letter (hch a (by simp)) (.inl ea)] at ea
    rw [unix_letter (hch b (by simp)) (.inr (.inl eb))] at eb
    rw [unix_letter (hch c (by simp)) (.inr (.inr (.inl ec)))] at ec
    rw [unix_letter (hch d (by simp)) (.inr (.inr (.inr ed)))] at ed
    subst ea eb ec ed
    rfl
  · exact absurd (by rw [lowerByte_colon hu.2.2.2.2.1]; simp) hc

theorem validateOpt_nginx_addr {cfg : Cfg} {s : Str} (hlo : 1 ≤ cfg.optLo) (hhi : cfg.optHi ≤ 65535)
    (h : validateEndpointOptionalPort cfg s = .ok) : nginxAddrOk (nginxAddr s) = true := by
  obtain ⟨-, hcases⟩ := validateOpt_iff.mp h
  -- a value that is a host as a whole: a bare IPv6 address gets its brackets, anything else has no colon
  have whole : hostOK s = true → nginxAddrOk (nginxAddr s) = true := by
    intro hk
    by_cases hc : ':' ∈ s
    · rcases hostOK_iff.mp hk with ⟨_, hp⟩ | hd
      · exact (bracketV6_nginx_addr hp hc : nginxAddrOk (bracketV6 s) = true)
      · exact absurd hc (dns_no_colon hd)
    · have hid : nginxAddr s = s := bracketV6_id (by rw [contains_false_iff.mpr hc]; rfl)
      rw [hid]
      exact nginxAddrOk_bare_host hk hc
  rcases hcases with ⟨k, _, _, hk⟩ | ⟨hst, p, hs, hsign, hbr, hux, hp, hk⟩
  · exact whole hk
  · by_cases hhe : hst.isEmpty = true
    · simp only [hhe, if_true] at hk; exact whole hk
    · simp only [hhe, Bool.false_eq_true, if_false] at hk
      obtain ⟨npo, pdig⟩ := ngxPortOK_of_portCheck hlo hhi hp hsign
      rcases splitHostPort_ok hs with ⟨e, hc, _, _, pc, _⟩ | ⟨e, _⟩
      · subst e
        have hid : nginxAddr (hst ++ ':' :: p) = hst ++ ':' :: p := bracketV6_id (by
          rw [parseIP, List.contains_iff_mem.mpr (List.mem_append_right _ List.mem_cons_self), if_pos rfl,
            isV6_one_colon_false hc pc]; rfl)
        rw [hid]
        have hu : hasUnixPrefix (hst ++ ':' :: p) = false := by
          cases hx : hasUnixPrefix (hst ++ ':' :: p)
          · rfl
          · exact absurd (unixPrefix_host (hostOK_chars hk).2 hc hx) (beq_eq_false_iff_ne.mp hux)
        exact nginxAddrOk_plain hk hc npo pdig hu
      · subst e
        have hc : ':' ∈ hst := List.contains_iff_mem.mp (by simpa using hbr)
        have h6 : isV6 hst = true := by
          rcases hostOK_iff.mp hk with ⟨_, hp'⟩ | hd
          · exact isV6_of_parseIP hp' hc
          · exact absurd hc (dns_no_colon hd)
        have hid : nginxAddr ('[' :: (hst ++ ']' :: ':' :: p)) = '[' :: (hst ++ ']' :: ':' :: p) :=
          bracketV6_id (Bool.and_eq_false_imp.mpr fun _ => Bool.eq_false_iff.mpr fun hx =>
            absurd (parseIP_chars hx '[' List.mem_cons_self) (by decide))
        rw [hid]
        exact nginxAddrOk_bracket h6 (.inr ⟨p, rfl, npo⟩)

end NGF.Cli
