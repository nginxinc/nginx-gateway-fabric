/-
C18: the maps of the provisioner model (`store.gateways`, `provisions`) are association lists; what `hasKey`,
`get?`, `erase` and `upsert` do to each other, and when the keys stay free of duplicates.
-/
import NGF.Model.Provisioner
import NGF.Proofs.ListBasics

namespace NGF.Prov

section Assoc
variable {α β : Type} [DecidableEq α]

@[simp] theorem hasKey_nil (k : α) : hasKey ([] : List (α × β)) k = false := rfl
@[simp] theorem get?_nil (k : α) : get? ([] : List (α × β)) k = none := rfl
@[simp] theorem erase_nil (k : α) : erase ([] : List (α × β)) k = [] := rfl

theorem hasKey_cons (a : α) (b : β) (l : List (α × β)) (k : α) :
    hasKey ((a, b) :: l) k = (decide (a = k) || hasKey l k) := rfl

theorem get?_cons (a : α) (b : β) (l : List (α × β)) (k : α) :
    get? ((a, b) :: l) k = if a = k then some b else get? l k := by
  by_cases h : a = k <;> simp [get?, h]

theorem erase_cons (a : α) (b : β) (l : List (α × β)) (k : α) :
    erase ((a, b) :: l) k = if a = k then erase l k else (a, b) :: erase l k := by
  by_cases h : a = k <;> simp [erase, h]

theorem hasKey_append (l₁ l₂ : List (α × β)) (k : α) :
    hasKey (l₁ ++ l₂) k = (hasKey l₁ k || hasKey l₂ k) := by
  simp [hasKey]

theorem get?_append (l₁ l₂ : List (α × β)) (k : α) :
    get? (l₁ ++ l₂) k = (get? l₁ k).or (get? l₂ k) := by
  induction l₁ with
  | nil => simp
  | cons p t ih =>
    obtain ⟨a, b⟩ := p
    by_cases h : a = k <;> simp [get?_cons, h, ih]

theorem hasKey_iff_mem {l : List (α × β)} {k : α} : hasKey l k = true ↔ ∃ v, (k, v) ∈ l := by
  simp only [hasKey, List.any_eq_true, beq_iff_eq]
  constructor
  · rintro ⟨⟨a, v⟩, hm, rfl⟩
    exact ⟨v, hm⟩
  · rintro ⟨v, hm⟩
    exact ⟨(k, v), hm, rfl⟩

theorem hasKey_iff_mem_keys {l : List (α × β)} {k : α} : hasKey l k = true ↔ k ∈ l.map (·.1) := by
  simp only [hasKey, List.any_eq_true, beq_iff_eq, List.mem_map]

theorem mem_keys_filter {l : List (α × β)} {q : α → Bool} {k : α} :
    k ∈ (l.filter (fun p => q p.1)).map (·.1) ↔ hasKey l k = true ∧ q k = true := by
  rw [hasKey_iff_mem]
  simp only [List.mem_map, List.mem_filter]
  constructor
  · rintro ⟨⟨a, v⟩, ⟨hm, hq⟩, rfl⟩
    exact ⟨⟨v, hm⟩, hq⟩
  · rintro ⟨⟨v, hm⟩, hq⟩
    exact ⟨(k, v), ⟨hm, hq⟩, rfl⟩

theorem hasKey_eq_isSome_get? (l : List (α × β)) (k : α) : hasKey l k = (get? l k).isSome := by
  induction l with
  | nil => simp
  | cons p t ih =>
    obtain ⟨a, b⟩ := p
    by_cases h : a = k <;> simp [hasKey_cons, get?_cons, h, ih]

theorem get?_some_of_hasKey {l : List (α × β)} {k : α} (h : hasKey l k = true) : ∃ v, get? l k = some v := by
  rw [hasKey_eq_isSome_get?] at h
  exact Option.isSome_iff_exists.mp h

theorem hasKey_of_get?_some {l : List (α × β)} {k : α} {v : β} (h : get? l k = some v) : hasKey l k = true := by
  rw [hasKey_eq_isSome_get?, h]; rfl

theorem mem_of_get?_some {l : List (α × β)} {k : α} {v : β} (h : get? l k = some v) : (k, v) ∈ l := by
  induction l with
  | nil => simp at h
  | cons p t ih =>
    obtain ⟨a, b⟩ := p
    rw [get?_cons] at h
    by_cases hk : a = k
    · simp [hk] at h; simp [hk, h]
    · simp [hk] at h; exact List.mem_cons_of_mem _ (ih h)

theorem get?_of_mem {l : List (α × β)} (hn : (l.map (·.1)).Nodup) {k : α} {v : β} (h : (k, v) ∈ l) :
    get? l k = some v := by
  obtain ⟨v', hv'⟩ := get?_some_of_hasKey (hasKey_iff_mem.mpr ⟨v, h⟩)
  rw [hv', (Prod.mk.inj (inj_of_nodup_map hn _ h _ (mem_of_get?_some hv') rfl)).2]

theorem hasKey_erase (l : List (α × β)) (k k' : α) :
    hasKey (erase l k) k' = (hasKey l k' && decide (k' ≠ k)) := by
  rw [Bool.eq_iff_iff]
  simp only [hasKey, erase, List.any_filter, List.any_eq_true, Bool.and_eq_true, bne_iff_ne, beq_iff_eq, decide_eq_true_eq]
  constructor
  · rintro ⟨p, hp, hne, rfl⟩
    exact ⟨⟨p, hp, rfl⟩, hne⟩
  · rintro ⟨⟨p, hp, rfl⟩, hne⟩
    exact ⟨p, hp, hne, rfl⟩

theorem get?_erase (l : List (α × β)) (k k' : α) :
    get? (erase l k) k' = if k' = k then none else get? l k' := by
  induction l with
  | nil => simp
  | cons p t ih =>
    obtain ⟨a, b⟩ := p
    rw [erase_cons]
    by_cases h' : k' = k
    · subst h'
      by_cases h : a = k'
      · simpa [h] using ih
      · simpa [h, get?_cons] using ih
    · by_cases h : a = k
      · subst h
        have : a ≠ k' := fun e => h' e.symm
        simpa [h', get?_cons, this] using ih
      · by_cases h'' : a = k' <;> simp [h, h', h'', ih, get?_cons]

theorem erase_eq_self {l : List (α × β)} {k : α} (h : hasKey l k = false) : erase l k = l :=
  List.filter_eq_self.mpr fun p hp => bne_iff_ne.mpr fun e => by
    rw [hasKey_iff_mem.mpr ⟨p.2, e ▸ hp⟩] at h
    cases h

theorem nodup_keys_erase {l : List (α × β)} (h : (l.map (·.1)).Nodup) (k : α) :
    ((erase l k).map (·.1)).Nodup := h.sublist ((List.filter_sublist (l := l)).map _)

theorem hasKey_upsert (l : List (α × β)) (k : α) (v : β) (k' : α) :
    hasKey (upsert l k v) k' = (hasKey l k' || decide (k' = k)) := by
  simp only [upsert, hasKey_append, hasKey_erase, hasKey_cons, hasKey_nil, Bool.or_false]
  by_cases h : k' = k
  · simp [h]
  · simp [h, Ne.symm h]

theorem get?_upsert (l : List (α × β)) (k : α) (v : β) (k' : α) :
    get? (upsert l k v) k' = if k' = k then some v else get? l k' := by
  simp only [upsert, get?_append, get?_erase, get?_cons, get?_nil]
  by_cases h : k' = k
  · simp [h]
  · simp [h, Ne.symm h]

end Assoc

theorem nodup_concat {α : Type} {l : List α} {a : α} (hl : l.Nodup) (ha : a ∉ l) : (l ++ [a]).Nodup :=
  List.nodup_append.mpr ⟨hl, by simp, fun x hx y hy e => ha (List.mem_singleton.mp hy ▸ e ▸ hx)⟩

theorem nodup_keys_upsert {α β : Type} [DecidableEq α] {l : List (α × β)} (h : (l.map (·.1)).Nodup) (k : α) (v : β) :
    ((upsert l k v).map (·.1)).Nodup := by
  simp only [upsert, List.map_append, List.map_cons, List.map_nil]
  refine nodup_concat (nodup_keys_erase h k) fun ha => ?_
  have := hasKey_iff_mem_keys.mpr ha
  simp [hasKey_erase] at this

end NGF.Prov
