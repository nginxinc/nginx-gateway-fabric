/-
Helper lemmas for the text step of C04 (Model/Print): lexing the printed text of a tree whose words are lexically safe
gives back the intended token stream (`lexFrom_print`), parsing the intended token stream gives back the tree
(`parseToks_toks`), and the skeleton of the intended token stream depends only on the shape of the tree.
Also the view of a tree as the list of its directives (`flatDirs`), through which the checks that test every directive
by itself are proved of the rendered tree. Core Lean only.
-/
import NGF.Model.Print
import NGF.Proofs.NginxLexHoles
import NGF.Proofs.InjBridge

namespace NGF.Print
open NGF.Nginx NGF.Inj

/-- the lexer between two statements / two words: `pending` words of the current statement have been read -/
def Sk (k : Nat) : LexSt := { mode := .space, esc := false, dollar := false, cur := [], pending := k }

def Dk (k : Nat) : LexSt := { mode := .dq, esc := false, dollar := false, cur := [], pending := k }

def Nk (k : Nat) : LexSt := { mode := .needSpace, esc := false, dollar := false, cur := [], pending := k }

theorem init_eq : LexSt.init = Sk 0 := rfl

theorem headChar_eq (c : Char) : headChar c = startOK c := rfl

theorem plain_of_isDigit {c : Char} (h : c.isDigit = true) : Plain c := by
  simp only [Char.isDigit, Bool.and_eq_true, decide_eq_true_eq, UInt32.le_iff_toNat_le, ge_iff_le] at h
  simp only [Plain, specials, Char.toNat, List.mem_cons, List.not_mem_nil, or_false]
  have h0 : '0'.val.toNat = 48 := rfl
  have h9 : '9'.val.toNat = 57 := rfl
  omega

theorem plain_ne {c d : Char} (h : Plain c) (hd : d.toNat ∈ specials) : c ≠ d := fun e => h (e ▸ hd)

theorem tailChar_facts {c : Char} (h : tailChar c = true) : isTerm .bare c = false ∧ c ≠ '\\' := by
  simp only [tailChar, Bool.not_eq_true', Bool.or_eq_false_iff, beq_eq_false_iff_ne, ne_eq] at h
  obtain ⟨⟨⟨h1, h2⟩, h3⟩, h4⟩ := h
  exact ⟨by simp [isTerm, h1, h2, h3], h4⟩

theorem headChar_ne_backslash {c : Char} (h : headChar c = true) : c ≠ '\\' := by
  intro e; subst e; revert h; decide

theorem bareOK_facts {a : List Char} (h : bareOK a = true) :
    ∃ c t, a = c :: t ∧ startOK c = true ∧ Inert .bare t ∧ '\\' ∉ a := by
  cases a with
  | nil => simp [bareOK] at h
  | cons c t =>
    simp only [bareOK, Bool.and_eq_true, List.all_eq_true] at h
    refine ⟨c, t, rfl, h.1, inert_of_all_plain (fun c' h' => tailChar_facts (h.2 c' h')), ?_⟩
    intro hm
    rcases List.mem_cons.mp hm with e | hm
    · exact headChar_ne_backslash h.1 e.symm
    · exact (tailChar_facts (h.2 _ hm)).2 rfl

theorem dqOK_facts {a : List Char} (h : dqOK a = true) : Inert .dq a ∧ '\\' ∉ a := by
  simp only [dqOK, List.all_eq_true, Bool.not_eq_true', Bool.or_eq_false_iff, beq_eq_false_iff_ne, ne_eq] at h
  refine ⟨inert_of_all_plain (fun c hc => ⟨?_, (h c hc).2⟩), fun hm => (h _ hm).2 rfl⟩
  simp [isTerm, (h c hc).1]

/-- tokens produced by the character that follows a word -/
def sepToks (c : Char) : List Tok := if c == ';' then [.semi] else []

/-- state after a word (the `k+1`-th of its statement) and the character that follows it -/
def sepState (k : Nat) (c : Char) : LexSt := if c == ';' then Sk 0 else Sk (k + 1)

theorem sepToks_space : sepToks ' ' = [] := rfl
theorem sepToks_semi : sepToks ';' = [.semi] := rfl
theorem sepState_space (k : Nat) : sepState k ' ' = Sk (k + 1) := rfl
theorem sepState_semi (k : Nat) : sepState k ';' = Sk 0 := rfl

theorem lexFrom_quoted {v : List Char} (hi : Inert .dq v) {c : Char} (hc : c = ' ' ∨ c = ';') (k : Nat) (post : List Char) :
    lexFrom (Sk k) (printArg (v, true) ++ c :: post) =
      prepend (.word (unescape v) true :: sepToks c) (lexFrom (sepState k c) post) := by
  have h0 : step (Sk k) '"' = .ok (Dk k, []) := by simp [step, Sk, Dk, isWs]
  have hq : lexFrom (Dk k) (v ++ '"' :: c :: post) =
      prepend [.word (unescape v) true] (lexFrom (Nk (k + 1)) (c :: post)) :=
    hole_dquoted (st := Dk k) (v := v) (post := c :: post) rfl rfl hi
  simp only [printArg, if_true]
  rw [List.cons_append, lexFrom_cons_ok h0, List.append_assoc, List.singleton_append, hq, prepend_prepend]
  rcases hc with rfl | rfl
  · have h1 : step (Nk (k + 1)) ' ' = .ok (Sk (k + 1), []) := by simp [step, Sk, Nk, isWs]
    rw [lexFrom_cons_ok h1, prepend_prepend]; rfl
  · have h1 : step (Nk (k + 1)) ';' = .ok (Sk 0, [.semi]) := by simp [step, Sk, Nk, isWs]
    rw [lexFrom_cons_ok h1, prepend_prepend]; rfl

theorem lexFrom_word {a : Arg} (ha : argOK a = true) {c : Char} (hc : c = ' ' ∨ c = ';') (k : Nat) (post : List Char) :
    lexFrom (Sk k) (printArg a ++ c :: post) =
      prepend (argTok a :: sepToks c) (lexFrom (sepState k c) post) := by
  obtain ⟨v, q⟩ := a
  cases q with
  | false =>
    simp only [argOK, Bool.false_eq_true, if_false] at ha
    obtain ⟨h, t, rfl, hs, ht, hb⟩ := bareOK_facts ha
    simp only [printArg, Bool.false_eq_true, if_false, argTok]
    rcases hc with rfl | rfl
    · rw [hole_bare_ws (st := Sk k) rfl rfl hs ht (by decide), NGF.Inj.unescape_of_no_backslash _ hb]
      rfl
    · rw [hole_bare_semi (st := Sk k) rfl rfl hs ht, NGF.Inj.unescape_of_no_backslash _ hb]
      rfl
  | true =>
    simp only [argOK, if_true] at ha
    obtain ⟨hi, hb⟩ := dqOK_facts ha
    rw [lexFrom_quoted hi hc, NGF.Inj.unescape_of_no_backslash _ hb]
    rfl

theorem printWords_append (ws : List Arg) (t r : List Char) : printWords ws t ++ r = printWords ws (t ++ r) := by
  induction ws with
  | nil => rfl
  | cons a as ih =>
    simp only [printWords]
    cases as with
    | nil => simp
    | cons b bs => simp [ih]

theorem lexFrom_words : ∀ (a : Arg) (ws : List Arg), (a :: ws).all argOK = true → ∀ {c : Char}, c = ' ' ∨ c = ';' →
    ∀ (k : Nat) (post : List Char),
      lexFrom (Sk k) (printWords (a :: ws) (c :: post)) =
        prepend ((a :: ws).map argTok ++ sepToks c) (lexFrom (sepState (k + ws.length) c) post)
  | a, [], hok, c, hc, k, post => by
    simp only [List.all_cons, List.all_nil, Bool.and_true] at hok
    simpa [printWords] using lexFrom_word hok hc k post
  | a, b :: r, hok, c, hc, k, post => by
    simp only [List.all_cons, Bool.and_eq_true] at hok
    have ih := lexFrom_words b r (by simp [hok.2]) hc (k + 1) post
    have hw := lexFrom_word hok.1 (c := ' ') (.inl rfl) k (printWords (b :: r) (c :: post))
    have pw : printWords (a :: b :: r) (c :: post) = printArg a ++ ' ' :: printWords (b :: r) (c :: post) := rfl
    rw [pw, hw, sepState_space, sepToks_space, ih, prepend_prepend, show k + 1 + r.length = k + (b :: r).length by simp; omega]
    simp

section
variable {motive : Dir → Prop} {motives : List Dir → Prop} (simple : ∀ n args, motive (.mk n args none))
  (block : ∀ n args ch, motives ch → motive (.mk n args (some ch))) (nil : motives [])
  (cons : ∀ d ds, motive d → motives ds → motives (d :: ds))
include simple block nil cons

mutual
theorem dir_ind : ∀ d, motive d
  | .mk n args none => simple n args
  | .mk n args (some ch) => block n args ch (dirs_ind ch)
theorem dirs_ind : ∀ ds, motives ds
  | [] => nil
  | d :: ds => cons d ds (dir_ind d) (dirs_ind ds)
end

theorem dir_induction : (∀ d, motive d) ∧ ∀ ds, motives ds :=
  ⟨dir_ind simple block nil cons, dirs_ind simple block nil cons⟩

end

theorem step_nl (k : Nat) : step (Sk k) '\n' = .ok (Sk k, []) := by simp [step, Sk, isWs]

theorem step_open (k : Nat) : step (Sk (k + 1)) '{' = .ok (Sk 0, [.open]) := by simp [step, Sk, isWs]

theorem step_close : step (Sk 0) '}' = .ok (Sk 0, [.close]) := by simp [step, Sk, isWs]

theorem lexFrom_print :
    (∀ d, dirOK d = true → ∀ post, lexFrom (Sk 0) (printDir d ++ post) = prepend (dirToks d) (lexFrom (Sk 0) post)) ∧
    ∀ ds, dirsOK ds = true → ∀ post, lexFrom (Sk 0) (printDirs ds ++ post) = prepend (dirsToks ds) (lexFrom (Sk 0) post) := by
  refine dir_induction ?_ ?_ ?_ ?_
  · intro n args h post
    simp only [dirOK, Bool.and_eq_true] at h
    have hw := lexFrom_words (n, false) args (by simp [argOK, h.1, h.2]) (c := ';') (.inr rfl) 0
      ('\n' :: post)
    simp only [printDir, dirToks, printWords_append, List.cons_append, List.nil_append]
    rw [hw, sepState_semi, sepToks_semi, lexFrom_cons_ok (step_nl 0), prepend_nil]
    simp [argTok]
  · intro n args ch ih h post
    simp only [dirOK, Bool.and_eq_true] at h
    have hw := lexFrom_words (n, false) args (by simp [argOK, h.1.1, h.1.2]) (c := ' ') (.inl rfl) 0
      ('{' :: '\n' :: (printDirs ch ++ '}' :: '\n' :: post))
    simp only [printDir, dirToks, printWords_append, List.cons_append, List.nil_append, List.append_assoc]
    rw [hw, sepState_space, sepToks_space, lexFrom_cons_ok (step_open _), lexFrom_cons_ok (step_nl 0), prepend_nil, ih h.2,
      lexFrom_cons_ok step_close, lexFrom_cons_ok (step_nl 0), prepend_nil, prepend_prepend, prepend_prepend,
      prepend_prepend]
    simp [argTok]
  · intro _ post
    simp [printDirs, dirsToks, prepend_nil]
  · intro d ds ih1 ih2 h post
    simp only [dirsOK, Bool.and_eq_true] at h
    simp only [printDirs, dirsToks, List.append_assoc]
    rw [ih1 h.1, ih2 h.2, prepend_prepend]

theorem lex_printDirs {ds : List Dir} (h : dirsOK ds = true) : lex (printDirs ds) = .ok (dirsToks ds) := by
  have := lexFrom_print.2 ds h []
  simp only [List.append_nil] at this
  unfold lex
  rw [init_eq, this]
  simp [lexFrom, prepend, atEOF, Sk]

theorem parseToks_words (args : List Arg) : ∀ (n depth : Nat) (rest : List Tok) (words : List (List Char × Bool))
    (acc : List Dir),
    parseToks (n + args.length) depth (args.map argTok ++ rest) words acc = parseToks n depth rest (words ++ args) acc := by
  induction args with
  | nil => intro n depth rest words acc; simp
  | cons a as ih =>
    intro n depth rest words acc
    have : n + (a :: as).length = (n + as.length) + 1 := by simp; omega
    rw [this]
    simp only [List.map_cons, List.cons_append, argTok, parseToks]
    rw [ih]
    simp

theorem parseToks_toks :
    (∀ (d : Dir) (n f depth : Nat) (rest : List Tok) (acc : List Dir), n + (dirToks d).length ≤ f →
      ∃ f', n ≤ f' ∧ parseToks f depth (dirToks d ++ rest) [] acc = parseToks f' depth rest [] (d :: acc)) ∧
    ∀ (ds : List Dir) (n f depth : Nat) (rest : List Tok) (acc : List Dir), n + (dirsToks ds).length ≤ f →
      ∃ f', n ≤ f' ∧ parseToks f depth (dirsToks ds ++ rest) [] acc = parseToks f' depth rest [] (ds.reverse ++ acc) := by
  refine dir_induction ?_ ?_ ?_ ?_
  · intro nm args n f depth rest acc hf
    simp only [dirToks, List.length_append, List.length_cons, List.length_map, List.length_nil] at hf
    obtain ⟨m, rfl⟩ : ∃ m, f = (m + 1 + args.length) + 1 := ⟨f - args.length - 2, by omega⟩
    refine ⟨m, by omega, ?_⟩
    simp only [dirToks, List.cons_append, List.append_assoc, parseToks, List.nil_append]
    rw [parseToks_words]
    simp [parseToks]
  · intro nm args ch ih n f depth rest acc hf
    simp only [dirToks, List.length_append, List.length_cons, List.length_map, List.length_nil] at hf
    obtain ⟨m, rfl⟩ : ∃ m, f = (m + 1 + args.length) + 1 := ⟨f - args.length - 2, by omega⟩
    obtain ⟨f', hf', ih⟩ := ih 1 m (depth + 1) (.close :: rest) [] (by omega)
    obtain ⟨g, rfl⟩ : ∃ g, f' = g + 1 := ⟨f' - 1, by omega⟩
    refine ⟨m, by omega, ?_⟩
    simp only [dirToks, List.cons_append, List.append_assoc, parseToks, List.nil_append]
    rw [parseToks_words]
    simp only [parseToks, List.singleton_append]
    rw [ih]
    simp [parseToks]
  · intro n f depth rest acc hf
    exact ⟨f, by simpa [dirsToks] using hf, by simp [dirsToks]⟩
  · intro d ds ih1 ih2 n f depth rest acc hf
    simp only [dirsToks, List.length_append] at hf
    obtain ⟨f1, h1, e1⟩ := ih1 (n + (dirsToks ds).length) f depth (dirsToks ds ++ rest) acc (by omega)
    obtain ⟨f2, h2, e2⟩ := ih2 n f1 depth rest (d :: acc) h1
    exact ⟨f2, h2, by simp only [dirsToks, List.append_assoc]; rw [e1, e2]; simp⟩

theorem parseToks_dirToks : ∀ (d : Dir) (n f depth : Nat) (rest : List Tok) (acc : List Dir),
    n + (dirToks d).length ≤ f →
    ∃ f', n ≤ f' ∧ parseToks f depth (dirToks d ++ rest) [] acc = parseToks f' depth rest [] (d :: acc) := parseToks_toks.1

theorem parseToks_top (ds : List Dir) :
    parseToks ((dirsToks ds).length + 1) 0 (dirsToks ds) [] [] = .ok (ds, []) := by
  obtain ⟨f', hf', e⟩ := parseToks_toks.2 ds 1 ((dirsToks ds).length + 1) 0 [] [] (by omega)
  obtain ⟨g, rfl⟩ : ∃ g, f' = g + 1 := ⟨f' - 1, by omega⟩
  simp only [List.append_nil] at e
  rw [e]
  simp [parseToks]

theorem parse_printDirs {ds : List Dir} (h : dirsOK ds = true) : parse (printDirs ds) = .ok ds := by
  simp [parse, lex_printDirs h, parseToks_top]

theorem sameArgs_shape {a b : List Arg} (h : sameArgs a b = true) :
    (a.map argTok).map Tok.shape = (b.map argTok).map Tok.shape := by
  simp only [sameArgs, beq_iff_eq] at h
  have : ∀ l : List Arg, (l.map argTok).map Tok.shape = (l.map (·.2)).map fun q => Tok.word [] q := by
    intro l; induction l with
    | nil => rfl
    | cons x xs ih => simp [argTok, Tok.shape, ih]
  rw [this, this, h]

theorem sameShape_skeletons :
    (∀ x y, sameShape x y = true → skeleton (dirToks x) = skeleton (dirToks y)) ∧
    ∀ xs ys, sameShapes xs ys = true → skeleton (dirsToks xs) = skeleton (dirsToks ys) := by
  refine dir_induction ?_ ?_ ?_ ?_
  · intro _ a y h
    obtain ⟨_, b, _ | d⟩ := y
    · simp only [sameShape] at h
      simp [skeleton, dirToks, Tok.shape, sameArgs_shape h]
    · simp [sameShape] at h
  · intro _ a c ih y h
    obtain ⟨_, b, _ | d⟩ := y
    · simp [sameShape] at h
    · simp only [sameShape, Bool.and_eq_true] at h
      have ih := ih d h.2
      simp only [skeleton] at ih
      simp [skeleton, dirToks, Tok.shape, sameArgs_shape h.1, ih]
  · intro ys h
    cases ys with
    | nil => rfl
    | cons _ _ => simp [sameShapes] at h
  · intro x xs ih1 ih2 ys h
    cases ys with
    | nil => simp [sameShapes] at h
    | cons y ys =>
      simp only [sameShapes, Bool.and_eq_true] at h
      have h1 := ih1 y h.1
      have h2 := ih2 ys h.2
      simp only [skeleton] at h1 h2
      simp [skeleton, dirsToks, h1, h2]

theorem sameShape_skeleton : ∀ (x y : Dir), sameShape x y = true → skeleton (dirToks x) = skeleton (dirToks y) :=
  sameShape_skeletons.1

/-! ### a tree as the list of its directives

`dirsOK`, `dirsOKw` and `dollarsOK` each test every directive of a tree by itself (name, arguments, block or not);
`flatDirs` lists the directives, so each of them is "the test holds of every element of `flatDirs`". -/

/-- `Q` holds of `d` and of every directive below it -/
def Every (Q : Dir → Prop) (d : Dir) : Prop := ∀ x ∈ flatDir d, Q x

theorem mem_flatDirs {x : Dir} : ∀ {ds : List Dir}, x ∈ flatDirs ds ↔ ∃ d ∈ ds, x ∈ flatDir d
  | [] => by simp [flatDirs]
  | d :: ds => by simp [flatDirs, mem_flatDirs (ds := ds)]

theorem forall_flatDirs {Q : Dir → Prop} {ds : List Dir} : (∀ x ∈ flatDirs ds, Q x) ↔ ∀ d ∈ ds, Every Q d :=
  ⟨fun h d hd x hx => h x (mem_flatDirs.mpr ⟨d, hd, hx⟩), fun h x hx => by
    obtain ⟨d, hd, hxd⟩ := mem_flatDirs.mp hx
    exact h d hd x hxd⟩

theorem every_simple {Q : Dir → Prop} {n : List Char} {args : List Arg} (h : Q (.mk n args none)) :
    Every Q (.mk n args none) := by
  intro x hx
  simp only [flatDir, List.mem_cons, List.not_mem_nil, or_false] at hx
  exact hx ▸ h

theorem every_block {Q : Dir → Prop} {n : List Char} {args : List Arg} {ch : List Dir} (h : Q (.mk n args (some ch)))
    (hc : ∀ d ∈ ch, Every Q d) : Every Q (.mk n args (some ch)) := by
  intro x hx
  simp only [flatDir, List.mem_cons] at hx
  rcases hx with rfl | hx
  · exact h
  · exact forall_flatDirs.mpr hc x hx

/-- a check `f`/`fs` that applies the test `p` to every directive of a tree and does nothing else -/
theorem check_iff_flat {p f : Dir → Bool} {fs : List Dir → Bool} (h1 : ∀ n a, f (.mk n a none) = p (.mk n a none))
    (h2 : ∀ n a ch, f (.mk n a (some ch)) = (p (.mk n a (some ch)) && fs ch)) (h3 : fs [] = true)
    (h4 : ∀ d ds, fs (d :: ds) = (f d && fs ds)) :
    (∀ d, f d = true ↔ ∀ x ∈ flatDir d, p x = true) ∧ ∀ ds, fs ds = true ↔ ∀ x ∈ flatDirs ds, p x = true := by
  refine dir_induction ?_ ?_ ?_ ?_
  · intro n a; rw [h1]; simp [flatDir]
  · intro n a ch ih; rw [h2, Bool.and_eq_true, ih]; simp [flatDir]
  · simp [h3, flatDirs]
  · intro d ds ih1 ih2
    rw [h4, Bool.and_eq_true, ih1, ih2]
    simp [flatDirs, or_imp, forall_and]

/-- the test of `dirsOK` on one directive -/
def stmtOK (d : Dir) : Bool := bareOK d.name && d.args.all argOK

theorem dirsOK_iff_flat (ds : List Dir) : dirsOK ds = true ↔ ∀ x ∈ flatDirs ds, stmtOK x = true :=
  (check_iff_flat (p := stmtOK) (f := dirOK) (fun _ _ => by simp only [dirOK]; rfl) (fun _ _ _ => by simp only [dirOK]; rfl)
    (by simp only [dirsOK]) (fun _ _ => by simp only [dirsOK])).2 ds

theorem stmtOK_mk {n : List Char} {args : List Arg} (b : Option (List Dir)) (hn : bareOK n = true)
    (ha : args.all argOK = true) : stmtOK (.mk n args b) = true := by
  simp only [stmtOK, Dir.name, Dir.args, hn, ha, Bool.and_self]

/-- the test of `dollarsOK` on one directive -/
def stmtDollarOK (d : Dir) : Bool := argsDollarOK d.name d.args

theorem all_singleton {α} {p : α → Bool} {a : α} (ha : p a = true) : [a].all p = true := by
  rw [List.all_cons, ha]; rfl

theorem all_pair {α} {p : α → Bool} {a b : α} (ha : p a = true) (hb : p b = true) : [a, b].all p = true := by
  rw [List.all_cons, ha, all_singleton hb]; rfl

theorem dirsOK_append (a b : List Dir) : dirsOK (a ++ b) = (dirsOK a && dirsOK b) := by
  induction a with
  | nil => simp [dirsOK]
  | cons d ds ih => simp [dirsOK, ih, Bool.and_assoc]

end NGF.Print
