/-
Helper lemmas for the fragment stage of C07 (`NGF.Model.PipelineStatus`): how the per-parentRef binding of the Go code
(`attachable`, `bindOne`, `tryAttach`, `attachment`, `boundListeners`) relates to `Pipeline.acceptedAt`, which Gateway the
graph is built for (`graphGateway` against `Pipeline.winner`), what `routeConds` contains, and — for the step from the
statuses to the generated configuration — the hypotheses of the fragment unpacked and membership in `hostsOf` / `entries`.
Core Lean only.
-/
import NGF.Model.PipelineStatus
import NGF.Proofs.StatusPrep
import NGF.Proofs.ListBasics
import NGF.Proofs.Pipeline

namespace NGF.PipelineStatus
open NGF.Pipeline
open NGF.StatusPrep (Cond condsFalse)

theorem oldest_none {l : List Gateway} (h : oldest l = none) : l = [] := by
  cases l with
  | nil => rfl
  | cons x xs =>
    simp only [oldest] at h
    cases ho : oldest xs with
    | none => rw [ho] at h; simp at h
    | some b => rw [ho] at h; simp only at h; split at h <;> simp at h

theorem winner_eq (s : Scenario) : winner s = if classOurs s then oldest (ours s) else none := rfl

theorem classState_ours {s : Scenario} : classState s = .ours ↔ classOurs s = true := by
  unfold classState
  by_cases h : classOurs s = true
  · simp [h]
  · simp only [h, Bool.false_eq_true, if_false, iff_false]
    split <;> simp

theorem graphGateway_of_winner {s : Scenario} {g : Gateway} (h : winner s = some g) : graphGateway s = some (g, true) := by
  rw [winner_eq] at h
  by_cases hc : classOurs s = true
  · simp only [hc, if_true] at h
    simp [graphGateway, classState, hc, h]
  · simp [hc] at h

theorem winner_of_graphGateway {s : Scenario} {g : Gateway} (h : graphGateway s = some (g, true)) : winner s = some g := by
  unfold graphGateway at h
  cases hc : classState s with
  | ours =>
    rw [hc] at h
    simp only [Option.map_eq_some_iff, Prod.mk.injEq, and_true] at h
    obtain ⟨a, ha, rfl⟩ := h
    rw [winner_eq, classState_ours.mp hc]; simpa using ha
  | foreign => rw [hc] at h; simp at h
  | missing => rw [hc] at h; simp at h

theorem winner_mem_ours {s : Scenario} {g : Gateway} (h : winner s = some g) : g ∈ ours s := by
  rw [winner_eq] at h
  by_cases hc : classOurs s = true
  · simp only [hc, if_true] at h; exact oldest_mem h
  · simp [hc] at h

theorem graphGateway_of_winner_none {s : Scenario} (h : winner s = none) :
    graphGateway s = none ∨ (classState s = .missing ∧ ∃ g, graphGateway s = some (g, false)) := by
  rw [winner_eq] at h
  unfold graphGateway
  cases hc : classState s with
  | ours =>
    have := classState_ours.mp hc
    simp only [this, if_true] at h
    left; simp [h]
  | foreign => left; rfl
  | missing =>
    cases ho : oldest (ours s) with
    | none => left; simp
    | some g => right; exact ⟨rfl, g, by simp⟩

/-- the parentRef's section name selects listener `l` (the test inside `Pipeline.refersTo`) -/
def selects (p : Parent) (l : Listener) : Bool :=
  match p.sectionName with
  | none => true
  | some sn => sn == l.name

theorem refersTo_eq (g : Gateway) (l : Listener) (r : Route) :
    refersTo g l r = r.parents.any fun p => names g p && selects p l := rfl

theorem attachable_none {ls : List Listener} {p : Parent} (hs : p.sectionName = none) : attachable ls p = (ls, true) := by
  simp [attachable, secKey, hs]

theorem attachable_some {ls : List Listener} {p : Parent} {sn : Str} (hs : p.sectionName = some sn)
    (hp : p.sectionName ≠ some []) :
    attachable ls p = match ls.find? (·.name == sn) with
      | some l => ([l], true)
      | none => ([], false) := by
  have hemp : sn.isEmpty = false := by
    cases sn with
    | nil => exact absurd hs hp
    | cons _ _ => rfl
  unfold attachable
  simp only [secKey, hs, Option.getD_some, hemp, Bool.false_eq_true, if_false]
  cases ls.find? (·.name == sn) <;> rfl

theorem mem_attachable {ls : List Listener} {p : Parent} {l : Listener} (hp : p.sectionName ≠ some [])
    (h : l ∈ (attachable ls p).1) : l ∈ ls ∧ selects p l = true ∧ (attachable ls p).2 = true := by
  unfold selects
  cases hs : p.sectionName with
  | none => rw [attachable_none hs] at h ⊢; exact ⟨h, rfl, rfl⟩
  | some sn =>
    rw [attachable_some hs hp] at h ⊢
    cases hf : ls.find? (fun x => x.name == sn) with
    | none => rw [hf] at h; cases h
    | some l' =>
      rw [hf] at h
      obtain rfl := List.mem_singleton.mp h
      have h1 := List.find?_some hf
      simp only [beq_iff_eq] at h1
      exact ⟨List.mem_of_find?_eq_some hf, by simp [h1], rfl⟩

theorem attachable_of_selects {ls : List Listener} {p : Parent} {l : Listener} (hp : p.sectionName ≠ some [])
    (hu : (ls.map (·.name)).Pairwise (· ≠ ·)) (hl : l ∈ ls) (hs : selects p l = true) :
    l ∈ (attachable ls p).1 ∧ (attachable ls p).2 = true := by
  unfold selects at hs
  cases hsn : p.sectionName with
  | none => rw [attachable_none hsn]; exact ⟨hl, rfl⟩
  | some sn =>
    rw [hsn] at hs
    simp only [beq_iff_eq] at hs
    rw [attachable_some hsn hp]
    cases hf : ls.find? (fun x => x.name == sn) with
    | none =>
      have := List.find?_eq_none.mp hf l hl
      simp [hs] at this
    | some l' =>
      have h1 := List.find?_some hf
      simp only [beq_iff_eq] at h1
      obtain rfl := inj_of_nodup_map hu _ (List.mem_of_find?_eq_some hf) _ hl (by rw [h1, hs])
      exact ⟨List.mem_singleton.mpr rfl, rfl⟩

theorem bindOne_attached {g : Gateway} {r : Route} {l : Listener} :
    (bindOne g r l).2 = true ↔ nsAllowed g l r = true ∧ Hostname.accepted l.host r.hostnames ≠ [] := by
  unfold bindOne
  cases hn : nsAllowed g l r with
  | false => simp
  | true =>
    cases ha : Hostname.accepted l.host r.hostnames with
    | nil => simp
    | cons x xs => simp

theorem tryAttach_snd (g : Gateway) (r : Route) (ls : List Listener) :
    (tryAttach g r ls).2 = ls.any fun l => (bindOne g r l).2 := by
  unfold tryAttach
  cases ls with
  | nil => rfl
  | cons x xs =>
    simp only [List.isEmpty_cons, Bool.false_eq_true, if_false]
    cases (x :: xs).any fun l => (bindOne g r l).2 with
    | true => rfl
    | false => simp only [Bool.not_false, if_true]; split <;> rfl

theorem tryAttach_attached {g : Gateway} {r : Route} {ls : List Listener} :
    (tryAttach g r ls).2 = true ↔ ∃ l ∈ ls, (bindOne g r l).2 = true := by
  rw [tryAttach_snd, List.any_eq_true]

theorem tryAttach_failed {g : Gateway} {r : Route} {ls : List Listener} (h : (tryAttach g r ls).2 = false) :
    (tryAttach g r ls).1.type = "Accepted" ∧ (tryAttach g r ls).1.status = "False" := by
  unfold tryAttach at h ⊢
  cases ls with
  | nil => simp [invalidListener]
  | cons x xs =>
    simp only [List.isEmpty_cons, Bool.false_eq_true, if_false] at h ⊢
    cases hatt : (x :: xs).any (fun l => (bindOne g r l).2) with
    | true => rw [hatt] at h; simp at h
    | false =>
      simp only [Bool.not_false, if_true]
      split <;> simp [notAllowedByListeners, noMatchingListenerHostname]

theorem attachment_attached_iff {gw : Gateway} {v : Bool} {r : Route} {p : Parent} :
    (attachment gw v r p).attached = true ↔
      v = true ∧ names gw p = true ∧ (attachable gw.listeners p).2 = true ∧
        ∃ l ∈ (attachable gw.listeners p).1, (bindOne gw r l).2 = true := by
  unfold attachment
  cases v with
  | false =>
    simp only [graphListeners, Bool.false_eq_true, if_false, false_and, iff_false]
    split
    · simp
    · split <;> simp
  | true =>
    simp only [graphListeners, if_true, true_and]
    cases ha : (attachable gw.listeners p).2 with
    | false => simp
    | true =>
      cases hn : names gw p with
      | false => simp
      | true => simp [tryAttach_attached]

theorem attachment_failed {gw : Gateway} {v : Bool} {r : Route} {p : Parent} (h : (attachment gw v r p).attached = false) :
    (attachment gw v r p).failed.type = "Accepted" ∧ (attachment gw v r p).failed.status = "False" := by
  unfold attachment at h ⊢
  dsimp only at h ⊢
  cases ha : (attachable (graphListeners gw v) p).2 with
  | false => simp [noMatchingParent]
  | true =>
    cases hn : names gw p with
    | false => simp [gatewayIgnored]
    | true =>
      cases v with
      | false => simp [invalidGateway]
      | true =>
        simp only [ha, hn, Bool.not_true, Bool.false_eq_true, if_false] at h ⊢
        exact tryAttach_failed h

theorem toPrepRef_wf (gw : Gateway) (v : Bool) (r : Route) (p : Parent) : (toPrepRef gw v r p).wf = true := by
  simp only [NGF.StatusPrep.ParentRef.wf, toPrepRef]
  cases hatt : (attachment gw v r p).attached with
  | true => simp
  | false =>
    simp only [Bool.false_or, Bool.and_eq_true, decide_eq_true_eq]
    exact attachment_failed hatt

theorem mem_boundListeners {gw : Gateway} {r : Route} {p : Parent} {l : Listener} :
    l ∈ boundListeners gw true r p ↔
      names gw p = true ∧ (attachable gw.listeners p).2 = true ∧ l ∈ (attachable gw.listeners p).1 ∧ (bindOne gw r l).2 = true := by
  unfold boundListeners
  simp only [graphListeners, if_true, Bool.and_true]
  cases ha : (attachable gw.listeners p).2 with
  | false => simp
  | true =>
    cases hn : names gw p with
    | false => simp
    | true => simp [List.mem_filter]

theorem boundListeners_ne_nil {gw : Gateway} {r : Route} {p : Parent} :
    boundListeners gw true r p ≠ [] ↔ (attachment gw true r p).attached = true := by
  rw [attachment_attached_iff]
  constructor
  · intro h
    obtain ⟨l, hl⟩ := List.exists_mem_of_ne_nil _ h
    obtain ⟨hn, ha, hl1, hb⟩ := mem_boundListeners.mp hl
    exact ⟨rfl, hn, ha, l, hl1, hb⟩
  · rintro ⟨_, hn, ha, l, hl, hb⟩
    exact List.ne_nil_of_mem (mem_boundListeners.mpr ⟨hn, ha, hl, hb⟩)

theorem acceptedAt_ne_nil {g : Gateway} {l : Listener} {r : Route} :
    acceptedAt g l r ≠ [] ↔
      (∃ p ∈ r.parents, names g p = true ∧ selects p l = true) ∧ nsAllowed g l r = true ∧
        Hostname.accepted l.host r.hostnames ≠ [] := by
  unfold acceptedAt
  rw [refersTo_eq]
  cases hr : (r.parents.any fun p => names g p && selects p l) with
  | false =>
    simp only [Bool.false_and, Bool.false_eq_true, if_false, ne_eq, not_true_eq_false, false_iff, not_and]
    intro ⟨p, hp, h1, h2⟩
    have := List.any_eq_false.mp hr p hp
    simp [h1, h2] at this
  | true =>
    obtain ⟨p, hp, hh⟩ := List.any_eq_true.mp hr
    simp only [Bool.and_eq_true] at hh
    cases hn : nsAllowed g l r with
    | false => simp
    | true =>
      simp only [Bool.and_self, if_true, ne_eq, true_and, iff_and_self]
      intro _
      exact ⟨p, hp, hh.1, hh.2⟩

theorem bound_iff_acceptedAt {g : Gateway} {r : Route} {p : Parent} {l : Listener}
    (hp : p.sectionName ≠ some []) (hu : (g.listeners.map (·.name)).Pairwise (· ≠ ·)) (hpr : p ∈ r.parents) :
    l ∈ boundListeners g true r p ↔ l ∈ g.listeners ∧ names g p = true ∧ selects p l = true ∧ acceptedAt g l r ≠ [] := by
  rw [mem_boundListeners, acceptedAt_ne_nil, bindOne_attached]
  constructor
  · rintro ⟨hn, _, hl, hns, hacc⟩
    obtain ⟨hl1, hl2, _⟩ := mem_attachable hp hl
    exact ⟨hl1, hn, hl2, ⟨p, hpr, hn, hl2⟩, hns, hacc⟩
  · rintro ⟨hl, hn, hs, _, hns, hacc⟩
    obtain ⟨h1, h2⟩ := attachable_of_selects hp hu hl hs
    exact ⟨hn, h2, h1, hns, hacc⟩

theorem mem_routeConds_valid_iff {r : Route} (hv : r.valid = true) {c : Cond} :
    c ∈ routeConds r ↔
      c = refsUnresolved ∧ ∃ rule ∈ r.rules, ∃ bs, rule.action = .forward bs ∧ ∃ b ∈ bs, b.valid = false := by
  simp only [routeConds, hv, Bool.not_true, Bool.false_eq_true, if_false, List.mem_flatMap]
  constructor
  · rintro ⟨rule, hr, hc⟩
    cases ha : rule.action with
    | forward bs =>
      rw [ha] at hc
      obtain ⟨b, hb, rfl⟩ := List.mem_map.mp hc
      obtain ⟨hb1, hb2⟩ := List.mem_filter.mp hb
      exact ⟨rfl, rule, hr, bs, ha, b, hb1, by simpa using hb2⟩
    | redirect a b c d => rw [ha] at hc; cases hc
  · rintro ⟨rfl, rule, hr, bs, ha, b, hb, hbv⟩
    exact ⟨rule, hr, by rw [ha]; exact List.mem_map.mpr ⟨b, List.mem_filter.mpr ⟨hb, by simp [hbv]⟩, rfl⟩⟩

theorem mem_routeConds_valid {r : Route} (hv : r.valid = true) {c : Cond} (h : c ∈ routeConds r) : c = refsUnresolved :=
  ((mem_routeConds_valid_iff hv).mp h).1

theorem routeConds_invalid {r : Route} (hv : r.valid = false) : routeConds r = [routeUnsupportedValue] := by
  simp [routeConds, hv]

theorem routeConds_condsFalse (t : String) (r : Route) : condsFalse t (routeConds r) = true := by
  unfold condsFalse
  rw [List.all_eq_true]
  intro c hc
  cases hv : r.valid with
  | true => rw [mem_routeConds_valid hv hc]; simp [refsUnresolved]
  | false =>
    rw [routeConds_invalid hv] at hc
    simp only [List.mem_singleton] at hc
    subst hc; simp [routeUnsupportedValue]

theorem routeConds_no_accepted {r : Route} : (∀ c ∈ routeConds r, c.type ≠ "Accepted") ↔ r.valid = true := by
  cases hv : r.valid with
  | true =>
    simp only [iff_true]
    intro c hc
    rw [mem_routeConds_valid hv hc]; decide
  | false =>
    rw [routeConds_invalid hv]
    simp [routeUnsupportedValue]

theorem routeConds_resolvedRefs_iff {r : Route} :
    (∃ c ∈ routeConds r, c.type = "ResolvedRefs") ↔
      r.valid = true ∧ ∃ rule ∈ r.rules, ∃ bs, rule.action = .forward bs ∧ ∃ b ∈ bs, b.valid = false := by
  cases hv : r.valid with
  | false =>
    rw [routeConds_invalid hv]
    simp [routeUnsupportedValue]
  | true =>
    simp only [true_and]
    exact ⟨fun ⟨c, hc, _⟩ => ((mem_routeConds_valid_iff hv).mp hc).2,
      fun h => ⟨refsUnresolved, (mem_routeConds_valid_iff hv).mpr ⟨rfl, h⟩, rfl⟩⟩

theorem listener_names_unique {g : Gateway} (hg : gatewayOK g = true) : (g.listeners.map (·.name)).Pairwise (· ≠ ·) := by
  simp only [gatewayOK, Bool.and_eq_true] at hg
  exact nodup_of_eraseDups_length (by simpa [nodup] using hg.1.1)

theorem parentsOK_spec {r : Route} (h : parentsOK r = true) {p : Parent} (hp : p ∈ r.parents) : p.sectionName ≠ some [] := by
  have := List.all_eq_true.mp h p hp
  simpa using this

theorem sectionNameRefs_of_noDup {s : Scenario} {r : Route} (h : noDupRefs s r = true) :
    sectionNameRefs s r = some (r.parents.filter (namesOurs s)) := by
  unfold noDupRefs at h
  unfold sectionNameRefs at h ⊢
  dsimp only at h ⊢
  by_cases hd : dupFree ((r.parents.filter (namesOurs s)).map fun p => (p.ns, p.name, secKey p)) = true
  · simp [hd]
  · simp [hd] at h

theorem statusOK_spec {s : Scenario} (h : statusOK s = true) {r : Route} (hr : r ∈ s.routes) :
    parentsOK r = true ∧ noDupRefs s r = true := by
  have := List.all_eq_true.mp h r hr
  simpa using this

theorem mem_hostsOf {g : Gateway} {routes : List Route} {l : Listener} {r : Route} {h : Str}
    (hl : l ∈ g.listeners) (hr : r ∈ routes) (hv : r.valid = true) (hh : h ∈ acceptedAt g l r) :
    (l.port, h) ∈ hostsOf g routes := by
  unfold hostsOf
  rw [List.mem_eraseDups]
  refine List.mem_flatMap.mpr ⟨l, hl, List.mem_flatMap.mpr ⟨r, hr, ?_⟩⟩
  simp only [hv, if_true]
  exact List.mem_map.mpr ⟨h, hh, rfl⟩

theorem mem_entries_iff {g : Gateway} {routes : List Route} {e : Entry} :
    e ∈ entries g routes ↔
      ∃ l ∈ g.listeners, ∃ r ∈ routes, r.valid = true ∧ ∃ rule ∈ r.rules, ∃ h ∈ acceptedAt g l r, ∃ m ∈ rule.ms,
        e = { port := l.port, host := h, m := m, key := keyOf r m, action := rule.action } := by
  unfold entries
  simp only [List.mem_flatMap]
  constructor
  · rintro ⟨l, hl, r, hr, he⟩
    cases hv : r.valid with
    | false => simp [hv] at he
    | true =>
      simp only [hv, if_true, routeEntries, List.mem_flatMap, List.mem_map] at he
      obtain ⟨rule, hrule, h, hh, m, hm, rfl⟩ := he
      exact ⟨l, hl, r, hr, hv, rule, hrule, h, hh, m, hm, rfl⟩
  · rintro ⟨l, hl, r, hr, hv, rule, hrule, h, hh, m, hm, rfl⟩
    refine ⟨l, hl, r, hr, ?_⟩
    simp only [hv, if_true, routeEntries, List.mem_flatMap, List.mem_map]
    exact ⟨rule, hrule, h, hh, m, hm, rfl⟩

theorem servers_of_winner {s : Scenario} {g : Gateway} (hw : winner s = some g) :
    (Pipeline.gen s).servers = (hostsOf g s.routes).map fun ph => serverOf (entries g s.routes) ph.1 ph.2 := by
  simp [Pipeline.gen, hw]

theorem inFragment_spec {s : Scenario} {g : Gateway} (hf : inFragment s = true) (hw : winner s = some g) :
    gatewayOK g = true ∧ ∀ r ∈ s.routes, routeOK r = true := by
  simp only [inFragment, hw, Bool.and_eq_true] at hf
  exact ⟨hf.2, fun r hr => List.all_eq_true.mp hf.1.2 r hr⟩

theorem entry_matchOK {g : Gateway} {routes : List Route} (hro : ∀ r ∈ routes, routeOK r = true) {e : Entry}
    (he : e ∈ entries g routes) : matchOK e.m = true := by
  obtain ⟨l, _, r, hr, _, rule, hrule, h, _, m, hm, rfl⟩ := mem_entries_iff.mp he
  have h1 := hro r hr
  simp only [routeOK, Bool.and_eq_true] at h1
  exact List.all_eq_true.mp (List.all_eq_true.mp h1.2 rule hrule) m hm

theorem no_slash_sibling {x m : Match} (hx : matchOK x = true) (hm : matchOK m = true) (hpre : x.exact = false) :
    x.path ≠ m.path ++ ['/'] := by
  intro heq
  simp only [matchOK, Bool.and_eq_true, Bool.or_eq_true, beq_iff_eq, bne_iff_ne, ne_eq] at hx hm
  have hlast : x.path.getLast? = some '/' := by rw [heq]; simp
  have hne : m.path ≠ [] := by
    intro hnil
    have := hm.1.1.1
    rw [hnil] at this; simp at this
  rcases hx.1.1.2 with (he | hroot) | hl
  · rw [hpre] at he; cases he
  · rw [heq] at hroot
    cases hmp : m.path with
    | nil => exact hne hmp
    | cons c cs => rw [hmp] at hroot; simp at hroot
  · exact hl hlast

end NGF.PipelineStatus
