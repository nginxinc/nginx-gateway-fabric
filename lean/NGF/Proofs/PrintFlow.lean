/-
What holds of the strings of a `Pipeline.Scenario` holds of the text NGF writes, GENERIC in the predicates on the fields
(C04, text step). Two steps:

  `confP_genR`    through `Render.genR`: whatever holds of the listener/route hostnames, match paths, route namespaces/names,
                  valid backend targets and redirect scheme/hostname of the scenario holds of the server names, location paths,
                  BackendGroup sources, upstream names and redirect parts of the enriched configuration `genR s order` —
                  provided the hostname predicate holds of the fixed `~^` and the path predicate is kept by appending `/` (the
                  only two places where `genR` adds a character to a field)
  `stmts_render`  through `Render.render`: every directive of the rendered tree is one of the statements of the templates
                  (`Stmt`), its holes filled with such strings
Instances: lexical safety (Proofs/PrintFields), the weak form with backslashes (Proofs/PrintFieldsEsc), `$`-freeness
(Proofs/PrintDollar); each only has to go through the statement forms. Core Lean only.
-/
import NGF.Model.Render
import NGF.Proofs.RenderStruct
import NGF.Proofs.PrintLex
import NGF.Proofs.CharLits
import NGF.Proofs.Pipeline

namespace NGF.Print
open NGF.Nginx NGF.Pipeline NGF.Render NGF.Mangle

/-- one predicate per kind of guarded field -/
structure Preds where
  host : Str → Prop
  path : Str → Prop
  name : Str → Prop
  target : Str → Prop
  dq : Str → Prop

section
variable (P : Preds)

def SrcP (x : Src) : Prop := P.name x.ns ∧ P.name x.name

/-- the upstream names of the backends that are rendered (an invalid backend is rendered as `invalid-backend-ref`) -/
def BsP (bs : List Backend) : Prop := ∀ b ∈ bs, b.valid = true → P.target b.target

def ActP : RAct → Prop
  | .proxy src bs => SrcP P src ∧ BsP P bs
  | .redirect _ sch host _ => (∀ x, sch = some x → P.dq x) ∧ (∀ x, host = some x → P.dq x)
  | .status _ => True

def LocActP : RLocAct → Prop
  | .direct a => ActP P a
  | .njs ms => ∀ m ∈ ms, ActP P m.act

def RuleP (r : RRule) : Prop := (∀ k ∈ r.ext, P.path k.2) ∧ LocActP P r.act

def ServerP (sv : RServer) : Prop := P.host sv.name ∧ ∀ r ∈ sv.rules, RuleP P r

def ConfP (c : ConfR) : Prop := (∀ sv ∈ c.servers, ServerP P sv) ∧ ∀ g ∈ c.groups, SrcP P g.1 ∧ BsP P g.2

def ActionP : Action → Prop
  | .redirect _ sch host _ => (∀ x, sch = some x → P.dq x) ∧ (∀ x, host = some x → P.dq x)
  | .forward bs => BsP P bs

/-- the predicates hold of every guarded field of the scenario (of the routes that configure anything) -/
def FieldsP (s : Scenario) : Prop :=
  (∀ g ∈ s.gateways, ∀ l ∈ g.listeners, l.host = [] ∨ P.host l.host) ∧
  ∀ r ∈ s.routes, r.valid = true →
    P.name r.ns ∧ P.name r.name ∧ (∀ h ∈ r.hostnames, P.host h) ∧
      ∀ rule ∈ r.rules, (∀ m ∈ rule.ms, P.path m.path) ∧ ActionP P rule.action

end

/-- `ActionP` from a Boolean test of the shape of `actionOK`, `actionSafe`, `actionNoDollar`, field by field -/
theorem actionP_of_tests {P : Preds} {f g t : Str → Bool} (hf : ∀ x, f x = true → P.dq x) (hg : ∀ x, g x = true → P.dq x)
    (ht : ∀ x, t x = true → P.target x) : ∀ a : Action,
    (match a with
      | .redirect _ sch host _ => sch.all f && host.all g
      | .forward bs => bs.all fun b => !b.valid || t b.target) = true → ActionP P a
  | .redirect _ sch host _, h => by
    simp only [Bool.and_eq_true] at h
    exact ⟨fun x hx => hf x (by subst hx; simpa using h.1), fun x hx => hg x (by subst hx; simpa using h.2)⟩
  | .forward bs, h => by
    simp only [List.all_eq_true, Bool.or_eq_true, Bool.not_eq_true'] at h
    intro b hb hv
    rcases h b hb with e | e
    · rw [hv] at e; cases e
    · exact ht _ e

section
variable {P : Preds}

/-- `GetMoreSpecificHostname` returns one of its arguments (the first only if it is not empty), except for two different
hostnames neither of which is a wildcard: those do not `match` -/
theorem moreSpecific_cases (l r : Str) :
    Hostname.moreSpecific l r = r ∨ (l ≠ [] ∧ Hostname.moreSpecific l r = l) ∨
      (l ≠ [] ∧ r ≠ l ∧ Hostname.isWild l = false ∧ Hostname.isWild r = false) := by
  unfold Hostname.moreSpecific
  by_cases e1 : (l == r) = true
  · rw [if_pos e1]; exact .inl (beq_iff_eq.mp e1)
  by_cases e2 : l.isEmpty = true
  · rw [if_neg e1, if_pos e2]; exact .inl rfl
  have hl : l ≠ [] := fun e => e2 (e ▸ rfl)
  rw [if_neg e1, if_neg e2]
  by_cases e3 : r.isEmpty = true
  · rw [if_pos e3]; exact .inr (.inl ⟨hl, rfl⟩)
  rw [if_neg e3]
  cases e4 : Hostname.isWild l <;> cases e5 : Hostname.isWild r
  · exact .inr (.inr ⟨hl, fun e => e1 (beq_iff_eq.mpr e.symm), rfl, rfl⟩)
  · exact .inr (.inl ⟨hl, rfl⟩)
  · exact .inl rfl
  · show (if Hostname.labels l > Hostname.labels r then l else r) = r ∨ _
    by_cases e6 : Hostname.labels l > Hostname.labels r
    · rw [if_pos e6]; exact .inr (.inl ⟨hl, rfl⟩)
    · rw [if_neg e6]; exact .inl rfl

/-- `findAcceptedHostnames` returns the listener's hostname, a route hostname, or the fixed `~^` -/
theorem accepted_P (hw : P.host Hostname.wildcardHostname) {lh : Str} {rhs : List Str} (hl : lh = [] ∨ P.host lh)
    (hr : ∀ r ∈ rhs, P.host r) : ∀ h ∈ Hostname.accepted lh rhs, P.host h := by
  intro h hh
  unfold Hostname.accepted at hh
  split at hh
  · split at hh
    · simp only [List.mem_cons, List.not_mem_nil, or_false] at hh
      subst hh; exact hw
    · rename_i hne
      simp only [List.mem_cons, List.not_mem_nil, or_false] at hh
      subst hh
      exact hl.resolve_left (by simpa using hne)
  · obtain ⟨r, hrm, hsome⟩ := List.mem_filterMap.mp hh
    split at hsome
    · rename_i hm
      simp only [Option.some.injEq] at hsome
      subst hsome
      rcases moreSpecific_cases lh r with e | ⟨hne, e⟩ | ⟨hne, h1, h2, h3⟩
      · rw [e]; exact hr r hrm
      · rw [e]; exact hl.resolve_left hne
      · have hle : lh.isEmpty = false := by simpa using hne
        have hrl : (r == lh) = false := by simpa using h1
        simp [Hostname.hmatch, Hostname.wildcardMatch, hle, hrl, h2, h3] at hm
    · cases hsome

theorem hostsOf_P (hw : P.host Hostname.wildcardHostname) {s : Scenario} {g : Gateway} (hs : FieldsP P s)
    (hg : g ∈ s.gateways) : ∀ ph ∈ hostsOf g s.routes, P.host ph.2 := by
  intro ph hph
  unfold hostsOf at hph
  rw [List.mem_eraseDups] at hph
  simp only [List.mem_flatMap] at hph
  obtain ⟨l, hl, r, hr, hx⟩ := hph
  split at hx
  · rename_i hv
    obtain ⟨h, hh, rfl⟩ := List.mem_map.mp hx
    unfold acceptedAt at hh
    split at hh
    · exact accepted_P hw (hs.1 g hg l hl) (hs.2 r hr hv).2.2.1 h hh
    · simp at hh
  · simp at hx

def EntryP (P : Preds) (x : REntry) : Prop := P.path x.e.m.path ∧ SrcP P x.src ∧ ActionP P x.e.action

theorem entries_P {s : Scenario} {g : Gateway} (hs : FieldsP P s) {x : REntry} (hx : x ∈ entriesR g s.routes) :
    EntryP P x := by
  obtain ⟨_, _, r, hr, hv, ⟨⟨i, rule, hi, hsx, hax, hm⟩, _, _⟩⟩ := mem_entriesR hx
  obtain ⟨h1, h2, _, h4⟩ := hs.2 r hr hv
  have hrule := h4 rule (List.mem_of_getElem? hi)
  exact ⟨hrule.1 _ hm, by rw [hsx]; exact ⟨h1, h2⟩, by rw [hax]; exact hrule.2⟩

theorem actOfR_P {port : Nat} {src : Src} {a : Action} (hs : SrcP P src) (ha : ActionP P a) :
    ActP P (actOfR port src a) := by
  cases a with
  | redirect code sch host p => exact ha
  | forward bs => exact ⟨hs, ha⟩

theorem ruleActR_P {port : Nat} {mrs : List REntry} (h : ∀ x ∈ mrs, EntryP P x) : LocActP P (ruleActR port mrs) := by
  have hm : ∀ x ∈ mrs, ActP P (rmatchOf port x).act := fun x hx => actOfR_P (h x hx).2.1 (h x hx).2.2
  unfold ruleActR
  split
  · rename_i x
    split
    · exact actOfR_P (h x (by simp)).2.1 (h x (by simp)).2.2
    · intro m hmm
      simp only [List.mem_cons, List.not_mem_nil, or_false] at hmm
      subst hmm
      exact hm x (by simp)
  · intro m hmm
    obtain ⟨x, hx, rfl⟩ := List.mem_map.mp hmm
    exact hm x hx

theorem extLocs_path {rules : List Precedence.PathRule} {i : Nat} {r : Precedence.PathRule} {gl : Precedence.GenLoc}
    (h : gl ∈ Precedence.extLocs rules i r) : gl.path = r.path ∨ gl.path = r.path ++ ['/'] := by
  unfold Precedence.extLocs at h
  split at h
  · simp only at h
    split at h
    · simp at h
    · rcases List.mem_append.mp h with h | h
      · split at h
        · simp only [List.mem_cons, List.not_mem_nil, or_false] at h; subst h; exact .inr rfl
        · simp at h
      · split at h
        · simp only [List.mem_cons, List.not_mem_nil, or_false] at h; subst h; exact .inl rfl
        · simp at h
  · simp only [List.mem_cons, List.not_mem_nil, or_false] at h; subst h; exact .inl rfl

theorem serverOfR_P (hsl : ∀ p, P.path p → P.path (p ++ ['/'])) {es : List REntry} (hes : ∀ x ∈ es, EntryP P x)
    (sid port : Nat) {h : Str} (hh : P.host h) : ServerP P (serverOfR es sid port h) := by
  refine ⟨hh, ?_⟩
  intro r hr
  simp only [serverOfR, List.mem_map] at hr
  obtain ⟨ik, hik, rfl⟩ := hr
  have hk : ik.2 ∈ ((es.filter fun x => x.e.port == port && x.e.host == h).map pathKeyR).eraseDups := enumFrom_mem_snd hik
  rw [List.mem_eraseDups] at hk
  obtain ⟨x, hx, hxk⟩ := List.mem_map.mp hk
  have hxe : x ∈ es := (List.mem_filter.mp hx).1
  have hp : P.path ik.2.2 := by
    rw [← hxk]; exact (hes x hxe).1
  refine ⟨?_, ?_⟩
  · intro k hkm
    simp only [List.mem_map] at hkm
    obtain ⟨gl, hgl, rfl⟩ := hkm
    rcases extLocs_path hgl with e | e
    · simp only; rw [e]; exact hp
    · simp only; rw [e]; exact hsl _ hp
  · apply ruleActR_P
    intro y hy
    unfold sortR at hy
    have := List.mem_mergeSort.mp hy
    exact hes y (List.mem_filter.mp (List.mem_filter.mp this).1).1

theorem backendsOf_P {a : Action} (h : ActionP P a) : BsP P (backendsOf a) := by
  cases a with
  | redirect => intro b hb; simp [backendsOf] at hb
  | forward bs => exact h

/-- **Dataflow through `genR`**: every string of the enriched configuration is a field of the scenario, a match path
with `/` appended, or the fixed `~^` — so whatever holds of the fields holds of the configuration. -/
theorem confP_genR (hw : P.host Hostname.wildcardHostname) (hsl : ∀ p, P.path p → P.path (p ++ ['/'])) {s : Scenario}
    (hs : FieldsP P s) (order : List Nat) : ConfP P (genR s order) := by
  unfold genR
  split
  · exact ⟨by simp, by simp⟩
  · rename_i g hwin
    have hg := winner_mem hwin
    have hes : ∀ x ∈ entriesR g s.routes, EntryP P x := fun x hx => entries_P hs hx
    refine ⟨?_, ?_⟩
    · intro sv hsv
      simp only [List.mem_map] at hsv
      obtain ⟨ph, hph, rfl⟩ := hsv
      exact serverOfR_P hsl hes _ _ (hostsOf_P hw hs hg ph hph)
    · intro gr hgr
      simp only [groupsOf] at hgr
      have := (dedupKey_sub hgr).1
      obtain ⟨x, hx, rfl⟩ := List.mem_map.mp this
      exact ⟨(hes x hx).2.1, backendsOf_P (hes x hx).2.2⟩

/-! ### `render`: the statements the templates write

`Stmt P d`: `d` is one statement of the templates (a simple directive, or the head of a block whatever its body) whose
holes are filled with strings of which the field predicates `P` hold. Every directive of `render c` is one (`stmts_render`),
so a property of the rendered tree that is tested directive by directive is proved by going through the constructors. -/

def litStmts : List Dir :=
  [preload, httpVersion, dir "default_type" [w "text/html"], dir "return" [w "404"], dir "js_content" [w "httpmatches.redirect"],
   dir "internal" [], .mk "100%".toList [wl invalidBackendRef] none]

/-- the statements without a hole (`rootLoc` and the two unix-socket servers with their bodies) -/
def fixedStmts : List Dir :=
  litStmts ++ (baseHeaders.map fun h => dir "proxy_set_header" [w h.1, q h.2.toList]) ++ flatDir rootLoc ++ flatDirs tailServers

theorem fixedStmts_tests : ∀ d ∈ fixedStmts, stmtOK d = true ∧ stmtDollarOK d = true := by
  -- bring the literals into sight (`w s` is `(s.toList, false)`), then evaluate
  simp only [fixedStmts, litStmts, baseHeaders, List.map_cons, List.map_nil]
  dsimp only [preload, httpVersion, dir, blk, w, q, rootLoc, actDirs, tailServers, unixServer, invalidBackendRef]
  decide_chars

inductive Stmt (P : Preds) : Dir → Prop
  | fixed {d : Dir} : d ∈ fixedStmts → Stmt P d
  | server (ch : List Dir) : Stmt P (blk "server" [] ch)
  | listen {d : Dir} {port : Nat} {extra : List String} :
      d ∈ listenDirs port extra → (∀ e ∈ extra, e = "default_server") → Stmt P d
  | serverName {h : Str} : P.host h → Stmt P (dir "server_name" [wl h])
  | location {k : Bool × Str} (ch : List Dir) : P.path k.2 → Stmt P (blk "location" (locArgs k) ch)
  | internalLocation (i j : Nat) (ch : List Dir) : Stmt P (blk "location" [wl (internalLocPath i j)] ch)
  | proxyPass {src : Src} {bs : List Backend} : SrcP P src → BsP P bs → Stmt P (dir "proxy_pass" [wl (passTarget src bs)])
  | redirect (code : Nat) {sch host : Option Str} (port : Option Nat) :
      (∀ x, sch = some x → P.dq x) → (∀ x, host = some x → P.dq x) →
      Stmt P (dir "return" [wl (digits code), q (redirectBody sch host port)])
  | status (code : Nat) : Stmt P (dir "return" [wl (digits code), q []])
  | matchKey (sid idx : Nat) : Stmt P (dir "set" [w "$match_key", wl (matchKey sid idx)])
  | splitClients {src : Src} (ch : List Dir) :
      SrcP P src → Stmt P (blk "split_clients" [w "$request_id", wl ('$' :: groupVar src.ns src.name src.rule)] ch)
  /-- one share of a split: the upstream of a valid backend, or `invalid-backend-ref` -/
  | share (c : Nat) {t : Str} : P.target t ∨ t = invalidBackendRef → Stmt P (.mk (pctName c) [wl t] none)

theorem fixed_lit {d : Dir} (h : d ∈ litStmts) : d ∈ fixedStmts :=
  List.mem_append_left _ (List.mem_append_left _ (List.mem_append_left _ h))

/-- a literal statement, by its position in `litStmts` -/
theorem lit_stmt {n : String} {args : List Render.Arg} (h : dir n args ∈ litStmts) : Every (Stmt P) (dir n args) :=
  every_simple (.fixed (fixed_lit h))

theorem httpVersion_stmt : Every (Stmt P) httpVersion := lit_stmt (.tail _ (.head _))

theorem listenDirs_stmts (port : Nat) {extra : List String} (he : ∀ e ∈ extra, e = "default_server") :
    ∀ d ∈ listenDirs port extra, Every (Stmt P) d :=
  List.forall_mem_cons.mpr ⟨every_simple (.listen (.head _) he),
    List.forall_mem_singleton.mpr (every_simple (.listen (.tail _ (.head _)) he))⟩

theorem renderDefault_stmts (port : Nat) : Every (Stmt P) (renderDefault port) :=
  every_block (.server _) (List.forall_mem_append.mpr ⟨listenDirs_stmts port (by simp),
    List.forall_mem_cons.mpr ⟨lit_stmt (.tail _ (.tail _ (.head _))),
      List.forall_mem_singleton.mpr (lit_stmt (.tail _ (.tail _ (.tail _ (.head _)))))⟩⟩)

theorem actDirs_stmts : ∀ {a : RAct}, ActP P a → ∀ d ∈ actDirs a, Every (Stmt P) d
  | .proxy _ _, h => List.forall_mem_cons.mpr ⟨httpVersion_stmt, List.forall_mem_append.mpr
      ⟨List.forall_mem_map.mpr fun _ hm => every_simple (.fixed (List.mem_append_left _ (List.mem_append_left _
        (List.mem_append_right _ (List.mem_map_of_mem hm))))),
       List.forall_mem_singleton.mpr (every_simple (.proxyPass h.1 h.2))⟩⟩
  | .redirect code _ _ port, h => List.forall_mem_cons.mpr
      ⟨every_simple (.redirect code port h.1 h.2), List.forall_mem_singleton.mpr httpVersion_stmt⟩
  | .status code, _ => List.forall_mem_cons.mpr ⟨every_simple (.status code), List.forall_mem_singleton.mpr httpVersion_stmt⟩

theorem njsDirs_stmts (sid idx : Nat) : ∀ d ∈ njsDirs sid idx, Every (Stmt P) d :=
  List.forall_mem_cons.mpr ⟨every_simple (.matchKey sid idx), List.forall_mem_cons.mpr
    ⟨lit_stmt (.tail _ (.tail _ (.tail _ (.tail _ (.head _))))), List.forall_mem_singleton.mpr httpVersion_stmt⟩⟩

theorem renderRule_stmts (sid : Nat) {r : RRule} (h : RuleP P r) : ∀ d ∈ renderRule sid r, Every (Stmt P) d := by
  obtain ⟨hext, hact⟩ := h
  unfold renderRule
  split
  · rename_i a ha
    rw [ha] at hact
    exact List.forall_mem_map.mpr fun k hk => every_block (.location _ (hext k hk)) (actDirs_stmts hact)
  · rename_i ms hms
    rw [hms] at hact
    refine List.forall_mem_append.mpr ⟨List.forall_mem_map.mpr fun k hk =>
      every_block (.location _ (hext k hk)) (njsDirs_stmts sid r.idx), List.forall_mem_map.mpr fun jm hjm => ?_⟩
    exact every_block (.internalLocation _ _ _) (List.forall_mem_cons.mpr
      ⟨lit_stmt (.tail _ (.tail _ (.tail _ (.tail _ (.tail _ (.head _)))))),
       actDirs_stmts (hact jm.2 (enumFrom_mem_snd hjm))⟩)

theorem renderServer_stmts {sv : RServer} (h : ServerP P sv) : Every (Stmt P) (renderServer sv) := by
  refine every_block (.server _) (List.forall_mem_append.mpr ⟨List.forall_mem_append.mpr ⟨List.forall_mem_append.mpr
    ⟨listenDirs_stmts sv.port (by simp), List.forall_mem_singleton.mpr (every_simple (.serverName h.1))⟩, ?_⟩, ?_⟩)
  · refine List.forall_mem_flatMap.mpr fun r hr => renderRule_stmts sv.sid (h.2 r ?_)
    exact List.mem_mergeSort.mp hr
  · split
    · exact List.forall_mem_singleton.mpr fun x hx => .fixed (List.mem_append_left _ (List.mem_append_right _ hx))
    · exact fun _ hx => nomatch hx

theorem zipDist_mem : ∀ {bs : List Backend} {cs : List Nat} {vc : Str × Nat}, vc ∈ zipDist bs cs → ∃ b ∈ bs, vc.1 = valueOf b
  | [], _, _, h => by simp [zipDist] at h
  | _ :: _, [], _, h => by simp [zipDist] at h
  | b :: bs, c :: cs, vc, h => by
    simp only [zipDist, List.mem_cons] at h
    rcases h with rfl | h
    · exact ⟨b, by simp, rfl⟩
    · obtain ⟨b', hb', e⟩ := zipDist_mem h
      exact ⟨b', List.mem_cons_of_mem _ hb', e⟩

theorem splitEntries_stmts {bs : List Backend} (h : BsP P bs) : ∀ d ∈ splitEntries bs, Every (Stmt P) d := by
  unfold splitEntries
  simp only
  split
  · exact List.forall_mem_singleton.mpr
      (every_simple (.fixed (fixed_lit (.tail _ (.tail _ (.tail _ (.tail _ (.tail _ (.tail _ (.head _))))))))))
  · refine List.forall_mem_filterMap.mpr fun vc hvc d hd => ?_
    split at hd
    · cases hd
    · obtain ⟨b, hb, e⟩ := zipDist_mem hvc
      cases hd
      refine every_simple (.share _ ?_)
      rw [e]
      unfold valueOf
      split
      · rename_i hv; exact .inl (h b hb hv)
      · exact .inr rfl

theorem stmts_render {c : ConfR} (h : ConfP P c) : ∀ x ∈ flatDirs (render c), Stmt P x := by
  refine forall_flatDirs.mpr (List.forall_mem_cons.mpr ⟨lit_stmt (.head _), List.forall_mem_append.mpr
    ⟨List.forall_mem_append.mpr ⟨?_, fun d hd x hx => .fixed (List.mem_append_right _ (mem_flatDirs.mpr ⟨d, hd, hx⟩))⟩, ?_⟩⟩)
  · refine List.forall_mem_map.mpr fun p hp => ?_
    rcases List.mem_append.mp (List.mem_mergeSort.mp hp) with hp | hp
    · obtain ⟨x, _, rfl⟩ := List.mem_map.mp hp
      exact renderDefault_stmts _
    · obtain ⟨sv, hsv, rfl⟩ := List.mem_map.mp hp
      exact renderServer_stmts (h.1 sv hsv)
  · refine List.forall_mem_map.mpr fun g hg => ?_
    have := h.2 g (List.mem_filter.mp hg).1
    exact every_block (.splitClients _ this.1) (splitEntries_stmts this.2)

end

end NGF.Print
