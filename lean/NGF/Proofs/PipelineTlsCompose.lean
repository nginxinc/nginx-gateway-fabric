/-
C02 on HTTPS, composition: `refines_https` — for every `ScenarioT` of the fragment and every well-formed request, plain
or over TLS with SNI = Host, `nginxEvalConfT (genT s) q = routeT s q` — and `mismatch_421`. Stated in Props/C02.lean.
-/
import NGF.Proofs.PipelineTlsRefine
import NGF.Proofs.PipelineScheme

namespace NGF.PipelineTls
open NGF.Pipeline
open NGF.NginxEval (catchAll isWildName wildCovers selectName)

theorem winner_part (keep : GatewayT → ListenerT → Bool) {s : ScenarioT} {gT : GatewayT} (hw : winnerT s = some gT) :
    winner (proj keep s) = some (projGw keep gT) := by
  rw [winner_proj, hw]; rfl

theorem part_port_any (keep : GatewayT → ListenerT → Bool) (gT : GatewayT) (p : Nat) :
    ((projGw keep gT).listeners.any (·.port == p)) = gT.listeners.any fun l => keep gT l && l.base.port == p := by
  simp only [projGw, List.any_map, List.any_filter, Function.comp]

theorem nginx_part_refused (keep : GatewayT → ListenerT → Bool) {s : ScenarioT} {gT : GatewayT}
    (hw : winnerT s = some gT) {q : Req}
    (hB : (gT.listeners.any fun l => keep gT l && l.base.port == q.port) = false) :
    nginxEvalConf (gen (proj keep s)) q = .refused := by
  have h1 := refines_unused_port (proj keep s) q (projGw keep gT) (winner_part keep hw)
    (by rw [part_port_any]; exact hB)
  rw [h1]
  unfold routeF
  simp only [winner_part keep hw, part_port_any, hB, Bool.not_false, ↓reduceIte]

theorem no_http_of_https {s : ScenarioT} {gT : GatewayT} {p : Nat}
    (hA : (gT.listeners.any fun l => validHttps s gT l && l.base.port == p) = true) :
    (gT.listeners.any fun l => validHttp gT l && l.base.port == p) = false := by
  rw [Bool.eq_false_iff]
  intro hb
  obtain ⟨a, _, hac⟩ := List.any_eq_true.mp hb
  obtain ⟨b, hb', hbc⟩ := List.any_eq_true.mp hA
  simp only [Bool.and_eq_true, beq_iff_eq] at hac hbc
  exact no_mixed_port hb' hac.1 hbc.1 (hac.2.trans hbc.2.symm)

theorem find_ssl_server {s : ScenarioT} {gT : GatewayT} (hw : winnerT s = some gT) {p : Nat} {n : Str}
    (h : n ∈ sslNames (genT s) p) :
    ∃ hs, (sslServers (genT s) p).find? (·.1.name == n) = some hs ∧ hs.2.isSome = true ∧ hs.2.isNone = false := by
  cases hf : (sslServers (genT s) p).find? (·.1.name == n) with
  | some hs =>
    have hcert := ssl_has_cert hw (List.mem_of_find?_eq_some hf)
    refine ⟨hs, rfl, hcert, ?_⟩
    cases hx : hs.2 with
    | none => rw [hx] at hcert; cases hcert
    | some _ => rfl
  | none =>
    obtain ⟨sv, hsv, hname⟩ := List.mem_map.mp h
    have := List.find?_eq_none.mp hf sv hsv
    simp [hname] at this

/-- the HTTPS projection with the redirect actions read for a TLS request on port `p` -/
def httpsPartT (s : ScenarioT) (p : Nat) : Scenario := { httpsPart s with routes := tlsRoutes p s.routes }

/-- the request phase on the SSL servers with SNI = Host = `h`, when name `n` is selected -/
theorem ssl_request {s : ScenarioT} {gT : GatewayT} (hw : winnerT s = some gT) (tok : TOK s) {q : Req}
    (hq : reqOK q = true) {n : Str}
    (hA : (gT.listeners.any fun l => validHttps s gT l && l.base.port == q.port) = true)
    (hsel : selectName (sslNames (genT s) q.port) q.host = some n)
    (hrs : (routedNames s q.port).contains n = true ∨
      ∀ m ∈ routedNames s q.port, nameCovers m q.host = false)
    {hs : CServer × Option (List Char)}
    (hf : (sslServers (genT s) q.port).find? (·.1.name == n) = some hs) :
    serverEval (schemeServer hs.1) q = routeF (httpsPartT s q.port) q := by
  obtain ⟨hconc, _, hpath, _⟩ := reqOK_unpack hq
  have e2 : httpsPartT s q.port = { httpsPart s with routes := mapRoutes (tlsAction q.port) (httpsPart s).routes } := rfl
  have href : nginxEvalConf (gen (httpsPartT s q.port)) q = routeF (httpsPartT s q.port) q := by
    rw [e2]
    refine refines_fragment _ q ?_ ?_ ?_ ?_ hq
    · rw [inFragment_mapRoutes]; exact inFragment_proj _ tok.frag
    · rw [noShadow_mapRoutes]; exact tok.shHttps
    · rw [namesPlain_mapRoutes]; exact namesPlain_of_hostsDNS (hostsDNS_proj _ tok.dns)
    · rw [routesHaveRules_mapRoutes]; exact rules_proj _ tok
  have hwp : winner (httpsPartT s q.port) = some (projGw (validHttps s) gT) :=
    winner_part (fun g l => validHttps s g l) hw
  rw [← href, nginxEvalConf_gen hwp (by rw [part_port_any]; exact hA)]
  have hroutes : (httpsPartT s q.port).routes = mapRoutes (tlsAction q.port) s.routes := rfl
  have hnames : ((hostsOf (projGw (validHttps s) gT) (httpsPartT s q.port).routes).filter (·.1 == q.port)).map (·.2) =
      routedNames s q.port := by
    rw [hroutes, hostsOf_mapRoutes]; exact (routedNames_eq hw q.port).symm
  rw [hnames]
  by_cases hn : n ∈ routedNames s q.port
  · have hsub := selectName_sub hconc (routed_sub_ssl hw q.port) hsel hn
    rw [hsub]
    have hmem : (q.port, n) ∈ hostsOf (projGw (validHttps s) gT) (httpsPartT s q.port).routes := by
      rw [hroutes, hostsOf_mapRoutes]; exact (mem_routedNames hw).mp hn
    simp only [hmem, ↓reduceIte]
    obtain ⟨kp, hfr⟩ := find_routed hw hn
    rw [hfr] at hf
    simp only [Option.some.injEq] at hf
    rw [← hf, ← serverEval_eq]
    exact scheme_server_eval (projGw (validHttps s) gT) s.routes n q
  · obtain ⟨p', n', he⟩ := find_unrouted hw hn hf
    rw [he, schemeServer_empty, serverEval_empty p' n' hpath]
    have hnone : ∀ m ∈ routedNames s q.port, nameCovers m q.host = false := by
      rcases hrs with h | h
      · exact absurd (List.contains_iff_mem.mp h) hn
      · exact h
    cases hr : selectName (routedNames s q.port) q.host with
    | none => rfl
    | some m =>
      obtain ⟨hm, hc, _⟩ := selectName_most_specific hconc hr
      rw [hnone m hm] at hc; cases hc

/-- **HTTPS refinement.** For every scenario of the fragment and every well-formed request — plain HTTP, or over TLS
with the SNI name equal to the Host —, what NGINX does under `genT s` is what Gateway API prescribes. -/
theorem refines_https (s : ScenarioT) (q : ReqT) (hs : refineOKT s = true) (hq : reqOKT s q = true)
    (hsh : q.tls = true → q.sni = q.req.host) : nginxEvalConfT (genT s) q = routeT s q := by
  have tok := refineOKT_unpack hs
  simp only [reqOKT, Bool.and_eq_true, Bool.or_eq_true, Bool.not_eq_true'] at hq
  obtain ⟨hreq, htlsq⟩ := hq
  obtain ⟨hconc, _, _, _⟩ := reqOK_unpack hreq
  cases hw : winnerT s with
  | none =>
    have hwp : winner (httpPart s) = none := by unfold httpPart; rw [winner_proj, hw]; rfl
    have hg : gen (httpPart s) = { ports := [], servers := [] } := by simp [gen, hwp]
    unfold routeT nginxEvalConfT
    rw [genT_none hw]
    simp only [hw, hg]
    cases q.tls <;> simp [nginxEvalConf]
  | some gT =>
    have hssl := ssl_port_contains hw q.req.port
    have hhttp := http_port_contains hw q.req.port
    have hvh := valid_any_https s gT q.req.port
    have hve := valid_isEmpty s gT q.req.port
    unfold routeT nginxEvalConfT
    simp only [hw, hssl, hhttp, hvh, hve]
    cases hA : (gT.listeners.any fun l => validHttps s gT l && l.base.port == q.req.port) with
    | false =>
      cases hB : (gT.listeners.any fun l => validHttp gT l && l.base.port == q.req.port) with
      | false =>
        -- nothing valid on the port
        cases htls : q.tls with
        | true => simp
        | false =>
          simp only [Bool.not_false, Bool.false_eq_true, ↓reduceIte, Bool.or_self, genT_http]
          exact congrArg OutcomeT.plain (nginx_part_refused (fun g l => validHttp g l) hw hB)
      | true =>
        cases htls : q.tls with
        | true => simp
        | false =>
          simp only [Bool.not_false, Bool.false_eq_true, ↓reduceIte, Bool.or_true, Bool.not_true, bne_self_eq_false,
            genT_http, specScenario_false]
          exact congrArg OutcomeT.plain (refines_part (fun g l => validHttp g l) tok tok.shHttp hreq)
    | true =>
      cases htls : q.tls with
      | false => simp
      | true =>
        have hsni : q.sni = q.req.host := hsh htls
        have hB := no_http_of_https hA
        rcases htlsq with h | ⟨hserved, hshadow⟩
        · rw [htls] at h; cases h
        simp only [Bool.not_true, Bool.false_eq_true, ↓reduceIte, Bool.true_or, bne_self_eq_false,
          valid_any_covers hB, specScenario_true]
        cases hemp : q.sni.isEmpty with
        | true => rfl
        | false =>
          simp only [Bool.false_eq_true, ↓reduceIte]
          rw [hsni]
          have ok := scenOK_https hw tok
          have hlc := listeners_not_catchAll hw tok
          cases hsel : selectName (sslNames (genT s) q.req.port) q.req.host with
          | none =>
            -- no server name stands for the SNI name: no valid listener covers it either (`sniServed`)
            have hnoname := selectName_none hconc hsel
            have hC : (gT.listeners.any fun l => validHttps s gT l && l.base.port == q.req.port &&
                covers l.base.host q.req.host) = false := by
              rw [Bool.eq_false_iff]
              intro hc
              simp only [sniServed, hw, hsni, Bool.or_eq_true, Bool.not_eq_true'] at hserved
              rcases hserved with h | h
              · obtain ⟨l, hl, hlc'⟩ := List.any_eq_true.mp hc
                have := List.any_eq_false.mp h l hl
                simp only [Bool.and_eq_true, beq_iff_eq] at hlc'
                have hh : l.https = true := (validHttps_iff.mp hlc'.1.1).1
                simp [specValid_https hh, hlc'.1.1, hh, hlc'.1.2, hlc'.2] at this
              · obtain ⟨m, hm, hmc⟩ := List.any_eq_true.mp h
                rw [← nameCovers_unfold, hnoname m hm] at hmc; cases hmc
            simp [hC]
          | some n =>
            obtain ⟨hnm, hncov, _⟩ := selectName_most_specific hconc hsel
            -- the SNI name is covered by a valid listener
            obtain ⟨l, hl, hlv, hlp, hlcov⟩ := ssl_name_listener hw ok hlc hconc.1 hnm hncov
            have hC : (gT.listeners.any fun l => validHttps s gT l && l.base.port == q.req.port &&
                covers l.base.host q.req.host) = true :=
              List.any_eq_true.mpr ⟨l, hl, by simp [hlv, hlp, hlcov]⟩
            simp only [hC, Bool.not_true, Bool.false_eq_true, ↓reduceIte]
            obtain ⟨hsv, hf, _, hnone⟩ := find_ssl_server hw hnm
            simp only [hf, hnone, Bool.false_eq_true, ↓reduceIte, bne_self_eq_false, Bool.and_false]
            have hrs : (routedNames s q.req.port).contains n = true ∨
                ∀ m ∈ routedNames s q.req.port, nameCovers m q.req.host = false := by
              simp only [noRoutelessShadow, hsel, Bool.or_eq_true, Bool.not_eq_true'] at hshadow
              rcases hshadow with h | h
              · exact Or.inl h
              · right
                intro m hm
                have := List.any_eq_false.mp h m hm
                rw [nameCovers_unfold]
                exact Bool.eq_false_iff.mpr this
            exact congrArg OutcomeT.plain (ssl_request hw tok hreq hA hsel hrs hf)

/-- SNI and Host name DIFFERENT hosts that both have a generated server on the port: 421 Misdirected Request — the
request is never handed to the Host's (another tenant's) backend; and the specification says 421 as well. -/
theorem mismatch_421 (s : ScenarioT) (q : ReqT) (hs : refineOKT s = true) (htls : q.tls = true)
    (hne : q.sni ≠ q.req.host)
    (hsni : isWildName q.sni = false ∧ q.sni ≠ catchAll) (hsne : q.sni ≠ [])
    (hhost : isWildName q.req.host = false ∧ q.req.host ≠ catchAll)
    (hc1 : ∃ n ∈ sslNames (genT s) q.req.port, nameCovers n q.sni = true)
    (hc2 : ∃ n ∈ sslNames (genT s) q.req.port, nameCovers n q.req.host = true) :
    nginxEvalConfT (genT s) q = .plain (.status 421) ∧ routeT s q = .plain (.status 421) := by
  have tok := refineOKT_unpack hs
  obtain ⟨n1, hn1, hcov1⟩ := hc1
  obtain ⟨n2, hn2, hcov2⟩ := hc2
  cases hw : winnerT s with
  | none =>
    exfalso
    rw [genT_none hw] at hn1
    simp [sslNames, sslServers] at hn1
  | some gT =>
    have ok := scenOK_https hw tok
    have hlc := listeners_not_catchAll hw tok
    obtain ⟨l, hl, hlv, hlp, hlcov⟩ := ssl_name_listener hw ok hlc hsni.1 hn1 hcov1
    have hA : (gT.listeners.any fun l => validHttps s gT l && l.base.port == q.req.port) = true :=
      List.any_eq_true.mpr ⟨l, hl, by simp [hlv, hlp]⟩
    have hB := no_http_of_https hA
    have hemp : q.sni.isEmpty = false := List.isEmpty_eq_false_iff.mpr hsne
    have hbne : (q.sni != q.req.host) = true := by simpa using hne
    constructor
    · obtain ⟨m1, hm1⟩ := selectName_some_of_cover hsni hn1 hcov1
      obtain ⟨m2, hm2⟩ := selectName_some_of_cover hhost hn2 hcov2
      obtain ⟨h1, hf1, _, hnone1⟩ := find_ssl_server hw (NGF.NginxEval.selectName_mem hm1)
      obtain ⟨h2, hf2, hcert2, _⟩ := find_ssl_server hw (NGF.NginxEval.selectName_mem hm2)
      unfold nginxEvalConfT
      simp only [htls, Bool.not_true, Bool.false_eq_true, ↓reduceIte, ssl_port_contains hw, hA, hemp, hm1, hm2, hf1,
        hnone1, hf2]
      simp [hcert2, hbne]
    · unfold routeT
      simp only [hw, valid_isEmpty, valid_any_https, hA, hB, htls, Bool.or_false, Bool.not_true, Bool.false_eq_true,
        ↓reduceIte, bne_self_eq_false, hemp, valid_any_covers hB, hbne]
      have hC : (gT.listeners.any fun l => validHttps s gT l && l.base.port == q.req.port &&
          covers l.base.host q.sni) = true :=
        List.any_eq_true.mpr ⟨l, hl, by simp [hlv, hlp, hlcov]⟩
      simp [hC]

end NGF.PipelineTls
