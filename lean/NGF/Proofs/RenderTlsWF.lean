/-
Well-formedness of the SSL half of `renderT` (Model/RenderTls): an SSL server block has the shape of a plain one (its
listens carry the flag `ssl`, its locations are `locsK` with the keys `SSL_<i>_<j>`), so the clauses about (listen,
server_name) pairs, locations and listen arguments are those of Proofs/RenderWF1 and RenderWF; what is proved here is the
invariant for `genTR`, and that the (listen, server_name) pairs of ALL server blocks of `renderT (genTR s …)` are
pairwise distinct.
-/
import NGF.Proofs.RenderTls
import NGF.Proofs.RenderWF

namespace NGF.RenderTls
open NGF.Pipeline NGF.PipelineTls NGF.Render NGF.Nginx NGF.Mangle

/-! ### directive view of an SSL server: its listens are those of a plain server with the flag `ssl` -/

theorem sslListens_eq (p : Nat) (extra : List String) : sslListens p extra = listenDirs p ("ssl" :: extra) := rfl

/-- the flags on the listens of an SSL server (a server without SSL block listens plainly) -/
def sslFlags (sv : SslR) : List String :=
  match sv.kp with
  | some _ => ["ssl"]
  | none => []

theorem named_listen_sslHead (sv : SslR) : named "listen" (sslHead sv) = listenDirs sv.port (sslFlags sv) := by
  rw [named_sslHead]
  unfold sslFlags
  cases sv.kp with
  | none => exact named_eq_self (listenDirs_names _ _)
  | some id =>
    simp only [sslListens_eq, named_eq_self (listenDirs_names _ _), sniGuard, named_dir_ne, named_blk_ne, ne_eq,
      String.reduceEq, not_false_eq_true, named_nil, List.append_nil]

theorem sslHead_not {n : String} (hn1 : "listen" ≠ n) (hn2 : "ssl_certificate" ≠ n) (hn3 : "ssl_certificate_key" ≠ n)
    (hn4 : "if" ≠ n) (sv : SslR) : named n (sslHead sv) = [] := by
  rw [named_sslHead]
  cases sv.kp with
  | none => exact named_eq_nil hn1 (listenDirs_names _ _)
  | some id =>
    simp only [named_eq_nil hn1 (sslListens_names _ _), sniGuard, named_dir_ne hn2, named_dir_ne hn3, named_blk_ne hn4,
      named_nil, List.append_nil]

theorem listens_of_renderSsl (sv : SslR) : named "listen" (body (renderSsl sv)) = listenDirs sv.port (sslFlags sv) := by
  rw [renderSsl_body, serverBody_named (by simp) (by simp) fun _ => mem_sslLocs_loc, named_listen_sslHead]

theorem names_of_renderSsl (sv : SslR) : named "server_name" (body (renderSsl sv)) = [dir "server_name" [wl sv.name]] := by
  rw [renderSsl_body]
  exact serverBody_names (sslHead_not (by simp) (by simp) (by simp) (by simp) sv) fun _ => mem_sslLocs_loc

theorem srvPairs_ssl (sv : SslR) : srvPairs (renderSsl sv) = pairsOf (sv.port, sv.name) :=
  srvPairs_named (listens_of_renderSsl sv) (names_of_renderSsl sv)

theorem sslDefault_listens (p : Nat) : named "listen" (body (renderSslDefault p)) = listenDirs p ["ssl", "default_server"] := by
  rw [renderSslDefault, body_blk, named_append, named_eq_self (sslListens_names _ _), named_dir_ne (by simp), named_nil,
    List.append_nil, sslListens_eq]

theorem sslDefault_names (p : Nat) : named "server_name" (body (renderSslDefault p)) = [] := by
  rw [renderSslDefault, body_blk, named_append, named_eq_nil (by simp) (sslListens_names _ _), named_dir_ne (by simp)]
  rfl

theorem srvPairs_sslDefault (p : Nat) : srvPairs (renderSslDefault p) = pairsOf (p, []) :=
  srvPairs_unnamed (sslDefault_listens p) (sslDefault_names p)

def sslPairItems (c : ConfTR) : List (Nat × Str) :=
  pairItems (c.sslDefaults.map (·.1)) (c.ssl.map fun sv => (sv.port, sv.name))

theorem sslPairs_perm (c : ConfTR) : ((sslDirs c).flatMap srvPairs).Perm ((sslPairItems c).flatMap pairsOf) := by
  refine ((sslDirs_perm c).flatMap_right srvPairs).trans (.of_eq ?_)
  simp only [sslItems, sslPairItems, pairItems, List.map_append, List.map_map, Function.comp_def, List.flatMap_append,
    List.flatMap_map, srvPairs_sslDefault, srvPairs_ssl]

/-- what the distinctness of SSL (listen, server_name) pairs rests on -/
structure GoodSslNames (c : ConfTR) : Prop where
  defaults_nodup : (c.sslDefaults.map (·.1)).Nodup
  names_nodup : (c.ssl.map fun sv => (sv.port, sv.name)).Nodup
  name_ne : ∀ sv ∈ c.ssl, sv.name ≠ []

theorem sslPairItems_nodup {c : ConfTR} (h : GoodSslNames c) : (sslPairItems c).Nodup :=
  pairItems_nodup h.defaults_nodup h.names_nodup fun x hx => by
    obtain ⟨sv, hsv, rfl⟩ := List.mem_map.mp hx
    exact h.name_ne sv hsv

theorem sslPairs_nodup {c : ConfTR} (h : GoodSslNames c) : ((sslDirs c).flatMap srvPairs).Nodup := by
  rw [(sslPairs_perm c).nodup_iff]
  exact (List.nodup_append.mp (pairs_sockets_nodup (sslPairItems_nodup h))).1

theorem genR_dports_nodup (s : Scenario) (order : List Nat) : ((genR s order).dports.map (·.1)).Nodup := by
  unfold genR
  cases winner s with
  | none => simp
  | some g =>
    simp only [List.map_map, Function.comp_def, List.map_id']
    exact nodup_eraseDups _

theorem serverName_ne_nil (h : Str) : serverName h ≠ [] := by
  unfold serverName
  cases h <;> simp [Hostname.wildcardHostname]

theorem goodSslNames_genTR {s : ScenarioT} (order orderS : List Nat) (hf : inFragment (httpsPart s) = true)
    (hd : noDupSsl (genTR s order orderS) = true) : GoodSslNames (genTR s order orderS) := by
  refine ⟨?_, nodup_of_nodupB hd, fun sv hsv => ?_⟩
  · rw [genTR_sslDefault_ports]
    cases winnerT s with
    | none => exact List.nodup_nil
    | some gT => exact genR_dports_nodup _ _
  · rcases mem_genTR_ssl hsv with ⟨rs, hrs, _, hn, _⟩ | ⟨_, _, l, _, _, hn, _⟩
    · exact hn ▸ (goodServers_genR orderS hf rs hrs).name_ne
    · exact hn ▸ serverName_ne_nil _

/-- the path rules of an SSL server seen as a server of Model/Render (same rules, name, root) -/
def SslR.toR (sv : SslR) : RServer := { sid := sv.sid, port := sv.port, name := sv.name, rules := sv.rules, root404 := sv.root404 }

theorem locs_of_renderSsl (sv : SslR) : blocksNamed "location" (body (renderSsl sv)) = sslLocs sv := by
  rw [renderSsl_body]
  refine serverBody_locs ?_ fun _ => mem_sslLocs_loc
  unfold sslHead
  cases sv.kp with
  | none => exact blocksNamed_eq_nil (by simp) (listenDirs_names _ _)
  | some id =>
    rw [blocksNamed_append, blocksNamed_eq_nil (by simp) (sslListens_names _ _), blocksNamed_dir, blocksNamed_dir, sniGuard,
      blocksNamed_blk_ne (by simp)]
    rfl

theorem sslKeys_nodup {sv : SslR} (hs : GoodServer sv.toR) : ((sslLocs sv).map locKeyL).Nodup :=
  locsK_keys_nodup (sv := sv.toR) hs _

theorem goodSslServers_genTR {s : ScenarioT} (order orderS : List Nat) (hf : inFragment (httpsPart s) = true) :
    ∀ sv ∈ (genTR s order orderS).ssl, GoodServer sv.toR := by
  intro sv hsv
  rcases mem_genTR_ssl hsv with ⟨rs, hrs, _, hn, hr, h4⟩ | ⟨_, _, l, _, _, hn, hr, _⟩
  · exact (goodServers_genR orderS hf rs hrs).congr hn hr h4
  · exact goodServer_of_no_rules (sv := sv.toR) (show sv.name ≠ [] from hn ▸ serverName_ne_nil _) hr

theorem listenIssues_renderSsl (sv : SslR) (h1 : 1 ≤ sv.port) (h2 : sv.port ≤ 65535) :
    (named "listen" (body (renderSsl sv))).flatMap listenIssue = [] := by
  rw [listens_of_renderSsl]
  refine listenIssues_listenDirs h1 h2 ?_
  unfold sslFlags
  cases sv.kp <;> simp [NGF.WF.listenFlags]

theorem listenIssues_sslDefault (p : Nat) (h1 : 1 ≤ p) (h2 : p ≤ 65535) :
    (named "listen" (body (renderSslDefault p))).flatMap listenIssue = [] := by
  rw [sslDefault_listens]
  exact listenIssues_listenDirs h1 h2 (by simp [NGF.WF.listenFlags])

/-! ### both halves: an HTTP and an HTTPS listener never serve one port (`PipelineTls.conflicted`) -/

theorem ports_disjoint {s : ScenarioT} {gT : GatewayT} (hw : winnerT s = some gT) {p : Nat}
    (h1 : p ∈ (gen (httpPart s)).ports) (h2 : p ∈ (gen (httpsPart s)).ports) : False := by
  rw [gen_httpPart hw] at h1
  rw [gen_httpsPart hw] at h2
  simp only [List.mem_eraseDups, List.mem_map, projGw, List.mem_filter] at h1 h2
  obtain ⟨_, ⟨l, ⟨hl, hv⟩, rfl⟩, hp1⟩ := h1
  obtain ⟨_, ⟨l', ⟨hl', hv'⟩, rfl⟩, hp2⟩ := h2
  obtain ⟨c, hc, _⟩ := valid_cert hv'
  unfold validHttp at hv
  unfold validHttps at hv'
  simp only [Bool.and_eq_true, Bool.not_eq_true', decide_eq_true_eq] at hv hv'
  have hcon := hv.2
  unfold conflicted at hcon
  rw [List.any_eq_false] at hcon
  have := hcon l' hl'
  have hf : l'.fieldsOK = true := by simp [ListenerT.fieldsOK, hc]
  simp [hf, hp1, hp2, hv.1, hv'.1.1] at this

theorem genR_server_port_mem (s : Scenario) (order : List Nat) :
    ∀ sv ∈ (genR s order).servers, sv.port ∈ (genR s order).dports.map (·.1) := by
  unfold genR
  cases winner s with
  | none => simp
  | some g =>
    intro sv hsv
    obtain ⟨ph, hph, rfl⟩ := List.mem_map.mp hsv
    simp only [List.map_map, Function.comp_def, List.map_id']
    exact hostsOf_port hph

theorem genR_dports_eq (s : Scenario) (order : List Nat) : (genR s order).dports.map (·.1) = (gen s).ports := by
  rw [← forget_genR s order]; rfl

theorem ssl_ports_mem {s : ScenarioT} (order orderS : List Nat) :
    (∀ sv ∈ (genTR s order orderS).ssl, sv.port ∈ (gen (httpsPart s)).ports) ∧
    (∀ d ∈ (genTR s order orderS).sslDefaults, d.1 ∈ (gen (httpsPart s)).ports) := by
  refine ⟨fun sv hsv => ?_, fun d hd => ?_⟩
  · rcases mem_genTR_ssl hsv with ⟨rs, hrs, hp, _⟩ | ⟨gT, hw, l, hl, hp, _⟩
    · rw [hp, ← genR_dports_eq _ orderS]; exact genR_server_port_mem _ _ rs hrs
    · rw [hp, gen_httpsPart hw]
      simp only [List.mem_eraseDups, List.mem_map, projGw]
      exact ⟨l.base, ⟨l, hl, rfl⟩, rfl⟩
  · have hm : d.1 ∈ (genTR s order orderS).sslDefaults.map (·.1) := List.mem_map.mpr ⟨d, hd, rfl⟩
    rw [genTR_sslDefault_ports] at hm
    cases hw : winnerT s with
    | none => rw [hw] at hm; cases hm
    | some gT => rw [hw] at hm; rw [← genR_dports_eq _ orderS]; exact hm

/-- the (listen, server_name) pairs of ALL server blocks of `renderT`: HTTP servers, SSL servers, default servers of
both kinds and the two unix-socket servers -/
theorem renderT_pairs_nodup {s : ScenarioT} (order orderS : List Nat) (hH : GoodConf (genR (httpPart s) order))
    (hS : GoodSslNames (genTR s order orderS)) :
    ((blocksNamed "server" (renderT (genTR s order orderS))).flatMap srvPairs).Nodup := by
  rw [servers_of_renderT, List.flatMap_append, List.flatMap_append, srvPairs_tail, genTR_http]
  have hperm : ((serverDirs (genR (httpPart s) order)).flatMap srvPairs ++ (sslDirs (genTR s order orderS)).flatMap srvPairs).Perm
      ((items (genR (httpPart s) order) ++ sslPairItems (genTR s order orderS)).flatMap pairsOf) := by
    rw [List.flatMap_append]
    exact (serverDirs_pairs_perm _).append (sslPairs_perm _)
  rw [(hperm.append_right _).nodup_iff]
  refine pairs_sockets_nodup ?_
  · rw [List.nodup_append]
    refine ⟨items_nodup hH, sslPairItems_nodup hS, ?_⟩
    intro a ha b hb e
    -- the port of `a` is an HTTP port, the port of `b` an HTTPS port
    have h1 : a.1 ∈ (gen (httpPart s)).ports := by
      rw [← genR_dports_eq _ order]
      rcases mem_pairItems ha with ha | ha
      · exact ha
      · obtain ⟨sv, hsv, rfl⟩ := List.mem_map.mp ha
        exact genR_server_port_mem _ _ sv hsv
    have h2 : b.1 ∈ (gen (httpsPart s)).ports := by
      rcases mem_pairItems hb with hb | hb
      · obtain ⟨d, hd, e'⟩ := List.mem_map.mp hb
        exact e' ▸ (ssl_ports_mem order orderS).2 d hd
      · obtain ⟨sv, hsv, rfl⟩ := List.mem_map.mp hb
        exact (ssl_ports_mem order orderS).1 sv hsv
    cases hw : winnerT s with
    | none =>
      have : (genTR s order orderS).ssl = [] ∧ (genTR s order orderS).sslDefaults = [] := by
        unfold genTR; rw [hw]; exact ⟨rfl, rfl⟩
      unfold sslPairItems pairItems at hb
      rw [this.1, this.2] at hb
      simp at hb
    | some gT => exact ports_disjoint hw h1 (e ▸ h2)

end NGF.RenderTls
