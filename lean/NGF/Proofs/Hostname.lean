/-
The hostname functions of the graph package (Model/Hostname.lean), for C02. A hostname pattern has one of three shapes
— absent `[]`, wildcard `*.t`, exact (`shape`) — and `covers`, `match` and `GetMoreSpecificHostname` are given shape by
shape; the facts about matching pairs (`moreSpecific_mem`, `moreSpecific_covers`) are case analyses over the two shapes.
-/
import NGF.Model.Hostname

namespace NGF.Hostname

theorem isWild_eq {h : Host} (hw : isWild h = true) : ∃ t, h = '*' :: '.' :: t := by
  unfold isWild at hw
  match h, hw with
  | [], hw => simp at hw
  | [_], hw => simp at hw
  | a :: b :: t, hw =>
    simp only [List.take_succ_cons, List.take_zero, beq_iff_eq, List.cons.injEq, and_true] at hw
    exact ⟨t, by rw [hw.1, hw.2]⟩

theorem isWild_cons (t : Host) : isWild ('*' :: '.' :: t) = true := by simp [isWild]

theorem wild_beq_exact (t : Host) {r : Host} (hw : isWild r = false) : (('*' :: '.' :: t) == r) = false := by
  rw [beq_eq_false_iff_ne]; intro e; rw [← e, isWild_cons] at hw; cases hw

theorem exact_beq_wild {r : Host} (hw : isWild r = false) (t : Host) : (r == ('*' :: '.' :: t)) = false := by
  rw [beq_eq_false_iff_ne]; intro e; rw [e, isWild_cons] at hw; cases hw

theorem wildTail_cons (t : Host) : wildTail ('*' :: '.' :: t) = '.' :: t := rfl

def dots (h : Host) : Nat := (h.filter (· == '.')).length

theorem labels_eq (h : Host) : labels h = dots h + 1 := rfl

theorem dots_append (a b : Host) : dots (a ++ b) = dots a + dots b := by simp [dots, List.filter_append]

theorem dots_star_dot (t : Host) : dots ('*' :: '.' :: t) = dots ('.' :: t) := by simp [dots, List.filter]

theorem suffix_dots {a b : Host} (h : ('.' :: a) <:+ ('.' :: b)) : a = b ∨ dots ('.' :: a) < dots ('.' :: b) := by
  obtain ⟨pre, hp⟩ := h
  cases pre with
  | nil => left; simpa using hp
  | cons c cs =>
    right
    have hc : c = '.' := by
      have := congrArg List.head? hp; simpa using this
    rw [← hp, dots_append]
    have : dots (c :: cs) ≥ 1 := by subst hc; simp [dots, List.filter]
    omega

theorem suffix_of_star {x y : Host} (h : ('.' :: y) <:+ ('*' :: x)) : ('.' :: y) <:+ x := by
  rcases List.suffix_cons_iff.mp h with h | h
  · simp at h
  · exact h

theorem isSuffixOf_iff {a b : Host} : a.isSuffixOf b = true ↔ a <:+ b := List.isSuffixOf_iff_suffix

theorem shape (h : Host) : h = [] ∨ (∃ t, h = '*' :: '.' :: t) ∨ (h ≠ [] ∧ isWild h = false) := by
  by_cases he : h = []
  · exact Or.inl he
  · cases hw : isWild h with
    | true => exact Or.inr (Or.inl (isWild_eq hw))
    | false => exact Or.inr (Or.inr ⟨he, rfl⟩)

theorem wildcardMatch_wild (t h : Host) : wildcardMatch ('*' :: '.' :: t) h = ('.' :: t).isSuffixOf h := by
  simp only [wildcardMatch, isWild_cons, wildTail_cons, Bool.true_and]

theorem wildcardMatch_exact {a : Host} (ha : isWild a = false) (h : Host) : wildcardMatch a h = false := by
  simp only [wildcardMatch, ha, Bool.false_and]

theorem covers_eq (p q : Host) : covers p q = (p.isEmpty || p == q || wildcardMatch p q) := rfl

theorem hmatch_eq (l r : Host) : hmatch l r = (l.isEmpty || r == l || wildcardMatch l r || wildcardMatch r l) := by
  unfold hmatch
  cases l.isEmpty <;> cases (r == l) <;> cases wildcardMatch l r <;> rfl

theorem covers_wild {t q : Host} : covers ('*' :: '.' :: t) q = true ↔ q = '*' :: '.' :: t ∨ ('.' :: t) <:+ q := by
  simp only [covers_eq, wildcardMatch_wild, List.isEmpty_cons, Bool.false_or, Bool.or_eq_true, beq_iff_eq, isSuffixOf_iff]
  exact ⟨fun h => h.imp_left Eq.symm, fun h => h.imp_left Eq.symm⟩

theorem covers_wild_concrete {t q : Host} (hq : isWild q = false) :
    covers ('*' :: '.' :: t) q = true ↔ ('.' :: t) <:+ q := by
  rw [covers_wild]
  refine ⟨fun h => h.resolve_left fun e => ?_, Or.inr⟩
  rw [e, isWild_cons] at hq; cases hq

theorem covers_exact {p q : Host} (hne : p ≠ []) (hw : isWild p = false) : covers p q = true ↔ p = q := by
  simp only [covers_eq, List.isEmpty_eq_false_iff.mpr hne, wildcardMatch_exact hw, Bool.false_or, Bool.or_false,
    beq_iff_eq]

theorem moreSpecific_self (h : Host) : moreSpecific h h = h := by simp [moreSpecific]

theorem moreSpecific_nil_left (r : Host) : moreSpecific [] r = r := by
  cases r with
  | nil => rfl
  | cons c cs => simp [moreSpecific]

theorem moreSpecific_nil_right (l : Host) : moreSpecific l [] = l := by
  cases l with
  | nil => rfl
  | cons c cs => simp [moreSpecific]

theorem moreSpecific_wild_wild (tl tr : Host) :
    moreSpecific ('*' :: '.' :: tl) ('*' :: '.' :: tr) =
      if labels ('*' :: '.' :: tl) > labels ('*' :: '.' :: tr) then '*' :: '.' :: tl else '*' :: '.' :: tr := by
  by_cases e : tl = tr
  · subst e; simp [moreSpecific]
  · have b : (('*' :: '.' :: tl) == ('*' :: '.' :: tr)) = false := by simpa using e
    simp only [moreSpecific, b, isWild_cons, List.isEmpty_cons, Bool.false_eq_true, ↓reduceIte]

theorem moreSpecific_wild_exact (t : Host) {r : Host} (hne : r ≠ []) (hw : isWild r = false) :
    moreSpecific ('*' :: '.' :: t) r = r := by
  have b := wild_beq_exact t hw
  simp only [moreSpecific, b, isWild_cons, hw, List.isEmpty_cons, List.isEmpty_eq_false_iff.mpr hne,
    Bool.false_eq_true, ↓reduceIte]

theorem moreSpecific_exact_wild {l : Host} (hne : l ≠ []) (hw : isWild l = false) (t : Host) :
    moreSpecific l ('*' :: '.' :: t) = l := by
  have b := exact_beq_wild hw t
  simp only [moreSpecific, b, isWild_cons, hw, List.isEmpty_cons, List.isEmpty_eq_false_iff.mpr hne,
    Bool.false_eq_true, ↓reduceIte]

theorem eq_of_hmatch_exact {l r : Host} (hl : l ≠ []) (hwl : isWild l = false) (hwr : isWild r = false)
    (hm : hmatch l r = true) : r = l := by
  simpa only [hmatch_eq, List.isEmpty_eq_false_iff.mpr hl, wildcardMatch_exact hwl, wildcardMatch_exact hwr,
    Bool.false_or, Bool.or_false, beq_iff_eq] using hm

theorem moreSpecific_mem {l r : Host} (hm : hmatch l r = true) : moreSpecific l r = l ∨ moreSpecific l r = r := by
  rcases shape l with rfl | ⟨tl, rfl⟩ | ⟨hl, hwl⟩
  · exact Or.inr (moreSpecific_nil_left r)
  · rcases shape r with rfl | ⟨tr, rfl⟩ | ⟨hr, hwr⟩
    · exact Or.inl (moreSpecific_nil_right _)
    · rw [moreSpecific_wild_wild]; split
      · exact Or.inl rfl
      · exact Or.inr rfl
    · exact Or.inr (moreSpecific_wild_exact tl hr hwr)
  · rcases shape r with rfl | ⟨tr, rfl⟩ | ⟨hr, hwr⟩
    · exact Or.inl (moreSpecific_nil_right _)
    · exact Or.inl (moreSpecific_exact_wild hl hwl tr)
    · rw [eq_of_hmatch_exact hl hwl hwr hm]; exact Or.inl (moreSpecific_self l)

theorem hmatch_symm {l r : Host} (hl : l ≠ []) (hr : r ≠ []) : hmatch l r = hmatch r l := by
  rw [hmatch_eq, hmatch_eq, List.isEmpty_eq_false_iff.mpr hl, List.isEmpty_eq_false_iff.mpr hr, Bool.beq_comm (a := r)]
  cases (l == r) <;> cases wildcardMatch l r <;> cases wildcardMatch r l <;> rfl

theorem labels_lt_of_wild_suffix {tl tr : Host} (hne : tl ≠ tr) (h : ('.' :: tl) <:+ ('*' :: '.' :: tr)) :
    labels ('*' :: '.' :: tl) < labels ('*' :: '.' :: tr) := by
  have h' := suffix_of_star h
  rcases suffix_dots h' with e | lt
  · exact absurd e hne
  · rw [labels_eq, labels_eq, dots_star_dot, dots_star_dot]; omega

/-- the bridge between NGINX (longest wildcard) and `GetMoreSpecificHostname` (most labels): of two wildcard hostnames
that cover the same request host, the longer has more labels -/
theorem wild_labels_lt {ta tb q : Host} (ha : ('.' :: ta) <:+ q) (hb : ('.' :: tb) <:+ q) (hlen : tb.length < ta.length) :
    labels ('*' :: '.' :: tb) < labels ('*' :: '.' :: ta) :=
  labels_lt_of_wild_suffix (fun e => by rw [e] at hlen; omega)
    ((List.suffix_of_suffix_length_le hb ha (by simp only [List.length_cons]; omega)).trans (List.suffix_cons _ _))

theorem covers_wild_of_suffix {tl tr q : Host} (h : ('.' :: tl) <:+ ('*' :: '.' :: tr))
    (hq : covers ('*' :: '.' :: tr) q = true) : covers ('*' :: '.' :: tl) q = true := by
  rw [covers_wild] at hq ⊢
  rcases hq with e | s
  · exact Or.inr (e ▸ h)
  · exact Or.inr ((suffix_of_star h).trans s)

/-- The accepted hostname of a matching pair stands for requests both hostnames stand for
("the intersection result matches both"). -/
theorem moreSpecific_covers {l r : Host} (hm : hmatch l r = true) (q : Host)
    (hq : covers (moreSpecific l r) q = true) : covers l q = true ∧ covers r q = true := by
  rcases shape l with rfl | ⟨tl, rfl⟩ | ⟨hl, hwl⟩
  · rw [moreSpecific_nil_left] at hq; exact ⟨rfl, hq⟩
  · rcases shape r with rfl | ⟨tr, rfl⟩ | ⟨hr, hwr⟩
    · rw [moreSpecific_nil_right] at hq; exact ⟨hq, rfl⟩
    · by_cases e : tl = tr
      · subst e; rw [moreSpecific_self] at hq; exact ⟨hq, hq⟩
      · have b : (('*' :: '.' :: tr) == ('*' :: '.' :: tl)) = false := by simpa using fun x : tr = tl => e x.symm
        simp only [hmatch_eq, List.isEmpty_cons, b, wildcardMatch_wild, Bool.false_or, Bool.or_eq_true,
          isSuffixOf_iff] at hm
        rw [moreSpecific_wild_wild] at hq
        rcases hm with hm | hm
        · have hlt := labels_lt_of_wild_suffix e hm
          rw [if_neg (by omega)] at hq
          exact ⟨covers_wild_of_suffix hm hq, hq⟩
        · have hlt := labels_lt_of_wild_suffix (fun x => e x.symm) hm
          rw [if_pos hlt] at hq
          exact ⟨hq, covers_wild_of_suffix hm hq⟩
    · rw [moreSpecific_wild_exact tl hr hwr] at hq
      refine ⟨?_, hq⟩
      have hqr := (covers_exact hr hwr).mp hq
      subst hqr
      have b := exact_beq_wild hwr tl
      simp only [hmatch_eq, List.isEmpty_cons, b, wildcardMatch_wild, wildcardMatch_exact hwr, Bool.false_or,
        Bool.or_false, isSuffixOf_iff] at hm
      exact covers_wild.mpr (Or.inr hm)
  · rcases shape r with rfl | ⟨tr, rfl⟩ | ⟨hr, hwr⟩
    · rw [moreSpecific_nil_right] at hq; exact ⟨hq, rfl⟩
    · rw [moreSpecific_exact_wild hl hwl tr] at hq
      refine ⟨hq, ?_⟩
      have hql := (covers_exact hl hwl).mp hq
      subst hql
      have b := wild_beq_exact tr hwl
      simp only [hmatch_eq, List.isEmpty_eq_false_iff.mpr hl, b, wildcardMatch_wild, wildcardMatch_exact hwl,
        Bool.false_or, isSuffixOf_iff] at hm
      exact covers_wild.mpr (Or.inr hm)
    · rw [eq_of_hmatch_exact hl hwl hwr hm, moreSpecific_self] at hq
      rw [eq_of_hmatch_exact hl hwl hwr hm]
      exact ⟨hq, hq⟩

theorem covers_moreSpecific {l r : Host} (hm : hmatch l r = true) (q : Host) :
    covers (moreSpecific l r) q = (covers l q && covers r q) := by
  cases hc : covers (moreSpecific l r) q with
  | true =>
    obtain ⟨h1, h2⟩ := moreSpecific_covers hm q hc
    rw [h1, h2]; rfl
  | false => rcases moreSpecific_mem hm with e | e <;> rw [e] at hc <;> simp [hc]

theorem mem_accepted {l : Host} {rs : List Host} (hne : rs ≠ []) {h : Host} :
    h ∈ accepted l rs ↔ ∃ r ∈ rs, hmatch l r = true ∧ moreSpecific l r = h := by
  simp only [accepted, List.isEmpty_eq_false_iff.mpr hne, Bool.false_eq_true, ↓reduceIte, List.mem_filterMap]
  refine exists_congr fun r => and_congr_right fun _ => ?_
  cases hmatch l r <;> simp

end NGF.Hostname
