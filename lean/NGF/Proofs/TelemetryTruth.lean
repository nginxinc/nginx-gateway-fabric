/-
Lemmas behind `NGF.Props.C19Truth`: `strings.Cut(id, "://")` cuts at the first `://` and nothing after it matters; every
platform extractor answers from a closed vocabulary; the handler keeps "the stored configuration is built from the stored
graph" as an invariant; inside a comment the tokenizer ignores everything but LF.
-/
import NGF.Model.TelemetryTruth

namespace NGF.Telemetry

theorem isPrefixOf_eq_append {l s : Str} (h : l.isPrefixOf s = true) : s = l ++ s.drop l.length :=
  (List.prefix_iff_eq_append.mp (List.isPrefixOf_iff_prefix.mp h)).symm

theorem isPrefixOf_append_right {l a : Str} (b : Str) (h : l.isPrefixOf a = true) : l.isPrefixOf (a ++ b) = true :=
  List.isPrefixOf_iff_prefix.mpr ((List.isPrefixOf_iff_prefix.mp h).trans (List.prefix_append a b))

theorem cutScheme_cons (c : Char) (cs : Str) :
    cutScheme (c :: cs) =
      if schemeSep.isPrefixOf (c :: cs) then some ([], (c :: cs).drop 3)
      else (cutScheme cs).map fun pr => (c :: pr.1, pr.2) := by
  rw [cutScheme]
  split
  · rfl
  · cases cutScheme cs with
    | none => rfl
    | some pr => rfl

theorem cutScheme_some : ∀ (s p r : Str), cutScheme s = some (p, r) → s = p ++ schemeSep ++ r
  | [], _, _, h => by simp [cutScheme] at h
  | c :: cs, p, r, h => by
    rw [cutScheme_cons] at h
    split at h
    · next hp =>
      obtain ⟨rfl, rfl⟩ := Prod.mk.inj (Option.some.inj h)
      exact isPrefixOf_eq_append hp
    · obtain ⟨⟨p', r'⟩, hc, hpr⟩ := Option.map_eq_some_iff.mp h
      obtain ⟨rfl, rfl⟩ := Prod.mk.inj hpr
      rw [cutScheme_some cs p' r' hc]
      rfl

theorem cutScheme_pre_none : ∀ (s p r : Str), cutScheme s = some (p, r) → cutScheme p = none
  | [], _, _, h => by simp [cutScheme] at h
  | c :: cs, p, r, h => by
    rw [cutScheme_cons] at h
    split at h
    · obtain ⟨rfl, _⟩ := Prod.mk.inj (Option.some.inj h)
      rfl
    · next hp =>
      obtain ⟨⟨p', r'⟩, hc, hpr⟩ := Option.map_eq_some_iff.mp h
      obtain ⟨rfl, rfl⟩ := Prod.mk.inj hpr
      have hnp : ¬ schemeSep.isPrefixOf (c :: p') = true := fun hq =>
        hp (cutScheme_some cs p' r' hc ▸ List.append_assoc p' _ _ ▸ isPrefixOf_append_right (schemeSep ++ r') hq)
      rw [cutScheme_cons, if_neg hnp, cutScheme_pre_none cs p' r' hc]
      rfl

theorem cutScheme_none_iff (s : Str) : cutScheme s = none ↔ ∀ a b, s ≠ a ++ schemeSep ++ b := by
  constructor
  · induction s with
    | nil =>
      intro _ a b h
      have := congrArg List.length h
      simp [schemeSep] at this
    | cons c cs ih =>
      intro h a b hs
      rw [cutScheme_cons] at h
      split at h
      · exact absurd h (by simp)
      · next hp =>
        cases a with
        | nil => exact hp (hs ▸ by simp [schemeSep, List.isPrefixOf])
        | cons a0 a' => exact ih (Option.map_eq_none_iff.mp h) a' b (List.cons.inj hs).2
  · intro h
    cases hc : cutScheme s with
    | none => rfl
    | some pr => exact absurd (cutScheme_some s pr.1 pr.2 hc) (h pr.1 pr.2)

/-- no overlap: a `://` that begins at `c` in `c :: p ++ "://" ++ r` already begins there in `c :: p` -/
theorem sep_not_prefix_append {c : Char} {p : Str} (h : ¬ schemeSep.isPrefixOf (c :: p) = true) (r : Str) :
    ¬ schemeSep.isPrefixOf (c :: (p ++ schemeSep ++ r)) = true := by
  match p, h with
  | [], _ => simp [schemeSep, List.isPrefixOf]
  | [x], _ => simp [schemeSep, List.isPrefixOf]
  | x :: y :: q, h => simpa [schemeSep, List.isPrefixOf] using h

theorem cutScheme_append_sep : ∀ (p : Str), cutScheme p = none → ∀ r, cutScheme (p ++ schemeSep ++ r) = some (p, r)
  | [], _, _ => rfl
  | c :: p, h, r => by
    rw [cutScheme_cons] at h
    split at h
    · exact absurd h (by simp)
    · next hp =>
      rw [List.cons_append, List.cons_append, cutScheme_cons, if_neg (sep_not_prefix_append hp r),
        cutScheme_append_sep p (Option.map_eq_none_iff.mp h) r]
      rfl

theorem isPrefixOf_before_colon : ∀ (id p x : Str), ':' ∉ id →
    id.isPrefixOf (p ++ ':' :: x) = id.isPrefixOf p := by
  intro id
  induction id with
  | nil => intro p x _; simp [List.isPrefixOf]
  | cons a as ih =>
    intro p x h
    cases p with
    | nil =>
      have ha : a ≠ ':' := fun e => h (e ▸ List.mem_cons_self)
      simp [List.isPrefixOf, ha]
    | cons b p' =>
      simp only [List.cons_append, List.isPrefixOf]
      rw [ih p' x (fun m => h (.tail _ m))]

theorem trimRight_spec : ∀ l : Str, ∃ b, l = trimRight l ++ b ∧ ∀ c ∈ b, isGoSpace c = true := by
  intro l
  induction l with
  | nil => exact ⟨[], rfl, fun _ h => nomatch h⟩
  | cons c cs ih =>
    obtain ⟨b, hb, hsp⟩ := ih
    unfold trimRight
    cases ht : trimRight cs with
    | nil =>
      rw [ht, List.nil_append] at hb
      by_cases hc : isGoSpace c = true
      · exact ⟨c :: b, by simp [hc, hb], List.forall_mem_cons.mpr ⟨hc, hsp⟩⟩
      · exact ⟨b, by simp [hc, hb], hsp⟩
    | cons t ts =>
      rw [ht] at hb
      exact ⟨b, by simp [hb], hsp⟩

theorem trimSpace_spec (l : Str) : ∃ a b, l = a ++ trimSpace l ++ b ∧
    (∀ c ∈ a, isGoSpace c = true) ∧ (∀ c ∈ b, isGoSpace c = true) := by
  obtain ⟨b, hb, hsp⟩ := trimRight_spec (trimLeft l)
  refine ⟨l.takeWhile isGoSpace, b, ?_, ?_, hsp⟩
  · have : l = l.takeWhile isGoSpace ++ l.dropWhile isGoSpace := (List.takeWhile_append_dropWhile).symm
    simp only [trimSpace, List.append_assoc, ← hb]
    exact this
  · exact List.all_eq_true.mp List.all_takeWhile

theorem firstPlatform_some : ∀ (es : List (K8sState → Str)) (s : K8sState) (p : Str),
    firstPlatform es s = some p → ∃ e ∈ es, p = e s ∧ e s ≠ [] := by
  intro es
  induction es with
  | nil => intro s p h; exact nomatch h
  | cons e es ih =>
    intro s p h
    unfold firstPlatform at h
    split at h
    · next hne => exact ⟨e, List.mem_cons_self, (Option.some.inj h).symm, by simpa using hne⟩
    · obtain ⟨e', he', hp⟩ := ih s p h
      exact ⟨e', .tail _ he', hp⟩

theorem firstPlatform_congr : ∀ (es : List (K8sState → Str)) (s t : K8sState),
    (∀ e ∈ es, e s = e t) → firstPlatform es s = firstPlatform es t := by
  intro es
  induction es with
  | nil => intro s t _; rfl
  | cons e es ih =>
    intro s t h
    have ⟨he, hes⟩ := List.forall_mem_cons.mp h
    unfold firstPlatform
    rw [he, ih s t hes]

theorem rancherLoop_closed : ∀ ns : List Str, rancherLoop ns = [] ∨ rancherLoop ns = "rancher".toList := by
  intro ns
  induction ns with
  | nil => exact .inl rfl
  | cons n ns ih =>
    unfold rancherLoop
    split
    · exact .inr rfl
    · exact ih

theorem providerIDExtractor_closed (id platform : Str) (s : K8sState) :
    providerIDExtractor id platform s = [] ∨ providerIDExtractor id platform s = platform := by
  unfold providerIDExtractor
  split
  · exact .inr rfl
  · exact .inl rfl

theorem providerIDTable_no_colon : ∀ p ∈ providerIDTable, ':' ∉ p.1 := by decide +kernel

theorem providerIDTable_platforms : ∀ p ∈ providerIDTable, p.2 ∈ platformConstants := by decide +kernel

theorem other_mem_platformConstants : platformOther ∈ platformConstants :=
  .tail _ (.tail _ (.tail _ (.tail _ (.tail _ (.tail _ (.tail _ (.head _)))))))

theorem mem_platformExtractors {e : K8sState → Str} (he : e ∈ platformExtractors) :
    (e = openShiftExtractor ∨ e = rancherExtractor) ∨ ∃ p ∈ providerIDTable, providerIDExtractor p.1 p.2 = e := by
  simpa only [platformExtractors, List.mem_append, List.mem_cons, List.not_mem_nil, or_false, List.mem_map] using he

theorem extractor_closed (s : K8sState) : ∀ e ∈ platformExtractors, e s = [] ∨ e s ∈ platformConstants := by
  intro e he
  rcases mem_platformExtractors he with (rfl | rfl) | ⟨p, hp, rfl⟩
  · unfold openShiftExtractor
    split
    · exact .inr (.head _)
    · exact .inl rfl
  · rcases rancherLoop_closed s.namespaces with h | h
    · exact .inl h
    · right
      rw [rancherExtractor, h]
      exact .tail _ (.head _)
  · rcases providerIDExtractor_closed p.1 p.2 s with h | h
    · exact .inl h
    · exact .inr (h.symm ▸ providerIDTable_platforms p hp)

/-- the identifiers of the table contain no ':', so a prefix test cannot reach past the `://` -/
theorem extractors_agree (s : K8sState) (pre r r' : Str) (hs : s.providerID = pre ++ schemeSep ++ r) :
    ∀ e ∈ platformExtractors, e { s with providerID := pre ++ schemeSep ++ r' } = e s := by
  intro e he
  rcases mem_platformExtractors he with (rfl | rfl) | ⟨p, hp, rfl⟩
  · rfl
  · rfl
  · simp only [providerIDExtractor, hs, schemeSep, List.append_assoc, List.cons_append,
      isPrefixOf_before_colon _ pre _ (providerIDTable_no_colon p hp)]

theorem updateFails_noChange (plus prevErr : Bool) (o : Outcome) : updateFails plus prevErr .noChange o = false := rfl

/-- invariant: the stored configuration is the one built from the stored graph, with the current version -/
def SnapshotInv (st : HState) : Prop := st.conf = st.graph.map fun g => buildConf g st.version

theorem inv_init : SnapshotInv .init := rfl

theorem inv_handleBatch (plus : Bool) (st : HState) (b : Batch) (h : SnapshotInv st) :
    SnapshotInv (handleBatch plus st b) := by
  unfold handleBatch
  cases hc : b.change <;> simp [SnapshotInv] <;> exact h

theorem inv_foldl (plus : Bool) : ∀ (bs : List Batch) (st : HState), SnapshotInv st →
    SnapshotInv (bs.foldl (handleBatch plus) st)
  | [], _, h => h
  | b :: bs, st, h => inv_foldl plus bs _ (inv_handleBatch plus st b h)

theorem graph_handleBatch (plus : Bool) (st : HState) (b : Batch) :
    (handleBatch plus st b).graph = if b.change = .noChange then st.graph else some b.snap := by
  unfold handleBatch
  cases hc : b.change <;> simp

theorem graph_foldl (plus : Bool) : ∀ (bs : List Batch) (st : HState),
    (bs.foldl (handleBatch plus) st).graph =
      match lastSnapshot bs with
      | some s => some s
      | none => st.graph := by
  intro bs
  induction bs with
  | nil => intro st; rfl
  | cons b bs ih =>
    intro st
    simp only [List.foldl_cons, ih, lastSnapshot]
    cases hl : lastSnapshot bs with
    | some s => rfl
    | none =>
      simp only [graph_handleBatch]
      split <;> rfl

theorem telemetryCounts_of_inv (st : HState) (h : SnapshotInv st) :
    telemetryCounts st = st.graph.map countResources := by
  unfold SnapshotInv at h
  unfold telemetryCounts
  cases hg : st.graph with
  | none => rfl
  | some g =>
    rw [hg] at h
    simp only [Option.map_some] at h
    rw [h]
    rfl

theorem tokRun_append : ∀ (a b : Str) (s : TokState), tokRun s (a ++ b) = tokRun (a.foldl tokStep s) b := by
  intro a
  induction a with
  | nil => intro b s; rfl
  | cons c cs ih => intro b s; exact ih b (tokStep s c)

theorem foldl_tokStep_comment (d : Nat) (a : Bool) (ds : List Str) : ∀ (body : Str), '\n' ∉ body →
    body.foldl tokStep ⟨.comment, d, a, ds⟩ = ⟨.comment, d, a, ds⟩ := by
  intro body
  induction body with
  | nil => intro _; rfl
  | cons c cs ih =>
    intro h
    have hc : c ≠ '\n' := fun e => h (e ▸ List.mem_cons_self)
    have : tokStep ⟨.comment, d, a, ds⟩ c = ⟨.comment, d, a, ds⟩ := by simp [tokStep, hc]
    rw [List.foldl_cons, this, ih (fun m => h (List.mem_cons_of_mem _ m))]

theorem tokRun_comment (body rest : Str) (d : Nat) (a : Bool) (ds : List Str) (h : '\n' ∉ body) :
    tokRun ⟨.gap, d, a, ds⟩ ('#' :: body ++ '\n' :: rest) = tokRun ⟨.gap, d, a, ds⟩ rest := by
  show tokRun ⟨.comment, d, a, ds⟩ (body ++ '\n' :: rest) = _
  rw [tokRun_append, foldl_tokStep_comment d a ds body h]
  rfl

theorem tokRun_comment_end (body : Str) (d : Nat) (a : Bool) (ds : List Str) (h : '\n' ∉ body) :
    tokRun ⟨.gap, d, a, ds⟩ ('#' :: body) = ⟨.comment, d, a, ds⟩ := by
  show tokRun ⟨.comment, d, a, ds⟩ body = _
  rw [← List.append_nil body, tokRun_append, foldl_tokStep_comment d a ds body h]
  rfl

end NGF.Telemetry
