/-
C16 helper lemmas: which listener's key pair an SSL server presents (`buildSSLServers`), for all inputs.
`covers` / `rank` order the listener hostnames that cover one server name (none < wildcard, by labels < exact);
`lms_iff_rank` ties `listenerHostnameMoreSpecific` to that order and `moreSpecificOf_spec` specifies the choice
`upsertRoute` makes with it. The hostname functions of Model/TlsBind are those of Model/Hostname (`…_eq_hostname`),
which gives `accepted_covers`. `look` / `keys` read the `listenersForHost` association list, `Inv` is what its fold
keeps, and `ssl_server_owner` reads the result off the generated servers. Core Lean only.
-/
import NGF.Model.TlsBind
import NGF.Proofs.Hostname

namespace NGF.Tls

/-- listener hostname `l` covers server name `h`: no hostname, the same name, or a wildcard whose suffix `h` has -/
def covers (l h : Host) : Bool := l = [] || l = h || (isWild l && (l.drop 1).isSuffixOf h)

/-- specificity of a listener hostname among those covering one server name:
none < wildcard (more labels = more specific) < exact -/
def rank (l : Host) : Nat := if l = [] then 0 else if isWild l then 1 + dots l else 2 + dots l

theorem isWild_iff {a : Host} : isWild a = true ↔ ∃ t, a = '*' :: '.' :: t := by
  constructor
  · intro h
    unfold isWild at h
    split at h
    · exact ⟨_, rfl⟩
    · simp at h
  · rintro ⟨t, rfl⟩; rfl

theorem dots_star (x : Host) : dots ('*' :: x) = dots x := by
  simp [dots]

theorem dots_suffix_le {x y : Host} (h : y <:+ x) : dots y ≤ dots x :=
  h.sublist.count_le _

theorem dots_eq_hostname (h : Host) : NGF.Hostname.dots h = dots h := by
  simp [NGF.Hostname.dots, dots, List.count_eq_length_filter]

theorem dot_suffix_eq {x y : Host} (h : ('.' :: y) <:+ ('.' :: x)) (hd : dots ('.' :: x) ≤ dots ('.' :: y)) :
    ('.' :: y : Host) = '.' :: x := by
  rcases NGF.Hostname.suffix_dots h with e | lt
  · rw [e]
  · rw [dots_eq_hostname, dots_eq_hostname] at lt; omega

theorem covers_iff {l h : Host} :
    covers l h = true ↔ l = [] ∨ l = h ∨ ∃ t, l = '*' :: '.' :: t ∧ ('.' :: t) <:+ h := by
  unfold covers
  simp only [Bool.or_eq_true, Bool.and_eq_true, decide_eq_true_eq, List.isSuffixOf_iff_suffix]
  constructor
  · rintro ((h | h) | ⟨hw, hs⟩)
    · exact Or.inl h
    · exact Or.inr (Or.inl h)
    · obtain ⟨t, rfl⟩ := isWild_iff.mp hw
      exact Or.inr (Or.inr ⟨t, rfl, by simpa using hs⟩)
  · rintro (h | h | ⟨t, rfl, hs⟩)
    · exact Or.inl (Or.inl h)
    · exact Or.inl (Or.inr h)
    · exact Or.inr ⟨rfl, by simpa using hs⟩

theorem covers_nil (h : Host) : covers [] h = true := rfl

theorem covers_self (h : Host) : covers h h = true := by simp [covers]

theorem eq_of_covers_exact {a h : Host} (ha : covers a h = true) (h0 : a ≠ []) (hw : isWild a = false) : a = h := by
  rcases covers_iff.mp ha with h1 | h1 | ⟨t, h1, _⟩
  · exact absurd h1 h0
  · exact h1
  · rw [h1] at hw; cases hw

theorem covers_dots_le {a h : Host} (ha : covers a h = true) (h0 : a ≠ []) : dots a ≤ dots h := by
  rcases covers_iff.mp ha with h1 | h1 | ⟨t, rfl, s⟩
  · exact absurd h1 h0
  · rw [h1]; exact Nat.le_refl _
  · rw [dots_star]; exact dots_suffix_le s

theorem covers_wildcardHostname {a : Host} (ha : covers a wildcardHostname = true) : a = [] ∨ a = wildcardHostname := by
  rcases covers_iff.mp ha with h1 | h1 | ⟨t, _, s⟩
  · exact Or.inl h1
  · exact Or.inr h1
  · exact absurd (s.subset List.mem_cons_self) (by decide)

theorem covers_trans {a n q : Host} (hn : n ≠ []) (h1 : covers a n = true) (h2 : covers n q = true) :
    covers a q = true := by
  rcases covers_iff.mp h1 with e | e | ⟨t, rfl, hs⟩
  · subst e; exact covers_nil q
  · subst e; exact h2
  · rcases covers_iff.mp h2 with e | e | ⟨t', rfl, hs'⟩
    · exact absurd e hn
    · subst e; exact covers_iff.mpr (Or.inr (Or.inr ⟨t, rfl, hs⟩))
    · have h3 := NGF.Hostname.suffix_of_star hs
      exact covers_iff.mpr (Or.inr (Or.inr ⟨t, rfl, h3.trans hs'⟩))

theorem wild_covers_suffix {t h : Host} (ha : covers ('*' :: '.' :: t) h = true) : ('.' :: t) <:+ h := by
  rcases covers_iff.mp ha with h1 | h1 | ⟨t1, h1, s1⟩
  · cases h1
  · rw [← h1]; exact List.suffix_cons _ _
  · cases h1; exact s1

theorem wild_dots_ne {a b h : Host} (ha : covers a h = true) (hb : covers b h = true)
    (wa : isWild a = true) (wb : isWild b = true) (hne : a ≠ b) : dots a ≠ dots b := by
  obtain ⟨ta, rfl⟩ := isWild_iff.mp wa
  obtain ⟨tb, rfl⟩ := isWild_iff.mp wb
  intro hd
  rw [dots_star, dots_star] at hd
  -- both suffixes end the one name, so one ends the other; with as many dots they are the same
  rcases List.suffix_or_suffix_of_suffix (wild_covers_suffix ha) (wild_covers_suffix hb) with h3 | h3
  · exact hne (by rw [(List.cons.inj (dot_suffix_eq h3 (by omega))).2])
  · exact hne (by rw [(List.cons.inj (dot_suffix_eq h3 (by omega))).2])

theorem rank_nil : rank [] = 0 := rfl

theorem rank_wild {a : Host} (hw : isWild a = true) : rank a = 1 + dots a := by
  obtain ⟨t, rfl⟩ := isWild_iff.mp hw; rfl

theorem rank_exact {a : Host} (h0 : a ≠ []) (hw : isWild a = false) : rank a = 2 + dots a := by
  simp only [rank, if_neg h0, hw, Bool.false_eq_true, if_false]

theorem rank_ge {a : Host} (h0 : a ≠ []) : 1 + dots a ≤ rank a := by
  cases hw : isWild a
  · rw [rank_exact h0 hw]; omega
  · rw [rank_wild hw]; omega

theorem covers_rank_le {a h : Host} (ha : covers a h = true) (hh : h ≠ []) : rank a ≤ rank h := by
  by_cases h0 : a = []
  · rw [h0]; exact Nat.zero_le _
  cases hw : isWild a
  · rw [eq_of_covers_exact ha h0 hw]; exact Nat.le_refl _
  · have := covers_dots_le ha h0
    have := rank_ge hh
    rw [rank_wild hw]; omega

theorem covers_listenerServerName (l : Host) : covers l (listenerServerName l) = true := by
  unfold listenerServerName
  by_cases e : l = []
  · rw [e]; exact covers_nil _
  · rw [if_neg e]; exact covers_self l

/-- whoever covers the server name of listener hostname `l` — other than a hostname literally `~^` — is at most as
specific as `l`: the name is `l` itself, or `~^` when `l` is empty, which only the empty hostname covers -/
theorem rank_le_of_covers_serverName {o l : Host} (hoc : covers o (listenerServerName l) = true)
    (hwf : o ≠ wildcardHostname) : rank o ≤ rank l := by
  unfold listenerServerName at hoc
  by_cases e : l = []
  · rw [if_pos e] at hoc
    rcases covers_wildcardHostname hoc with h3 | h3
    · rw [h3]; exact Nat.zero_le _
    · exact absurd h3 hwf
  · rw [if_neg e] at hoc
    exact covers_rank_le hoc e

theorem host_eq_of_rank_eq {a b h : Host} (ha : covers a h = true) (hb : covers b h = true)
    (hr : rank a = rank b) : a = b := by
  by_cases ha0 : a = []
  · subst ha0
    by_cases hb0 : b = []
    · exact hb0.symm
    · have := rank_ge hb0; rw [rank_nil] at hr; omega
  by_cases hb0 : b = []
  · subst hb0; have := rank_ge ha0; rw [rank_nil] at hr; omega
  cases wa : isWild a <;> cases wb : isWild b
  · exact (eq_of_covers_exact ha ha0 wa).trans (eq_of_covers_exact hb hb0 wb).symm
  · -- `a` is the name itself, `b` a wildcard covering it: strictly less specific
    have e := eq_of_covers_exact ha ha0 wa; subst e
    have := covers_dots_le hb hb0
    rw [rank_exact ha0 wa, rank_wild wb] at hr; omega
  · have e := eq_of_covers_exact hb hb0 wb; subst e
    have := covers_dots_le ha ha0
    rw [rank_exact hb0 wb, rank_wild wa] at hr; omega
  · rw [rank_wild wa, rank_wild wb] at hr
    exact Classical.byContradiction fun hne => wild_dots_ne ha hb wa wb hne (by omega)

theorem moreSpecific_of_ne {a b : Host} (hab : a ≠ b) (ha : a ≠ []) (hb : b ≠ []) :
    moreSpecific a b =
      if isWild a then (if isWild b then (if dots a > dots b then a else b) else b) else if isWild b then a else [] := by
  rw [moreSpecific, if_neg hab, if_neg ha, if_neg hb]

/-- `listenerHostnameMoreSpecific a b` holds exactly when `a` is at least as specific as `b`
(for hostnames covering one server name) -/
theorem lms_iff_rank {a b h : Host} (ha : covers a h = true) (hb : covers b h = true) :
    lms a b = true ↔ rank b ≤ rank a := by
  unfold lms
  rw [decide_eq_true_eq]
  by_cases hab : a = b
  · subst hab; rw [moreSpecific, if_pos rfl]; exact ⟨fun _ => Nat.le_refl _, fun _ => rfl⟩
  by_cases ha0 : a = []
  · subst ha0
    have hb0 : b ≠ [] := Ne.symm hab
    have := rank_ge hb0
    rw [moreSpecific, if_neg hab, if_pos rfl, rank_nil]
    exact ⟨fun e => absurd e hb0, fun e => by omega⟩
  by_cases hb0 : b = []
  · subst hb0; rw [moreSpecific, if_neg hab, if_neg ha0, if_pos rfl]; exact ⟨fun _ => Nat.zero_le _, fun _ => rfl⟩
  rw [moreSpecific_of_ne hab ha0 hb0]
  cases wa : isWild a <;> cases wb : isWild b
  · exact absurd ((eq_of_covers_exact ha ha0 wa).trans (eq_of_covers_exact hb hb0 wb).symm) hab
  · -- `a` is the name itself
    have e := eq_of_covers_exact ha ha0 wa; subst e
    rw [if_neg Bool.false_ne_true, if_pos rfl]
    exact ⟨fun _ => covers_rank_le hb ha0, fun _ => rfl⟩
  · -- `b` is the name itself, `a` a wildcard covering it: strictly less specific
    have e := eq_of_covers_exact hb hb0 wb; subst e
    have := covers_dots_le ha ha0
    rw [if_pos rfl, if_neg Bool.false_ne_true, rank_exact hb0 wb, rank_wild wa]
    exact ⟨fun e => absurd e.symm hab, fun e => by omega⟩
  · have hne := wild_dots_ne ha hb wa wb hab
    rw [if_pos rfl, if_pos rfl, rank_wild wa, rank_wild wb]
    by_cases hgt : dots a > dots b
    · rw [if_pos hgt]; exact ⟨fun _ => by omega, fun _ => rfl⟩
    · rw [if_neg hgt]; exact ⟨fun e => absurd e.symm hab, fun e => by omega⟩

/-- the choice `upsertRoute` makes for `listenersForHost[h]` between the entry so far and a new listener `l`: the
new one unless the previous one stays -/
def moreSpecificOf {α : Type} (host : α → Host) (acc : Option α) (l : α) : Option α :=
  match acc with
  | none => some l
  | some p => if lms (host l) (host p) then some l else some p

theorem moreSpecificOf_spec {α : Type} {host : α → Host} {h : Host} {acc : Option α} {l : α}
    (hcl : covers (host l) h = true) (hcov : ∀ p, acc = some p → covers (host p) h = true) :
    ∃ w, moreSpecificOf host acc l = some w ∧ (w = l ∨ acc = some w) ∧
      rank (host l) ≤ rank (host w) ∧ ∀ p, acc = some p → rank (host p) ≤ rank (host w) := by
  cases acc with
  | none => exact ⟨l, rfl, .inl rfl, Nat.le_refl _, fun p e => nomatch e⟩
  | some p =>
    have hiff := lms_iff_rank hcl (hcov p rfl)
    by_cases hl : lms (host l) (host p) = true
    · exact ⟨l, if_pos hl, .inl rfl, Nat.le_refl _, fun q e => by cases e; exact hiff.mp hl⟩
    · exact ⟨p, if_neg hl, .inr rfl, Nat.le_of_lt (Nat.lt_of_not_le fun x => hl (hiff.mpr x)),
        fun q e => by cases e; exact Nat.le_refl _⟩

theorem moreSpecificOf_isSome {α : Type} (host : α → Host) (acc : Option α) (l : α) :
    (moreSpecificOf host acc l).isSome = true := by
  cases acc with
  | none => rfl
  | some p => by_cases hl : lms (host l) (host p) = true <;> simp [moreSpecificOf, hl]

/-! ### the two hostname models agree: `NGF.Hostname` (Model/Hostname, used by `Pipeline.acceptedAt`) and the functions
of Model/TlsBind are the same functions -/

theorem isWild_eq_hostname (h : Host) : NGF.Hostname.isWild h = isWild h := by
  apply Bool.eq_iff_iff.mpr
  rw [isWild_iff, NGF.Hostname.isWild, beq_iff_eq]
  constructor
  · intro e
    match h, e with
    | a :: b :: t, e =>
      have := List.cons.inj e
      exact ⟨t, by rw [this.1, (List.cons.inj this.2).1]⟩
  · rintro ⟨t, rfl⟩; rfl

theorem moreSpecific_eq_hostname (a b : Host) : NGF.Hostname.moreSpecific a b = moreSpecific a b := by
  unfold NGF.Hostname.moreSpecific moreSpecific
  rw [isWild_eq_hostname, isWild_eq_hostname]
  -- labels = dots + 1 on both sides
  have h : (NGF.Hostname.labels a > NGF.Hostname.labels b) = (dots a > dots b) := by
    simp [NGF.Hostname.labels, dots, List.count_eq_length_filter]
  simp only [h, beq_iff_eq, List.isEmpty_iff]

theorem wildcardMatch_eq_hostname (a b : Host) : NGF.Hostname.wildcardMatch a b = wildcardMatch a b := by
  simp [NGF.Hostname.wildcardMatch, wildcardMatch, isWild_eq_hostname, NGF.Hostname.wildTail]

theorem hostMatch_eq_hostname (l r : Host) : NGF.Hostname.hmatch l r = hostMatch l r := by
  unfold NGF.Hostname.hmatch hostMatch
  rw [wildcardMatch_eq_hostname, wildcardMatch_eq_hostname]
  by_cases h1 : l = []
  · simp [h1]
  · by_cases h2 : r = l
    · simp [h1, h2]
    · cases wildcardMatch l r <;> simp [h1, h2]

theorem findAccepted_eq_hostname (l : Host) (rs : List Host) : NGF.Hostname.accepted l rs = findAccepted l rs := by
  unfold NGF.Hostname.accepted findAccepted
  have : ∀ rs : List Host,
      rs.filterMap (fun r => if NGF.Hostname.hmatch l r then some (NGF.Hostname.moreSpecific l r) else none) =
        (rs.filter (hostMatch l ·)).map (moreSpecific l ·) := by
    intro rs
    induction rs with
    | nil => rfl
    | cons r rs ih =>
      rw [List.filterMap_cons, List.filter_cons, hostMatch_eq_hostname, moreSpecific_eq_hostname, ih]
      cases hostMatch l r <;> rfl
  rw [this]
  cases rs <;> cases l <;> rfl

theorem covers_eq_hostname (p q : Host) : NGF.Hostname.covers p q = covers p q := by
  unfold NGF.Hostname.covers covers NGF.Hostname.wildTail
  rw [isWild_eq_hostname, show p.isEmpty = decide (p = []) by cases p <;> rfl,
    show (p == q) = decide (p = q) by by_cases e : p = q <;> simp [e]]

theorem covers_moreSpecific_self {l r : Host} (hm : hostMatch l r = true) : covers l (moreSpecific l r) = true := by
  rw [← hostMatch_eq_hostname] at hm
  -- the kept name stands for exactly what both hostnames stand for, itself included
  have h := NGF.Hostname.covers_moreSpecific hm (NGF.Hostname.moreSpecific l r)
  rw [covers_eq_hostname, covers_eq_hostname, covers_eq_hostname, moreSpecific_eq_hostname, covers_self] at h
  exact (Bool.and_eq_true_iff.mp h.symm).1

theorem accepted_covers (l : Host) (rs : List Host) (h : Host) (hm : h ∈ findAccepted l rs) :
    covers l h = true := by
  unfold findAccepted at hm
  by_cases he : rs.isEmpty = true
  · rw [if_pos he] at hm
    by_cases hl : l = []
    · rw [hl]; exact covers_nil _
    · rw [if_neg hl, List.mem_singleton] at hm; rw [hm]; exact covers_self l
  · rw [if_neg he] at hm
    obtain ⟨r, hr, rfl⟩ := List.mem_map.mp hm
    exact covers_moreSpecific_self (List.mem_filter.mp hr).2

theorem Listener.accepted_covers {l : Listener} {h : Host} (hh : h ∈ l.accepted) : covers l.host h = true := by
  simp only [Listener.accepted, List.mem_flatten, List.mem_map] at hh
  obtain ⟨acc, ⟨rs, _, rfl⟩, hin⟩ := hh
  exact Tls.accepted_covers l.host rs h hin

def look : List (Host × Listener) → Host → Option Listener
  | [], _ => none
  | (k, p) :: rest, h => if k = h then some p else look rest h

def keys (m : List (Host × Listener)) : List Host := m.map (·.1)

section
attribute [local simp] upsertHost look moreSpecificOf

theorem look_upsert (m : List (Host × Listener)) (h : Host) (l : Listener) (h' : Host) :
    look (upsertHost m h l) h' =
      if h' = h then moreSpecificOf Listener.host (look m h) l else look m h' := by
  induction m with
  | nil =>
    by_cases e : h' = h
    · subst e; simp
    · have : h ≠ h' := fun x => e x.symm
      simp [e, this]
  | cons kp rest ih =>
    obtain ⟨k, p⟩ := kp
    by_cases hk : k = h
    · subst hk
      by_cases e : h' = k
      · subst e
        by_cases hl : lms l.host p.host = true <;> simp [hl]
      · have e' : k ≠ h' := fun x => e x.symm
        by_cases hl : lms l.host p.host = true <;> simp [hl, e, e']
    · by_cases e : h' = h
      · subst e
        simp [hk, ih]
      · by_cases e2 : k = h'
        · simp [e, e2]
        · simp [hk, e, e2, ih]

theorem keys_upsert (m : List (Host × Listener)) (h : Host) (l : Listener) :
    keys (upsertHost m h l) = if h ∈ keys m then keys m else keys m ++ [h] := by
  induction m with
  | nil => simp [keys]
  | cons kp rest ih =>
    obtain ⟨k, p⟩ := kp
    by_cases hk : k = h
    · subst hk
      by_cases hl : lms l.host p.host = true <;> simp [keys, hl]
    · have hk' : h ≠ k := fun x => hk x.symm
      have e1 : keys (upsertHost ((k, p) :: rest) h l) = k :: keys (upsertHost rest h l) := by
        simp [hk, keys]
      have e2 : keys ((k, p) :: rest) = k :: keys rest := rfl
      rw [e1, e2, ih]
      by_cases hm : h ∈ keys rest
      · simp [hm]
      · simp [hm, hk']

end

theorem nodup_upsert (m : List (Host × Listener)) (h : Host) (l : Listener) (hn : (keys m).Nodup) :
    (keys (upsertHost m h l)).Nodup := by
  rw [keys_upsert]
  split
  · exact hn
  · rename_i hnot
    rw [List.nodup_append]
    refine ⟨hn, by simp, ?_⟩
    intro a ha b hb
    simp at hb; subst hb
    intro e; subst e; exact hnot ha

theorem look_of_mem {m : List (Host × Listener)} (hn : (keys m).Nodup) {h : Host} {w : Listener}
    (hm : (h, w) ∈ m) : look m h = some w := by
  induction m with
  | nil => simp at hm
  | cons kp rest ih =>
    obtain ⟨k, p⟩ := kp
    simp only [keys, List.map_cons, List.nodup_cons] at hn
    rcases List.mem_cons.mp hm with e | e
    · simp at e; obtain ⟨rfl, rfl⟩ := e; simp [look]
    · have : k ≠ h := by
        intro x; subst x
        exact hn.1 (List.mem_map.mpr ⟨(k, w), e, rfl⟩)
      simp only [look, this, if_false]
      exact ih hn.2 e

/-- pairs (listener, accepted hostname) in the order they are upserted -/
def pairsOf (ls : List Listener) : List (Listener × Host) := ls.flatMap fun l => l.accepted.map fun h => (l, h)

def stepPair (m : List (Host × Listener)) (q : Listener × Host) : List (Host × Listener) := upsertHost m q.2 q.1

theorem upsertHosts_eq (m : List (Host × Listener)) (l : Listener) (hs : List Host) :
    upsertHosts m l hs = (hs.map fun h => (l, h)).foldl stepPair m := by
  induction hs generalizing m with
  | nil => rfl
  | cons h hs ih => simp [upsertHosts, ih, stepPair]

theorem listenersForHost_eq (m : List (Host × Listener)) (ls : List Listener) :
    listenersForHost m ls = (pairsOf ls).foldl stepPair m := by
  induction ls generalizing m with
  | nil => rfl
  | cons l ls ih => simp [listenersForHost, pairsOf, List.foldl_append, upsertHosts_eq, ih]

theorem mem_pairsOf {ls : List Listener} {l : Listener} {h : Host} :
    (l, h) ∈ pairsOf ls ↔ l ∈ ls ∧ h ∈ l.accepted := by
  simp only [pairsOf, List.mem_flatMap, List.mem_map]
  constructor
  · rintro ⟨l', hl', h', hh', e⟩
    simp at e; obtain ⟨rfl, rfl⟩ := e
    exact ⟨hl', hh'⟩
  · rintro ⟨hl, hh⟩
    exact ⟨l, hl, h, hh, rfl⟩

/-- invariant of the fold: each entry is the (last) most specific listener among the processed pairs of its
hostname, and every processed hostname has an entry -/
def Inv (m : List (Host × Listener)) (P : List (Listener × Host)) : Prop :=
  (keys m).Nodup ∧
  (∀ h w, look m h = some w → (w, h) ∈ P ∧ ∀ l, (l, h) ∈ P → rank l.host ≤ rank w.host) ∧
  (∀ l h, (l, h) ∈ P → look m h ≠ none)

theorem inv_step {m : List (Host × Listener)} {P : List (Listener × Host)} (l : Listener) (h : Host)
    (hi : Inv m P) (hcov : ∀ q ∈ P ++ [(l, h)], covers q.1.host q.2 = true) :
    Inv (upsertHost m h l) (P ++ [(l, h)]) := by
  obtain ⟨hn, hmax, hall⟩ := hi
  have hcl : covers l.host h = true := hcov (l, h) (by simp)
  -- the entry of `h` after the upsert: `l` or the previous entry, at least as specific as both
  obtain ⟨w, hw, hwl, hlw, hpw⟩ := moreSpecificOf_spec (host := Listener.host) (acc := look m h) hcl
    (fun p hp => hcov (p, h) (List.mem_append_left _ (hmax h p hp).1))
  have hlook : ∀ h', look (upsertHost m h l) h' = if h' = h then some w else look m h' :=
    fun h' => by rw [look_upsert, hw]
  refine ⟨nodup_upsert m h l hn, fun h' w' hw' => ?_, fun l' h' hl' => ?_⟩
  · rw [hlook] at hw'
    by_cases e : h' = h
    · subst e
      rw [if_pos rfl] at hw'; cases hw'
      refine ⟨?_, fun l' hl' => ?_⟩
      · rcases hwl with rfl | hp
        · exact List.mem_append_right _ (List.mem_singleton.mpr rfl)
        · exact List.mem_append_left _ (hmax h' w hp).1
      · rcases List.mem_append.mp hl' with hp | hp
        · cases hlk : look m h' with
          | none => exact absurd hlk (hall l' h' hp)
          | some p => exact Nat.le_trans ((hmax h' p hlk).2 l' hp) (hpw p hlk)
        · rw [(Prod.mk.inj (List.mem_singleton.mp hp)).1]; exact hlw
    · rw [if_neg e] at hw'
      obtain ⟨hpP, hpmax⟩ := hmax h' w' hw'
      refine ⟨List.mem_append_left _ hpP, fun l' hl' => ?_⟩
      rcases List.mem_append.mp hl' with hp | hp
      · exact hpmax l' hp
      · exact absurd (Prod.mk.inj (List.mem_singleton.mp hp)).2 e
  · rw [hlook]
    by_cases e : h' = h
    · rw [if_pos e]; exact Option.some_ne_none w
    · rw [if_neg e]
      rcases List.mem_append.mp hl' with hp | hp
      · exact hall l' h' hp
      · exact absurd (Prod.mk.inj (List.mem_singleton.mp hp)).2 e

theorem inv_fold (Q : List (Listener × Host)) {m : List (Host × Listener)} {P : List (Listener × Host)}
    (hi : Inv m P) (hcov : ∀ q ∈ P ++ Q, covers q.1.host q.2 = true) :
    Inv (Q.foldl stepPair m) (P ++ Q) := by
  induction Q generalizing m P with
  | nil => simpa using hi
  | cons q Q ih =>
    obtain ⟨l, h⟩ := q
    have h1 : Inv (upsertHost m h l) (P ++ [(l, h)]) :=
      inv_step l h hi (fun q hq => hcov q (by
        rcases List.mem_append.mp hq with x | x
        · exact List.mem_append_left _ x
        · exact List.mem_append_right _ (by simp at x; simp [x])))
    have h2 := ih h1 (by simpa using hcov)
    simpa [stepPair] using h2

theorem inv_listenersForHost (ls : List Listener) : Inv (listenersForHost [] ls) (pairsOf ls) := by
  rw [listenersForHost_eq]
  have h0 : Inv [] [] := ⟨by simp [keys], by simp [look], by simp⟩
  have := inv_fold (pairsOf ls) h0 (by
    intro q hq
    simp only [List.nil_append] at hq
    obtain ⟨l, h⟩ := q
    exact Listener.accepted_covers (mem_pairsOf.mp hq).2)
  simpa using this

theorem mem_buildServersPort {p : Nat} {ls : List Listener} {s : Server} (hs : s ∈ buildServersPort p ls) :
    (∃ h w, (h, w) ∈ listenersForHost [] ls ∧ s = ⟨h, p, false, some (keyPairId w.secret)⟩) ∨
    (∃ l ∈ ls, (l.nroutes = 0 ∨ listenerServerName l.host = wildcardHostname) ∧
      s = ⟨listenerServerName l.host, p, false, some (keyPairId l.secret)⟩) ∨
    s = ⟨[], p, true, none⟩ := by
  simp only [buildServersPort, List.mem_append, List.mem_map, List.mem_filter] at hs
  rcases hs with (⟨⟨h, w⟩, hm, rfl⟩ | ⟨l, ⟨hl, hc⟩, rfl⟩) | hs
  · exact .inl ⟨h, w, hm, rfl⟩
  · exact .inr (.inl ⟨l, hl, by simpa using hc, rfl⟩)
  · by_cases he : ls.isEmpty = true
    · rw [if_pos he] at hs; cases hs
    · rw [if_neg he] at hs; exact .inr (.inr (List.mem_singleton.mp hs))

theorem buildServersPort_port (p : Nat) (ls : List Listener) (s : Server) (hs : s ∈ buildServersPort p ls) :
    s.port = p := by
  rcases mem_buildServersPort hs with ⟨_, _, _, rfl⟩ | ⟨_, _, _, rfl⟩ | rfl <;> rfl

theorem buildServersPort_owner (p : Nat) (ls : List Listener) (s : Server)
    (hs : s ∈ buildServersPort p ls) (hnd : s.isDefault = false) :
    ∃ l ∈ ls, s.keyPair = some (keyPairId l.secret) ∧
      ((s.host ∈ l.accepted ∧ covers l.host s.host = true ∧
          ∀ l' ∈ ls, s.host ∈ l'.accepted → rank l'.host ≤ rank l.host)
       ∨ (s.host = listenerServerName l.host ∧ (l.nroutes = 0 ∨ listenerServerName l.host = wildcardHostname))) := by
  rcases mem_buildServersPort hs with ⟨h, w, hm, rfl⟩ | ⟨l, hl, hc, rfl⟩ | rfl
  · obtain ⟨hn, hmax, _⟩ := inv_listenersForHost ls
    obtain ⟨hP, hle⟩ := hmax h w (look_of_mem hn hm)
    obtain ⟨hw, hacc⟩ := mem_pairsOf.mp hP
    exact ⟨w, hw, rfl, Or.inl ⟨hacc, Listener.accepted_covers hacc,
      fun l' hl' hacc' => hle l' (mem_pairsOf.mpr ⟨hl', hacc'⟩)⟩⟩
  · exact ⟨l, hl, rfl, Or.inr ⟨rfl, hc⟩⟩
  · cases hnd

theorem mem_buildSSLServers {ls : List Listener} {s : Server} (hs : s ∈ buildSSLServers ls) :
    s ∈ buildServersPort s.port ((sslListeners ls).filter (·.port = s.port)) := by
  simp only [buildSSLServers, List.mem_flatten, List.mem_map] at hs
  obtain ⟨srv, ⟨p, _, rfl⟩, hin⟩ := hs
  have := buildServersPort_port p _ s hin
  subst this
  exact hin

theorem ssl_server_owner (ls : List Listener) (s : Server)
    (hs : s ∈ buildSSLServers ls) (hnd : s.isDefault = false) :
    ∃ l ∈ ls, l.valid = true ∧ l.port = s.port ∧ s.keyPair = some (keyPairId l.secret) ∧
      ((s.host ∈ l.accepted ∧ covers l.host s.host = true ∧
          ∀ l' ∈ ls, l'.valid = true → l'.port = s.port → s.host ∈ l'.accepted → rank l'.host ≤ rank l.host)
       ∨ (s.host = listenerServerName l.host ∧ (l.nroutes = 0 ∨ listenerServerName l.host = wildcardHostname))) := by
  obtain ⟨l, hl, hk, hcase⟩ := buildServersPort_owner s.port _ s (mem_buildSSLServers hs) hnd
  simp only [sslListeners, List.mem_filter, decide_eq_true_eq] at hl
  refine ⟨l, hl.1.1, hl.1.2, hl.2, hk, ?_⟩
  rcases hcase with ⟨ha, hc, hmax⟩ | hc
  · refine Or.inl ⟨ha, hc, ?_⟩
    intro l' hl' hv hp hacc
    exact hmax l' (by simp [sslListeners, hl', hv, hp]) hacc
  · exact Or.inr hc

theorem ssl_default_no_keypair (ls : List Listener) (s : Server)
    (hs : s ∈ buildSSLServers ls) (hd : s.isDefault = true) : s.keyPair = none := by
  rcases mem_buildServersPort (mem_buildSSLServers hs) with ⟨_, _, _, e⟩ | ⟨_, _, _, e⟩ | e
  · rw [e] at hd; cases hd
  · rw [e] at hd; cases hd
  · rw [e]

theorem ssl_server_spec_owner (ls : List Listener) (s : Server)
    (hs : s ∈ buildSSLServers ls) (hnd : s.isDefault = false) (o : Listener)
    (ho : o ∈ ls) (hov : o.valid = true) (hop : o.port = s.port) (hoc : covers o.host s.host = true)
    (homax : ∀ l' ∈ ls, l'.valid = true → l'.port = s.port → covers l'.host s.host = true → rank l'.host ≤ rank o.host)
    (hacc : s.host ∈ o.accepted) (hwf : o.host ≠ wildcardHostname)
    (huniq : ∀ l ∈ ls, l.valid = true → l.port = s.port → rank l.host = rank o.host →
       covers l.host s.host = true → l.secret = o.secret) :
    s.keyPair = some (keyPairId o.secret) := by
  obtain ⟨l, hl, hv, hp, hk, hcase⟩ := ssl_server_owner ls s hs hnd
  rcases hcase with ⟨_, hc, hmax⟩ | ⟨hname, _⟩
  · have h1 := hmax o ho hov hop hacc
    have h2 := homax l hl hv hp hc
    rw [hk, huniq l hl hv hp (by omega) hc]
  · -- the server generated for listener `l` itself: `o` has a route accepting that very name
    have hc : covers l.host s.host = true := hname ▸ covers_listenerServerName l.host
    have h2 := homax l hl hv hp hc
    have h1 : rank o.host ≤ rank l.host := rank_le_of_covers_serverName (hname ▸ hoc) hwf
    rw [hk, huniq l hl hv hp (by omega) hc]

end NGF.Tls
