/-
C01 — the frame theorem: a kind whose objects are read only where `IsReferenced` says so, and whose watch
predicate only filters updates the build cannot see, satisfies the hypotheses of `converges_of_sound`.
-/
import NGF.Model.Footprint
import NGF.Proofs.Store

namespace NGF.Footprint
open NGF.Store

section
variable {Core ObjK View : Type} (F : Frame Core ObjK View)

theorem upd_same {β : Type} (f : NN → Option β) (k : NN) (v : Option β) : upd f k v k = v := by simp [upd]
theorem upd_other {β : Type} (f : NN → Option β) (k j : NN) (v : Option β) (h : j ≠ k) : upd f k v j = f j := by
  simp [upd, h]

theorem upd_none_of_none {β : Type} (f : NN → Option β) (k : NN) (h : f k = none) : upd f k none = f := by
  funext j
  by_cases hj : j = k
  · rw [hj, upd_same, h]
  · rw [upd_other _ _ _ _ hj]

theorem gr_ext {g h : Gr Core View} (h1 : g.core = h.core) (h2 : ∀ k, g.seen k = h.seen k) : g = h := by
  cases g; cases h
  simp only [Gr.mk.injEq]
  exact ⟨h1, funext h2⟩

theorem eqv_refl (a : ObjK) : Eqv F a a := fun _ _ => ⟨rfl, rfl⟩

theorem eqv_trans {a b c : ObjK} (h1 : Eqv F a b) (h2 : Eqv F b c) : Eqv F a c :=
  fun core k => ⟨(h1 core k).1.trans (h2 core k).1, (h1 core k).2.trans (h2 core k).2⟩

theorem eqv_of_not_bne [BEq ObjK] [LawfulBEq ObjK] {o n : ObjK} (h : (o != n) = false) :
    Eqv F o n := by
  have : o = n := by simpa using h
  subst this
  exact eqv_refl F o

theorem relOpt_refl : ∀ x : Option ObjK, RelOpt F x x
  | none => trivial
  | some a => eqv_refl F a

theorem relOpt_trans : ∀ {x y z : Option ObjK}, RelOpt F x y → RelOpt F y z → RelOpt F x z
  | none, none, none, _, _ => trivial
  | some _, some _, some _, h1, h2 => eqv_trans F h1 h2

theorem R_refl (c : Cl Core ObjK) : R F c c := ⟨rfl, fun _ => relOpt_refl F _⟩

theorem R_upd_right {s t : Cl Core ObjK} (h : R F s t) (key : NN) (y : Option ObjK)
    (hy : RelOpt F (s.objs key) y) : R F s { t with objs := upd t.objs key y } := by
  refine ⟨h.1, fun k => ?_⟩
  by_cases hk : k = key
  · subst hk; simp only [upd_same]; exact hy
  · simp only [upd_other _ _ _ _ hk]; exact h.2 k

theorem R_upd {s t : Cl Core ObjK} (h : R F s t) (key : NN) (x y : Option ObjK)
    (hxy : RelOpt F x y) :
    R F { s with objs := upd s.objs key x } { t with objs := upd t.objs key y } := by
  refine ⟨h.1, fun k => ?_⟩
  by_cases hk : k = key
  · subst hk; simp only [upd_same]; exact hxy
  · simp only [upd_other _ _ _ _ hk]; exact h.2 k

theorem R_storeF {s t : Cl Core ObjK} (h : R F s t) (e : FEvent Core ObjK) :
    R F (storeF e s) (storeF e t) := by
  obtain ⟨kind, key, obj, orc⟩ := e
  unfold storeF
  split
  · exact ⟨rfl, h.2⟩
  · exact R_upd F h key _ _ (relOpt_refl F _)
  · exact R_upd F h key none none trivial
  · exact h

/-- related stores are built alike: per key the build sees only what `Eqv` preserves -/
theorem build_eq_of_R {s t : Cl Core ObjK} (h : R F s t) : build F s = build F t := by
  apply gr_ext
  · exact h.1
  · intro k
    have hk := h.2 k
    simp only [build]
    rw [h.1]
    cases hs : s.objs k <;> cases ht : t.objs k <;> simp only [hs, ht, RelOpt] at hk
    · rfl
    · simp only [Option.bind_some]; rw [(hk t.core k).1, (hk t.core k).2]

theorem storeF_delete_absent (s : Cl Core ObjK) (e : FEvent Core ObjK) (ho : e.obj = none)
    (hn : ((ops (Core := Core) (ObjK := ObjK)).get s e.kind e.key).isNone = true) : storeF e s = s := by
  obtain ⟨kind, key, obj, orc⟩ := e
  simp only at ho; subst ho
  cases kind with
  | core => rfl
  | obj =>
    have h0 : s.objs key = none := by simpa [ops] using hn
    show { s with objs := upd s.objs key none } = s
    rw [upd_none_of_none _ _ h0]

theorem storeAfter_eq_storeF (s : Cl Core ObjK) (e : FEvent Core ObjK) : storeAfter ops s e = storeF e s :=
  storeAfter_eq_store ops s e (fun hp => nomatch hp) (storeF_delete_absent s e)

/-- The two conditions a kind has to meet. -/
structure FrameOK (F : Frame Core ObjK View) (admCore : Core → Bool) (admU : ObjK → ObjK → Bool) : Prop where
  /-- footprint: the build reads an object only if `IsReferenced` holds for it -/
  reads_isRef : ∀ core k o, admCore core = true → F.reads core k o = true → F.isRef core k o = true
  /-- an update the watch predicate filters is invisible to the build -/
  watch_ok : ∀ o n, admU o n = true → F.watchU o n = false → Eqv F o n

theorem not_read {admCore admU} (ok : FrameOK F admCore admU) {core : Core} {k : NN}
    {o : ObjK} (hc : admCore core = true) (h : F.isRef core k o = false) : F.reads core k o = false := by
  cases hr : F.reads core k o with
  | false => rfl
  | true => rw [ok.reads_isRef _ _ _ hc hr] at h; cases h

theorem build_upd_unread (s : Cl Core ObjK) (key : NN) (x : Option ObjK)
    (hold : ∀ o, s.objs key = some o → F.reads s.core key o = false)
    (hnew : ∀ o, x = some o → F.reads s.core key o = false) :
    build F { s with objs := upd s.objs key x } = build F s := by
  have unread : ∀ y : Option ObjK, (∀ o, y = some o → F.reads s.core key o = false) →
      (y.bind fun o => if F.reads s.core key o then some (F.view s.core o) else none) = none := by
    intro y hy
    cases y with
    | none => rfl
    | some o => simp [hy o rfl]
  apply gr_ext
  · rfl
  · intro k
    simp only [build]
    by_cases hk : k = key
    · subst hk
      rw [upd_same, unread x hnew, unread _ hold]
    · simp only [upd_other _ _ _ _ hk]

theorem watch_false {t : Cl Core ObjK} {e : FEvent Core ObjK} (hw : watch F t e = false) :
    ∃ n o, e.kind = .obj ∧ e.obj = some (.inr n) ∧ t.objs e.key = some o ∧ F.watchU o n = false := by
  obtain ⟨kind, key, obj, orc⟩ := e
  unfold watch at hw
  split at hw
  · rename_i n hk ho
    split at hw
    · rename_i o ht; exact ⟨n, o, hk, ho, ht, hw⟩
    · cases hw
  · cases hw

/-- A suppressed update is one the build cannot tell from the object in the cluster: the store, which misses it,
still stands in. -/
theorem R_filtered {admCore admU} (ok : FrameOK F admCore admU) {s t : Cl Core ObjK}
    (hR : R F s t) {e : FEvent Core ObjK} (ha : adm admCore admU t e = true) (hw : watch F t e = false) :
    R F s (storeF e t) := by
  obtain ⟨kind, key, obj, orc⟩ := e
  obtain ⟨n, o, hk, ho, ht, hwu⟩ := watch_false F hw
  simp only at hk ho ht
  subst hk ho
  have ha : admCore t.core = true ∧ admU o n = true := by simpa [adm, ht] using ha
  have hon : RelOpt F (some o) (some n) := ok.watch_ok o n ha.2 hwu
  exact R_upd_right F hR key (some n) (relOpt_trans F (ht ▸ hR.2 key) hon)

theorem rel_false {g : Gr Core View} {old : Option (Sum Core ObjK)} {e : FEvent Core ObjK}
    (h : rel F (some g) old e = false) :
    refOf F g.core e.key e.obj = false ∧ refOf F g.core e.key old = false := by
  simp only [rel] at h
  split at h
  · cases h
  · simp only [Bool.or_eq_false_iff] at h
    exact ⟨h.1.2, h.2⟩

theorem frame_sound (admCore : Core → Bool) (admU : ObjK → ObjK → Bool)
    (ok : FrameOK F admCore admU) :
    Sound (ops (Core := Core) (ObjK := ObjK)) (build F) (rel F) (watch F) (R F) (adm admCore admU) where
  refl := R_refl F
  build_eq _ _ h := build_eq_of_R F h
  sim_delivered s t e hR _ _ := by
    show R F (storeAfter ops s e) (storeF e t)
    rw [storeAfter_eq_storeF]
    exact R_storeF F hR e
  sim_filtered s t e hR ha hw := R_filtered F ok hR ha hw
  watch_inert t e ha hw := (build_eq_of_R F (R_filtered F ok (R_refl F t) ha hw)).symm
  rel_sound s t e hR ha _ hv := by
    show build F (storeAfter ops s e) = build F s
    rw [storeAfter_eq_storeF]
    rcases verdict_false (fun _ => rfl) rfl hv with ⟨ho, hn⟩ | ⟨hp, hr⟩
    · rw [storeF_delete_absent s e ho hn]
    · obtain ⟨kind, key, obj, orc⟩ := e
      cases kind with
      | core => cases hp
      | obj =>
        have hcore : admCore s.core = true := by rw [hR.1]; exact (Bool.and_eq_true_iff.1 ha).1
        -- neither the new object nor the stored one is referenced, hence neither is read
        obtain ⟨hnew, hst⟩ := rel_false F hr
        have hnew : refOf F s.core key obj = false := hnew
        have hst : refOf F s.core key ((s.objs key).map .inr) = false := hst
        have hold : ∀ o, s.objs key = some o → F.reads s.core key o = false := fun o ho =>
          not_read F ok hcore (by rw [ho] at hst; exact hst)
        cases obj with
        | none => exact build_upd_unread F s key none hold (fun _ h => nomatch h)
        | some p =>
          cases p with
          | inl nc => rfl
          | inr n =>
            refine build_upd_unread F s key (some n) hold (fun o ho => ?_)
            cases ho
            exact not_read F ok hcore hnew

end

theorem adm_true {Core ObjK : Type} (w : Cl Core ObjK) (e : FEvent Core ObjK) :
    adm (fun _ => true) (fun _ _ => true) w e = true := by
  obtain ⟨kind, key, obj, orc⟩ := e
  cases kind
  · rfl
  · simp only [adm, Bool.true_and]
    split <;> rfl

theorem watch_true {Core ObjK View : Type} (F : Frame Core ObjK View) (h : ∀ o n, F.watchU o n = true)
    (w : Cl Core ObjK) (e : FEvent Core ObjK) : watch F w e = true := by
  cases hw : watch F w e with
  | true => rfl
  | false =>
    obtain ⟨n, o, _, _, _, hu⟩ := watch_false F hw
    rw [h] at hu
    cases hu

/-- Services, current code: sound outside the two excluded regions. -/
theorem svc_ok : FrameOK svcFrame svcAdmCore svcAdmU where
  reads_isRef core k _ hc hr := List.all_eq_true.1 hc k (List.contains_iff_mem.1 hr)
  watch_ok o n ha hw := by
    simp only [svcAdmU, Bool.or_eq_true, beq_iff_eq] at ha
    rcases ha with h | h
    · subst h; exact eqv_refl _ _
    · rw [show svcFrame.watchU o n = watchSvc o n from rfl, h] at hw; cases hw

/-- Services, repaired (`ReferencedServices` without the winning-Gateway filter, predicate compares all that is
read): sound for every mutation. -/
theorem svc_ok_repaired : FrameOK svcFrameR (fun _ => true) (fun _ _ => true) where
  reads_isRef _ _ _ _ hr := hr
  watch_ok _ _ _ hw := eqv_of_not_bne _ hw

theorem slice_ok : FrameOK sliceFrame (fun _ => true) (fun _ _ => true) where
  reads_isRef _ _ _ _ hr := hr
  watch_ok _ _ _ hw := nomatch hw

theorem ns_ok : FrameOK nsFrame (fun _ => true) (fun _ _ => true) where
  reads_isRef _ _ _ _ hr := hr
  watch_ok _ _ _ hw := eqv_of_not_bne _ hw

theorem np_ok : FrameOK nginxProxyFrame (fun _ => true) (fun _ _ => true) where
  reads_isRef _ _ _ _ hr := hr
  watch_ok _ _ _ hw := eqv_of_not_bne _ hw

/-- NGF policies: in the graph (`processPolicies`: winner ∧ some targetRef resolves) ⇒ relevant (some targetRef
resolves); the controller's watch predicate delivers every spec change. -/
theorem policy_ok : FrameOK policyFrame (fun _ => true) (fun _ _ => true) where
  reads_isRef c _ p _ hr := by
    simp only [policyFrame, policyInGraph, Bool.and_eq_true] at hr
    exact hr.2
  watch_ok _ _ _ hw := eqv_of_not_bne _ hw

theorem byName_ok {Core : Type} (refs : Core → List NN) : FrameOK (byName refs) (fun _ => true) (fun _ _ => true) where
  reads_isRef _ _ _ _ hr := hr
  watch_ok _ _ _ hw := nomatch hw

end NGF.Footprint
