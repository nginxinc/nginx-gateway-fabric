/-
Lemmas about the definitions of `NGF.Model.PanicSites` on which `NGF.Props.C05` and `NGF.Props.C05Guards` rest
(core Lean and `NGF.Proofs.ListBasics` only): the exact errors
of the pre-fix namespace check and what follows from them for the binding loops, the induction over event histories,
the key-set invariant of the host path rules, and what `validatePathMatch` guarantees about the path type.
-/
import NGF.Model.PanicSites
import NGF.Proofs.ListBasics

namespace NGF.PanicSites

/-- no listener of the gateway has a nil `From` pointer (admissible: the CRD defaults it to `Same`). -/
def FromSet (ls : List Listener) : Prop := ∀ l ∈ ls, l.from_ ≠ .nilPtr

/-- exact characterisation of the pre-fix panics of the namespace check; the selector-match oracle `m` does not
occur on the right -/
theorem nsAllowedPre_error_iff {m : String → String → Bool} {l : Listener} {routeNS gwNS : String}
    {nss : List String} {s : Site} :
    nsAllowedPre m l routeNS gwNS nss = .error s ↔
      (s = .nsLookup ∧ l.from_ = .selector ∧ l.hasSelector = true ∧ routeNS ∉ nss)
        ∨ (s = .nilFrom ∧ l.from_ = .nilPtr) := by
  unfold nsAllowedPre
  cases hfr : l.from_ <;> simp
  · by_cases hs : l.hasSelector = true <;> by_cases hn : routeNS ∈ nss <;> simp [hs, hn, eq_comm]
  · exact eq_comm

theorem findAttachable_sub (sec : String) (ls : List Listener) :
    ∀ l ∈ (findAttachable sec ls).1, l ∈ ls := by
  intro l hl
  unfold findAttachable at hl
  split at hl
  · split at hl
    · rename_i x hf
      split at hl
      · cases List.mem_singleton.mp hl; exact List.mem_of_find?_eq_some hf
      · cases hl
    · cases hl
  · exact (List.mem_filter.mp hl).1

theorem validateParentRef_sub {ref : ParentRef} {gw : Gateway} {att : List Listener}
    (h : validateParentRef ref gw = some att) : ∀ l ∈ att, l ∈ gw.listeners := by
  unfold validateParentRef at h
  have hs := findAttachable_sub ref.section_ gw.listeners
  generalize findAttachable ref.section_ gw.listeners = p at h hs
  obtain ⟨a, e⟩ := p
  cases (of_ite_ne (of_ite_ne (of_ite_ne (of_ite_ne h nofun).2 nofun).2 nofun).2 nofun).2
  exact hs

/-- errors of the pre-fix binding are only ever the two mirrored sites -/
theorem tryAttach_error {m : String → String → Bool} {routeNS gwNS : String} {nss : List String} {s : Site} :
    ∀ (ls : List Listener), tryAttachPre m routeNS gwNS nss ls = .error s →
      (s = .nsLookup ∧ routeNS ∉ nss) ∨ (s = .nilFrom ∧ ∃ l ∈ ls, l.from_ = .nilPtr)
  | [], h => by simp [tryAttachPre] at h
  | l :: ls, h => by
    unfold tryAttachPre at h
    cases hn : nsAllowedPre m l routeNS gwNS nss with
    | error e =>
      simp only [hn] at h
      cases h
      rcases nsAllowedPre_error_iff.mp hn with ⟨h1, _, _, h4⟩ | ⟨h1, h2⟩
      · exact Or.inl ⟨h1, h4⟩
      · exact Or.inr ⟨h1, l, List.mem_cons_self .., h2⟩
    | ok b =>
      simp only [hn] at h
      rcases tryAttach_error ls h with h' | ⟨h1, x, hx, hx2⟩
      · exact Or.inl h'
      · exact Or.inr ⟨h1, x, List.mem_cons_of_mem _ hx, hx2⟩

theorem tryAttachPre_ok {m : String → String → Bool} {routeNS gwNS : String} {nss : List String}
    (hn : routeNS ∈ nss) (ls : List Listener) (hf : FromSet ls) : tryAttachPre m routeNS gwNS nss ls = .ok () := by
  cases h : tryAttachPre m routeNS gwNS nss ls with
  | ok _ => rfl
  | error s =>
    rcases tryAttach_error ls h with ⟨_, h'⟩ | ⟨_, l, hl, hp⟩
    · exact absurd hn h'
    · exact absurd hp (hf l hl)

theorem bindRefsPre_ok {m : String → String → Bool} {gw : Gateway} {nss : List String} {routeNS : String}
    (hf : FromSet gw.listeners) (hn : routeNS ∈ nss) :
    ∀ (refs : List ParentRef), bindRefsPre m gw nss routeNS refs = .ok ()
  | [] => rfl
  | ref :: rest => by
    unfold bindRefsPre
    cases hv : validateParentRef ref gw with
    | none => exact bindRefsPre_ok hf hn rest
    | some att =>
      simp only [tryAttachPre_ok hn att fun l hl => hf l (validateParentRef_sub hv l hl)]
      exact bindRefsPre_ok hf hn rest

/-- every attachable route lives in a namespace whose Namespace object is in the store -/
def NsClosed (nss : List String) (routes : List Route) : Prop :=
  ∀ r ∈ routes, r.attachable = true → r.ns ∈ nss

theorem bindRoutesPre_ok {m : String → String → Bool} {gw : Gateway} {nss : List String}
    (hf : FromSet gw.listeners) :
    ∀ (rs : List Route), NsClosed nss rs → bindRoutesPre m gw nss rs = .ok ()
  | [], _ => rfl
  | r :: rs, hc => by
    have hr : bindRoutePre m gw nss r = .ok () := by
      unfold bindRoutePre
      cases ha : r.attachable with
      | false => rfl
      | true => exact bindRefsPre_ok hf (hc r (List.mem_cons_self ..) ha) r.refs
    simp only [bindRoutesPre, hr]
    exact bindRoutesPre_ok hf rs (fun x hx => hc x (List.mem_cons_of_mem _ hx))

theorem tryAttachPre_indep (m m' : String → String → Bool) (routeNS gwNS : String) (nss : List String) :
    ∀ ls, tryAttachPre m routeNS gwNS nss ls = tryAttachPre m' routeNS gwNS nss ls
  | [] => rfl
  | l :: ls => by
    have h (s : Site) : nsAllowedPre m l routeNS gwNS nss = .error s ↔ nsAllowedPre m' l routeNS gwNS nss = .error s :=
      nsAllowedPre_error_iff.trans nsAllowedPre_error_iff.symm
    unfold tryAttachPre
    cases h1 : nsAllowedPre m l routeNS gwNS nss with
    | error e => rw [(h e).mp h1]
    | ok b =>
      cases h2 : nsAllowedPre m' l routeNS gwNS nss with
      | error e => rw [(h e).mpr h2] at h1; cases h1
      | ok b' => exact tryAttachPre_indep m m' routeNS gwNS nss ls

theorem bindRefsPre_indep (m m' : String → String → Bool) (gw : Gateway) (nss : List String) (routeNS : String) :
    ∀ refs, bindRefsPre m gw nss routeNS refs = bindRefsPre m' gw nss routeNS refs
  | [] => rfl
  | ref :: rest => by
    unfold bindRefsPre
    cases validateParentRef ref gw with
    | none => exact bindRefsPre_indep m m' gw nss routeNS rest
    | some att =>
      simp only [tryAttachPre_indep m m' routeNS gw.ns nss att, bindRefsPre_indep m m' gw nss routeNS rest]

theorem bindRoutesPre_indep (m m' : String → String → Bool) (gw : Gateway) (nss : List String) :
    ∀ rs, bindRoutesPre m gw nss rs = bindRoutesPre m' gw nss rs
  | [] => rfl
  | r :: rs => by
    simp only [bindRoutesPre, bindRoutePre, bindRefsPre_indep m m' gw nss r.ns r.refs, bindRoutesPre_indep m m' gw nss rs]

theorem Ctl.step_apply_of_ok {bind : BindView → Except Site Unit} {c : Ctl} (hc : c.crashed = none)
    (hb : bind c.view = .ok ()) : c.step bind .apply = c := by
  simp only [Ctl.step, hc, hb]

/-- A run does not crash when some invariant of (state, events still to come) is kept by every step and makes the
binding of every `apply` succeed. -/
theorem Ctl.run_crashed_none {bind : BindView → Except Site Unit} (P : Ctl → List Ev → Prop)
    (hstep : ∀ c e es, c.crashed = none → P c (e :: es) → P (c.step bind e) es)
    (hbind : ∀ c es, P c (.apply :: es) → bind c.view = .ok ()) :
    ∀ evs c, P c evs → c.crashed = none → (Ctl.run bind c evs).crashed = none
  | [], _, _, hc => hc
  | e :: es, c, hp, hc => by
    refine Ctl.run_crashed_none P hstep hbind es _ (hstep c e es hc hp) ?_
    cases e with
    | apply => rw [Ctl.step_apply_of_ok hc (hbind c es hp)]; exact hc
    | _ => exact hc

theorem mem_addKey (k x : String) (l : List String) : x ∈ addKey k l ↔ x = k ∨ x ∈ l := by
  unfold addKey
  by_cases hk : k ∈ l
  · simp [hk]
    intro h; subst h; exact hk
  · simp [hk]
    exact Or.comm

def Hpr.Inv (s : Hpr) : Prop := ∀ h, h ∈ s.rulesPerHost → h ∈ s.listenersForHost

theorem Hpr.inv_upsertRoute : ∀ (hs : List String) (s : Hpr), s.Inv → (s.upsertRoute hs).Inv
  | [], s, hi => hi
  | h :: hs, s, hi => by
    unfold Hpr.upsertRoute
    apply Hpr.inv_upsertRoute hs
    intro x hx
    simp only [mem_addKey] at hx ⊢
    rcases hx with rfl | hx'
    · exact Or.inl rfl
    · exact Or.inr (hi x hx')

theorem Hpr.inv_upsertAll : ∀ (ops : List (List String)) (s : Hpr), s.Inv → (s.upsertAll ops).Inv
  | [], s, hi => hi
  | r :: rs, s, hi => by
    unfold Hpr.upsertAll
    exact Hpr.inv_upsertAll rs _ (Hpr.inv_upsertRoute r s hi)

theorem lookupAll_ok (ls : List String) :
    ∀ (ks : List String), (∀ h, h ∈ ks → h ∈ ls) → lookupAll ls ks = .ok ()
  | [], _ => rfl
  | k :: ks, hi => by
    have hk : k ∈ ls := hi k (List.mem_cons_self ..)
    simp only [lookupAll, List.contains_iff_mem, hk, if_true]
    exact lookupAll_ok ls ks (fun h hh => hi h (List.mem_cons_of_mem _ hh))

theorem validatePathMatch_zero {valueOk : String → Bool} {pm : PathMatch}
    (h : validatePathMatch valueOk (some pm) = 0) :
    ∃ t, pm.type = some t ∧ (t = "PathPrefix" ∨ t = "Exact") := by
  simp only [validatePathMatch] at h
  split at h
  · cases h
  · cases h
  · rename_i t v ht _
    split at h
    · cases h
    · refine ⟨t, ht, ?_⟩
      by_cases h1 : t = "PathPrefix"
      · exact Or.inl h1
      · by_cases h2 : t = "Exact"
        · exact Or.inr h2
        · simp [h1, h2] at h

theorem convertPathType_ok {t : String} (h : t = "PathPrefix" ∨ t = "Exact") :
    ∃ p, convertPathType t = .ok p := by
  rcases h with rfl | rfl
  · exact ⟨.prefix_, by decide +kernel⟩
  · exact ⟨.exact, by decide +kernel⟩

/-- a match that `validatePathMatch` accepts is converted without reaching either site of `upsertRoute` -/
theorem matchPathType_ok {valueOk : String → Bool} {pm : PathMatch} {k : Nat}
    (h : validatePathMatch valueOk (some pm) = 0) : ∃ p, matchPathType { path := some pm, otherErrs := k } = .ok p := by
  obtain ⟨t, ht, htv⟩ := validatePathMatch_zero h
  obtain ⟨p, hp⟩ := convertPathType_ok htv
  exact ⟨p, by simp only [matchPathType, ht, hp]⟩

end NGF.PanicSites
