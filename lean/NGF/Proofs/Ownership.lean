import NGF.Model.Ownership
import NGF.Proofs.ListBasics
/-
Lemmas about `NGF.Model.Ownership` for Props/C17, and at the end the example cluster `exCfg`/`exState` (with its graph
written out) that the examples of Props/C17, Props/C17Leader and Proofs/OwnershipLeader evaluate. Core Lean only.

Each part of `buildGraph` is read back in terms of the state: the class fold in closed form (`processGatewayClasses_eq`), the Gateways
of the configured class (`mem_allNsNames_processGateways`), a Route in the graph as a Route with a parentRef to one of
them (`resolvesSome_eq_refsOwn`), a policy target the code keeps as a target the specification calls ours
(`targetOk_own`). Removing foreign objects is a `filter` that each part ignores (`buildGraph_restrict`); membership in
`targets` is stated by the kind of target (`mem_targets`), from which `targets_own` and its converses follow. The
class store of a long-lived controller agrees with the cluster on our classes (`run_agree`), because the events the
predicate withholds concern no class of ours (`delivered_put`, `delivered_del`).
-/
namespace NGF.Ownership

theorem foldl_filter_noop {α β : Type} (f : β → α → β) (p : α → Bool) :
    ∀ (l : List α) (a : β), (∀ x ∈ l, p x = false → ∀ b, f b x = b) →
      (l.filter p).foldl f a = l.foldl f a := by
  intro l
  induction l with
  | nil => intro a _; rfl
  | cons x xs ih =>
    intro a h
    have hxs : ∀ y ∈ xs, p y = false → ∀ b, f b y = b := fun y hy => h y (List.mem_cons_of_mem _ hy)
    cases hp : p x with
    | true => simp [hp, ih _ hxs]
    | false => simp [hp, h x List.mem_cons_self hp a, ih _ hxs]

theorem filter_filter_of_imp {α : Type} (p q : α → Bool) (l : List α)
    (h : ∀ x ∈ l, q x = true → p x = true) : (l.filter p).filter q = l.filter q := by
  rw [List.filter_filter]
  exact List.filter_congr fun x hx => by cases hq : q x <;> simp [h x hx, hq]

theorem filterMap_filter_noop {α β : Type} (f : α → Option β) (p : α → Bool) (l : List α)
    (h : ∀ x ∈ l, p x = false → f x = none) : (l.filter p).filterMap f = l.filterMap f := by
  induction l with
  | nil => rfl
  | cons x xs ih =>
    have hxs : ∀ y ∈ xs, p y = false → f y = none := fun y hy => h y (List.mem_cons_of_mem _ hy)
    cases hp : p x with
    | true => simp [hp, List.filterMap_cons, ih hxs]
    | false => simp [hp, h x List.mem_cons_self hp, ih hxs]

theorem any_filter_noop {α : Type} (p q : α → Bool) (l : List α) (h : ∀ x ∈ l, p x = false → q x = false) :
    (l.filter p).any q = l.any q := by
  induction l with
  | nil => rfl
  | cons x xs ih =>
    have hxs : ∀ y ∈ xs, p y = false → q y = false := fun y hy => h y (List.mem_cons_of_mem _ hy)
    cases hp : p x with
    | true => simp [hp, ih hxs]
    | false => simp [hp, h x List.mem_cons_self hp, ih hxs]

theorem unique_of_pairwise {α κ : Type} (key : α → κ) :
    ∀ (l : List α), l.Pairwise (fun a b => key a ≠ key b) → ∀ a ∈ l, ∀ b ∈ l, key a = key b → a = b :=
  fun _ h => inj_of_nodup_map (List.pairwise_map.mpr h)

theorem idxOf_eq_of_getElem {α} [BEq α] [LawfulBEq α] {a : α} : ∀ {l : List α} {n : Nat},
    l[n]? = some a → (∀ x ∈ l.take n, x ≠ a) → l.idxOf a = n
  | [], _, h, _ => by rw [List.getElem?_nil] at h; cases h
  | x :: l, 0, h, _ => by
    obtain rfl : x = a := Option.some.inj h
    exact List.idxOf_cons_self
  | x :: l, n + 1, h, hn => by
    have hx : (x == a) = false := beq_false_of_ne (hn x List.mem_cons_self)
    rw [List.idxOf_cons, hx, idxOf_eq_of_getElem (l := l) (n := n) h fun y hy => hn y (List.mem_cons_of_mem _ hy)]
    rfl

/-- the lines before are told apart as character lists (Proofs/CharLits) -/
theorem idxOf_lt_idxOf {l : List String} {a b : String} {m n : Nat}
    (ha : l[m]? = some a) (hb : l[n]? = some b) (hna : ∀ x ∈ l.take m, x.toList ≠ a.toList)
    (hnb : ∀ x ∈ l.take n, x.toList ≠ b.toList) (hmn : m < n) : l.idxOf a < l.idxOf b ∧ l.idxOf b < l.length := by
  rw [idxOf_eq_of_getElem ha fun x hx e => hna x hx (congrArg _ e),
    idxOf_eq_of_getElem hb fun x hx e => hnb x hx (congrArg _ e)]
  exact ⟨hmn, (List.getElem?_eq_some_iff.mp hb).1⟩

def isNamed (cfg : Cfg) (c : GwClass) : Bool := decide (c.name = cfg.gcName)
def isWin (cfg : Cfg) (c : GwClass) : Bool := decide (c.name = cfg.gcName) && decide (c.ctlr = cfg.ctlr)
def isIgn (cfg : Cfg) (c : GwClass) : Bool := decide (c.name ≠ cfg.gcName) && decide (c.ctlr = cfg.ctlr)

theorem pgcStep_noop (cfg : Cfg) (acc : PGC) (c : GwClass) (h1 : c.name ≠ cfg.gcName) (h2 : c.ctlr ≠ cfg.ctlr) :
    pgcStep cfg acc c = acc := by
  simp [pgcStep, h1, h2]

theorem pgc_fold (cfg : Cfg) (l : List GwClass) : ∀ acc : PGC, l.foldl (pgcStep cfg) acc =
    { winner := (l.reverse.find? (isWin cfg)).or acc.winner
      ignored := acc.ignored ++ l.filter (isIgn cfg)
      gcExists := acc.gcExists || l.any (isNamed cfg) } := by
  induction l with
  | nil => intro acc; simp
  | cons x xs ih =>
    intro acc
    rw [List.foldl_cons, ih]
    by_cases h1 : x.name = cfg.gcName <;> by_cases h2 : x.ctlr = cfg.ctlr <;>
      simp [pgcStep, isWin, isIgn, isNamed, h1, h2, List.find?_append]

theorem processGatewayClasses_eq (cfg : Cfg) (l : List GwClass) : processGatewayClasses cfg l =
    ⟨l.reverse.find? (isWin cfg), l.filter (isIgn cfg), l.any (isNamed cfg)⟩ := by
  simp [processGatewayClasses, pgc_fold]

theorem pgc_ignored (cfg : Cfg) (l : List GwClass) :
    (processGatewayClasses cfg l).ignored = l.filter (isIgn cfg) := by
  rw [processGatewayClasses_eq]

theorem pgc_exists (cfg : Cfg) (l : List GwClass) :
    (processGatewayClasses cfg l).gcExists = l.any (isNamed cfg) := by
  rw [processGatewayClasses_eq]

theorem pgc_winner_some (cfg : Cfg) (l : List GwClass) (w : GwClass)
    (h : (processGatewayClasses cfg l).winner = some w) : w ∈ l ∧ w.name = cfg.gcName ∧ w.ctlr = cfg.ctlr := by
  rw [processGatewayClasses_eq] at h
  have hw := List.find?_some h
  simp only [isWin, Bool.and_eq_true, decide_eq_true_eq] at hw
  exact ⟨List.mem_reverse.1 (List.mem_of_find?_eq_some h), hw⟩

theorem pgc_winner_isSome_iff (cfg : Cfg) (l : List GwClass) :
    (processGatewayClasses cfg l).winner.isSome = true ↔ ∃ c ∈ l, c.name = cfg.gcName ∧ c.ctlr = cfg.ctlr := by
  simp [processGatewayClasses_eq, isWin]

theorem pgc_filter (cfg : Cfg) (l : List GwClass) (k : GwClass → Bool)
    (h : ∀ c ∈ l, k c = false → c.name ≠ cfg.gcName ∧ c.ctlr ≠ cfg.ctlr) :
    processGatewayClasses cfg (l.filter k) = processGatewayClasses cfg l := by
  unfold processGatewayClasses
  apply foldl_filter_noop
  intro x hx hk b
  exact pgcStep_noop cfg b x (h x hx hk).1 (h x hx hk).2

theorem minGw_mem : ∀ (gs : List Gw) (m : Gw), minGw m gs ∈ m :: gs := by
  intro gs
  induction gs with
  | nil => intro m; simp [minGw]
  | cons g gs ih =>
    intro m
    simp only [minGw]
    have := ih (if gwLess g m then g else m)
    rcases List.mem_cons.mp this with h | h
    · rw [h]; split <;> simp
    · exact List.mem_cons_of_mem _ (List.mem_cons_of_mem _ h)

theorem mem_allNsNames_pickGateways (l : List Gw) (nn : NN) :
    nn ∈ allNsNames (pickGateways l) ↔ ∃ g ∈ l, g.nn = nn := by
  cases l with
  | nil => simp [pickGateways, allNsNames]
  | cons g0 gs =>
    simp only [pickGateways, allNsNames, List.mem_append, List.mem_singleton, List.mem_map, List.mem_filter,
      decide_eq_true_eq]
    constructor
    · rintro (rfl | ⟨g, ⟨hg, _⟩, rfl⟩)
      · exact ⟨_, minGw_mem gs g0, rfl⟩
      · exact ⟨g, hg, rfl⟩
    · rintro ⟨g, hg, rfl⟩
      by_cases h : g.nn = (minGw g0 gs).nn
      · exact .inl h
      · exact .inr ⟨g, ⟨hg, h⟩, rfl⟩

theorem mem_allNsNames_processGateways (gws : List Gw) (gc : String) (nn : NN) :
    nn ∈ allNsNames (processGateways gws gc) ↔ ∃ g ∈ gws, g.cls = gc ∧ g.nn = nn := by
  simp only [processGateways, mem_allNsNames_pickGateways, List.mem_filter, decide_eq_true_eq, and_assoc]

theorem processGateways_filter (gws : List Gw) (gc : String) (k : Gw → Bool)
    (h : ∀ g ∈ gws, k g = false → g.cls ≠ gc) : processGateways (gws.filter k) gc = processGateways gws gc := by
  unfold processGateways
  rw [filter_filter_of_imp]
  intro g hg hq
  cases hk : k g with
  | true => rfl
  | false => exact absurd (by simpa using hq) (h g hg hk)

theorem winner_some_of_gw (gws : List Gw) (gc : String) (g : Gw) (hg : g ∈ gws) (hc : g.cls = gc) :
    (processGateways gws gc).winner.isSome = true := by
  unfold processGateways
  have : g ∈ gws.filter (fun g => decide (g.cls = gc)) := List.mem_filter.mpr ⟨hg, by simp [hc]⟩
  cases hl : gws.filter (fun g => decide (g.cls = gc)) with
  | nil => rw [hl] at this; cases this
  | cons a b => simp [pickGateways]

variable (cfg : Cfg) (s : State)

theorem findGw_isSome (p : PRef) (rns : String) (gws : List NN) : (findGw p rns gws).isSome = true ↔
    prefKindOk p = true ∧ ∃ nn ∈ gws, nn.ns = p.ns.getD rns ∧ nn.name = p.name := by
  unfold findGw
  split
  · rename_i hk; simp [hk]
  · rename_i hk; simp [hk]

theorem buildRoute_some (gws : List NN) (r : Route) (rg : RouteG) (h : buildRoute gws r = some rg) :
    resolvesSome gws r = true ∧ rg.kind = r.kind ∧ rg.nn = r.nn ∧ (∀ x ∈ rg.svcs, x ∈ r.svcs) := by
  unfold buildRoute at h
  split at h
  · rename_i hr
    split at h
    · cases h; exact ⟨hr, rfl, rfl, fun x hx => hx⟩
    · cases h; exact ⟨hr, rfl, rfl, fun x hx => by cases hx⟩
  · cases h

theorem buildRoute_isSome (gws : List NN) (r : Route) : (buildRoute gws r).isSome = resolvesSome gws r := by
  unfold buildRoute
  cases resolvesSome gws r
  · rfl
  · cases sectionRefs r.nn.ns gws r.parents 0 [] <;> rfl

theorem resolvesSome_eq_refsOwn (r : Route) :
    resolvesSome (allNsNames (processGateways s.gws cfg.gcName)) r = refsOwnGw cfg s r := by
  rw [Bool.eq_iff_iff]
  unfold resolvesSome refsOwnGw
  simp only [List.any_eq_true, findGw_isSome, mem_allNsNames_processGateways, Bool.and_eq_true, decide_eq_true_eq]
  constructor
  · rintro ⟨p, hp, hk, nn, ⟨g, hg, hc, rfl⟩, h1, h2⟩; exact ⟨p, hp, hk, g, hg, ⟨hc, h1⟩, h2⟩
  · rintro ⟨p, hp, hk, g, hg, ⟨hc, h1⟩, h2⟩; exact ⟨p, hp, hk, g.nn, ⟨g, hg, hc, rfl⟩, h1, h2⟩

theorem marksSnippet_resolves (gws : List NN) (r : Route) (sf : NN) (h : marksSnippet gws r sf = true) :
    resolvesSome gws r = true ∧ r.kind ≠ .tls ∧ r.nn.ns = sf.ns ∧ sf.name ∈ r.sfRefs := by
  simp only [marksSnippet, rulesProcessed, Bool.and_eq_true, decide_eq_true_eq, List.contains_iff_mem] at h
  exact ⟨h.1.1.1.1.2, h.1.1.1.1.1, h.1.2, h.2⟩

theorem referencedSnippets_filter (gws : List NN) (routes : List Route) (sfs : List NN) (k : Route → Bool)
    (h : ∀ r ∈ routes, k r = false → resolvesSome gws r = false) :
    referencedSnippets gws (routes.filter k) sfs = referencedSnippets gws routes sfs := by
  unfold referencedSnippets
  congr 1
  funext sf
  apply any_filter_noop
  intro r hr hk
  cases hm : marksSnippet gws r sf with
  | false => rfl
  | true => exact absurd ((h r hr hk).symm.trans (marksSnippet_resolves gws r sf hm).1) Bool.false_ne_true

theorem gatewayExists_names (nn : NN) (pg : PGws) (h : gatewayExists nn pg = true) : nn ∈ allNsNames pg := by
  unfold gatewayExists at h
  unfold allNsNames
  cases hw : pg.winner <;> simp [hw] at h ⊢
  exact h.imp Eq.symm id

/-- the graph of `s` as `buildGraph` computes its parts -/
abbrev gPg (cfg : Cfg) (s : State) : PGws := processGateways s.gws cfg.gcName
abbrev gRoutes (cfg : Cfg) (s : State) : List RouteG := s.routes.filterMap (buildRoute (allNsNames (gPg cfg s)))
abbrev gSvcs (cfg : Cfg) (s : State) : List NN := referencedServices (gPg cfg s).winner (gRoutes cfg s)

theorem gRoutes_mem (rg : RouteG) (h : rg ∈ gRoutes cfg s) :
    ∃ r ∈ s.routes, refsOwnGw cfg s r = true ∧ rg.kind = r.kind ∧ rg.nn = r.nn ∧ (∀ x ∈ rg.svcs, x ∈ r.svcs) := by
  rcases List.mem_filterMap.mp h with ⟨r, hr, hb⟩
  obtain ⟨h1, h2, h3, h4⟩ := buildRoute_some _ r rg hb
  exact ⟨r, hr, (resolvesSome_eq_refsOwn cfg s r).symm.trans h1, h2, h3, h4⟩

theorem gSvcs_mem (nn : NN) (h : nn ∈ gSvcs cfg s) :
    ∃ r ∈ s.routes, refsOwnGw cfg s r = true ∧ nn ∈ r.svcs := by
  unfold gSvcs referencedServices at h
  cases hw : (gPg cfg s).winner with
  | none => simp [hw] at h
  | some w =>
    simp only [hw] at h
    rcases List.mem_flatMap.mp h with ⟨rg, hrg, hnn⟩
    obtain ⟨r, hr, ho, _, _, hs⟩ := gRoutes_mem cfg s rg (List.mem_filter.mp hrg).1
    exact ⟨r, hr, ho, hs nn hnn⟩

theorem ite4_imp {κ : Type} [DecidableEq κ] {k k1 k2 k3 k4 : κ} {a1 a2 a3 a4 b1 b2 b3 b4 : Bool}
    (h1 : a1 = true → b1 = true) (h2 : a2 = true → b2 = true) (h3 : a3 = true → b3 = true)
    (h4 : a4 = true → b4 = true)
    (h : (if k = k1 then a1 else if k = k2 then a2 else if k = k3 then a3 else if k = k4 then a4 else false) = true) :
    (if k = k1 then b1 else if k = k2 then b2 else if k = k3 then b3 else if k = k4 then b4 else false) = true := by
  by_cases e1 : k = k1
  · rw [if_pos e1] at h ⊢; exact h1 h
  · rw [if_neg e1] at h ⊢
    by_cases e2 : k = k2
    · rw [if_pos e2] at h ⊢; exact h2 h
    · rw [if_neg e2] at h ⊢
      by_cases e3 : k = k3
      · rw [if_pos e3] at h ⊢; exact h3 h
      · rw [if_neg e3] at h ⊢
        by_cases e4 : k = k4
        · rw [if_pos e4] at h ⊢; exact h4 h
        · rw [if_neg e4] at h; cases h

theorem routeTarget_own (k : RKind) (nn : NN)
    (h : (gRoutes cfg s).any (fun r => decide (r.kind = k) && decide (r.nn = nn)) = true) :
    s.routes.any (fun r => decide (r.kind = k) && decide (r.nn = nn) && refsOwnGw cfg s r) = true := by
  obtain ⟨rg, hrg, he⟩ := List.any_eq_true.1 h
  obtain ⟨r, hr, ho, h1, h2, _⟩ := gRoutes_mem cfg s rg hrg
  rw [h1, h2] at he
  exact List.any_eq_true.2 ⟨r, hr, by rw [he, ho]; rfl⟩

theorem targetOk_own (ns : String) (t : TRef)
    (h : targetOk (gPg cfg s) (gRoutes cfg s) (gSvcs cfg s) ns t = true) : ownTarget cfg s ns t = true := by
  unfold targetOk at h
  unfold ownTarget
  refine ite4_imp (fun h => ?_) (routeTarget_own cfg s .http _) (routeTarget_own cfg s .grpc _) (fun h => ?_) h
  · obtain ⟨g, hg, hc, hn⟩ := (mem_allNsNames_processGateways _ _ _).1 (gatewayExists_names _ _ h)
    exact List.any_eq_true.2 ⟨g, hg, by simp [hc, hn]⟩
  · obtain ⟨x, hx, he⟩ := List.any_eq_true.1 h
    obtain ⟨r, hr, ho, hs⟩ := gSvcs_mem cfg s x hx
    exact List.any_eq_true.2 ⟨r, hr, by rw [ho]; exact List.any_eq_true.2 ⟨x, hs, he⟩⟩

theorem processPolicy_some (p : Policy) (pg : PolicyG)
    (h : processPolicy (gPg cfg s) (gRoutes cfg s) (gSvcs cfg s) p = some pg) :
    foreignPolicy cfg s p = false ∧ pg.gvk = p.gvk ∧ pg.nn = p.nn := by
  unfold processPolicy at h
  simp only at h
  split at h
  · cases h
  · rename_i hne
    cases h
    refine ⟨?_, rfl, rfl⟩
    cases hl : p.targets.filter (targetOk (gPg cfg s) (gRoutes cfg s) (gSvcs cfg s) p.nn.ns) with
    | nil => simp [hl] at hne
    | cons t ts =>
      have ht : t ∈ p.targets.filter (targetOk (gPg cfg s) (gRoutes cfg s) (gSvcs cfg s) p.nn.ns) := by
        rw [hl]; exact List.mem_cons_self
      have := List.mem_filter.mp ht
      unfold foreignPolicy
      simp only [Bool.not_eq_false']
      exact List.any_eq_true.mpr ⟨t, this.1, targetOk_own cfg s _ t this.2⟩

theorem btpCandidates_own (b : Btp)
    (h : b ∈ btpCandidates (gPg cfg s).winner (gRoutes cfg s) s.btps) : b ∈ s.btps ∧ foreignBtp cfg s b = false := by
  unfold btpCandidates at h
  cases hw : (gPg cfg s).winner with
  | none => simp [hw] at h
  | some w =>
    simp only [hw] at h
    have hm := List.mem_filter.mp h
    refine ⟨hm.1, ?_⟩
    have h2 := hm.2
    simp only [Bool.and_eq_true] at h2
    rcases List.any_eq_true.mp h2.2 with ⟨rg, hrg, he⟩
    simp only [Bool.and_eq_true] at he
    rcases List.any_eq_true.mp he.2 with ⟨t, ht, hs⟩
    rcases List.any_eq_true.mp hs with ⟨x, hx, hxe⟩
    have : x = ⟨b.nn.ns, t⟩ := by simpa using hxe
    subst this
    obtain ⟨r, hr, ho, _, _, hsv⟩ := gRoutes_mem cfg s rg hrg
    unfold foreignBtp
    simp only [Bool.not_eq_false']
    exact List.any_eq_true.mpr ⟨t, ht, List.any_eq_true.mpr ⟨r, hr, by
      simp only [ho, Bool.true_and]
      exact List.any_eq_true.mpr ⟨_, hsv _ hx, by simp⟩⟩⟩

theorem processPolicies_eq (pols : List Policy) (pg : PGws) (routes : List RouteG) (svcs : List NN) :
    processPolicies pols pg routes svcs =
      if pg.winner.isNone then [] else pols.filterMap (processPolicy pg routes svcs) := by
  unfold processPolicies
  cases pols with
  | nil => simp
  | cons p ps => simp

theorem buildGraph_unfold :
    buildGraph cfg s =
      if disabled cfg s then Core.empty else
      { winnerClass := (processGatewayClasses cfg s.classes).winner.map (·.name)
        ignoredClasses := (processGatewayClasses cfg s.classes).ignored.map (·.name)
        winnerGw := (gPg cfg s).winner.map (·.nn)
        ignoredGws := (gPg cfg s).ignored.map (·.nn)
        routes := gRoutes cfg s
        policies := processPolicies s.policies (gPg cfg s) (gRoutes cfg s) (gSvcs cfg s)
        refSvcs := gSvcs cfg s
        btps := (btpCandidates (gPg cfg s).winner (gRoutes cfg s) s.btps).map (·.nn)
        snippets := s.snippets
        refSnippets := referencedSnippets (allNsNames (gPg cfg s)) s.routes s.snippets } := by
  simp only [buildGraph, disabled]
  rfl

theorem processPolicies_filter (pols : List Policy) (pg : PGws) (routes : List RouteG) (svcs : List NN) (kp : Policy → Bool)
    (h : ∀ p ∈ pols, kp p = false → processPolicy pg routes svcs p = none) :
    processPolicies (pols.filter kp) pg routes svcs = processPolicies pols pg routes svcs := by
  rw [processPolicies_eq, processPolicies_eq, filterMap_filter_noop _ _ _ h]

theorem btpCandidates_filter (w : Option Gw) (routes : List RouteG) (btps : List Btp) (kb : Btp → Bool)
    (h : ∀ b ∈ btpCandidates w routes btps, kb b = true) :
    btpCandidates w routes (btps.filter kb) = btpCandidates w routes btps := by
  cases w with
  | none => rfl
  | some w => exact filter_filter_of_imp _ _ _ fun b hb hq => h b (List.mem_filter.2 ⟨hb, hq⟩)

theorem buildGraph_restrict (t : State) (k : Keep) (h : Droppable cfg t k) :
    buildGraph cfg (t.restrict k) = buildGraph cfg t := by
  -- every part of the graph is computed from a list of the state; on the restricted state that list is filtered, and
  -- each dropped object, being foreign, contributes nothing to the part: one rewrite per part, in the order
  -- `buildGraph` computes them
  obtain ⟨hc, hg, hr, hp, hb⟩ := h
  have hres : ∀ r ∈ t.routes, k.rt r = false → resolvesSome (allNsNames (gPg cfg t)) r = false := fun r hr' hk => by
    rw [resolvesSome_eq_refsOwn]; simpa [foreignRoute] using hr r hr' hk
  simp only [buildGraph_unfold, disabled, gPg, gRoutes, gSvcs, State.restrict]
  simp only [pgc_filter cfg t.classes k.cls hc,
    processGateways_filter t.gws cfg.gcName k.gw fun g hg' hk => by simpa [foreignGw] using hg g hg' hk,
    filterMap_filter_noop (buildRoute (allNsNames (gPg cfg t))) k.rt t.routes fun r hr' hk =>
      Option.not_isSome_iff_eq_none.1 (by rw [buildRoute_isSome, hres r hr' hk]; decide),
    referencedSnippets_filter _ t.routes t.snippets k.rt hres,
    processPolicies_filter t.policies (gPg cfg t) (gRoutes cfg t) (gSvcs cfg t) k.pol fun p hp' hk =>
      Option.eq_none_iff_forall_ne_some.2 fun pg hpp => (by
        have := (processPolicy_some cfg t p pg hpp).1
        rw [hp p hp' hk] at this; cases this),
    btpCandidates_filter (gPg cfg t).winner (gRoutes cfg t) t.btps k.btp fun b hm => Decidable.byContradiction fun hk => (by
      have := btpCandidates_own cfg t b hm
      rw [hb b this.1 (Bool.eq_false_iff.2 hk)] at this; cases this.2)]
  rfl

theorem targets_eq (c : Core) : targets c =
    c.winnerClass.toList.map .cls ++ c.ignoredClasses.map .cls ++ c.winnerGw.toList.map .gw ++
    c.ignoredGws.map .gw ++ c.routes.map (fun r => .route r.kind r.nn) ++
    (c.policies.filter (·.hasAncestor)).map (fun p => .policy p.gvk p.nn) ++
    c.btps.map .btp ++ c.snippets.map .snippet := by
  unfold targets
  cases c.winnerClass <;> cases c.winnerGw <;> rfl

theorem mem_targets (c : Core) (tg : Target) : tg ∈ targets c ↔
    match tg with
    | .cls n => c.winnerClass = some n ∨ n ∈ c.ignoredClasses
    | .gw nn => c.winnerGw = some nn ∨ nn ∈ c.ignoredGws
    | .route k nn => ∃ r ∈ c.routes, r.kind = k ∧ r.nn = nn
    | .policy gvk nn => ∃ p ∈ c.policies, p.hasAncestor = true ∧ p.gvk = gvk ∧ p.nn = nn
    | .btp nn => nn ∈ c.btps
    | .snippet nn => nn ∈ c.snippets := by
  cases tg <;> simp [targets_eq, and_assoc]

theorem foreign_unique {α κ : Type} (key : α → κ) {foreign : α → Bool} {l : List α}
    (hu : l.Pairwise fun a b => key a ≠ key b) {x x' : α} (hx' : x' ∈ l) (hx : x ∈ l) (hk : key x' = key x)
    (hf : foreign x = true) (hf' : foreign x' = false) : False := by
  rw [unique_of_pairwise key l hu x' hx' x hx hk, hf] at hf'; cases hf'

theorem mem_allNsNames (pg : PGws) (nn : NN) :
    nn ∈ allNsNames pg ↔ pg.winner.map (·.nn) = some nn ∨ nn ∈ pg.ignored.map (·.nn) := by
  unfold allNsNames
  cases pg.winner <;> simp [eq_comm]

theorem targets_own : ∀ tg ∈ targets (buildGraph cfg s), tg.OwnIn cfg s := by
  intro tg h
  rw [buildGraph_unfold] at h
  split at h
  · simp [targets, Core.empty] at h
  · cases tg with
    | cls n =>
      rcases (mem_targets _ _).1 h with h | h
      · obtain ⟨w, hw, rfl⟩ := Option.map_eq_some_iff.1 h
        obtain ⟨hm, _, hc⟩ := pgc_winner_some cfg _ w hw
        exact ⟨w, hm, rfl, by simp [foreignClass, hc]⟩
      · rw [pgc_ignored] at h
        obtain ⟨c, hc, rfl⟩ := List.mem_map.1 h
        obtain ⟨hm, h2⟩ := List.mem_filter.1 hc
        simp only [isIgn, Bool.and_eq_true, decide_eq_true_eq] at h2
        exact ⟨c, hm, rfl, by simp [foreignClass, h2.2]⟩
    | gw nn =>
      obtain ⟨g, hg, hc, hn⟩ := (mem_allNsNames_processGateways _ _ nn).1 ((mem_allNsNames _ nn).2 ((mem_targets _ _).1 h))
      exact ⟨g, hg, hn, by simp [foreignGw, hc]⟩
    | route k nn =>
      obtain ⟨rg, hrg, rfl, rfl⟩ := (mem_targets _ _).1 h
      obtain ⟨r, hr, ho, h1, h2, _⟩ := gRoutes_mem cfg s rg hrg
      exact ⟨r, hr, h1.symm, h2.symm, by simp [foreignRoute, ho]⟩
    | policy gvk nn =>
      obtain ⟨pg, hpg, _, rfl, rfl⟩ := (mem_targets _ _).1 h
      rw [processPolicies_eq] at hpg
      split at hpg
      · cases hpg
      · obtain ⟨p, hp, hpp⟩ := List.mem_filterMap.1 hpg
        obtain ⟨hf, h1, h2⟩ := processPolicy_some cfg s p pg hpp
        exact ⟨p, hp, h1.symm, h2.symm, hf⟩
    | btp nn =>
      obtain ⟨b, hb, rfl⟩ := List.mem_map.1 ((mem_targets _ _).1 h)
      obtain ⟨hm, hf⟩ := btpCandidates_own cfg s b hb
      exact ⟨b, hm, rfl, hf⟩
    | snippet nn => exact (mem_targets _ _).1 h

theorem disabled_iff : disabled cfg s = true ↔
    (∃ c ∈ s.classes, c.name = cfg.gcName) ∧ ¬ ∃ c ∈ s.classes, c.name = cfg.gcName ∧ c.ctlr = cfg.ctlr := by
  unfold disabled
  simp only [Bool.and_eq_true]
  rw [pgc_exists, ← pgc_winner_isSome_iff]
  constructor
  · rintro ⟨h1, h2⟩
    refine ⟨?_, ?_⟩
    · rcases List.any_eq_true.mp h1 with ⟨c, hc, hn⟩
      exact ⟨c, hc, by simpa [isNamed] using hn⟩
    · cases hw : (processGatewayClasses cfg s.classes).winner <;> simp [hw] at h2 ⊢
  · rintro ⟨⟨c, hc, hn⟩, h2⟩
    refine ⟨List.any_eq_true.mpr ⟨c, hc, by simp [isNamed, hn]⟩, ?_⟩
    cases hw : (processGatewayClasses cfg s.classes).winner <;> simp [hw] at h2 ⊢

theorem buildGraph_disabled (h : disabled cfg s = true) :
    buildGraph cfg s = Core.empty := by
  rw [buildGraph_unfold]; simp [h]

theorem own_class_target (hd : disabled cfg s = false) (c : GwClass) (hc : c ∈ s.classes)
    (ho : c.ctlr = cfg.ctlr) : Target.cls c.name ∈ targets (buildGraph cfg s) := by
  rw [buildGraph_unfold]; simp only [hd]
  rw [mem_targets]
  by_cases hn : c.name = cfg.gcName
  · left
    have := (pgc_winner_isSome_iff cfg s.classes).mpr ⟨c, hc, hn, ho⟩
    obtain ⟨w, hw⟩ := Option.isSome_iff_exists.1 this
    show (processGatewayClasses cfg s.classes).winner.map (·.name) = some c.name
    rw [hw, Option.map_some, (pgc_winner_some cfg _ w hw).2.1, hn]
  · right
    show c.name ∈ (processGatewayClasses cfg s.classes).ignored.map (·.name)
    rw [pgc_ignored]
    exact List.mem_map.mpr ⟨c, List.mem_filter.mpr ⟨hc, by simp [isIgn, hn, ho]⟩, rfl⟩

theorem own_gw_target (hd : disabled cfg s = false) (g : Gw) (hg : g ∈ s.gws)
    (ho : g.cls = cfg.gcName) : Target.gw g.nn ∈ targets (buildGraph cfg s) := by
  rw [buildGraph_unfold]; simp only [hd]
  exact (mem_targets _ _).2 ((mem_allNsNames _ g.nn).1 ((mem_allNsNames_processGateways _ _ _).2 ⟨g, hg, ho, rfl⟩))

theorem own_route_target (hd : disabled cfg s = false) (r : Route) (hr : r ∈ s.routes)
    (ho : refsOwnGw cfg s r = true) : Target.route r.kind r.nn ∈ targets (buildGraph cfg s) := by
  rw [buildGraph_unfold]; simp only [hd]
  obtain ⟨rg, hb⟩ := Option.isSome_iff_exists.1
    ((buildRoute_isSome _ r).trans ((resolvesSome_eq_refsOwn cfg s r).trans ho))
  obtain ⟨_, h1, h2, _⟩ := buildRoute_some _ r rg hb
  exact (mem_targets _ _).2 ⟨rg, List.mem_filterMap.mpr ⟨r, hr, hb⟩, h1, h2⟩

def NamesUnique (l : List GwClass) : Prop := l.Pairwise (fun a b => a.name ≠ b.name)

/-- store and cluster hold the same classes of OUR controller -/
def AgreeOurs (ctlr : String) (cluster store : List GwClass) : Prop :=
  ∀ x : GwClass, x.ctlr = ctlr → (x ∈ store ↔ x ∈ cluster)

theorem upsert_unique (l : List GwClass) (c : GwClass) (h : NamesUnique l) : NamesUnique (upsertCls l c) := by
  unfold NamesUnique upsertCls
  rw [List.pairwise_cons]
  refine ⟨?_, List.Pairwise.filter _ h⟩
  intro x hx
  have := (List.mem_filter.mp hx).2
  intro he; simp [he] at this

theorem remove_unique (l : List GwClass) (n : String) (h : NamesUnique l) : NamesUnique (removeCls l n) :=
  List.Pairwise.filter _ h

theorem clusterStep_unique (l : List GwClass) (e : ClsEv) (h : NamesUnique l) : NamesUnique (clusterStep l e) := by
  cases e with
  | put c => exact upsert_unique l c h
  | del n => exact remove_unique l n h

theorem find_name_iff (l : List GwClass) (n : String) (hu : NamesUnique l) (P : GwClass → Prop) :
    (∃ o ∈ l, o.name = n ∧ P o) ↔ ∃ old, l.find? (fun x => decide (x.name = n)) = some old ∧ P old := by
  constructor
  · rintro ⟨o, ho, hn, hp⟩
    cases hf : l.find? (fun x => decide (x.name = n)) with
    | none => exact absurd hn (by simpa using List.find?_eq_none.mp hf o ho)
    | some old =>
      have hon : old.name = n := by simpa using List.find?_some hf
      rw [unique_of_pairwise (fun c : GwClass => c.name) l hu old (List.mem_of_find?_eq_some hf) o ho (hon.trans hn.symm)]
      exact ⟨o, rfl, hp⟩
  · rintro ⟨old, hf, hp⟩
    exact ⟨old, List.mem_of_find?_eq_some hf, by simpa using List.find?_some hf, hp⟩

theorem delivered_put {ctlr : String} {cluster : List GwClass} (hu : NamesUnique cluster) (c : GwClass) :
    delivered ctlr cluster (.put c) = true ↔ c.ctlr = ctlr ∨ ∃ o ∈ cluster, o.name = c.name ∧ o.ctlr = ctlr := by
  rw [find_name_iff cluster c.name hu]
  cases hf : cluster.find? (fun x => decide (x.name = c.name)) <;> simp [delivered, hf, or_comm]

theorem delivered_del {ctlr : String} {cluster : List GwClass} (hu : NamesUnique cluster) (n : String) :
    delivered ctlr cluster (.del n) = true ↔ ∃ o ∈ cluster, o.name = n ∧ o.ctlr = ctlr := by
  rw [find_name_iff cluster n hu]
  cases hf : cluster.find? (fun x => decide (x.name = n)) <;> simp [delivered, hf]

theorem mem_upsert (l : List GwClass) (c x : GwClass) : x ∈ upsertCls l c ↔ x = c ∨ (x ∈ l ∧ x.name ≠ c.name) := by
  simp [upsertCls, List.mem_filter]

theorem mem_remove (l : List GwClass) (n : String) (x : GwClass) : x ∈ removeCls l n ↔ x ∈ l ∧ x.name ≠ n := by
  simp [removeCls, List.mem_filter]

theorem step_agree (ctlr : String) (cluster store : List GwClass) (e : ClsEv) (hu : NamesUnique cluster)
    (h : AgreeOurs ctlr cluster store) : AgreeOurs ctlr (clusterStep cluster e) (storeStep ctlr cluster store e) := by
  intro x hx
  cases e with
  | put c =>
    by_cases hd : delivered ctlr cluster (.put c) = true
    · simp only [clusterStep, storeStep, hd, if_true, mem_upsert, h x hx]
    · simp only [clusterStep, storeStep, hd, Bool.false_eq_true, if_false, mem_upsert, h x hx]
      rw [delivered_put hu] at hd
      exact ⟨fun hm => .inr ⟨hm, fun hn => hd (.inr ⟨x, hm, hn, hx⟩)⟩,
        fun h' => h'.elim (fun e => absurd (e ▸ hx) fun hc => hd (.inl hc)) And.left⟩
  | del n =>
    by_cases hd : delivered ctlr cluster (.del n) = true
    · simp only [clusterStep, storeStep, hd, if_true, mem_remove, h x hx]
    · simp only [clusterStep, storeStep, hd, Bool.false_eq_true, if_false, mem_remove, h x hx]
      rw [delivered_del hu] at hd
      exact ⟨fun hm => ⟨hm, fun hn => hd ⟨x, hm, hn, hx⟩⟩, And.left⟩

theorem run_agree (ctlr : String) : ∀ (es : List ClsEv) (cluster store : List GwClass),
    NamesUnique cluster → AgreeOurs ctlr cluster store →
      NamesUnique (runClasses ctlr (cluster, store) es).1 ∧
      AgreeOurs ctlr (runClasses ctlr (cluster, store) es).1 (runClasses ctlr (cluster, store) es).2 := by
  intro es
  induction es with
  | nil => intro cluster store hu h; exact ⟨hu, h⟩
  | cons e es ih =>
    intro cluster store hu h
    simp only [runClasses]
    exact ih _ _ (clusterStep_unique cluster e hu) (step_agree ctlr cluster store e hu h)

theorem disabled_congr (a b : List GwClass) (h : AgreeOurs cfg.ctlr a b)
    (hn : (∃ c ∈ a, c.name = cfg.gcName) ↔ (∃ c ∈ b, c.name = cfg.gcName)) :
    disabled cfg { s with classes := a } = disabled cfg { s with classes := b } := by
  rw [Bool.eq_iff_iff]
  simp only [disabled_iff, hn]
  exact and_congr_right fun _ => not_congr
    ⟨fun ⟨c, hc, h1, h2⟩ => ⟨c, (h c h2).mpr hc, h1, h2⟩, fun ⟨c, hc, h1, h2⟩ => ⟨c, (h c h2).mp hc, h1, h2⟩⟩

/-! A concrete cluster, used by the non-vacuity examples of Props/C17. -/

def exCfg : Cfg := ⟨"nginx", "gateway.nginx.org/nginx-gateway-controller"⟩

/-- our class, a second class of ours, a class of another controller; two Gateways of ours (gw0 older),
one of the other class (oldest of all); routes to the winner, to the ignored one, to the foreign one and a
shared one; policies and BackendTLSPolicies targeting ours and theirs; SnippetsFilter `sf` referenced by our hr0 (and
by the foreign xr), `xsf` referenced by the foreign xr only, `team-a/sf` by nobody (same name, other namespace). -/
def exState : State :=
  { classes := [⟨"nginx", exCfg.ctlr⟩, ⟨"nginx-2", exCfg.ctlr⟩, ⟨"other", "example.com/other"⟩]
    gws := [⟨⟨"default", "gw0"⟩, "nginx", 5⟩, ⟨⟨"default", "gw1"⟩, "nginx", 7⟩, ⟨⟨"default", "fgw"⟩, "other", 1⟩]
    routes := [
      ⟨.http, ⟨"default", "hr0"⟩, [⟨none, none, none, "gw0", none⟩], true, [⟨"default", "svc0"⟩], true, ["sf"]⟩,
      ⟨.http, ⟨"default", "hr1"⟩, [⟨none, none, some "default", "gw1", some "l0"⟩], true, [⟨"default", "svc1"⟩], true, []⟩,
      ⟨.http, ⟨"default", "xr"⟩, [⟨none, none, none, "fgw", none⟩], true, [⟨"default", "xsvc"⟩], true, ["xsf", "sf"]⟩,
      ⟨.grpc, ⟨"default", "shared"⟩, [⟨none, none, none, "fgw", none⟩, ⟨none, some "Gateway", none, "gw0", none⟩], true, [], true, []⟩,
      ⟨.tls, ⟨"team-a", "tr"⟩, [⟨none, none, none, "gw0", none⟩, ⟨none, some "Service", some "default", "gw0", none⟩], true, [], true, []⟩]
    policies := [
      ⟨"ClientSettingsPolicy", ⟨"default", "csp"⟩, [⟨gatewayGroup, "Gateway", "gw0"⟩], 0⟩,
      ⟨"ClientSettingsPolicy", ⟨"default", "xcsp"⟩, [⟨gatewayGroup, "Gateway", "fgw"⟩], 0⟩,
      ⟨"ObservabilityPolicy", ⟨"default", "obs"⟩, [⟨gatewayGroup, "HTTPRoute", "xr"⟩, ⟨gatewayGroup, "GRPCRoute", "shared"⟩], 1⟩,
      ⟨"UpstreamSettingsPolicy", ⟨"default", "usp"⟩, [⟨"core", "Service", "svc0"⟩], 16⟩,
      ⟨"UpstreamSettingsPolicy", ⟨"default", "xusp"⟩, [⟨"", "Service", "xsvc"⟩], 0⟩]
    btps := [⟨⟨"default", "btp"⟩, ["svc0"], false⟩, ⟨⟨"default", "xbtp"⟩, ["xsvc"], false⟩]
    snippets := [⟨"default", "sf"⟩, ⟨"default", "xsf"⟩, ⟨"team-a", "sf"⟩] }

/-- the graph of `exState`, written out: the foreign Gateway `fgw`, the routes `xr` and `tr`, the policies `xcsp` and
`xusp` and the target `xr` of `obs` are not in it -/
theorem buildGraph_exState : buildGraph exCfg exState =
    { winnerClass := some "nginx", ignoredClasses := ["nginx-2"]
      winnerGw := some ⟨"default", "gw0"⟩, ignoredGws := [⟨"default", "gw1"⟩]
      routes := [⟨.http, ⟨"default", "hr0"⟩, [⟨0, ⟨"default", "gw0"⟩, none⟩], true, [⟨"default", "svc0"⟩]⟩,
                 ⟨.http, ⟨"default", "hr1"⟩, [⟨0, ⟨"default", "gw1"⟩, some "l0"⟩], true, [⟨"default", "svc1"⟩]⟩,
                 ⟨.grpc, ⟨"default", "shared"⟩, [⟨1, ⟨"default", "gw0"⟩, none⟩], true, []⟩]
      policies := [⟨"ClientSettingsPolicy", ⟨"default", "csp"⟩, [⟨gatewayGroup, "Gateway", "gw0"⟩], 0⟩,
                   ⟨"ObservabilityPolicy", ⟨"default", "obs"⟩, [⟨gatewayGroup, "GRPCRoute", "shared"⟩], 1⟩,
                   ⟨"UpstreamSettingsPolicy", ⟨"default", "usp"⟩, [⟨"core", "Service", "svc0"⟩], 16⟩]
      refSvcs := [⟨"default", "svc0"⟩], btps := [⟨"default", "btp"⟩]
      snippets := [⟨"default", "sf"⟩, ⟨"default", "xsf"⟩, ⟨"team-a", "sf"⟩], refSnippets := [⟨"default", "sf"⟩] } := by
  decide +kernel

/-- drops exactly the foreign objects of `exState` -/
def exKeep : Keep :=
  { cls := fun c => c.name != "other"
    gw := fun g => g.nn.name != "fgw"
    rt := fun r => r.nn.name != "xr" && r.nn.name != "tr"
    pol := fun p => p.nn.name != "xcsp" && p.nn.name != "xusp"
    btp := fun b => b.nn.name != "xbtp" }

/-- `exState` with the configured-name class handed to another controller -/
def exDisabled : State :=
  { exState with classes := [⟨"nginx", "example.com/other"⟩, ⟨"nginx-2", exCfg.ctlr⟩] }

end NGF.Ownership
