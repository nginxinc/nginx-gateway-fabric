/-
Lexing the printed text of a tree whose words may contain backslashes (Model/PrintEsc `dirsOKw`): the text is tokenised
with the skeleton of the intended token stream (`lex_printDirs_w`); the words themselves are the unescaped ones.
Core Lean only.
-/
import NGF.Model.PrintEsc
import NGF.Proofs.PrintLex
import NGF.Proofs.InjCompose

namespace NGF.Print
open NGF.Nginx

theorem inert_of_escOK : ∀ (a : List Char), escOK a = true → Inert .dq a
  | [], _ => .nil
  | [c], h => by
    simp only [escOK, Bool.not_eq_true', Bool.or_eq_false_iff, beq_eq_false_iff_ne, ne_eq] at h
    exact .plain (by simp [isTerm, h.1]) h.2 .nil
  | c :: d :: t, h => by
    simp only [escOK] at h
    split at h
    · rename_i hc
      have : c = '\\' := by simpa using hc
      subst this
      exact .esc (inert_of_escOK t h)
    · rename_i hc
      simp only [Bool.and_eq_true, Bool.not_eq_true', beq_eq_false_iff_ne, ne_eq] at h
      exact .plain (by simp [isTerm, h.1]) (by simpa using hc) (inert_of_escOK (d :: t) h.2)

theorem escOK_of_inert {a : List Char} (h : Inert .dq a) : escOK a = true := by
  induction h with
  | nil => rfl
  | @plain c t ht hb _ ih =>
    have hq : c ≠ '"' := by simpa [isTerm] using ht
    cases t with
    | nil => simp [escOK, hq, hb]
    | cons d t' => simp [escOK, hq, hb, ih]
  | @esc c t _ ih => simp [escOK, ih]

theorem escOK_of_dqOK {a : List Char} (h : dqOK a = true) : escOK a = true := escOK_of_inert (dqOK_facts h).1

theorem escOK_append {a b : List Char} (ha : escOK a = true) (hb : escOK b = true) : escOK (a ++ b) = true :=
  escOK_of_inert (NGF.Inj.inert_append (inert_of_escOK a ha) (inert_of_escOK b hb))

theorem looseChar_of_tailChar {c : Char} (h : tailChar c = true) : looseChar c = true := by
  simp only [tailChar, Bool.not_eq_true', Bool.or_eq_false_iff] at h
  simp only [looseChar, Bool.not_eq_true', Bool.or_eq_false_iff]
  exact h.1

theorem looseOK_of_bareOK {a : List Char} (h : bareOK a = true) : looseOK a = true := by
  cases a with
  | nil => simp [bareOK] at h
  | cons c t =>
    simp only [bareOK, Bool.and_eq_true, List.all_eq_true] at h
    simp only [looseOK, Bool.and_eq_true, List.all_eq_true]
    exact ⟨h.1, fun x hx => looseChar_of_tailChar (h.2 x hx)⟩

theorem argOKw_of_argOK {a : Arg} (h : argOK a = true) : argOKw a = true := by
  obtain ⟨v, q⟩ := a
  cases q with
  | false => simpa [argOK, argOKw] using h
  | true => simp only [argOK, if_true] at h; simpa [argOKw] using escOK_of_dqOK h

theorem lastOKw_of_argOKw {a : Arg} (h : argOKw a = true) : lastOKw a = true := by
  obtain ⟨v, q⟩ := a
  cases q with
  | false => simp only [argOKw, Bool.false_eq_true, if_false] at h; simpa [lastOKw] using looseOK_of_bareOK h
  | true => simpa [argOKw, lastOKw] using h

theorem headOKw_of_all : ∀ {args : List Arg}, args.all argOKw = true → headOKw args = true
  | [], _ => rfl
  | [a], h => by
    simp only [List.all_cons, List.all_nil, Bool.and_true] at h
    simpa [headOKw] using lastOKw_of_argOKw h
  | a :: b :: r, h => by
    simp only [List.all_cons, Bool.and_eq_true] at h
    simp only [headOKw, Bool.and_eq_true]
    exact ⟨h.1, headOKw_of_all (by simp [h.2])⟩

/-- the test of `dirsOKw` on one directive -/
def stmtOKw : Dir → Bool
  | .mk n args none => bareOK n && args.all argOKw
  | .mk n args (some _) => bareOK n && headOKw args

theorem dirsOKw_iff_flat (ds : List Dir) : dirsOKw ds = true ↔ ∀ x ∈ flatDirs ds, stmtOKw x = true :=
  (check_iff_flat (p := stmtOKw) (f := dirOKw) (fun _ _ => by simp only [dirOKw, stmtOKw])
    (fun _ _ _ => by simp only [dirOKw, stmtOKw]) (by simp only [dirsOKw]) (fun _ _ => by simp only [dirsOKw])).2 ds

theorem stmtOKw_simple {n : List Char} {args : List Arg} (hn : bareOK n = true) (ha : args.all argOKw = true) :
    stmtOKw (.mk n args none) = true := by simp only [stmtOKw, hn, ha, Bool.and_self]

theorem stmtOKw_block {n : List Char} {args : List Arg} (ch : List Dir) (hn : bareOK n = true) (ha : headOKw args = true) :
    stmtOKw (.mk n args (some ch)) = true := by simp only [stmtOKw, hn, ha, Bool.and_self]

theorem stmtOKw_of_stmtOK : ∀ {d : Dir}, stmtOK d = true → stmtOKw d = true
  | .mk n args b, h => by
    simp only [stmtOK, Dir.name, Dir.args, Bool.and_eq_true] at h
    have ha : args.all argOKw = true := List.all_eq_true.mpr fun a ha => argOKw_of_argOK (List.all_eq_true.mp h.2 a ha)
    cases b with
    | none => exact stmtOKw_simple h.1 ha
    | some ch => exact stmtOKw_block ch h.1 (headOKw_of_all ha)

theorem dirsOKw_of_dirsOK : ∀ (ds : List Dir), dirsOK ds = true → dirsOKw ds = true :=
  fun ds h => (dirsOKw_iff_flat ds).mpr fun x hx => stmtOKw_of_stmtOK ((dirsOK_iff_flat ds).mp h x hx)

theorem lexFrom_word_w {a : Arg} (ha : argOKw a = true) {c : Char} (hc : c = ' ' ∨ c = ';') (k : Nat) (post : List Char) :
    ∃ w, lexFrom (Sk k) (printArg a ++ c :: post) =
      prepend (Tok.word w a.2 :: sepToks c) (lexFrom (sepState k c) post) := by
  obtain ⟨v, q⟩ := a
  cases q with
  | false =>
    have : argOK (v, false) = true := by simpa [argOK, argOKw] using ha
    exact ⟨v, lexFrom_word this hc k post⟩
  | true =>
    simp only [argOKw, if_true] at ha
    exact ⟨unescape v, lexFrom_quoted (inert_of_escOK v ha) hc k post⟩

theorem lexFrom_last_w {a : Arg} (ha : lastOKw a = true) (k : Nat) (post : List Char) :
    ∃ w, lexFrom (Sk k) (printArg a ++ ' ' :: '{' :: post) = prepend [Tok.word w a.2, .open] (lexFrom (Sk 0) post) := by
  obtain ⟨v, q⟩ := a
  cases q with
  | true =>
    obtain ⟨w, hw⟩ := lexFrom_word_w (a := (v, true)) (by simpa [lastOKw, argOKw] using ha) (c := ' ') (.inl rfl) k
      ('{' :: post)
    refine ⟨w, ?_⟩
    rw [hw, sepState_space, sepToks_space, lexFrom_cons_ok (step_open k), prepend_prepend]
    rfl
  | false =>
    simp only [lastOKw, Bool.false_eq_true, if_false] at ha
    cases v with
    | nil => simp [looseOK] at ha
    | cons c t =>
      simp only [looseOK, Bool.and_eq_true, List.all_eq_true] at ha
      have ht : ∀ c' ∈ t, isTerm .bare c' = false := by
        intro c' hc'
        have := ha.2 c' hc'
        simp only [looseChar, Bool.not_eq_true'] at this
        simpa [isTerm] using this
      obtain ⟨w, hw, _⟩ := hole_bare_path_open (st := Sk k) (c := c) (t := t) (post := post) rfl rfl ha.1 ht
      have e : ({ Sk k with mode := .space, dollar := false, cur := [], pending := 0 } : LexSt) = Sk 0 := rfl
      rw [e] at hw
      exact ⟨w, by simpa [printArg] using hw⟩

theorem shape_word (w v : List Char) (q : Bool) : Tok.shape (.word w q) = Tok.shape (.word v q) := rfl

theorem lexFrom_cons_w {a b : Arg} {r : List Arg} (ha : argOKw a = true) {t : List Char} {k : Nat} {E : List Tok}
    {Z : Except LexErr (LexSt × List Tok)}
    (h : ∃ ts, lexFrom (Sk (k + 1)) (printWords (b :: r) t) = prepend (ts ++ E) Z ∧
      skeleton ts = skeleton ((b :: r).map argTok)) :
    ∃ ts, lexFrom (Sk k) (printWords (a :: b :: r) t) = prepend (ts ++ E) Z ∧
      skeleton ts = skeleton ((a :: b :: r).map argTok) := by
  obtain ⟨ts, ih, hsk⟩ := h
  obtain ⟨w, hw⟩ := lexFrom_word_w ha (c := ' ') (.inl rfl) k (printWords (b :: r) t)
  have pw : printWords (a :: b :: r) t = printArg a ++ ' ' :: printWords (b :: r) t := rfl
  refine ⟨.word w a.2 :: ts, ?_, ?_⟩
  · rw [pw, hw, sepState_space, sepToks_space, ih, prepend_prepend]
    rfl
  · simp only [skeleton, List.map_cons] at hsk ⊢
    rw [hsk]; rfl

theorem lexFrom_words_w : ∀ (a : Arg) (ws : List Arg), (a :: ws).all argOKw = true → ∀ {c : Char}, c = ' ' ∨ c = ';' →
    ∀ (k : Nat) (post : List Char),
      ∃ ts, lexFrom (Sk k) (printWords (a :: ws) (c :: post)) =
          prepend (ts ++ sepToks c) (lexFrom (sepState (k + ws.length) c) post) ∧
        skeleton ts = skeleton ((a :: ws).map argTok)
  | a, [], hok, c, hc, k, post => by
    simp only [List.all_cons, List.all_nil, Bool.and_true] at hok
    obtain ⟨w, hw⟩ := lexFrom_word_w hok hc k post
    exact ⟨[.word w a.2], by simpa [printWords] using hw, rfl⟩
  | a, b :: r, hok, c, hc, k, post => by
    simp only [List.all_cons, Bool.and_eq_true] at hok
    have ih := lexFrom_words_w b r (by simp [hok.2]) hc (k + 1) post
    rw [show k + 1 + r.length = k + (b :: r).length by simp; omega] at ih
    exact lexFrom_cons_w hok.1 ih

theorem lexFrom_head_w : ∀ (a : Arg) (ws : List Arg), headOKw (a :: ws) = true → ∀ (k : Nat) (post : List Char),
    ∃ ts, lexFrom (Sk k) (printWords (a :: ws) (' ' :: '{' :: post)) = prepend (ts ++ [.open]) (lexFrom (Sk 0) post) ∧
      skeleton ts = skeleton ((a :: ws).map argTok)
  | a, [], hok, k, post => by
    simp only [headOKw] at hok
    obtain ⟨w, hw⟩ := lexFrom_last_w hok k post
    exact ⟨[.word w a.2], by simpa [printWords] using hw, rfl⟩
  | a, b :: r, hok, k, post => by
    simp only [headOKw, Bool.and_eq_true] at hok
    exact lexFrom_cons_w hok.1 (lexFrom_head_w b r hok.2 (k + 1) post)

theorem skeleton_append (a b : List Tok) : skeleton (a ++ b) = skeleton a ++ skeleton b := by simp [skeleton]

theorem lexFrom_print_w :
    (∀ d, dirOKw d = true → ∀ post, ∃ ts,
      lexFrom (Sk 0) (printDir d ++ post) = prepend ts (lexFrom (Sk 0) post) ∧ skeleton ts = skeleton (dirToks d)) ∧
    ∀ ds, dirsOKw ds = true → ∀ post, ∃ ts,
      lexFrom (Sk 0) (printDirs ds ++ post) = prepend ts (lexFrom (Sk 0) post) ∧ skeleton ts = skeleton (dirsToks ds) := by
  refine dir_induction ?_ ?_ ?_ ?_
  · intro n args h post
    simp only [dirOKw, Bool.and_eq_true] at h
    obtain ⟨ts, hw, hsk⟩ := lexFrom_words_w (n, false) args (by simp [argOKw, h.1, h.2]) (c := ';')
      (.inr rfl) 0 ('\n' :: post)
    refine ⟨ts ++ [.semi], ?_, ?_⟩
    · simp only [printDir, printWords_append, List.cons_append, List.nil_append]
      rw [hw, sepState_semi, sepToks_semi, lexFrom_cons_ok (step_nl 0), prepend_nil]
    · rw [skeleton_append, hsk]
      simp [skeleton, dirToks, argTok]
  · intro n args ch ih h post
    simp only [dirOKw, Bool.and_eq_true] at h
    have hhead : headOKw ((n, false) :: args) = true := by
      cases args with
      | nil => simpa [headOKw, lastOKw] using looseOK_of_bareOK h.1.1
      | cons b r => simp only [headOKw, Bool.and_eq_true]; exact ⟨by simpa [argOKw] using h.1.1, h.1.2⟩
    obtain ⟨ts, hw, hsk⟩ := lexFrom_head_w (n, false) args hhead 0
      ('\n' :: (printDirs ch ++ '}' :: '\n' :: post))
    obtain ⟨tc, ih, hskc⟩ := ih h.2 ('}' :: '\n' :: post)
    refine ⟨ts ++ [.open] ++ tc ++ [.close], ?_, ?_⟩
    · simp only [printDir, printWords_append, List.cons_append, List.nil_append, List.append_assoc]
      rw [hw, lexFrom_cons_ok (step_nl 0), prepend_nil, ih, lexFrom_cons_ok step_close, lexFrom_cons_ok (step_nl 0),
        prepend_nil, prepend_prepend, prepend_prepend]
      simp
    · simp only [skeleton_append, hsk, hskc]
      simp [skeleton, dirToks, argTok, Tok.shape]
  · intro _ post
    exact ⟨[], by simp [printDirs, prepend_nil], rfl⟩
  · intro d ds ih1 ih2 h post
    simp only [dirsOKw, Bool.and_eq_true] at h
    obtain ⟨t1, h1, s1⟩ := ih1 h.1 (printDirs ds ++ post)
    obtain ⟨t2, h2, s2⟩ := ih2 h.2 post
    refine ⟨t1 ++ t2, ?_, ?_⟩
    · simp only [printDirs, List.append_assoc]
      rw [h1, h2, prepend_prepend]
    · simp only [dirsToks, skeleton_append, s1, s2]

theorem lexFrom_printDir_w : ∀ (d : Dir), dirOKw d = true → ∀ (post : List Char),
    ∃ ts, lexFrom (Sk 0) (printDir d ++ post) = prepend ts (lexFrom (Sk 0) post) ∧ skeleton ts = skeleton (dirToks d) :=
  lexFrom_print_w.1

theorem lex_printDirs_w {ds : List Dir} (h : dirsOKw ds = true) :
    ∃ ts, lex (printDirs ds) = .ok ts ∧ skeleton ts = skeleton (dirsToks ds) := by
  obtain ⟨ts, hl, hs⟩ := lexFrom_print_w.2 ds h []
  simp only [List.append_nil] at hl
  refine ⟨ts, ?_, hs⟩
  unfold lex
  rw [init_eq, hl]
  simp [lexFrom, prepend, atEOF, Sk]

end NGF.Print
