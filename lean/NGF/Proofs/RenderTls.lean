/-
Helper lemmas for the SSL-server rendering (Model/RenderTls): projection onto `PipelineTls.genT`, which server blocks
`renderT` produces and which certificate files they name. On top of C16's Proofs/PipelineTls.
-/
import NGF.Model.RenderTls
import NGF.Proofs.RenderDirs
import NGF.Proofs.PipelineTls

namespace NGF.RenderTls
open NGF.Pipeline NGF.PipelineTls NGF.Render NGF.Nginx

theorem forget_listenerOnly (port : Nat) (name : Str) (kp : Option (List Char)) :
    SslR.forget { sid := 0, port := port, name := name, kp := kp, rules := [], root404 := true } =
      (serverOf [] port name, kp) := by
  simp [SslR.forget, RServer.forget, serverOf, Precedence.genLocs, Precedence.extLocsFrom]

theorem forget_sid (sv : SslR) (n : Nat) : SslR.forget { sv with sid := n } = SslR.forget sv := rfl

theorem forget_genTR (s : ScenarioT) (order orderS : List Nat) : (genTR s order orderS).forget = genT s := by
  unfold genTR genT
  cases hw : winnerT s with
  | none => simp [ConfTR.forget, forget_genR]
  | some gT =>
    have hS := forget_genR (httpsPart s) orderS
    have hservers : (genR (httpsPart s) orderS).servers.map RServer.forget = (gen (httpsPart s)).servers := by
      rw [← hS]; rfl
    have hports : (genR (httpsPart s) orderS).dports.map (·.1) = (gen (httpsPart s)).ports := by
      rw [← hS]; rfl
    simp only [ConfTR.forget, forget_genR, List.map_append, List.map_map, Function.comp_def, hports, ConfT.mk.injEq, true_and,
      and_true]
    refine ⟨?_, by simp⟩
    congr 1
    · rw [← hservers, List.map_map]
      apply List.map_congr_left
      intro sv _
      simp [SslR.forget, RServer.forget]
    · simp only [listenerOnlyR, listenerOnly, List.map_map, Function.comp_def]
      apply List.map_congr_left
      intro l _
      exact forget_listenerOnly _ _ _

theorem genTR_http (s : ScenarioT) (order orderS : List Nat) : (genTR s order orderS).http = genR (httpPart s) order := by
  unfold genTR; cases winnerT s <;> rfl

/-- an SSL server is a server of the HTTPS projection (with its index among the SSL servers) or the 404 server of an
HTTPS listener -/
theorem mem_genTR_ssl {s : ScenarioT} {order orderS : List Nat} {sv : SslR} (h : sv ∈ (genTR s order orderS).ssl) :
    (∃ rs ∈ (genR (httpsPart s) orderS).servers,
      sv.port = rs.port ∧ sv.name = rs.name ∧ sv.rules = rs.rules ∧ sv.root404 = rs.root404) ∨
    (∃ gT, winnerT s = some gT ∧ ∃ l ∈ sslListeners s gT,
      sv.port = l.base.port ∧ sv.name = serverName l.base.host ∧ sv.rules = [] ∧ sv.root404 = true) := by
  unfold genTR at h
  cases hw : winnerT s with
  | none => rw [hw] at h; cases h
  | some gT =>
    simp only [hw, List.mem_append, List.mem_map] at h
    rcases h with ⟨rs, hrs, rfl⟩ | ⟨e, he, rfl⟩
    · exact Or.inl ⟨rs, hrs, rfl, rfl, rfl, rfl⟩
    · simp only [listenerOnlyR, List.mem_map, List.mem_filter] at he
      obtain ⟨l, ⟨hl, _⟩, rfl⟩ := he
      exact Or.inr ⟨gT, rfl, l, hl, rfl, rfl, rfl, rfl⟩

theorem genTR_sslDefault_ports (s : ScenarioT) (order orderS : List Nat) :
    (genTR s order orderS).sslDefaults.map (·.1) =
      match winnerT s with
      | none => []
      | some _ => (genR (httpsPart s) orderS).dports.map (·.1) := by
  unfold genTR
  cases winnerT s with
  | none => rfl
  | some gT => simp only [List.map_map, Function.comp_def]

def sslItems (c : ConfTR) : List (Nat × Dir) :=
  (c.sslDefaults.map fun d => (d.2, renderSslDefault d.1)) ++ (c.ssl.map fun sv => (sv.sid, renderSsl sv))

theorem sslDirs_perm (c : ConfTR) : (sslDirs c).Perm ((sslItems c).map (·.2)) := by
  unfold sslDirs
  exact (List.mergeSort_perm _ _).map _

theorem mem_sslDirs {c : ConfTR} {d : Dir} :
    d ∈ sslDirs c ↔ (∃ p ∈ c.sslDefaults, d = renderSslDefault p.1) ∨ (∃ sv ∈ c.ssl, d = renderSsl sv) := by
  rw [(sslDirs_perm c).mem_iff]
  simp only [sslItems, List.map_append, List.map_map, List.mem_append, List.mem_map, Function.comp_def, eq_comm]

theorem sslDirs_server {c : ConfTR} {d : Dir} (h : d ∈ sslDirs c) : d.name = "server".toList ∧ d.block.isSome = true := by
  rcases mem_sslDirs.mp h with ⟨_, _, rfl⟩ | ⟨_, _, rfl⟩ <;> exact ⟨rfl, rfl⟩

theorem servers_of_renderT (c : ConfTR) :
    blocksNamed "server" (renderT c) = serverDirs c.http ++ sslDirs c ++ tailServers := by
  refine (blocks_of_http (servers := serverDirs c.http ++ sslDirs c ++ tailServers) (fun d hd => ?_) fun _ =>
    splitBlocks_split).1
  rcases List.mem_append.mp hd with h | h
  · exact (List.mem_append.mp h).elim serverDirs_server sslDirs_server
  · exact tailServers_server h

theorem sslListens_names (p : Nat) (extra : List String) : ∀ d ∈ sslListens p extra, d.name = "listen".toList := by
  intro d hd
  simp only [sslListens, List.mem_cons, List.mem_nil_iff, or_false] at hd
  rcases hd with rfl | rfl <;> rfl

/-- the head of an SSL server block: listens, certificate, SNI guard -/
def sslHead (sv : SslR) : List Dir :=
  match sv.kp with
  | some id => sslListens sv.port [] ++ [dir "ssl_certificate" [wl (pemFile id)], dir "ssl_certificate_key" [wl (pemFile id)], sniGuard]
  | none => listenDirs sv.port []

def sslLocs (sv : SslR) : List Dir := locsK (sslKey sv.sid) sv.rules sv.root404

theorem mem_sslLocs_loc {sv : SslR} {d : Dir} (h : d ∈ sslLocs sv) : d.name = "location".toList ∧ d.block.isSome = true :=
  mem_locsK_loc h

theorem renderSsl_body (sv : SslR) : body (renderSsl sv) = sslHead sv ++ [dir "server_name" [wl sv.name]] ++ sslLocs sv := by
  unfold sslHead
  cases hk : sv.kp <;> simp only [renderSsl, body_blk, sslLocs, locsK, hk, List.append_assoc]

theorem named_sslHead (n : String) (sv : SslR) :
    named n (sslHead sv) = match sv.kp with
      | some id => named n (sslListens sv.port []) ++
          named n [dir "ssl_certificate" [wl (pemFile id)], dir "ssl_certificate_key" [wl (pemFile id)], sniGuard]
      | none => named n (listenDirs sv.port []) := by
  unfold sslHead
  cases sv.kp with
  | none => rfl
  | some id => exact named_append ..

def refsOf (s : Dir) : List (List Char) :=
  ((named "ssl_certificate" (body s)) ++ (named "ssl_certificate_key" (body s))).map arg0

theorem refsOf_nil {s : Dir} (h1 : named "ssl_certificate" (body s) = []) (h2 : named "ssl_certificate_key" (body s) = []) :
    refsOf s = [] := by
  rw [refsOf, h1, h2]; rfl

theorem named_listens_ne {n : String} (hn : "listen" ≠ n) {ls rest : List Dir} (hl : ∀ d ∈ ls, d.name = "listen".toList)
    (hr : named n rest = []) : named n (ls ++ rest) = [] := by
  rw [named_append, named_eq_nil hn hl, hr]; rfl

theorem refsOf_default (p : Nat) : refsOf (renderDefault p) = [] := by
  refine refsOf_nil ?_ ?_ <;>
    exact named_listens_ne (by simp) (listenDirs_names _ _) (by rw [named_dir_ne (by simp), named_dir_ne (by simp), named_nil])

theorem refsOf_sslDefault (p : Nat) : refsOf (renderSslDefault p) = [] := by
  refine refsOf_nil ?_ ?_ <;>
    exact named_listens_ne (by simp) (sslListens_names _ _) (by rw [named_dir_ne (by simp), named_nil])

theorem refsOf_unix (sock code : String) : refsOf (unixServer sock code) = [] := by
  refine refsOf_nil ?_ ?_ <;>
    rw [unixServer, body_blk, named_dir_ne (by simp), named_dir_ne (by simp), named_dir_ne (by simp), named_nil]

theorem refsOf_tail {d : Dir} (h : d ∈ tailServers) : refsOf d = [] := by
  simp only [tailServers, List.mem_cons, List.mem_nil_iff, or_false] at h
  rcases h with rfl | rfl <;> exact refsOf_unix _ _

theorem refsOf_server (sv : RServer) : refsOf (renderServer sv) = [] := by
  refine refsOf_nil ?_ ?_ <;>
    rw [renderServer_body, serverBody_named (by simp) (by simp) fun _ => mem_serverLocs_loc,
      named_eq_nil (by simp) (listenDirs_names _ _)]

theorem refsOf_ssl (sv : SslR) :
    refsOf (renderSsl sv) = match sv.kp with | some id => [pemFile id, pemFile id] | none => [] := by
  unfold refsOf
  rw [renderSsl_body, serverBody_named (by simp) (by simp) fun _ => mem_sslLocs_loc,
    serverBody_named (by simp) (by simp) fun _ => mem_sslLocs_loc, named_sslHead, named_sslHead]
  cases sv.kp with
  | none =>
    rw [named_eq_nil (n := "ssl_certificate") (by simp) (listenDirs_names _ _),
      named_eq_nil (n := "ssl_certificate_key") (by simp) (listenDirs_names _ _)]
    rfl
  | some id =>
    rw [named_eq_nil (n := "ssl_certificate") (by simp) (sslListens_names _ _),
      named_eq_nil (n := "ssl_certificate_key") (by simp) (sslListens_names _ _)]
    simp only [sniGuard, named_dir_self, named_dir_ne,
      named_blk_ne, ne_eq, String.reduceEq, not_false_eq_true, named_nil, List.nil_append, List.cons_append, List.map_cons,
      List.map_nil, arg0_cons, wl]

theorem certRefs_renderT (c : ConfTR) {r : List Char} (h : r ∈ certRefs (renderT c)) :
    ∃ sv ∈ c.ssl, ∃ id, sv.kp = some id ∧ r = pemFile id := by
  unfold certRefs at h
  rw [servers_of_renderT] at h
  obtain ⟨d, hd, hr⟩ := List.mem_flatMap.mp h
  change r ∈ refsOf d at hr
  rcases List.mem_append.mp hd with hd | hd
  · rcases List.mem_append.mp hd with hd | hd
    · rcases mem_serverDirs.mp hd with ⟨p, _, rfl⟩ | ⟨sv, _, rfl⟩
      · rw [refsOf_default] at hr; cases hr
      · rw [refsOf_server] at hr; cases hr
    · rcases mem_sslDirs.mp hd with ⟨p, _, rfl⟩ | ⟨sv, hsv, rfl⟩
      · rw [refsOf_sslDefault] at hr; cases hr
      · rw [refsOf_ssl] at hr
        cases hk : sv.kp with
        | none => rw [hk] at hr; cases hr
        | some id =>
          rw [hk] at hr
          simp only [List.mem_cons, List.mem_nil_iff, or_false, or_self] at hr
          exact ⟨sv, hsv, id, hk, hr⟩
  · rw [refsOf_tail hd] at hr; cases hr

end NGF.RenderTls
