/-
Correctness of the derivative matcher of `NGF.Model.Regex` and the generic lemmas used to bridge
generated regexes to lexical safety predicates (alphabet, first character, shape of `(A|BC)*`).
Core Lean only.
-/
import NGF.Model.Regex

namespace NGF.Rx
namespace Re

theorem not_matches_empty {s : List Char} : ¬ Matches .empty s := by
  intro h; cases h

theorem matches_eps_iff {s : List Char} : Matches .eps s ↔ s = [] := by
  constructor
  · intro h; cases h; rfl
  · intro h; subst h; exact .eps

theorem matches_cls_iff {rs : Ranges} {s : List Char} :
    Matches (.cls rs) s ↔ ∃ c, s = [c] ∧ inRanges rs c.toNat = true := by
  constructor
  · intro h; cases h with | cls hc => exact ⟨_, rfl, hc⟩
  · rintro ⟨c, rfl, hc⟩; exact .cls hc

theorem matches_seq_iff {a b : Re} {u : List Char} :
    Matches (.seq a b) u ↔ ∃ s t, Matches a s ∧ Matches b t ∧ u = s ++ t := by
  constructor
  · intro h; cases h with | seq ha hb => exact ⟨_, _, ha, hb, rfl⟩
  · rintro ⟨s, t, ha, hb, rfl⟩; exact .seq ha hb

theorem matches_alt_iff {a b : Re} {s : List Char} : Matches (.alt a b) s ↔ Matches a s ∨ Matches b s := by
  constructor
  · intro h; cases h with
    | altL h => exact .inl h
    | altR h => exact .inr h
  · exact fun h => h.elim .altL .altR

theorem nullable_iff {r : Re} : nullable r = true ↔ Matches r [] := by
  induction r with
  | star a _ => exact ⟨fun _ => .starNil, fun _ => rfl⟩
  | _ => simp [nullable, not_matches_empty, matches_eps_iff, matches_cls_iff, matches_seq_iff, matches_alt_iff, *]

/-- the smart constructors only simplify with `ε` and `∅` (and drop a repeated alternative) -/
theorem matches_mkSeq {a b : Re} {s : List Char} : Matches (mkSeq a b) s ↔ Matches (.seq a b) s := by
  unfold mkSeq
  split <;> simp [matches_seq_iff, matches_eps_iff, not_matches_empty]

theorem matches_mkAlt {a b : Re} {s : List Char} : Matches (mkAlt a b) s ↔ Matches (.alt a b) s := by
  unfold mkAlt
  split
  · simp [matches_alt_iff, not_matches_empty]
  · simp [matches_alt_iff, not_matches_empty]
  · split
    · simp [matches_alt_iff, *]
    · rfl

theorem star_cons_inv {a : Re} {c : Char} {u : List Char} (h : Matches (.star a) (c :: u)) :
    ∃ s t, u = s ++ t ∧ Matches a (c :: s) ∧ Matches (.star a) t := by
  generalize hr : Re.star a = r at h
  generalize hw : c :: u = w at h
  induction h generalizing u with
  | starNil => cases hw
  | @starCons a' s t hs ht _ iht =>
    cases hr
    cases s with
    | nil => exact iht rfl hw
    | cons c' s' =>
      obtain ⟨rfl, rfl⟩ := List.cons.inj hw
      exact ⟨s', t, rfl, hs, ht⟩
  | _ => cases hr

theorem deriv_iff {r : Re} {c : Char} {s : List Char} : Matches (deriv c r) s ↔ Matches r (c :: s) := by
  induction r generalizing s with
  | empty | eps => simp [deriv, not_matches_empty, matches_eps_iff]
  | cls rs =>
    simp only [deriv]
    by_cases hc : inRanges rs c.toNat = true
    · simp only [hc, if_true]
      constructor
      · intro h; cases h; exact .cls hc
      · intro h; cases h; exact .eps
    · simp only [hc]
      constructor
      · intro h; cases h
      · intro h; cases h with | cls h' => exact absurd h' hc
  | seq a b iha ihb =>
    -- a match of `a b` on `c :: s` takes `c` in `a`, or `a` matches nothing and `c` starts the match of `b`
    have key : Matches (.seq a b) (c :: s) ↔
        (Matches (.seq (deriv c a) b) s ∨ (nullable a = true ∧ Matches (deriv c b) s)) := by
      constructor
      · intro h
        obtain ⟨s1, s2, h1, h2, h12⟩ := matches_seq_iff.mp h
        cases s1 with
        | nil => exact .inr ⟨nullable_iff.mpr h1, ihb.mpr (h12 ▸ h2)⟩
        | cons c' s1' =>
          obtain ⟨rfl, rfl⟩ := List.cons.inj h12
          exact .inl (.seq (iha.mpr h1) h2)
      · rintro (h | h)
        · obtain ⟨s1, s2, h1, h2, rfl⟩ := matches_seq_iff.mp h
          exact Matches.seq (iha.mp h1) h2
        · exact Matches.seq (nullable_iff.mp h.1) (ihb.mp h.2)
    simp only [deriv]
    by_cases hn : nullable a = true
    · rw [if_pos hn, matches_mkAlt, matches_alt_iff, matches_mkSeq, key]; simp [hn]
    · rw [if_neg hn, matches_mkSeq, key]; simp [hn]
  | alt a b iha ihb => simp [deriv, matches_mkAlt, matches_alt_iff, iha, ihb]
  | star a iha =>
    simp only [deriv, matches_mkSeq, matches_seq_iff]
    constructor
    · rintro ⟨s1, s2, h1, h2, rfl⟩
      exact Matches.starCons (iha.mp h1) h2
    · intro h
      obtain ⟨s1, s2, rfl, h1, h2⟩ := star_cons_inv h
      exact ⟨s1, s2, iha.mpr h1, h2, rfl⟩

theorem dmatch_iff {r : Re} {s : List Char} : dmatch r s = true ↔ Matches r s := by
  induction s generalizing r with
  | nil => simp only [dmatch]; exact nullable_iff
  | cons c cs ih => simp only [dmatch]; rw [ih]; exact deriv_iff

theorem inRanges_append {a b : Ranges} {n : Nat} :
    inRanges (a ++ b) n = (inRanges a n || inRanges b n) := by
  simp [inRanges, List.any_append]

theorem alphabet_of_matches {r : Re} {s : List Char} (h : Matches r s) :
    ∀ c ∈ s, inRanges (alphabet r) c.toNat = true := by
  induction h with
  | eps | starNil => intro c hc; cases hc
  | cls hc => intro c' hc'; cases List.mem_singleton.mp hc'; exact hc
  | seq _ _ iha ihb =>
    intro c hc
    rw [alphabet, inRanges_append, Bool.or_eq_true]
    exact (List.mem_append.mp hc).imp (iha c) (ihb c)
  | altL _ ih => intro c hc; rw [alphabet, inRanges_append, Bool.or_eq_true]; exact .inl (ih c hc)
  | altR _ ih => intro c hc; rw [alphabet, inRanges_append, Bool.or_eq_true]; exact .inr (ih c hc)
  | starCons _ _ iha ihb => intro c hc; exact (List.mem_append.mp hc).elim (iha c) (ihb c)

theorem first_of_matches {r : Re} {s : List Char} (h : Matches r s) :
    ∀ c t, s = c :: t → inRanges (firstRanges r) c.toNat = true := by
  induction h with
  | eps | starNil => intro c t h; cases h
  | cls hc => intro c t h; cases h; exact hc
  | @seq a b s1 s2 ha hb iha ihb =>
    intro c t h
    cases s1 with
    | nil =>
      rw [firstRanges, if_pos (nullable_iff.mpr ha), inRanges_append, Bool.or_eq_true]
      exact .inr (ihb c t h)
    | cons c' s1' =>
      obtain ⟨rfl, _⟩ := List.cons.inj h
      have := iha c' s1' rfl
      rw [firstRanges]
      split
      · rw [inRanges_append, Bool.or_eq_true]; exact .inl this
      · exact this
  | altL _ ih => intro c t h; rw [firstRanges, inRanges_append, Bool.or_eq_true]; exact .inl (ih c t h)
  | altR _ ih => intro c t h; rw [firstRanges, inRanges_append, Bool.or_eq_true]; exact .inr (ih c t h)
  | @starCons a s1 s2 ha hb iha ihb =>
    intro c t h
    cases s1 with
    | nil => exact ihb c t h
    | cons c' s1' =>
      obtain ⟨rfl, _⟩ := List.cons.inj h
      exact iha c' s1' rfl

/-- strings made of single characters from `A` and two-character groups `b c` with `b ∈ B`, `c ∈ C` -/
inductive Shape (A B C : Ranges) : List Char → Prop
  | nil : Shape A B C []
  | one {c : Char} {t : List Char} : inRanges A c.toNat = true → Shape A B C t → Shape A B C (c :: t)
  | two {b c : Char} {t : List Char} : inRanges B b.toNat = true → inRanges C c.toNat = true →
      Shape A B C t → Shape A B C (b :: c :: t)

theorem shape_of_star_alt {A B C : Ranges} {s : List Char}
    (h : Matches (.star (.alt (.cls A) (.seq (.cls B) (.cls C)))) s) : Shape A B C s := by
  generalize hr : Re.star (.alt (.cls A) (.seq (.cls B) (.cls C))) = r at h
  induction h with
  | starNil => exact .nil
  | @starCons a' s t hs ht _ iht =>
    cases hr
    have ih := iht rfl
    cases matches_alt_iff.mp hs with
    | inl h1 =>
      obtain ⟨c, rfl, hc⟩ := matches_cls_iff.mp h1
      exact .one hc ih
    | inr h2 =>
      obtain ⟨s1, s2, h1, h2', rfl⟩ := matches_seq_iff.mp h2
      obtain ⟨b, rfl, hb⟩ := matches_cls_iff.mp h1
      obtain ⟨c, rfl, hc⟩ := matches_cls_iff.mp h2'
      exact .two hb hc ih
  | _ => cases hr

theorem matches_star_alt_of_shape {A B C : Ranges} {s : List Char} (h : Shape A B C s) :
    Matches (.star (.alt (.cls A) (.seq (.cls B) (.cls C)))) s := by
  induction h with
  | nil => exact .starNil
  | @one c t hc _ ih =>
    have := Matches.starCons (Matches.altL (b := .seq (.cls B) (.cls C)) (Matches.cls hc)) ih
    simpa using this
  | @two b c t hb hc _ ih =>
    have h2 : Matches (.seq (.cls B) (.cls C)) ([b] ++ [c]) := .seq (.cls hb) (.cls hc)
    have := Matches.starCons (Matches.altR (a := .cls A) h2) ih
    simpa using this

theorem alphabet_pow {a : Re} {n k : Nat} (h : inRanges (alphabet (pow a k)) n = true) :
    inRanges (alphabet a) n = true := by
  induction k with
  | zero => cases h
  | succ k ih =>
    rw [pow, alphabet, inRanges_append, Bool.or_eq_true] at h
    exact h.elim id ih

theorem alphabet_optChain {a : Re} {n k : Nat} (h : inRanges (alphabet (optChain a k)) n = true) :
    inRanges (alphabet a) n = true := by
  induction k with
  | zero => cases h
  | succ k ih =>
    rw [optChain, alphabet, alphabet, alphabet, inRanges_append, inRanges_append,
      Bool.or_eq_true, Bool.or_eq_true] at h
    exact h.elim (fun h => nomatch h) (·.elim id ih)

end Re

namespace Regex

theorem test_iff {r : Regex} {s : List Char} : r.test s = true ↔ r.Matches s := Re.dmatch_iff

theorem alphabet_toRe {r : Regex} {n : Nat} (h : inRanges (Re.alphabet r.toRe) n = true) :
    inRanges (alphabet r) n = true := by
  induction r with
  | empty | eps | cls _ => exact h
  | seq a b iha ihb | alt a b iha ihb =>
    rw [toRe, Re.alphabet, Re.inRanges_append, Bool.or_eq_true] at h
    rw [alphabet, Re.inRanges_append, Bool.or_eq_true]
    exact h.imp iha ihb
  | star a ih => exact ih h
  | plus a ih =>
    rw [toRe, Re.alphabet, Re.inRanges_append, Bool.or_eq_true] at h
    exact h.elim ih ih
  | opt a ih =>
    rw [toRe, Re.alphabet, Re.inRanges_append, Bool.or_eq_true] at h
    exact h.elim (fun h => nomatch h) ih
  | rep a lo hi ih =>
    rw [toRe, Re.alphabet, Re.inRanges_append, Bool.or_eq_true] at h
    exact ih (h.elim Re.alphabet_pow Re.alphabet_optChain)

theorem alphabet_of_matches {r : Regex} {s : List Char} (h : r.Matches s) :
    ∀ c ∈ s, inRanges (alphabet r) c.toNat = true :=
  fun c hc => alphabet_toRe (Re.alphabet_of_matches h c hc)

end Regex

def avoids (rs : Ranges) (bad : List Nat) : Bool := bad.all (fun b => !inRanges rs b)

theorem not_bad_of_avoids {rs : Ranges} {bad : List Nat} (h : avoids rs bad = true) {n : Nat}
    (hn : inRanges rs n = true) : n ∉ bad := by
  intro hb
  have := List.all_eq_true.mp h n hb
  simp [hn] at this

end NGF.Rx
