/-
For C02: `higherPriority` is a strict weak order (a lexicographic chain of measures and the byte-wise string order),
which is what the facts about the stable sort in NGF/Proofs/Sort.lean ask for (`le_trans'`, `le_total'`). A Go `less`
function is a sequence of levels `if x != y { return x < y }`; one lemma per kind of level (`lvlBool`; `lvlInt` and
`lvlLex`, instances of `Sort.ite_level`; `lvlGt` and `lvlLt`, through `lvlInt`) rewrites it into the `lexLt` chain of the order toolkit of NGF/Proofs/Sort.lean (DESIGN Appendix A.10).
`bytes_inj` is here because the byte-wise order is: every stack that compares names through `bytes` imports this file.
-/
import NGF.Model.Pipeline
import NGF.Proofs.Sort

namespace NGF.Precedence
open NGF.Sort (SWO)

theorem lexLt_irrefl : ∀ a : List Nat, lexLt a a = false
  | [] => rfl
  | x :: xs => by simp [lexLt, lexLt_irrefl xs]

theorem lexLt_trans : ∀ a b c : List Nat, lexLt a b = true → lexLt b c = true → lexLt a c = true
  | [], [], _, h, _ => Bool.noConfusion h
  | [], _ :: _, [], _, h => Bool.noConfusion h
  | [], _ :: _, _ :: _, _, _ => rfl
  | _ :: _, [], _, h, _ => Bool.noConfusion h
  | _ :: _, _ :: _, [], _, h => Bool.noConfusion h
  | x :: xs, y :: ys, z :: zs, h1, h2 => by
    simp only [lexLt, Bool.or_eq_true, Bool.and_eq_true, decide_eq_true_eq, beq_iff_eq] at h1 h2 ⊢
    rcases h1 with h1 | ⟨e1, h1⟩ <;> rcases h2 with h2 | ⟨e2, h2⟩
    · exact Or.inl (Nat.lt_trans h1 h2)
    · exact Or.inl (e2 ▸ h1)
    · exact Or.inl (e1 ▸ h2)
    · exact Or.inr ⟨e1.trans e2, lexLt_trans xs ys zs h1 h2⟩

theorem lexLt_tri : ∀ a b : List Nat, lexLt a b = true ∨ a = b ∨ lexLt b a = true
  | [], [] => Or.inr (Or.inl rfl)
  | [], _ :: _ => Or.inl rfl
  | _ :: _, [] => Or.inr (Or.inr rfl)
  | x :: xs, y :: ys => by
    simp only [lexLt, Bool.or_eq_true, Bool.and_eq_true, decide_eq_true_eq, beq_iff_eq, List.cons.injEq]
    rcases Nat.lt_trichotomy x y with h | h | h
    · left; left; exact h
    · rcases lexLt_tri xs ys with t | t | t
      · left; right; exact ⟨h, t⟩
      · right; left; exact ⟨h, t⟩
      · right; right; right; exact ⟨h.symm, t⟩
    · right; right; left; exact h

theorem lexLt_swo : SWO lexLt := SWO.ofStrictTotal lexLt_irrefl lexLt_trans lexLt_tri

theorem eq_of_incomp_lexLt {a b : List Nat} (h : NGF.Sort.Incomp lexLt a b) : a = b := by
  rcases lexLt_tri a b with t | t | t
  · rw [h.1] at t; cases t
  · exact t
  · rw [h.2] at t; cases t

theorem lvlBool (p q rest : Bool) :
    (if p != q then p else rest) =
      (decide ((if p then (0 : Int) else 1) < (if q then 0 else 1)) ||
        (!decide ((if q then (0 : Int) else 1) < (if p then 0 else 1)) && rest)) := by
  cases p <;> cases q <;> simp

theorem lvlInt (x y : Int) (rest : Bool) :
    (if x != y then decide (x < y) else rest) = (decide (x < y) || (!decide (y < x) && rest)) :=
  NGF.Sort.ite_level (fun h => (NGF.Sort.lt_chain_step x y).2 (bne_iff_ne.mp h))
    (fun h => (NGF.Sort.lt_chain_step x y).1 (by simpa using h))

theorem lvlGt (x y : Nat) (rest : Bool) :
    (if x != y then decide (x > y) else rest) =
      (decide (-(x : Int) < -(y : Int)) || (!decide (-(y : Int) < -(x : Int)) && rest)) := by
  have h1 : decide (x > y) = decide (-(x : Int) < -(y : Int)) := decide_eq_decide.mpr (by omega)
  have h2 : (x != y) = (-(x : Int) != -(y : Int)) := by
    rw [Bool.eq_iff_iff]; simp only [bne_iff_ne, ne_eq]; omega
  rw [h1, h2, lvlInt]

theorem lvlLt (x y : Nat) (rest : Bool) :
    (if x != y then decide (x < y) else rest) =
      (decide ((x : Int) < (y : Int)) || (!decide ((y : Int) < (x : Int)) && rest)) := by
  have h1 : decide (x < y) = decide ((x : Int) < y) := decide_eq_decide.mpr (by omega)
  have h2 : (x != y) = ((x : Int) != (y : Int)) := by
    rw [Bool.eq_iff_iff]; simp only [bne_iff_ne, ne_eq]; omega
  rw [h1, h2, lvlInt]

theorem lvlLex (x y : List Nat) (rest : Bool) :
    (if x != y then lexLt x y else rest) = (lexLt x y || (!lexLt y x && rest)) := by
  refine NGF.Sort.ite_level (fun h => ?_) (fun h => ?_)
  · exact (lexLt_tri x y).elim Or.inl fun t => t.elim (fun e => absurd e (bne_iff_ne.mp h)) Or.inr
  · have e : x = y := by simpa using h
    rw [e]; exact ⟨lexLt_irrefl y, lexLt_irrefl y⟩

/-- the shape of `ngfsort.LessObjectMeta`: creation time, then namespace, then name -/
theorem lessMeta_lex (ga gb : Int) (na nb ea eb : List Nat) :
    (if ga == gb then (if na == nb then lexLt ea eb else lexLt na nb) else decide (ga < gb)) =
      (decide (ga < gb) || (!decide (gb < ga) && (lexLt na nb || (!lexLt nb na && lexLt ea eb)))) := by
  have h : (if ga == gb then (if na == nb then lexLt ea eb else lexLt na nb) else decide (ga < gb)) =
      (if ga != gb then decide (ga < gb) else if na != nb then lexLt na nb else lexLt ea eb) := by
    by_cases h1 : ga = gb <;> by_cases h2 : na = nb <;> simp [h1, h2]
  rw [h, lvlInt, lvlLex]

def ltMethod (a b : MatchKey) : Bool := decide ((if a.hasMethod then (0 : Int) else 1) < (if b.hasMethod then 0 else 1))
def ltHeaders (a b : MatchKey) : Bool := decide (-(a.nHeaders : Int) < -(b.nHeaders : Int))
def ltQuery (a b : MatchKey) : Bool := decide (-(a.nQuery : Int) < -(b.nQuery : Int))
def ltAge (a b : MatchKey) : Bool := decide (a.age < b.age)
def ltNs (a b : MatchKey) : Bool := lexLt a.ns b.ns
def ltName (a b : MatchKey) : Bool := lexLt a.name b.name

def chain : MatchKey → MatchKey → Bool :=
  NGF.Sort.lexLt ltMethod (NGF.Sort.lexLt ltHeaders (NGF.Sort.lexLt ltQuery (NGF.Sort.lexLt ltAge (NGF.Sort.lexLt ltNs ltName))))

theorem chain_swo : SWO chain :=
  SWO.lex (SWO.ofMeasure _) (SWO.lex (SWO.ofMeasure _) (SWO.lex (SWO.ofMeasure _)
    (SWO.lex (SWO.ofMeasure _) (SWO.lex (SWO.comap (fun k : MatchKey => k.ns) lexLt_swo)
      (SWO.comap (fun k : MatchKey => k.name) lexLt_swo)))))

theorem lessMeta_eq (a b : MatchKey) :
    lessMeta a b = NGF.Sort.lexLt ltAge (NGF.Sort.lexLt ltNs ltName) a b :=
  lessMeta_lex a.age b.age a.ns b.ns a.name b.name

theorem higherPriority_eq_chain (a b : MatchKey) : higherPriority a b = chain a b := by
  have hm : ∀ R : Bool, (if (a.hasMethod && !b.hasMethod) = true then true
      else if (b.hasMethod && !a.hasMethod) = true then false else R) =
      (if a.hasMethod != b.hasMethod then a.hasMethod else R) := by
    intro R; cases a.hasMethod <;> cases b.hasMethod <;> rfl
  unfold higherPriority
  rw [hm, lvlBool, lvlGt, lvlGt, lessMeta_eq]
  rfl

/-- Ties of `higherPriority` occur only between match rules of one source object: keys neither of which has priority
carry the same (creationTimestamp, namespace, name) -/
theorem higherPriority_incomp {a b : MatchKey} (h : NGF.Sort.Incomp higherPriority a b) :
    a.age = b.age ∧ a.ns = b.ns ∧ a.name = b.name := by
  have hc : higherPriority = chain := funext fun a => funext fun b => higherPriority_eq_chain a b
  rw [hc] at h
  unfold chain at h
  simp only [NGF.Sort.incomp_lexLt] at h
  exact ⟨(NGF.Sort.incomp_ofMeasure (f := MatchKey.age)).mp h.2.2.2.1, eq_of_incomp_lexLt h.2.2.2.2.1,
    eq_of_incomp_lexLt h.2.2.2.2.2⟩

theorem higherPriority_swo : SWO higherPriority := by
  have : higherPriority = chain := funext fun a => funext fun b => higherPriority_eq_chain a b
  rw [this]; exact chain_swo

theorem le_trans' (a b c : MatchKey) : le a b = true → le b c = true → le a c = true :=
  higherPriority_swo.le_trans a b c

theorem le_total' (a b : MatchKey) : (le a b || le b a) = true := higherPriority_swo.le_total a b

end NGF.Precedence

namespace NGF.Pipeline

theorem bytes_inj {a b : Str} (h : bytes a = bytes b) : a = b :=
  (List.map_inj_right (fun _ _ e => Char.toNat_inj.mp e)).mp h

end NGF.Pipeline
