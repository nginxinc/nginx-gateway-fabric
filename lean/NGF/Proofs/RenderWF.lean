/-
`wfDirs (render c)` for a `GoodConf c`, part 2 and assembly: the clauses about one server — duplicate locations (external,
internal and the default root), `$match_key` keys and the internal locations they redirect to, and the variables of
`proxy_pass` (first: how NGINX scans such an argument for variables). The locations of a server are
`locsK key rules root404` for the plain and for the SSL servers, so what depends only on the path rules (distinct
location keys, which keys are used, where the internal locations are) is stated for `locsK`.
-/
import NGF.Proofs.RenderWF1

/-! ### NGINX's variable scan (`NGF.WF.scriptVars`, the model of `ngx_http_script_compile`) on the `proxy_pass` arguments that
Model/Render emits, `http://<upstream>$request_uri` and `http://$<group variable>$request_uri` -/

namespace NGF.Render
open NGF.WF

theorem scriptVarsF_nil (fuel : Nat) : scriptVarsF fuel [] = [] := by
  cases fuel <;> simp [scriptVarsF]

theorem scriptVarsF_skip {c : Char} (hc : c ≠ '$') (fuel : Nat) (rest : List Char) :
    scriptVarsF (fuel + 1) (c :: rest) = scriptVarsF fuel rest :=
  scriptVarsF.eq_6 fuel c rest (fun h => hc h)

theorem scriptVarsF_prefix : ∀ (pre : List Char) (fuel : Nat) (rest : List Char), '$' ∉ pre →
    scriptVarsF (fuel + pre.length) (pre ++ rest) = scriptVarsF fuel rest
  | [], _, _, _ => rfl
  | c :: cs, fuel, rest, h => by
    have hc : c ≠ '$' := fun e => h (e ▸ List.mem_cons_self)
    have hcs : '$' ∉ cs := fun m => h (List.mem_cons_of_mem _ m)
    have : fuel + (c :: cs).length = (fuel + cs.length) + 1 := by simp only [List.length_cons]; omega
    rw [this, List.cons_append, scriptVarsF_skip hc, scriptVarsF_prefix cs fuel rest hcs]

theorem scriptVarsF_var {c : Char} {cs rest : List Char} (fuel : Nat) (hb : c ≠ '{') (hd : (c.isDigit && c != '0') = false)
    (hv : (c :: cs).all isVarChar = true) (hr : rest = [] ∨ ∃ d t, rest = d :: t ∧ isVarChar d = false) :
    scriptVarsF (fuel + 1) ('$' :: (c :: cs) ++ rest) = .name (str (c :: cs)) :: scriptVarsF fuel rest := by
  have htd : ((c :: cs) ++ rest).takeWhile isVarChar = c :: cs ∧ ((c :: cs) ++ rest).dropWhile isVarChar = rest := by
    rcases hr with rfl | ⟨d, t, rfl, hd'⟩
    · have hl := List.all_eq_true.mp hv
      simpa using And.intro (List.takeWhile_append_of_pos (l₂ := []) hl) (List.dropWhile_append_of_pos (l₂ := []) hl)
    · exact takeWhile_dropWhile_stop hv hd'
  rw [List.cons_append, List.cons_append, scriptVarsF.eq_5 fuel c (cs ++ rest) (fun h => hb h)]
  simp only [hd, Bool.false_eq_true, ↓reduceIte]
  have e1 := htd.1
  have e2 := htd.2
  simp only [List.cons_append] at e1 e2
  rw [e1, e2]
  simp

theorem requestURI_scan (n : Nat) : scriptVarsF (n + 13) requestURI = [.name "request_uri"] := by
  have h := scriptVarsF_var (c := 'r') (cs := "equest_uri".toList) (rest := []) (n + 12) (by decide) (by decide) (by decide_chars) (Or.inl rfl)
  rw [scriptVarsF_nil] at h
  have e : requestURI = '$' :: ('r' :: "equest_uri".toList) ++ [] := by
    unfold requestURI; repeat rw [String.toList_ofList]
    rfl
  rw [e]
  exact h

theorem requestURI_head : ∃ t, requestURI = '$' :: t ∧ isVarChar '$' = false := ⟨"request_uri".toList, by unfold requestURI; repeat rw [String.toList_ofList], by decide⟩

/-- `proxy_pass http://<upstream>$request_uri` with an upstream name that contains no `$` -/
theorem scriptVars_upstream {host : List Char} (h : '$' ∉ host) :
    scriptVars ("http://".toList ++ host ++ requestURI) = [.name "request_uri"] := by
  unfold scriptVars
  have hpre : '$' ∉ "http://".toList ++ host := by
    intro hm
    rcases List.mem_append.mp hm with h1 | h1
    · rw [String.toList_ofList] at h1; revert h1; decide +kernel
    · exact h h1
  have hlen : ("http://".toList ++ host ++ requestURI).length + 1 = 13 + ("http://".toList ++ host).length := by
    have : requestURI.length = 12 := by unfold requestURI; rw [String.toList_ofList]; rfl
    simp only [List.length_append, this]; omega
  rw [hlen, scriptVarsF_prefix _ 13 _ hpre]
  exact requestURI_scan 0

/-- `proxy_pass http://$<var>$request_uri` with a variable name `g…` made of `[A-Za-z0-9_]` -/
theorem scriptVars_groupVar {t : List Char} (hv : ('g' :: t).all isVarChar = true) :
    scriptVars ("http://".toList ++ ('$' :: 'g' :: t) ++ requestURI) = [.name (str ('g' :: t)), .name "request_uri"] := by
  unfold scriptVars
  have hlen : ("http://".toList ++ ('$' :: 'g' :: t) ++ requestURI).length + 1 = (t.length + 15) + "http://".toList.length := by
    have : requestURI.length = 12 := by unfold requestURI; rw [String.toList_ofList]; rfl
    have : "http://".toList.length = 7 := by rw [String.toList_ofList]; rfl
    simp only [List.length_append, List.length_cons, *]; omega
  rw [hlen, List.append_assoc, scriptVarsF_prefix _ _ _ (by decide_chars)]
  obtain ⟨u, hu, hnv⟩ := requestURI_head
  have := scriptVarsF_var (c := 'g') (cs := t) (rest := requestURI) (t.length + 14) (by decide) (by decide) hv
    (Or.inr ⟨'$', u, hu, hnv⟩)
  simp only [List.cons_append] at this ⊢
  rw [this]
  have e : t.length + 14 = (t.length + 1) + 13 := by omega
  rw [e, requestURI_scan]

end NGF.Render

namespace NGF.Render
open NGF.Pipeline NGF.Nginx NGF.Mangle NGF.RenderTls

def extKey (k : Bool × Str) : List Char × List Char := if k.1 then ("=".toList, k.2) else ("P".toList, k.2)

theorem locKeyL_ext (k : Bool × Str) (ch : List Dir) : locKeyL (blk "location" (locArgs k) ch) = extKey k := by
  obtain ⟨e, p⟩ := k
  cases e <;> simp [locKeyL, locArgs, extKey, w, wl]

theorem extKey_inj {a b : Bool × Str} (e : extKey a = extKey b) : a = b := by
  obtain ⟨a1, a2⟩ := a
  obtain ⟨b1, b2⟩ := b
  have hne : "=".toList ≠ "P".toList := toList_ne (by simp)
  cases a1 <;> cases b1 <;> simp only [extKey, Bool.false_eq_true, ↓reduceIte, Prod.mk.injEq] at e
  · rw [e.2]
  · exact absurd e.1.symm hne
  · exact absurd e.1 hne
  · rw [e.2]

def intKey (idx : Nat) (jm : Nat × RMatch) : List Char × List Char := ("P".toList, internalLocPath idx jm.1)

def intKeys (r : RRule) : List (List Char × List Char) :=
  match r.act with
  | .njs ms => (enumFrom 0 ms).map (intKey r.idx)
  | .direct _ => []

def ruleKeys (r : RRule) : List (List Char × List Char) := r.ext.map extKey ++ intKeys r

theorem locKeyL_internal (idx : Nat) (jm : Nat × RMatch) : locKeyL (internalLoc idx jm) = intKey idx jm := by
  simp [locKeyL, internalLoc, intKey, wl]

theorem renderRuleK_keys (key : Nat → List Char) (r : RRule) : (renderRuleK key r).map locKeyL = ruleKeys r := by
  unfold renderRuleK ruleKeys intKeys
  cases r.act with
  | direct a => simp [List.map_map, Function.comp_def, locKeyL_ext]
  | njs ms => simp [List.map_map, Function.comp_def, locKeyL_ext, locKeyL_internal]

theorem ext_ne_int {r : RRule} (hshape : ∀ k ∈ r.ext, k.1 = true ∨ k.2.getLast? = some '/') {k : Bool × Str} (hk : k ∈ r.ext)
    (idx : Nat) (jm : Nat × RMatch) : extKey k ≠ intKey idx jm := by
  intro e
  rcases hshape k hk with h | h
  · simp only [extKey, h, ↓reduceIte, intKey, Prod.mk.injEq] at e
    exact toList_ne (by simp) e.1
  · by_cases hk1 : k.1 = true
    · simp only [extKey, hk1, ↓reduceIte, intKey, Prod.mk.injEq] at e
      exact toList_ne (by simp) e.1
    · simp only [extKey, hk1, Bool.false_eq_true, ↓reduceIte, intKey, Prod.mk.injEq] at e
      rw [e.2] at h
      exact internalLocPath_last _ _ h

theorem mem_intKeys {r : RRule} {x : List Char × List Char} (h : x ∈ intKeys r) : ∃ jm, x = intKey r.idx jm := by
  unfold intKeys at h
  cases hact : r.act with
  | direct a => simp [hact] at h
  | njs ms =>
    simp only [hact, List.mem_map] at h
    obtain ⟨jm, _, rfl⟩ := h
    exact ⟨jm, rfl⟩

theorem intKey_inj {i i' : Nat} {a b : Nat × RMatch} (e : intKey i a = intKey i' b) : i = i' ∧ a.1 = b.1 := by
  simp only [intKey, Prod.mk.injEq, true_and] at e
  exact internalLocPath_inj e

theorem ruleKeys_nodup {sv : RServer} (hs : GoodServer sv) {r : RRule} (hr : r ∈ sv.rules) : (ruleKeys r).Nodup := by
  unfold ruleKeys
  rw [List.nodup_append]
  refine ⟨?_, ?_, ?_⟩
  · have hext : r.ext.Nodup := by
      have := hs.ext_nodup
      rw [List.nodup_iff_pairwise_ne, List.pairwise_flatMap] at this
      exact List.nodup_iff_pairwise_ne.mpr (this.1 r hr)
    exact nodup_map_of_inj hext (fun a _ b _ e => extKey_inj e)
  · unfold intKeys
    cases r.act with
    | direct a => simp
    | njs ms =>
      exact nodup_map_of_inj (enumFrom_nodup _ _) (fun a ha b hb e => enumFrom_inj ha hb (intKey_inj e).2)
  · intro x hx y hy e
    obtain ⟨k, hk, rfl⟩ := List.mem_map.mp hx
    obtain ⟨jm, rfl⟩ := mem_intKeys hy
    exact ext_ne_int (hs.ext_shape r hr) hk _ _ e

theorem allKeys_nodup {sv : RServer} (hs : GoodServer sv) : (sv.rules.flatMap ruleKeys).Nodup := by
  apply nodup_flatMap
  · intro r hr; exact ruleKeys_nodup hs hr
  · have hext := hs.ext_nodup
    rw [List.nodup_iff_pairwise_ne, List.pairwise_flatMap] at hext
    refine List.Pairwise.imp_of_mem ?_ (hs.idx_inj.and hext.2)
    intro a b ha hb ⟨hidx, hdis⟩ x hx y hy e
    subst e
    unfold ruleKeys at hx hy
    rcases List.mem_append.mp hx with hx | hx <;> rcases List.mem_append.mp hy with hy | hy
    · obtain ⟨k, hk, rfl⟩ := List.mem_map.mp hx
      obtain ⟨k', hk', e⟩ := List.mem_map.mp hy
      exact hdis k hk k' hk' (extKey_inj e).symm
    · obtain ⟨k, hk, rfl⟩ := List.mem_map.mp hx
      obtain ⟨jm, e⟩ := mem_intKeys hy
      exact ext_ne_int (hs.ext_shape a ha) hk _ _ e
    · obtain ⟨k, hk, rfl⟩ := List.mem_map.mp hy
      obtain ⟨jm, e⟩ := mem_intKeys hx
      exact ext_ne_int (hs.ext_shape b hb) hk _ _ e
    · obtain ⟨jm, e1⟩ := mem_intKeys hx
      obtain ⟨jm', e2⟩ := mem_intKeys hy
      exact hidx (intKey_inj (e1.symm.trans e2)).1

def rootKey : List Char × List Char := ("P".toList, ['/'])

theorem locKeyL_root : locKeyL rootLoc = rootKey := by
  simp [locKeyL, rootLoc, rootKey, w]

theorem rootKey_not_mem {sv : RServer} (hs : GoodServer sv) (hroot : sv.root404 = true) : rootKey ∉ sv.rules.flatMap ruleKeys := by
  intro hm
  obtain ⟨r, hr, hx⟩ := List.mem_flatMap.mp hm
  unfold ruleKeys at hx
  rcases List.mem_append.mp hx with hx | hx
  · obtain ⟨k, hk, e⟩ := List.mem_map.mp hx
    have : k = (false, ['/']) := by
      apply extKey_inj
      rw [e]
      simp [extKey, rootKey]
    exact hs.root_free hroot r hr (this ▸ hk)
  · obtain ⟨jm, e⟩ := mem_intKeys hx
    simp only [rootKey, intKey, Prod.mk.injEq, true_and] at e
    have := internalLocPath_last r.idx jm.1
    rw [← e] at this
    exact this (by decide)

theorem sortRules_perm (rs : List RRule) : (sortRules rs).Perm rs := List.mergeSort_perm _ _

/-- per server no two locations share (modifier, path), the internal ones and the default root included -/
theorem locsK_keys_nodup {sv : RServer} (hs : GoodServer sv) (key : Nat → List Char) :
    ((locsK key sv.rules sv.root404).map locKeyL).Nodup := by
  unfold locsK
  rw [List.map_append, List.map_flatMap]
  simp only [renderRuleK_keys]
  have hperm : ((sortRules sv.rules).flatMap ruleKeys).Perm (sv.rules.flatMap ruleKeys) :=
    (sortRules_perm sv.rules).flatMap_right _
  rw [(hperm.append_right _).nodup_iff, List.nodup_append]
  refine ⟨allKeys_nodup hs, ?_, ?_⟩
  · by_cases hr : sv.root404 = true <;> simp [hr]
  · intro x hx y hy e
    by_cases hr : sv.root404 = true
    · simp only [hr, ↓reduceIte, List.map_cons, List.map_nil, List.mem_singleton, locKeyL_root] at hy
      subst hy; subst e
      exact rootKey_not_mem hs hr hx
    · simp [hr] at hy

theorem serverKeys_nodup {sv : RServer} (hs : GoodServer sv) : ((serverLocs sv).map locKeyL).Nodup :=
  locsK_keys_nodup hs _

variable {key : Nat → List Char} {rules : List RRule} {root404 : Bool}

theorem keyOfDir_dir_ne {n : String} (h : n ≠ "set") (a : List Arg) : keyOfDir (dir n a) = none := by
  unfold keyOfDir
  rw [dir_name, beq_eq_false_iff_ne.mpr (toList_ne h), Bool.false_and, if_neg Bool.false_ne_true]

theorem keyOfDir_set (k : List Char) : keyOfDir (dir "set" [w "$match_key", wl k]) = some k := by
  unfold keyOfDir
  rw [dir_name, beq_self_eq_true, Bool.true_and, arg0_cons, w, beq_self_eq_true, if_pos rfl]
  rfl

theorem actDirs_names {a : RAct} {d : Dir} (h : d ∈ actDirs a) :
    ∃ n ∈ ["proxy_http_version", "proxy_set_header", "proxy_pass", "return"], ∃ args, d = dir n args := by
  cases a with
  | proxy src bs =>
    simp only [actDirs, List.mem_cons, List.mem_append, List.mem_map, List.mem_nil_iff, or_false] at h
    rcases h with (rfl | ⟨hh, _, rfl⟩) | rfl
    · exact ⟨_, .head _, _, rfl⟩
    · exact ⟨_, .tail _ (.head _), _, rfl⟩
    · exact ⟨_, .tail _ (.tail _ (.head _)), _, rfl⟩
  | redirect code scheme host port =>
    simp only [actDirs, List.mem_cons, List.mem_nil_iff, or_false] at h
    rcases h with rfl | rfl
    · exact ⟨_, .tail _ (.tail _ (.tail _ (.head _))), _, rfl⟩
    · exact ⟨_, .head _, _, rfl⟩
  | status code =>
    simp only [actDirs, List.mem_cons, List.mem_nil_iff, or_false] at h
    rcases h with rfl | rfl
    · exact ⟨_, .tail _ (.tail _ (.tail _ (.head _))), _, rfl⟩
    · exact ⟨_, .head _, _, rfl⟩

theorem keys_actDirs (a : RAct) : (actDirs a).filterMap keyOfDir = [] := by
  rw [List.filterMap_eq_nil_iff]
  intro d hd
  obtain ⟨n, hn, args, rfl⟩ := actDirs_names hd
  exact keyOfDir_dir_ne ((by decide : ∀ n ∈ ["proxy_http_version", "proxy_set_header", "proxy_pass", "return"], n ≠ "set") n hn) args

theorem keys_njsDirsK (key : List Char) : (njsDirsK key).filterMap keyOfDir = [key] := by
  unfold njsDirsK httpVersion
  rw [List.filterMap_cons_some (keyOfDir_set _), List.filterMap_cons_none (keyOfDir_dir_ne (by simp) _),
    List.filterMap_cons_none (keyOfDir_dir_ne (by simp) _), List.filterMap_nil]

theorem keys_internal (idx : Nat) (jm : Nat × RMatch) : (body (internalLoc idx jm)).filterMap keyOfDir = [] := by
  rw [internalLoc, body_blk, List.filterMap_cons, keyOfDir_dir_ne (by simp), keys_actDirs]

theorem mem_keysUsed {k : List Char} (h : k ∈ keysUsed (locsK key rules root404)) :
    ∃ r ∈ rules, ∃ ms, r.act = .njs ms ∧ r.ext ≠ [] ∧ k = key r.idx := by
  obtain ⟨d, hd, hk⟩ := List.mem_flatMap.mp h
  rcases mem_locsK hd with ⟨r, hr, hdr⟩ | ⟨_, rfl⟩
  · unfold renderRuleK at hdr
    cases hact : r.act with
    | direct a =>
      simp only [hact, List.mem_map] at hdr
      obtain ⟨_, _, rfl⟩ := hdr
      rw [body_blk, keys_actDirs] at hk
      cases hk
    | njs ms =>
      simp only [hact, List.mem_append, List.mem_map] at hdr
      rcases hdr with ⟨kk, hkk, rfl⟩ | ⟨jm, _, rfl⟩
      · rw [body_blk, keys_njsDirsK] at hk
        exact ⟨r, hr, ms, hact, List.ne_nil_of_mem hkk, List.mem_singleton.mp hk⟩
      · rw [keys_internal] at hk
        cases hk
  · rw [rootLoc, body_blk, keys_actDirs] at hk
    cases hk

def ruleKeyEntry (sid : Nat) (r : RRule) (ms : List RMatch) : List Char × List (List Char) :=
  (matchKey sid r.idx, (enumFrom 0 ms).map fun jm => internalLocPath r.idx jm.1)

theorem matchKeysOf_eq (c : ConfR) :
    matchKeysOf c = c.servers.flatMap fun sv => sv.rules.flatMap fun r =>
      (ruleMatches sv.sid r).map fun km => (km.1, km.2.map (·.redirectPath)) := by
  simp [matchKeysOf, matchesOf, List.map_flatMap]

theorem ruleMatches_keys (sid : Nat) (r : RRule) :
    ((ruleMatches sid r).map fun km => (km.1, km.2.map (·.redirectPath))) =
      match r.act with
      | .njs ms => if r.ext.isEmpty then [] else [ruleKeyEntry sid r ms]
      | .direct _ => [] := by
  unfold ruleMatches
  cases r.act with
  | direct a => rfl
  | njs ms =>
    by_cases he : r.ext.isEmpty = true
    · simp [he]
    · simp [he, ruleKeyEntry, withPath, List.map_map, Function.comp_def]

theorem mem_matchKeysOf {c : ConfR} {sv : RServer} (hsv : sv ∈ c.servers) {r : RRule} (hr : r ∈ sv.rules) {ms : List RMatch}
    (hact : r.act = .njs ms) (hext : r.ext ≠ []) : ruleKeyEntry sv.sid r ms ∈ matchKeysOf c := by
  rw [matchKeysOf_eq]
  refine List.mem_flatMap.mpr ⟨sv, hsv, List.mem_flatMap.mpr ⟨r, hr, ?_⟩⟩
  rw [ruleMatches_keys, hact]
  have : r.ext.isEmpty = false := by cases h : r.ext <;> simp_all
  simp [this]

theorem matchKey_inj {a b c d : Nat} (e : matchKey a b = matchKey c d) : a = c ∧ b = d := by
  unfold matchKey at e
  obtain ⟨h1, h2⟩ := append_sep_inj (not_mem_digits_of_not_isDigit (by decide)) (not_mem_digits_of_not_isDigit (by decide)) e
  exact ⟨digits_injective h1, digits_injective h2⟩

theorem mem_ruleKeys_fst {sid : Nat} {r : RRule} {x : List Char × List (List Char)}
    (h : x ∈ (ruleMatches sid r).map fun km => (km.1, km.2.map (·.redirectPath))) : x.1 = matchKey sid r.idx := by
  rw [ruleMatches_keys] at h
  cases hact : r.act with
  | direct a => simp [hact] at h
  | njs ms =>
    simp only [hact] at h
    by_cases he : r.ext.isEmpty = true
    · simp [he] at h
    · simp only [he, Bool.false_eq_true, ↓reduceIte, List.mem_singleton] at h
      rw [h]; rfl

theorem matchKeys_nodup {c : ConfR} (h : GoodConf c) : ((matchKeysOf c).map (·.1)).Nodup := by
  rw [matchKeysOf_eq, List.map_flatMap]
  apply nodup_flatMap
  · intro sv hsv
    rw [List.map_flatMap]
    apply nodup_flatMap
    · intro r _
      rw [ruleMatches_keys]
      cases r.act with
      | direct a => simp
      | njs ms => by_cases he : r.ext.isEmpty = true <;> simp [he]
    · refine List.Pairwise.imp_of_mem ?_ (h.servers sv hsv).idx_inj
      intro a b _ _ hidx x hx y hy e
      obtain ⟨x', hx', rfl⟩ := List.mem_map.mp hx
      obtain ⟨y', hy', rfl⟩ := List.mem_map.mp hy
      rw [mem_ruleKeys_fst hx', mem_ruleKeys_fst hy'] at e
      exact hidx (matchKey_inj e).2
  · have hsid := h.sids_nodup
    rw [List.nodup_iff_pairwise_ne, List.pairwise_map] at hsid
    refine hsid.imp ?_
    intro a b hne x hx y hy e
    rw [List.map_flatMap] at hx hy
    obtain ⟨r, _, hx⟩ := List.mem_flatMap.mp hx
    obtain ⟨r', _, hy⟩ := List.mem_flatMap.mp hy
    obtain ⟨x', hx', rfl⟩ := List.mem_map.mp hx
    obtain ⟨y', hy', rfl⟩ := List.mem_map.mp hy
    rw [mem_ruleKeys_fst hx', mem_ruleKeys_fst hy'] at e
    exact hne (matchKey_inj e).1

theorem find?_of_nodup_keys {β} : ∀ {l : List (List Char × β)} {k : List Char} {v : β}, (l.map (·.1)).Nodup → (k, v) ∈ l →
    l.find? (·.1 == k) = some (k, v)
  | [], _, _, _, h => by simp at h
  | x :: xs, k, v, hn, h => by
    simp only [List.map_cons, List.nodup_cons] at hn
    rw [List.find?_cons]
    rcases List.mem_cons.mp h with rfl | h'
    · simp
    · have : (x.1 == k) = false := by
        rw [beq_eq_false_iff_ne]
        intro e
        exact hn.1 (e ▸ List.mem_map.mpr ⟨(k, v), h', rfl⟩)
      rw [this]
      exact find?_of_nodup_keys hn.2 h'

theorem isInternal_internalLoc (idx : Nat) (jm : Nat × RMatch) : isInternal (internalLoc idx jm) = true := by
  simp [isInternal, internalLoc]

theorem internal_mem {r : RRule} (hr : r ∈ rules) {ms : List RMatch} (hact : r.act = .njs ms) {jm : Nat × RMatch} (hjm : jm ∈ enumFrom 0 ms) :
    ("P".toList, internalLocPath r.idx jm.1) ∈ ((locsK key rules root404).filter isInternal).map locKeyL := by
  refine List.mem_map.mpr ⟨internalLoc r.idx jm, List.mem_filter.mpr ⟨?_, isInternal_internalLoc _ _⟩, locKeyL_internal _ _⟩
  refine List.mem_append_left _ (List.mem_flatMap.mpr ⟨r, (sortRules_perm rules).mem_iff.mpr hr, ?_⟩)
  unfold renderRuleK
  simp only [hact]
  exact List.mem_append_right _ (List.mem_map.mpr ⟨jm, hjm, rfl⟩)

theorem keyIssues_server {c : ConfR} (h : GoodConf c) {sv : RServer} (hsv : sv ∈ c.servers) :
    keyIssues (matchKeysOf c) (serverLocs sv) = [] := by
  unfold keyIssues
  rw [List.flatMap_eq_nil_iff]
  intro k hk
  obtain ⟨r, hr, ms, hact, hext, rfl⟩ := mem_keysUsed hk
  have hfind := find?_of_nodup_keys (matchKeys_nodup h) (mem_matchKeysOf hsv hr hact hext)
  simp only [hfind]
  rw [List.map_eq_nil_iff, List.filter_eq_nil_iff]
  intro p hp
  obtain ⟨jm, hjm, rfl⟩ := List.mem_map.mp hp
  have hc : (((serverLocs sv).filter isInternal).map locKeyL).contains ("P".toList, internalLocPath r.idx jm.1) = true :=
    List.contains_iff_mem.mpr (internal_mem hr hact hjm)
  simp only [hc, Bool.not_true, Bool.false_eq_true, not_false_eq_true]

theorem named_pass_actDirs (a : RAct) :
    named "proxy_pass" (actDirs a) =
      match a with
      | .proxy src bs => [dir "proxy_pass" [wl (passTarget src bs)]]
      | _ => [] := by
  cases a with
  | proxy src bs =>
    have hh : named "proxy_pass" (baseHeaders.map fun h => dir "proxy_set_header" [w h.1, q h.2.toList]) = [] :=
      named_eq_nil (m := "proxy_set_header") (by simp) fun d hd => by
        obtain ⟨_, _, rfl⟩ := List.mem_map.mp hd
        rfl
    simp only [actDirs, httpVersion, List.cons_append, named_dir_ne, ne_eq, String.reduceEq, not_false_eq_true, named_append,
      hh, named_dir_self, named_nil, List.nil_append]
  | redirect code scheme host port =>
    simp only [actDirs, httpVersion, named_dir_ne, ne_eq, String.reduceEq, not_false_eq_true, named_nil]
  | status code => simp only [actDirs, httpVersion, named_dir_ne, ne_eq, String.reduceEq, not_false_eq_true, named_nil]

theorem invalidBackendRef_no_dollar : '$' ∉ invalidBackendRef := by
  unfold invalidBackendRef
  decide_chars

theorem builtin_request_uri : builtinL.contains "request_uri".toList = true := by
  rw [List.contains_iff_mem]
  exact List.mem_map.mpr ⟨"request_uri", by simp [NGF.WF.builtinHttp], rfl⟩

theorem refIssue_builtin (vars : List (List Char)) (arg : List Char) : refIssue vars arg (.name "request_uri") = [] := by
  simp only [refIssue, builtin_request_uri, Bool.or_true, ↓reduceIte]

theorem refIssue_var {vars : List (List Char)} (arg : List Char) {v : List Char} (h : vars.contains v = true) :
    refIssue vars arg (.name (NGF.WF.str v)) = [] := by
  simp only [refIssue, NGF.WF.str, String.toList_ofList, h, Bool.true_or, ↓reduceIte]

/-- the host part of a `proxy_pass` target: an upstream name, or the variable of the BackendGroup when it is split -/
theorem passHost_cases {src : Src} {bs : List Backend} (ht : ∀ b ∈ bs, '$' ∉ b.target) :
    '$' ∉ passHost src bs ∨ (bs.length > 1 ∧ passHost src bs = '$' :: srcVar src) := by
  match bs, ht with
  | [], _ => exact Or.inl invalidBackendRef_no_dollar
  | [b], ht =>
    simp only [passHost]
    split
    · exact Or.inl invalidBackendRef_no_dollar
    · exact Or.inl (ht b List.mem_cons_self)
  | _ :: _ :: _, _ => exact Or.inr ⟨by simp, rfl⟩

theorem passIssues_good {c : ConfR} {src : Src} {bs : List Backend} (hg : GoodAct c (.proxy src bs)) :
    passIssues ((splitDirs c).map splitVar) (dir "proxy_pass" [wl (passTarget src bs)]) = [] := by
  obtain ⟨htargets, hsafe, hgroup⟩ := hg
  have harg : arg0 (dir "proxy_pass" [wl (passTarget src bs)]) = passTarget src bs := rfl
  unfold passIssues
  rw [harg]
  unfold passTarget
  rcases passHost_cases (src := src) htargets with hh | ⟨hlen, hh⟩
  · rw [scriptVars_upstream hh]
    simp only [List.flatMap_cons, List.flatMap_nil, refIssue_builtin, List.append_nil]
  · obtain ⟨g, hgm, hg1, hg2⟩ := hgroup hlen
    obtain ⟨t, ht⟩ := srcVar_head src
    have hmem : ((splitDirs c).map splitVar).contains ('g' :: t) = true := by
      rw [List.contains_iff_mem, splitVars_eq, ← ht]
      exact List.mem_map.mpr ⟨g, List.mem_filter.mpr ⟨hgm, hg2⟩, by rw [hg1]⟩
    rw [hh, ht, scriptVars_groupVar (ht ▸ srcVar_lexable hsafe)]
    simp only [List.flatMap_cons, List.flatMap_nil, refIssue_builtin, refIssue_var _ hmem, List.append_nil]

theorem mem_locsK_body {l : Dir} (h : l ∈ locsK key rules root404) :
    (∃ r ∈ rules, ∃ a ∈ actsOf r.act, body l = actDirs a ∨ body l = dir "internal" [] :: actDirs a) ∨
    (∃ k, body l = njsDirsK k) ∨ body l = actDirs (.status 404) := by
  rcases mem_locsK h with ⟨r, hr, hd⟩ | ⟨_, rfl⟩
  · unfold renderRuleK at hd
    cases hact : r.act with
    | direct a =>
      simp only [hact, List.mem_map] at hd
      obtain ⟨_, _, rfl⟩ := hd
      exact Or.inl ⟨r, hr, a, by simp [hact, actsOf], Or.inl rfl⟩
    | njs ms =>
      simp only [hact, List.mem_append, List.mem_map] at hd
      rcases hd with ⟨_, _, rfl⟩ | ⟨jm, hjm, rfl⟩
      · exact Or.inr (Or.inl ⟨_, rfl⟩)
      · refine Or.inl ⟨r, hr, jm.2.act, ?_, Or.inr rfl⟩
        simp only [hact, actsOf, List.mem_map]
        exact ⟨jm.2, enumFrom_mem_snd hjm, rfl⟩
  · exact Or.inr (Or.inr rfl)

theorem named_pass_njsDirsK (k : List Char) : named "proxy_pass" (njsDirsK k) = [] := by
  simp only [njsDirsK, httpVersion, named_dir_ne, ne_eq, String.reduceEq, not_false_eq_true, named_nil]

theorem passIssues_server {c : ConfR} (h : GoodConf c) {sv : RServer} (hsv : sv ∈ c.servers) {l : Dir}
    (hl : l ∈ serverLocs sv) : (named "proxy_pass" (body l)).flatMap (passIssues ((splitDirs c).map splitVar)) = [] := by
  have hact : ∀ a, (∃ r ∈ sv.rules, a ∈ actsOf r.act) ∨ a = .status 404 →
      (named "proxy_pass" (actDirs a)).flatMap (passIssues ((splitDirs c).map splitVar)) = [] := by
    intro a ha
    rw [named_pass_actDirs]
    cases a with
    | proxy src bs =>
      rcases ha with ⟨r, hr, ha⟩ | ha
      · simp only [List.flatMap_cons, List.flatMap_nil, List.append_nil]
        exact passIssues_good (h.acts sv hsv r hr _ ha)
      · cases ha
    | redirect _ _ _ _ => rfl
    | status _ => rfl
  rcases mem_locsK_body hl with ⟨r, hr, a, ha, hb | hb⟩ | ⟨k, hb⟩ | hb
  · rw [hb]; exact hact a (Or.inl ⟨r, hr, ha⟩)
  · rw [hb]
    rw [named_dir_ne (by simp)]; exact hact a (Or.inl ⟨r, hr, ha⟩)
  · rw [hb, named_pass_njsDirsK]; rfl
  · rw [hb]; exact hact _ (Or.inr rfl)

theorem serverIssues_noloc (mk : List (List Char × List (List Char))) (vars : List (List Char)) {d : Dir}
    (h : blocksNamed "location" (body d) = []) : serverIssues mk vars d = [] := by
  simp [serverIssues, h, dupIssue, firstDup, keyIssues, keysUsed]

theorem locs_default (p : Nat) : blocksNamed "location" (body (renderDefault p)) = [] := by
  rw [renderDefault, body_blk, blocksNamed_append, blocksNamed_eq_nil (by simp) (listenDirs_names _ _),
    blocksNamed_dir, blocksNamed_dir]
  rfl

theorem locs_unix (sock code : String) : blocksNamed "location" (body (unixServer sock code)) = [] := by
  rw [unixServer, body_blk, blocksNamed_dir, blocksNamed_dir, blocksNamed_dir]
  rfl

theorem locs_tail {d : Dir} (h : d ∈ tailServers) : blocksNamed "location" (body d) = [] := by
  simp only [tailServers, List.mem_cons, List.mem_nil_iff, or_false] at h
  rcases h with rfl | rfl <;> exact locs_unix _ _

theorem serverIssues_server {c : ConfR} (h : GoodConf c) {sv : RServer} (hsv : sv ∈ c.servers) :
    serverIssues (matchKeysOf c) ((splitDirs c).map splitVar) (renderServer sv) = [] := by
  unfold serverIssues
  simp only [locs_of_renderServer]
  rw [dupIssue_eq_nil _ _ (serverKeys_nodup (h.servers sv hsv)), keyIssues_server h hsv, List.nil_append, List.nil_append,
    List.flatMap_eq_nil_iff]
  intro l hl
  exact passIssues_server h hsv hl

theorem wf_of_good {c : ConfR} (h : GoodConf c) : wfDirs (render c) (matchKeysOf c) = [] := by
  unfold wfDirs
  simp only [servers_of_render, splits_of_render]
  rw [dupIssue_eq_nil _ _ (pairs_nodup h), dupIssue_eq_nil _ _ (defaults_nodup h), dupIssue_eq_nil _ _ (splitVars_nodup h)]
  rw [listenIssues_servers h]
  simp only [List.nil_append, List.append_nil, List.append_eq_nil_iff, List.flatMap_eq_nil_iff]
  refine ⟨⟨?_, ?_⟩, ?_⟩
  · intro sc hsc
    rw [lexIssue_splitBlock h hsc]; rfl
  · intro sc hsc
    obtain ⟨g, _, rfl⟩ := List.mem_map.mp hsc
    exact splitIssues_splitBlock g
  · intro d hd
    rcases List.mem_append.mp hd with hd | hd
    · rcases mem_serverDirs.mp hd with ⟨p, _, rfl⟩ | ⟨sv, hsv, rfl⟩
      · exact serverIssues_noloc _ _ (locs_default _)
      · exact serverIssues_server h hsv
    · exact serverIssues_noloc _ _ (locs_tail hd)

end NGF.Render
