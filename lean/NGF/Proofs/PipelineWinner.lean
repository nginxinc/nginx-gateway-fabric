/-
C02, non-interference of Gateways: `processGateways` serves the oldest Gateway of the configured class
(`Pipeline.oldest`, ties: the earlier one). `olderGw` (creationTimestamp, namespace, name) is a strict weak order
(`olderGw_swo`); the served Gateway is an element no other is older than (`oldest_min`); inserting a Gateway at ANY
position changes the result to at most the inserted one (`oldest_insert_mem`), and not at all when the served Gateway is
older than it (`oldest_insert_younger`, `winner_insert_younger_anywhere`).
-/
import NGF.Proofs.PipelineBeats

namespace NGF.Pipeline
open NGF.Precedence
open NGF.Sort (SWO)

def gAge (a b : Gateway) : Bool := decide (a.age < b.age)
def gNs (a b : Gateway) : Bool := lexLt (bytes a.ns) (bytes b.ns)
def gName (a b : Gateway) : Bool := lexLt (bytes a.name) (bytes b.name)

theorem olderGw_eq_lex : olderGw = NGF.Sort.lexLt gAge (NGF.Sort.lexLt gNs gName) := by
  funext a b
  unfold olderGw
  rw [← bytes_beq a.ns]
  exact lessMeta_lex a.age b.age (bytes a.ns) (bytes b.ns) (bytes a.name) (bytes b.name)

/-- `olderGw` is a strict weak order (the requirement of Go's `sort.Slice` on `less`) -/
theorem olderGw_swo : SWO olderGw :=
  olderGw_eq_lex ▸ SWO.lex (SWO.ofMeasure _) (SWO.lex (SWO.comap (fun g : Gateway => bytes g.ns) lexLt_swo)
    (SWO.comap (fun g : Gateway => bytes g.name) lexLt_swo))

theorem olderGw_tri (a b : Gateway) :
    olderGw a b = true ∨ (a.age = b.age ∧ a.ns = b.ns ∧ a.name = b.name) ∨ olderGw b a = true := by
  refine (NGF.Sort.trichotomy olderGw a b).imp_right (Or.imp_left fun h => ?_)
  rw [olderGw_eq_lex, NGF.Sort.incomp_lexLt, NGF.Sort.incomp_lexLt] at h
  exact ⟨(NGF.Sort.incomp_ofMeasure (f := Gateway.age)).mp h.1, bytes_inj (eq_of_incomp_lexLt h.2.1),
    bytes_inj (eq_of_incomp_lexLt h.2.2)⟩

theorem oldest_eq_pick : ∀ l : List Gateway, oldest l = pick olderGw l
  | [] => rfl
  | g :: gs => by
    simp only [oldest, pick, oldest_eq_pick gs]
    cases pick olderGw gs <;> rfl

theorem oldest_none {l : List Gateway} : oldest l = none ↔ l = [] := by rw [oldest_eq_pick]; exact pick_eq_none

theorem oldest_min {l : List Gateway} {m : Gateway} (h : oldest l = some m) : m ∈ l ∧ ∀ x ∈ l, olderGw x m = false :=
  pick_spec olderGw_swo (oldest_eq_pick l ▸ h)

theorem mem_insert_of_mem {α} {t y : α} {a b : List α} (h : t ∈ a ++ b) : t ∈ a ++ y :: b :=
  (List.mem_append.mp h).elim (fun m => List.mem_append.mpr (Or.inl m))
    fun m => List.mem_append.mpr (Or.inr (List.mem_cons_of_mem _ m))

/-- one step of `oldest`, as a function of the result for the tail -/
def pickOlder (t : Option Gateway) (g : Gateway) : Gateway :=
  match t with
  | none => g
  | some b => if olderGw b g then b else g

theorem oldest_cons_pickOlder (g : Gateway) (gs : List Gateway) :
    oldest (g :: gs) = some (pickOlder (oldest gs) g) := by
  unfold pickOlder
  simp only [oldest]
  cases oldest gs with
  | none => rfl
  | some b => by_cases h : olderGw b g = true <;> simp [h]

theorem oldest_insert_mem (y : Gateway) : ∀ (a b : List Gateway),
    oldest (a ++ y :: b) = some y ∨ oldest (a ++ y :: b) = oldest (a ++ b)
  | [], b => by
    simp only [List.nil_append, oldest_cons_pickOlder, pickOlder]
    cases hb : oldest b with
    | none => left; rfl
    | some m =>
      by_cases h : olderGw m y = true
      · right; simp [h]
      · left; simp [h]
  | x :: a, b => by
    simp only [List.cons_append, oldest_cons_pickOlder]
    rcases oldest_insert_mem y a b with h | h
    · rw [h]
      simp only [pickOlder]
      by_cases hyx : olderGw y x = true
      · left; simp [hyx]
      · right
        have hyx' : olderGw y x = false := Bool.eq_false_iff.mpr hyx
        simp only [hyx', Bool.false_eq_true, ↓reduceIte, Option.some.injEq]
        cases ht : oldest (a ++ b) with
        | none => rfl
        | some t =>
          simp only
          by_cases htx : olderGw t x = true
          · -- t is in the new tail, where y is minimal: t is not older than y; with t < x this forces y < x
            exfalso
            have hmin := (oldest_min h).2
            have htm : t ∈ a ++ y :: b := mem_insert_of_mem (oldest_min ht).1
            rcases olderGw_swo.negtrans t y x htx with c | c
            · rw [hmin t htm] at c; cases c
            · rw [hyx'] at c; cases c
          · simp [htx]
    · right; rw [h]

theorem oldest_insert_younger {y g : Gateway} (hy : olderGw g y = true) (a b : List Gateway)
    (h : oldest (a ++ b) = some g) : oldest (a ++ y :: b) = some g := by
  rcases oldest_insert_mem y a b with hi | hi
  · -- y cannot be the result: g is in the new list and older than y
    exfalso
    have hmin := (oldest_min hi).2
    have hgm : g ∈ a ++ y :: b := mem_insert_of_mem (oldest_min h).1
    rw [hmin g hgm] at hy; cases hy
  · rw [hi, h]

theorem winner_insert_younger_anywhere (s : Scenario) (a b : List Gateway) (y g : Gateway)
    (hs : s.gateways = a ++ b) (hw : winner s = some g) (hy : olderGw g y = true) :
    winner { s with gateways := a ++ y :: b } = some g := by
  unfold winner classOurs at *
  by_cases hc : (s.classes.any fun c => c.name == s.cls && c.ctlr == s.ctlr) = true
  · simp only [hc, ↓reduceIte, hs, List.filter_append] at hw ⊢
    by_cases hyc : (y.cls == s.cls) = true
    · simp only [List.filter_cons, hyc, ↓reduceIte]
      exact oldest_insert_younger hy _ _ hw
    · simp only [List.filter_cons, hyc, Bool.false_eq_true, ↓reduceIte]
      exact hw
  · simp [hc] at hw

end NGF.Pipeline
