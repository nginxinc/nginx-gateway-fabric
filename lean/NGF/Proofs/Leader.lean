/-
C09 — the updater before `Enable` (`disabled_exec`: nothing is written, the map keeps one entry per
group and is the not-superseded old entries plus `latest`) and from start-up (`run_decompose`,
`flush_perm_latest`).
-/
import NGF.Model.Leader

namespace NGF.Leader

def keys (s : Saved) : List Group := s.map (·.1)

def NoEnable (ops : List Op) : Prop := ops.any Op.isEnable = false

instance (ops : List Op) : Decidable (NoEnable ops) := by unfold NoEnable; infer_instance

theorem noEnable_cons {op : Op} {ops : List Op} (h : NoEnable (op :: ops)) :
    op.isEnable = false ∧ NoEnable ops := by
  simpa [NoEnable] using h

theorem keys_del (g : Group) (s : Saved) : keys (del g s) = (keys s).filter (· != g) := by
  induction s with
  | nil => rfl
  | cons p t ih =>
    simp only [del, keys] at ih ⊢
    by_cases h : p.1 = g <;> simp [h, ih]

theorem nodup_del {s : Saved} (g : Group) (h : (keys s).Nodup) : (keys (del g s)).Nodup := by
  rw [keys_del]
  exact h.sublist List.filter_sublist

theorem nodup_put {s : Saved} (g : Group) (r : List Req) (h : (keys s).Nodup) :
    (keys (put g r s)).Nodup := by
  have h1 : g ∉ keys (del g s) := by simp [keys_del]
  have h2 := nodup_del g h
  simp only [put, keys, List.map_cons, List.nodup_cons] at *
  exact ⟨h1, h2⟩

theorem del_eq_self {g : Group} {s : Saved} (h : g ∉ keys s) : del g s = s :=
  List.filter_eq_self.2 fun _ hp =>
    bne_iff_ne.2 fun e => h (e ▸ List.mem_map_of_mem (f := (·.1)) hp)

theorem get_none_of_not_mem {g : Group} : ∀ {s : Saved}, g ∉ keys s → get g s = none
  | [], _ => rfl
  | (k, v) :: t, h => by
    have hk : ¬ k = g := fun e => h (e ▸ List.mem_cons_self)
    rw [get, if_neg hk]
    exact get_none_of_not_mem fun hm => h (List.mem_cons_of_mem _ hm)

theorem get_of_mem {g : Group} {r : List Req} : ∀ {s : Saved}, (keys s).Nodup → (g, r) ∈ s →
    get g s = some r
  | [], _, h => by simp at h
  | (k, v) :: t, hn, h => by
    simp only [keys, List.map_cons, List.nodup_cons] at hn
    rcases List.mem_cons.1 h with h | h
    · simp only [Prod.mk.injEq] at h
      simp [get, h.1, h.2]
    · have hk : ¬ k = g := by
        intro e
        subst e
        exact hn.1 (List.mem_map.2 ⟨(k, r), h, rfl⟩)
      simp only [get, hk, if_false]
      exact get_of_mem (by simpa [keys] using hn.2) h

theorem get_some_perm {g : Group} {r : List Req} : ∀ {s : Saved}, (keys s).Nodup →
    get g s = some r → s.Perm ((g, r) :: del g s)
  | [], _, hg => by cases hg
  | (k, v) :: t, hn, hg => by
    rw [keys, List.map_cons, List.nodup_cons] at hn
    by_cases hk : k = g
    · subst hk
      rw [get, if_pos rfl] at hg
      cases hg
      rw [del, List.filter_cons_of_neg (by simp)]
      show ((k, r) :: t).Perm ((k, r) :: del k t)
      rw [del_eq_self hn.1]
    · rw [get, if_neg hk] at hg
      rw [del, List.filter_cons_of_pos (by simpa using hk)]
      exact ((get_some_perm hn.2 hg).cons _).trans (List.Perm.swap _ _ _)

theorem flush_perm : ∀ (o : List Group) (s : Saved), (keys s).Nodup → (flush o s).Perm s
  | [], s, _ => by simp [flush]
  | g :: gs, s, hn => by
    simp only [flush]
    cases hg : get g s with
    | none => exact flush_perm gs s hn
    | some r =>
      exact (List.Perm.cons _ (flush_perm gs (del g s) (nodup_del g hn))).trans
        (get_some_perm hn hg).symm

theorem run_append (s : LState) (a b : List Op) :
    run s (a ++ b) = run s a ++ run (exec s a) b := by
  induction a generalizing s with
  | nil => rfl
  | cons op a ih => simp [run, exec, ih]

theorem exec_append (s : LState) (a b : List Op) : exec s (a ++ b) = exec (exec s a) b := by
  induction a generalizing s with
  | nil => rfl
  | cons op a ih => simp [exec, ih]

theorem run_length (s : LState) (ops : List Op) : (run s ops).length = ops.length := by
  induction ops generalizing s with
  | nil => rfl
  | cons op ops ih => simp [run, ih]

theorem enabled_step {s : LState} (h : s.enabled = true) (op : Op) :
    step s op = (s, after op) := by
  cases op <;> simp [step, after, h]

theorem enabled_exec {s : LState} (h : s.enabled = true) (ops : List Op) : exec s ops = s := by
  induction ops with
  | nil => rfl
  | cons op ops ih => simp [exec, enabled_step h, ih]

theorem enabled_run {s : LState} (h : s.enabled = true) (ops : List Op) :
    run s ops = ops.map after := by
  induction ops with
  | nil => rfl
  | cons op ops ih => simp [run, enabled_step h, ih]

theorem disabled_update {s : LState} (h : s.enabled = false) (g : Group) (r : List Req) :
    step s (.update g r) =
      ({ enabled := false, saved := if r.isEmpty then del g s.saved else put g r s.saved },
       .writes []) := by
  cases s with
  | mk e sv =>
    simp only at h
    subst h
    by_cases hr : r.isEmpty = true <;> simp [step, hr]

theorem superseded_cons_update (k g : Group) (r : List Req) (rest : List Op) :
    superseded k (.update g r :: rest) = (g == k || superseded k rest) := by
  simp [superseded]

theorem mem_latest_cons_update (g g' : Group) (r r' : List Req) (ops : List Op) :
    (g, r) ∈ latest (.update g' r' :: ops) ↔
      (g' = g ∧ r' = r ∧ superseded g ops = false ∧ r ≠ []) ∨ (g, r) ∈ latest ops := by
  rw [latest]
  split
  · next h =>
    refine ⟨.inr, ?_⟩
    rintro (⟨rfl, rfl, hs, hr⟩ | h')
    · simp [hs, hr] at h
    · exact h'
  · next h =>
    simp only [Bool.or_eq_true, not_or, Bool.not_eq_true, List.isEmpty_eq_false_iff] at h
    rw [List.mem_cons, Prod.mk.injEq]
    constructor
    · rintro (⟨rfl, rfl⟩ | h')
      · exact .inl ⟨rfl, rfl, h.1, h.2⟩
      · exact .inr h'
    · rintro (⟨rfl, rfl, _⟩ | h')
      · exact .inl ⟨rfl, rfl⟩
      · exact .inr h'

theorem exists_cons_eq_append {α : Type} {P : List α → Prop} (x y : α) (l : List α) :
    (∃ a b, x :: l = a ++ y :: b ∧ P b) ↔ (x = y ∧ P l) ∨ ∃ a b, l = a ++ y :: b ∧ P b := by
  constructor
  · rintro ⟨a, b, e, hp⟩
    cases a with
    | nil => obtain ⟨rfl, rfl⟩ := List.cons.inj e; exact .inl ⟨rfl, hp⟩
    | cons z a => exact .inr ⟨a, b, (List.cons.inj e).2, hp⟩
  · rintro (⟨rfl, hp⟩ | ⟨a, b, rfl, hp⟩)
    · exact ⟨[], l, rfl, hp⟩
    · exact ⟨x :: a, b, rfl, hp⟩

/-- `latest` is what the statement says: `(g, r)` is in it iff `r` is a non-empty submission to `g`
after which `pre` contains no further submission to `g`. -/
theorem mem_latest_iff (g : Group) (r : List Req) : ∀ (pre : List Op),
    (g, r) ∈ latest pre ↔
      ∃ a b, pre = a ++ .update g r :: b ∧ superseded g b = false ∧ r ≠ []
  | [] => by simp [latest]
  | .enable o :: ops => by
    rw [exists_cons_eq_append, ← mem_latest_iff g r ops]
    simp [latest]
  | .update g' r' :: ops => by
    rw [exists_cons_eq_append, ← mem_latest_iff g r ops, mem_latest_cons_update]
    simp [and_assoc]

theorem filter_del_superseded (g : Group) (r : List Req) (rest : List Op) (sv : Saved) :
    (del g sv).filter (fun p => !superseded p.1 rest) =
      sv.filter (fun p => !superseded p.1 (.update g r :: rest)) := by
  simp only [del, List.filter_filter]
  apply List.filter_congr
  intro p _
  rw [superseded_cons_update]
  by_cases h : p.1 = g
  · simp [h]
  · have e1 : (p.1 != g) = true := by simpa using h
    have e2 : (g == p.1) = false := by
      simp only [beq_eq_false_iff_ne, ne_eq]
      exact fun e => h e.symm
    cases superseded p.1 rest <;> simp [e1, e2]

/-- Before `Enable`: nothing is written, the replica stays disabled, the map keeps one entry per group
and holds exactly the not-superseded old entries plus `latest` of the new submissions. -/
theorem disabled_exec : ∀ (pre : List Op) (s : LState), s.enabled = false → NoEnable pre →
    (keys s.saved).Nodup →
    (exec s pre).enabled = false ∧ (keys (exec s pre).saved).Nodup ∧
    run s pre = pre.map (fun _ => Out.writes []) ∧
    (exec s pre).saved.Perm (s.saved.filter (fun p => !superseded p.1 pre) ++ latest pre)
  | [], s, he, _, hn => by
    refine ⟨he, hn, rfl, ?_⟩
    have : s.saved.filter (fun p => !superseded p.1 []) = s.saved :=
      List.filter_eq_self.2 (by simp [superseded])
    simp [exec, latest, this]
  | .enable o :: rest, _, _, hp, _ => by
    have := (noEnable_cons hp).1
    simp [Op.isEnable] at this
  | .update g r :: rest, s, he, hp, hn => by
    have hrest := (noEnable_cons hp).2
    have hstep := disabled_update he g r
    let sv' : Saved := if r.isEmpty then del g s.saved else put g r s.saved
    have hn' : (keys sv').Nodup := by
      by_cases hr : r.isEmpty = true
      · simpa [sv', hr] using nodup_del g hn
      · simpa [sv', hr] using nodup_put g r hn
    obtain ⟨e', n', r', p'⟩ :=
      disabled_exec rest { enabled := false, saved := sv' } rfl hrest hn'
    simp only [exec, run, hstep, List.map_cons]
    refine ⟨e', n', by rw [r'], ?_⟩
    refine p'.trans ?_
    by_cases hr : r.isEmpty = true
    · -- an empty submission clears the entry and contributes nothing
      simp only [sv', hr, if_true, latest, Bool.or_true]
      rw [filter_del_superseded g r rest s.saved]
    · have hr' : r.isEmpty = false := by simpa using hr
      simp only [sv', hr', Bool.false_eq_true, if_false, put, Bool.or_false, latest]
      by_cases hs : superseded g rest = true
      · rw [List.filter_cons_of_neg (by simp [hs])]
        rw [filter_del_superseded g r rest s.saved]
        simp [hs]
      · have hs' : superseded g rest = false := by simpa using hs
        rw [List.filter_cons_of_pos (by simp [hs'])]
        rw [filter_del_superseded g r rest s.saved]
        simp only [hs', Bool.false_eq_true, if_false]
        exact List.perm_middle.symm

theorem superseded_of_mem_latest {g : Group} {r : List Req} :
    ∀ {ops : List Op}, (g, r) ∈ latest ops → superseded g ops = true
  | [], h => by simp [latest] at h
  | .enable _ :: ops, h => by
    have := superseded_of_mem_latest (ops := ops) h
    simpa [superseded] using this
  | .update g' r' :: ops, h => by
    rw [superseded_cons_update]
    rcases (mem_latest_cons_update g g' r r' ops).1 h with ⟨rfl, _⟩ | h
    · simp
    · simp [superseded_of_mem_latest h]

theorem latest_keys_nodup : ∀ (ops : List Op), (keys (latest ops)).Nodup
  | [] => by simp [latest, keys]
  | .enable _ :: ops => latest_keys_nodup ops
  | .update g r :: ops => by
    rw [latest]
    split
    · exact latest_keys_nodup ops
    · next hc =>
      refine List.nodup_cons.2 ⟨fun hm => ?_, latest_keys_nodup ops⟩
      obtain ⟨⟨_, r'⟩, hm', rfl⟩ := List.mem_map.1 hm
      simp [superseded_of_mem_latest hm'] at hc

theorem disabled_exec_init (pre : List Op) (h : NoEnable pre) :
    (exec init pre).enabled = false ∧ (keys (exec init pre).saved).Nodup ∧
    run init pre = pre.map (fun _ => Out.writes []) ∧ (exec init pre).saved.Perm (latest pre) := by
  exact disabled_exec pre init rfl h List.nodup_nil

theorem run_of_noEnable (pre : List Op) (h : NoEnable pre) :
    run init pre = pre.map (fun _ => Out.writes []) :=
  (disabled_exec_init pre h).2.2.1

/-- The whole behaviour in one equation: for every history `pre ++ [Enable] ++ post` in which `pre`
contains no `Enable`, nothing is written during `pre`, `Enable` flushes the saved map, and every
operation of `post` is performed immediately. -/
theorem run_decompose (pre : List Op) (o : List Group) (post : List Op) (h : NoEnable pre) :
    run init (pre ++ .enable o :: post) =
      pre.map (fun _ => Out.writes []) ++
        Out.writes (flush o (exec init pre).saved) :: post.map after := by
  obtain ⟨he, _, hr, _⟩ := disabled_exec_init pre h
  rw [run_append, hr]
  congr 1
  have hs : step (exec init pre) (.enable o) =
      ({ enabled := true, saved := [] }, Out.writes (flush o (exec init pre).saved)) := by
    simp [step, he]
  simp only [run, hs]
  rw [enabled_run rfl]

theorem flush_perm_latest (pre : List Op) (o : List Group) (h : NoEnable pre) :
    (flush o (exec init pre).saved).Perm (latest pre) :=
  have ⟨_, hn, _, hp⟩ := disabled_exec_init pre h
  (flush_perm o _ hn).trans hp

theorem flush_keys_nodup (pre : List Op) (o : List Group) (h : NoEnable pre) :
    (keys (flush o (exec init pre).saved)).Nodup :=
  ((flush_perm_latest pre o h).map _).nodup_iff.2 (latest_keys_nodup pre)

theorem allWrites_nothing (pre : List Op) :
    allWrites (pre.map (fun _ => Out.writes [])) = [] := by
  induction pre with
  | nil => rfl
  | cons _ t ih => simp [allWrites]

theorem allWrites_after (post : List Op) : allWrites (post.map after) = submissions post := by
  induction post with
  | nil => rfl
  | cons op t ih =>
    cases op <;> simp_all [allWrites, submissions, after]

end NGF.Leader
