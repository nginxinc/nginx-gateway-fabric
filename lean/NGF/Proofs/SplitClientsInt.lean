/-
C15, the integer algorithm of `createSplitClientDistributions` (`intCents`): the floors sum to at most 100.00, the
remainder is smaller than the number of backends and goes to one backend of non-zero weight; and the way from a route
rule's backendRefs to the backends the generator sees. Core Lean only.
-/
import NGF.Model.SplitClients

namespace NGF.SplitClients

theorem floorCents_spec (T w : Nat) (hT : 0 < T) :
    floorCents T w * T ≤ 10000 * w ∧ 10000 * w + 1 ≤ (floorCents T w + 1) * T := by
  unfold floorCents
  have h1 := Nat.div_mul_le_self (10000 * w) T
  have h2 := Nat.lt_mul_div_succ (10000 * w) hT
  rw [Nat.mul_comm T] at h2
  omega

theorem floorCents_zero (T : Nat) : floorCents T 0 = 0 := by simp [floorCents]

theorem floors_sum (T : Nat) (hT : 0 < T) (ws : List Nat) :
    (ws.map (floorCents T)).sum * T ≤ 10000 * ws.sum ∧
    10000 * ws.sum + ws.length ≤ ((ws.map (floorCents T)).sum + ws.length) * T := by
  induction ws with
  | nil => simp
  | cons w t ih =>
    have := floorCents_spec T w hT
    simp only [List.map_cons, List.sum_cons, List.length_cons, Nat.add_mul, Nat.mul_add, Nat.one_mul] at *
    omega

theorem addToLastNonZero_eq (r : Nat) : ∀ (ws cs : List Nat),
    addToLastNonZero r ws cs = cs ∨ ∃ k, ∃ (h : k < cs.length) (hw : k < ws.length),
      ws[k] ≠ 0 ∧ addToLastNonZero r ws cs = cs.set k (cs[k] + r)
  | w :: ws, c :: cs => by
    simp only [addToLastNonZero]
    split
    · rename_i hc
      simp only [Bool.and_eq_true, bne_iff_ne, ne_eq] at hc
      exact .inr ⟨0, Nat.zero_lt_succ _, Nat.zero_lt_succ _, hc.2, rfl⟩
    · rcases addToLastNonZero_eq r ws cs with h | ⟨k, h, hw, hne, e⟩
      · exact .inl (by rw [h])
      · exact .inr ⟨k + 1, Nat.succ_lt_succ h, Nat.succ_lt_succ hw, hne, by rw [e]; rfl⟩
  | [], _ => .inl rfl
  | _ :: _, [] => .inl rfl

theorem addToLastNonZero_sum (r : Nat) : ∀ (ws cs : List Nat), ws.length = cs.length → 0 < ws.sum →
    (addToLastNonZero r ws cs).sum = cs.sum + r
  | [], [], _, h => by simp at h
  | w :: ws, c :: cs, hl, h => by
    simp only [addToLastNonZero]
    split
    · simp only [List.sum_cons]; omega
    · rename_i hc
      simp only [Bool.and_eq_true, bne_iff_ne, ne_eq, not_and, Decidable.not_not, List.all_eq_true, beq_iff_eq] at hc
      have hpos : 0 < ws.sum := by
        apply Nat.pos_of_ne_zero
        intro h0
        rw [hc (List.sum_eq_zero_iff_forall_eq_nat.mp h0), List.sum_cons, h0] at h
        exact Nat.lt_irrefl _ h
      simp only [List.sum_cons, addToLastNonZero_sum r ws cs (by simpa using hl) hpos]; omega
  | [], _ :: _, h, _ => by simp at h
  | _ :: _, [], h, _ => by simp at h

/-- the entry that receives the remainder `R` (with `R·T ≤ m·T`) is still above its exact share and within the budget -/
theorem bumped_bounds {c w T R m : Nat} (g1 : c * T ≤ 10000 * w) (g2 : 10000 * w < (c + 1) * T)
    (hR : R * T ≤ m * T) : 10000 * w < (c + R + 1) * T ∧ (c + R) * T ≤ 10000 * w + m * T := by
  simp only [Nat.add_mul] at *
  omega

/-- all clauses of C15 hold for every weight vector with a positive total
(no bound on the number of backends or on the weights is needed). -/
theorem intCents_main (ws : List Nat) (hpos : 0 < ws.sum) :
    (intCents ws).length = ws.length ∧ (intCents ws).sum = 10000 ∧
    ∀ (i : Nat) (hi : i < ws.length), ∃ c, (intCents ws)[i]? = some c ∧
      (ws[i] = 0 → c = 0) ∧
      10000 * ws[i] < (c + 1) * ws.sum ∧
      c * ws.sum ≤ 10000 * ws[i] + (ws.length - 1) * ws.sum := by
  have hs := addToLastNonZero_sum (10000 - (ws.map (floorCents ws.sum)).sum) ws
    (ws.map (floorCents ws.sum)) (by simp) hpos
  obtain ⟨f1, f2⟩ := floors_sum ws.sum hpos ws
  have hS : (ws.map (floorCents ws.sum)).sum ≤ 10000 :=
    Nat.le_of_mul_le_mul_right f1 hpos
  have hn : 1 ≤ ws.length := by
    cases ws with
    | nil => simp at hpos
    | cons _ _ => simp
  -- the remainder `R` is less than the number of backends
  generalize hR : 10000 - (ws.map (floorCents ws.sum)).sum = R at *
  have hRT : R * ws.sum + (ws.map (floorCents ws.sum)).sum * ws.sum = 10000 * ws.sum := by
    rw [← Nat.add_mul]; congr 1; omega
  rw [Nat.add_mul] at f2
  have hRn : R * ws.sum ≤ (ws.length - 1) * ws.sum := by
    apply Nat.mul_le_mul_right
    have : R * ws.sum < ws.length * ws.sum := by omega
    have := Nat.lt_of_mul_lt_mul_right this
    omega
  have floor_ok : ∀ (i : Nat) (hi : i < ws.length), ∃ c, (ws.map (floorCents ws.sum))[i]? = some c ∧
      (ws[i] = 0 → c = 0) ∧ 10000 * ws[i] < (c + 1) * ws.sum ∧ c * ws.sum ≤ 10000 * ws[i] := by
    intro i hi
    obtain ⟨g1, g2⟩ := floorCents_spec ws.sum ws[i] hpos
    exact ⟨_, by rw [List.getElem?_map, List.getElem?_eq_getElem hi]; rfl,
      fun hz => by rw [hz, floorCents_zero], g2, g1⟩
  unfold intCents
  simp only [hR] at hs ⊢
  refine ⟨?_, by omega, ?_⟩
  · rcases addToLastNonZero_eq R ws (ws.map (floorCents ws.sum)) with e | ⟨k, _, _, _, e⟩ <;> rw [e] <;> simp
  · intro i hi
    obtain ⟨c, g0, g1, g2, g3⟩ := floor_ok i hi
    rcases addToLastNonZero_eq R ws (ws.map (floorCents ws.sum)) with e | ⟨k, hk, hw, hne, e⟩
    · rw [e]; exact ⟨c, g0, g1, g2, Nat.le_trans g3 (Nat.le_add_right _ _)⟩
    · rw [e, List.getElem?_set]
      by_cases hki : k = i
      · subst hki
        rw [if_pos rfl, if_pos hk]
        have : (ws.map (floorCents ws.sum))[k] = c := by
          rw [List.getElem?_eq_getElem hk] at g0; exact Option.some.inj g0
        rw [this]
        exact ⟨c + R, rfl, fun hz => absurd hz hne, bumped_bounds g3 g2 hRn⟩
      · rw [if_neg hki]; exact ⟨c, g0, g1, g2, Nat.le_trans g3 (Nat.le_add_right _ _)⟩

theorem mkDists_spec : ∀ (bs : List Backend) (cs : List Nat), bs.length = cs.length →
    (mkDists bs cs).map (·.value) = bs.map value ∧
    (mkDists bs cs).map (·.pct) = (cs.map centsDec).map Pct.dec
  | [], [], _ => by simp [mkDists]
  | b :: bs, c :: cs, h => by
    have ih := mkDists_spec bs cs (by simpa using h)
    simp only [mkDists, List.map_cons, ih.1, ih.2, and_self]
  | [], _ :: _, h => by simp at h
  | _ :: _, [], h => by simp at h

/-- the spec weight of a backendRef as the Gateway API defines it: 1 when unset -/
def SpecRef.specWeight (s : SpecRef) : Nat := (s.weight.getD 1).toNat

/-- the spec is inside the quantifier of C15: every weight is unset or in [0, 10⁶] -/
def SpecRef.admissible (s : SpecRef) : Prop :=
  match s.weight with
  | none => True
  | some w => 0 ≤ w ∧ w ≤ 1000000

theorem newBackendGroup_preserves (refs : List GraphRef) :
    (newBackendGroup refs).length = refs.length ∧
    (newBackendGroup refs).map (·.weight) = refs.map (·.weight.toNat) ∧
    (newBackendGroup refs).map (·.valid) = refs.map (·.valid) ∧
    (newBackendGroup refs).map value = refs.map (fun g => if g.valid then g.svcPort else invalidBackendRef) := by
  induction refs with
  | nil => simp [newBackendGroup]
  | cons g t ih =>
    obtain ⟨h1, h2, h3, h4⟩ := ih
    simp only [newBackendGroup, List.map_cons, List.length_cons, List.length_map, List.map_map] at *
    refine ⟨trivial, ?_, ?_, ?_⟩
    · rw [h2]
    · rw [h3]
    · rw [h4]
      cases hv : g.valid <;> simp [value, GraphRef.servicePortReference, hv]

theorem createBackendRef_admissible (s : SpecRef) (h : s.admissible) :
    (createBackendRef s).weight.toNat = s.specWeight ∧ (createBackendRef s).valid = s.resolves ∧
    (createBackendRef s).svcPort = s.target := by
  obtain ⟨w, r, t⟩ := s
  cases w with
  | none => simp [createBackendRef, effectiveWeight, SpecRef.specWeight]
  | some w =>
    simp only [SpecRef.admissible] at h
    simp [createBackendRef, effectiveWeight, SpecRef.specWeight, h]

theorem ruleBackends_spec (spec : List SpecRef) (h : ∀ s ∈ spec, s.admissible) :
    (ruleBackends spec).length = spec.length ∧
    (ruleBackends spec).map (·.weight) = spec.map (·.specWeight) ∧
    (ruleBackends spec).map (·.valid) = spec.map (·.resolves) ∧
    (ruleBackends spec).map value = spec.map (fun s => if s.resolves then s.target else invalidBackendRef) := by
  obtain ⟨h1, h2, h3, h4⟩ := newBackendGroup_preserves (spec.map createBackendRef)
  unfold ruleBackends
  refine ⟨by simpa using h1, ?_, ?_, ?_⟩
  · rw [h2, List.map_map]
    apply List.map_congr_left
    intro s hs; exact (createBackendRef_admissible s (h s hs)).1
  · rw [h3, List.map_map]
    apply List.map_congr_left
    intro s hs; exact (createBackendRef_admissible s (h s hs)).2.1
  · rw [h4, List.map_map]
    apply List.map_congr_left
    intro s hs
    obtain ⟨_, a, b⟩ := createBackendRef_admissible s (h s hs)
    simp [a, b]

end NGF.SplitClients
