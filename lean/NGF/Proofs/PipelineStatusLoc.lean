/-
C07, fragment stage — the last link of "Accepted ⇔ served": a match rule in `Pipeline.entries` for (port, host) shows up as a
LOCATION of the generated server `Pipeline.serverOf entries port host` that carries the match and its action (directly, for a
single path-only match, or as an element of the njs match list). Uses the location scheme lemma `Locations.mem_genLocs`.
-/
import NGF.Model.PipelineStatus
import NGF.Proofs.Locations

namespace NGF.PipelineStatus
open NGF.Pipeline NGF.Precedence

/-- location `cl` (of a server on `port`) carries match `m` with action `a` -/
def locCarries (port : Nat) (cl : CLoc) (m : Match) (a : Action) : Prop :=
  (isPathOnly m = true ∧ cl.act = .direct (actOf port a)) ∨ ∃ ms, cl.act = .njs ms ∧ (njsMatchOf m, actOf port a) ∈ ms

theorem ruleAct_carries (port : Nat) (mrs : List Entry) (e : Entry) (he : e ∈ mrs) :
    (isPathOnly e.m = true ∧ ruleAct port mrs = .direct (actOf port e.action)) ∨
      ∃ ms, ruleAct port mrs = .njs ms ∧ (njsMatchOf e.m, actOf port e.action) ∈ ms := by
  unfold ruleAct
  match mrs, he with
  | [e'], he =>
    simp only [List.mem_singleton] at he
    subst he
    by_cases hp : isPathOnly e.m = true
    · left; simp [hp]
    · right; simp [hp]
  | [], he => cases he
  | a :: b :: rest, he =>
    right
    exact ⟨_, rfl, List.mem_map.mpr ⟨e, he, rfl⟩⟩

theorem extLocs_nonempty (rules : List PathRule) (i : Nat) (r : PathRule)
    (hno : ∀ x ∈ rules, x.isPrefix = true → x.path ≠ r.path ++ ['/']) :
    ∃ gl ∈ extLocs rules i r, gl.rule = i ∧ (gl.path = r.path ∨ gl.path = r.path ++ ['/']) := by
  unfold extLocs
  by_cases h1 : (r.isPrefix && !endsSlash r.path) = true
  · simp only [h1, if_true]
    have hs : hasPrefix rules (r.path ++ ['/']) = false := by
      unfold hasPrefix
      rw [List.any_eq_false]
      intro x hx hc
      simp only [Bool.and_eq_true, beq_iff_eq] at hc
      exact hno x hx hc.1 hc.2
    simp only [hs, Bool.and_false, Bool.false_eq_true, if_false, Bool.not_false, if_true]
    exact ⟨⟨false, r.path ++ ['/'], i⟩, by simp, rfl, Or.inr rfl⟩
  · simp only [h1]
    exact ⟨_, List.mem_singleton.mpr rfl, rfl, Or.inl rfl⟩

theorem serverOf_carries (es : List Entry) (port : Nat) (h : Pipeline.Str) (e : Entry) (he : e ∈ es) (hport : e.port = port)
    (hhost : e.host = h)
    (hok : ∀ x ∈ es, x.m.exact = false → x.m.path ≠ e.m.path ++ ['/']) :
    ∃ cl ∈ (serverOf es port h).locs, locCarries port cl e.m e.action ∧ (cl.path = e.m.path ∨ cl.path = e.m.path ++ ['/']) := by
  unfold serverOf
  simp only
  generalize hmine : (es.filter fun x => x.port == port && x.host == h) = mine
  have hemine : e ∈ mine := by
    rw [← hmine]; exact List.mem_filter.mpr ⟨he, by simp [hport, hhost]⟩
  generalize hkeys : (mine.map pathKey).eraseDups = keys
  have hk : pathKey e ∈ keys := by
    rw [← hkeys, List.mem_eraseDups]; exact List.mem_map.mpr ⟨e, hemine, rfl⟩
  obtain ⟨i, hi⟩ := List.getElem?_of_mem hk
  let rules : List PathRule := keys.map fun k => ⟨k.2, !k.1⟩
  have hri : rules[i]? = some ⟨(pathKey e).2, !(pathKey e).1⟩ := by simp [rules, hi]
  have hno : ∀ x ∈ rules, x.isPrefix = true → x.path ≠ (⟨(pathKey e).2, !(pathKey e).1⟩ : PathRule).path ++ ['/'] := by
    intro x hx hpre
    obtain ⟨k, hkm, rfl⟩ := List.mem_map.mp hx
    rw [← hkeys, List.mem_eraseDups] at hkm
    obtain ⟨y, hy, rfl⟩ := List.mem_map.mp hkm
    have hyes : y ∈ es := by rw [← hmine] at hy; exact (List.mem_filter.mp hy).1
    simp only [pathKey, Bool.not_eq_eq_eq_not, Bool.not_true] at hpre
    exact hok y hyes hpre
  obtain ⟨gl, hgl, hrule, hpath⟩ := extLocs_nonempty rules i _ hno
  have hmem : gl ∈ genLocs rules := NGF.Locations.mem_genLocs.mpr (Or.inl ⟨i, _, hri, hgl⟩)
  refine ⟨_, List.mem_map.mpr ⟨gl, hmem, rfl⟩, ?_, ?_⟩
  · rw [hrule, hi]
    simp only
    have hin : e ∈ sortEntries (mine.filter fun x => pathKey x == pathKey e) := by
      unfold sortEntries
      rw [List.mem_mergeSort]
      exact List.mem_filter.mpr ⟨hemine, by simp⟩
    exact ruleAct_carries port _ e hin
  · rw [hrule, hi]
    simpa [pathKey] using hpath

end NGF.PipelineStatus
