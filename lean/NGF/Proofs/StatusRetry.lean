/-
C08 — one invocation of a setter (`invoke_*`, `submission_spec`) and the retry loop. One attempt has three shapes (`attempt_cases`); `runLive` is the loop the driver runs, with other
writers editing the object between attempts, `runRetry` its edit-free special case (`runLive_no_edits`). What holds of
every submission and of the number of writes is proved for `runLive` and read off for `runRetry`; the invariant of the
pre-fix mutating closure, the bound on the Gets (`retry_gets_le`) and the no-op theorem are about `runRetry` alone.
-/
import NGF.Proofs.StatusWrite
import NGF.Model.StatusDrift

namespace NGF.StatusWrite

theorem invoke_fst (s : Setter) (p : Status) : (s.invoke p).1 = s := by
  unfold Setter.invoke; simp only []; split <;> rfl

theorem invokeMutating_snd (s : Setter) (p : Status) : (s.invokeMutating p).2 = (s.invoke p).2 := by
  unfold Setter.invokeMutating Setter.invoke; simp only []; split <;> rfl

theorem invokeMutating_fst (s : Setter) (p : Status) : (s.invokeMutating p).1 = { s with cap := merged s p } := by
  unfold Setter.invokeMutating; simp only []; split <;> rfl

theorem invoke_snd (s : Setter) (p : Status) :
    (s.invoke p).2 =
      if equalCheck s p (merged s p) then (p, false) else (merged s p, true) := by
  unfold Setter.invoke; simp only []; split <;> rfl

theorem invoke_status_of_wasSet (t : Setter) (p : Status) (h : (t.invoke p).2.2 = true) :
    (t.invoke p).2.1 = merged t p := by
  rw [invoke_snd] at *
  split at h <;> simp_all

theorem invokeMutating_status_of_wasSet (t : Setter) (p : Status) (h : (t.invokeMutating p).2.2 = true) :
    (t.invokeMutating p).2.1 = merged t p := by
  rw [invokeMutating_snd] at *
  exact invoke_status_of_wasSet t p h

theorem invoke_wasSet_false_iff {s : Setter} (hm : Merging s) (hf : Fresh s) (prev : Status) :
    (s.invoke prev).2.2 = false ↔ SameOwn s.kind s.ctlr prev s.cap := by
  rw [invoke_snd, ← equalCheck_iff_sameOwn hm hf]
  split <;> simp_all

theorem invokeMutating_wasSet_false_iff {s : Setter} (hm : Merging s) (hf : Fresh s) (prev : Status) :
    (s.invokeMutating prev).2.2 = false ↔ SameOwn s.kind s.ctlr prev s.cap := by
  rw [invokeMutating_snd]; exact invoke_wasSet_false_iff hm hf prev

theorem submission_spec {s : Setter} (hm : Merging s) (hf : Fresh s) {prev sub : Status}
    (h : (s.invoke prev).2 = (sub, true)) :
    sub = merged s prev ∧ foreign s.ctlr sub = foreign s.ctlr prev ∧ own s.ctlr sub = s.cap ∧
      ¬ SameOwn s.kind s.ctlr prev s.cap := by
  have hw : (s.invoke prev).2.2 = true := by rw [h]
  have hsub : sub = merged s prev := by rw [← invoke_status_of_wasSet s prev hw, h]
  subst hsub
  refine ⟨rfl, merged_foreign hm hf prev, merged_own hm hf prev, fun hso => ?_⟩
  rw [(invoke_wasSet_false_iff hm hf prev).mpr hso] at hw
  cases hw

theorem whole_submission_spec {s : Setter} (h : s.kind.mode = .whole) {prev sub : Status}
    (hr : (s.invoke prev).2 = (sub, true)) : sub = s.cap ∧ prev.map wkey ≠ s.cap.map wkey := by
  rw [invoke_snd] at hr
  simp only [equalCheck, merged, h] at hr
  split at hr
  · cases congrArg Prod.snd hr
  · rename_i hne
    exact ⟨(congrArg Prod.fst hr).symm, fun heq => hne ((wholeEq_iff _ _).2 heq)⟩

theorem attempt_getErr (inv : Invoke) (r : Run) :
    attempt inv r .getErr = ({ r with calls := r.calls ++ [.get false] }, false) := rfl

theorem attempt_notFound (inv : Invoke) (r : Run) :
    attempt inv r .notFound = ({ r with calls := r.calls ++ [.get false] }, true) := rfl

theorem attempt_noop (inv : Invoke) (r : Run) (op : Op) (hop : op = .ok ∨ ∃ p, op = .updFail p)
    (h : (inv r.setter r.store).2.2 = false) :
    attempt inv r op =
      ({ r with setter := (inv r.setter r.store).1, calls := r.calls ++ [.get true],
                invocations := r.invocations + 1 }, true) := by
  rcases hres : inv r.setter r.store with ⟨s', out, w⟩
  rw [hres] at h
  simp only at h
  subst h
  rcases hop with rfl | ⟨p, rfl⟩ <;> simp [attempt, hres]

theorem attempt_ok_set (inv : Invoke) (r : Run) (h : (inv r.setter r.store).2.2 = true) :
    attempt inv r .ok =
      ({ r with setter := (inv r.setter r.store).1,
                calls := r.calls ++ [.get true] ++ [.update r.store (inv r.setter r.store).2.1 true],
                store := (inv r.setter r.store).2.1, writes := r.writes + 1,
                invocations := r.invocations + 1 }, true) := by
  rcases hres : inv r.setter r.store with ⟨s', out, w⟩
  rw [hres] at h
  simp only at h
  subst h
  simp [attempt, hres]

theorem attempt_updFail_set (inv : Invoke) (r : Run) (poke : Option Status)
    (h : (inv r.setter r.store).2.2 = true) :
    attempt inv r (.updFail poke) =
      ({ r with setter := (inv r.setter r.store).1,
                calls := r.calls ++ [.get true] ++ [.update r.store (inv r.setter r.store).2.1 false],
                store := poke.getD r.store,
                invocations := r.invocations + 1 }, false) := by
  rcases hres : inv r.setter r.store with ⟨s', out, w⟩
  rw [hres] at h
  simp only at h
  subst h
  simp [attempt, hres]

/-- The three shapes of an attempt: the Get fails; the setter says "nothing to do"; the setter's status is submitted —
`ok`: the Update succeeds, which ends the loop; otherwise `poke` is what a conflicting writer stored, if any. -/
theorem attempt_cases (inv : Invoke) (r : Run) (op : Op) (P : Run × Bool → Prop)
    (hget : ∀ done, P ({ r with calls := r.calls ++ [.get false] }, done))
    (hnoop : (inv r.setter r.store).2.2 = false →
      P ({ r with setter := (inv r.setter r.store).1, calls := r.calls ++ [.get true],
                  invocations := r.invocations + 1 }, true))
    (hsub : (inv r.setter r.store).2.2 = true → ∀ (ok : Bool) (poke : Option Status),
      P ({ r with setter := (inv r.setter r.store).1,
                  calls := r.calls ++ [.get true] ++ [.update r.store (inv r.setter r.store).2.1 ok],
                  store := if ok then (inv r.setter r.store).2.1 else poke.getD r.store,
                  writes := if ok then r.writes + 1 else r.writes,
                  invocations := r.invocations + 1 }, ok)) :
    P (attempt inv r op) := by
  cases op with
  | getErr => exact hget false
  | notFound => exact hget true
  | ok =>
    cases hw : (inv r.setter r.store).2.2 with
    | false => rw [attempt_noop inv r .ok (Or.inl rfl) hw]; exact hnoop hw
    | true => rw [attempt_ok_set inv r hw]; exact hsub hw true none
  | updFail poke =>
    cases hw : (inv r.setter r.store).2.2 with
    | false => rw [attempt_noop inv r _ (Or.inr ⟨poke, rfl⟩) hw]; exact hnoop hw
    | true => rw [attempt_updFail_set inv r poke hw]; exact hsub hw false poke

theorem mem_update_get {cs : List Call} {b ok : Bool} {p sub : Status} (h : Call.update p sub ok ∈ cs ++ [.get b]) :
    Call.update p sub ok ∈ cs := by
  simpa using h

theorem mem_update_get_update {cs : List Call} {b ok' : Bool} {p p' sub sub' : Status} {ok : Bool}
    (h : Call.update p sub ok ∈ cs ++ [.get b] ++ [.update p' sub' ok']) :
    Call.update p sub ok ∈ cs ∨ (p = p' ∧ sub = sub' ∧ ok = ok') := by
  simpa using h

theorem runRetry_succ (inv : Invoke) (n : Nat) (r : Run) (sched : List Op) :
    runRetry inv (n + 1) r sched =
      if (attempt inv r (sched.headD .ok)).2 then (attempt inv r (sched.headD .ok)).1
      else runRetry inv n (attempt inv r (sched.headD .ok)).1 sched.tail := rfl

/-- Loop rule: `I` holds while the loop continues, `Q` holds for whatever it returns. -/
theorem runRetry_inv (inv : Invoke) (I Q : Run → Prop) (hIQ : ∀ r, I r → Q r)
    (hstep : ∀ r op, I r →
      Q (attempt inv r op).1 ∧ ((attempt inv r op).2 = false → I (attempt inv r op).1)) :
    ∀ n r sched, I r → Q (runRetry inv n r sched)
  | 0, r, _, h => by simpa [runRetry] using hIQ r h
  | n + 1, r, sched, h => by
    obtain ⟨hq, hi⟩ := hstep r (sched.headD .ok) h
    rw [runRetry_succ]
    cases hd : (attempt inv r (sched.headD .ok)).2 with
    | true => simpa using hq
    | false => simpa using runRetry_inv inv I Q hIQ hstep n _ sched.tail (hi hd)

theorem runLive_succ (inv : Invoke) (n : Nat) (r : Run) (script : List Step) :
    runLive inv (n + 1) r script =
      if (attemptLive inv r (script.headD .quiet)).2 then (attemptLive inv r (script.headD .quiet)).1
      else runLive inv n (attemptLive inv r (script.headD .quiet)).1 script.tail := rfl

theorem attemptLive_none (inv : Invoke) (r : Run) (op : Op) : attemptLive inv r ⟨none, op⟩ = attempt inv r op := rfl

/-- without edits `runLive` IS `runRetry`: every theorem about `runRetry` is a theorem about what the
driver executes on a schedule without `e<i>+` edits (the harness's schedule syntax, see `NGF.Model.StatusDrift`) -/
theorem runLive_no_edits (inv : Invoke) : ∀ (n : Nat) (r : Run) (sched : List Op),
    runLive inv n r (sched.map fun op => ⟨none, op⟩) = runRetry inv n r sched
  | 0, _, _ => rfl
  | n + 1, r, sched => by
    have hd : (sched.map fun op => (⟨none, op⟩ : Step)).headD .quiet = ⟨none, sched.headD .ok⟩ := by
      cases sched <;> rfl
    rw [runLive_succ, runRetry_succ, hd, attemptLive_none, ← List.map_tail, runLive_no_edits inv n]

theorem runLive_inv (inv : Invoke) (I Q : Run → Prop) (hIQ : ∀ r, I r → Q r)
    (hstep : ∀ r st, I r →
      Q (attemptLive inv r st).1 ∧ ((attemptLive inv r st).2 = false → I (attemptLive inv r st).1)) :
    ∀ n r script, I r → Q (runLive inv n r script)
  | 0, r, _, h => by simpa [runLive] using hIQ r h
  | n + 1, r, script, h => by
    obtain ⟨hq, hi⟩ := hstep r (script.headD .quiet) h
    rw [runLive_succ]
    cases hd : (attemptLive inv r (script.headD .quiet)).2 with
    | true => simpa using hq
    | false => simpa using runLive_inv inv I Q hIQ hstep n _ script.tail (hi hd)

theorem liveStateless_submissions (inv : Invoke) (s : Setter) (hst : ∀ p, (inv s p).1 = s)
    (n : Nat) (store : Status) (script : List Step) :
    ∀ prev sub ok, Call.update prev sub ok ∈ (runLive inv n (Run.init s store) script).calls →
      (inv s prev).2 = (sub, true) := by
  let I : Run → Prop := fun r =>
    r.setter = s ∧ ∀ prev sub ok, Call.update prev sub ok ∈ r.calls → (inv s prev).2 = (sub, true)
  have step : ∀ r st, I r → I (attemptLive inv r st).1 := by
    intro r0 st ⟨hs, hc⟩
    -- the attempt runs on the run whose store is the live object
    let r : Run := { r0 with store := st.live r0.store }
    have hfst : (inv r.setter r.store).1 = s := by rw [show r.setter = s from hs]; exact hst _
    show I (attempt inv r st.op).1
    apply attempt_cases inv r st.op (fun x => I x.1)
    · exact fun _ => ⟨hs, fun p sub ok hm => hc p sub ok (mem_update_get hm)⟩
    · exact fun _ => ⟨hfst, fun p sub ok hm => hc p sub ok (mem_update_get hm)⟩
    · intro hw ok' _
      refine ⟨hfst, fun p sub ok hm => ?_⟩
      rcases mem_update_get_update hm with hm | ⟨rfl, rfl, _⟩
      · exact hc _ _ _ hm
      · rw [← show r.setter = s from hs]; exact Prod.ext rfl hw
  exact (runLive_inv inv I I (fun _ h => h) (fun r st h => ⟨step r st h, fun _ => step r st h⟩) n _ script
    ⟨rfl, fun _ _ _ h => absurd h List.not_mem_nil⟩).2

theorem retryStateless_submissions (inv : Invoke) (s : Setter) (hst : ∀ p, (inv s p).1 = s)
    (n : Nat) (store : Status) (sched : List Op) :
    ∀ prev sub ok, Call.update prev sub ok ∈ (runRetry inv n (Run.init s store) sched).calls →
      (inv s prev).2 = (sub, true) := by
  rw [← runLive_no_edits]
  exact liveStateless_submissions inv s hst n store _

theorem retry_submissions (s : Setter) (n : Nat) (store : Status) (sched : List Op) :
    ∀ prev sub ok, Call.update prev sub ok ∈
        (runRetry Setter.invoke n (Run.init s store) sched).calls →
      (s.invoke prev).2 = (sub, true) :=
  retryStateless_submissions Setter.invoke s (invoke_fst s) n store sched

theorem invokeMutating_fst_whole (s : Setter) (h : s.kind.mode = .whole) (p : Status) : (s.invokeMutating p).1 = s := by
  rw [invokeMutating_fst]; unfold merged; rw [h]

theorem retryWhole_submissions (s : Setter) (h : s.kind.mode = .whole) (n : Nat) (store : Status)
    (sched : List Op) :
    ∀ prev sub ok, Call.update prev sub ok ∈ (runRetry Setter.invokeMutating n (Run.init s store) sched).calls →
      (s.invokeMutating prev).2 = (sub, true) :=
  retryStateless_submissions Setter.invokeMutating s (invokeMutating_fst_whole s h) n store sched

theorem live_writes (inv : Invoke) (n : Nat) (r : Run) (script : List Step) (h0 : r.writes = 0) :
    let r' := runLive inv n r script
    r'.writes = 0 ∨ (r'.writes = 1 ∧ ∃ prev, r'.calls.getLast? = some (.update prev r'.store true)) := by
  refine runLive_inv inv (fun r => r.writes = 0)
    (fun r' => r'.writes = 0 ∨ (r'.writes = 1 ∧ ∃ prev, r'.calls.getLast? = some (.update prev r'.store true)))
    (fun _ h => Or.inl h) ?_ n r script h0
  intro r0 st h
  let r : Run := { r0 with store := st.live r0.store }
  have h : r.writes = 0 := h
  show (fun r' : Run => r'.writes = 0 ∨ (r'.writes = 1 ∧ ∃ prev, r'.calls.getLast? = some (.update prev r'.store true)))
    (attempt inv r st.op).1 ∧ ((attempt inv r st.op).2 = false → (attempt inv r st.op).1.writes = 0)
  apply attempt_cases inv r st.op (fun x =>
    (x.1.writes = 0 ∨ (x.1.writes = 1 ∧ ∃ prev, x.1.calls.getLast? = some (.update prev x.1.store true))) ∧
    (x.2 = false → x.1.writes = 0))
  · exact fun _ => ⟨Or.inl h, fun _ => h⟩
  · exact fun _ => ⟨Or.inl h, fun _ => h⟩
  · intro _ ok _
    cases ok with
    | true => exact ⟨Or.inr ⟨by simp [h], r.store, by simp⟩, fun hf => nomatch hf⟩
    | false => exact ⟨Or.inl h, fun _ => h⟩

theorem retry_writes (inv : Invoke) (n : Nat) (r : Run) (sched : List Op) (h0 : r.writes = 0) :
    let r' := runRetry inv n r sched
    r'.writes = 0 ∨ (r'.writes = 1 ∧ ∃ prev, r'.calls.getLast? = some (.update prev r'.store true)) := by
  rw [← runLive_no_edits]
  exact live_writes inv n r _ h0

/-- What the pre-fix mutating closure keeps across the attempts of `runRetry`; `fresh` and `single` record that up to the first
invocation the closure still is the setter as built, so that invocation is the one of the code in the tree. -/
structure RetryInv (s : Setter) (r : Run) : Prop where
  kind : r.setter.kind = s.kind
  ctlr : r.setter.ctlr = s.ctlr
  ownCap : own s.ctlr r.setter.cap = s.cap
  fresh : r.invocations = 0 → r.setter.cap = s.cap
  subs : ∀ prev sub ok, Call.update prev sub ok ∈ r.calls →
    own s.ctlr sub = s.cap ∧ (foreign s.ctlr prev).Sublist (foreign s.ctlr sub)
  single : r.invocations ≤ 1 → ∀ prev sub ok, Call.update prev sub ok ∈ r.calls →
    (s.invoke prev).2 = (sub, true)

theorem retry_invariant (s : Setter) (hm : Merging s) (hf : Fresh s) (n : Nat) (store : Status)
    (sched : List Op) : RetryInv s (runRetry Setter.invokeMutating n (Run.init s store) sched) := by
  have step : ∀ r op, RetryInv s r → RetryInv s (attempt Setter.invokeMutating r op).1 := by
    intro r op hI
    have hmt : Merging r.setter := by unfold Merging; rw [hI.kind]; exact hm
    have hk' : (Setter.invokeMutating r.setter r.store).1.kind = s.kind := by rw [invokeMutating_fst]; exact hI.kind
    have hc' : (Setter.invokeMutating r.setter r.store).1.ctlr = s.ctlr := by rw [invokeMutating_fst]; exact hI.ctlr
    have ho' : own s.ctlr (Setter.invokeMutating r.setter r.store).1.cap = s.cap := by
      rw [invokeMutating_fst]; simp only []
      rw [← hI.ctlr, merged_own_general hmt, hI.ctlr]; exact hI.ownCap
    apply attempt_cases Setter.invokeMutating r op (fun x => RetryInv s x.1)
    · exact fun _ => ⟨hI.kind, hI.ctlr, hI.ownCap, hI.fresh,
        fun p sub ok hm => hI.subs p sub ok (mem_update_get hm),
        fun hle p sub ok hm => hI.single hle p sub ok (mem_update_get hm)⟩
    · exact fun _ => ⟨hk', hc', ho', fun h => Nat.noConfusion h,
        fun p sub ok hm => hI.subs p sub ok (mem_update_get hm),
        fun hle p sub ok hm => hI.single (Nat.le_of_succ_le hle) p sub ok (mem_update_get hm)⟩
    · intro hw ok' _
      refine ⟨hk', hc', ho', fun h => Nat.noConfusion h, fun p sub ok hmem => ?_, fun hle p sub ok hmem => ?_⟩
      · rcases mem_update_get_update hmem with hmem | ⟨rfl, rfl, _⟩
        · exact hI.subs _ _ _ hmem
        · rw [invokeMutating_status_of_wasSet _ _ hw, ← hI.ctlr]
          exact ⟨by rw [merged_own_general hmt, hI.ctlr]; exact hI.ownCap, merged_foreign_sublist hmt _⟩
      · have h0 : r.invocations = 0 := Nat.le_zero.mp (Nat.le_of_succ_le_succ hle)
        rcases mem_update_get_update hmem with hmem | ⟨rfl, rfl, _⟩
        · exact hI.single (h0 ▸ Nat.zero_le 1) _ _ _ hmem
        · -- first invocation: the closure still is the setter as built
          have hts : r.setter = s := by
            have h1 := hI.fresh h0
            have h2 := hI.kind
            have h3 := hI.ctlr
            cases hr : r.setter; cases s
            simp_all
          rw [← hts, ← invokeMutating_snd]
          exact Prod.ext rfl hw
  exact runRetry_inv _ (RetryInv s) (RetryInv s) (fun _ h => h) (fun r op h => ⟨step r op h, fun _ => step r op h⟩)
    n _ sched ⟨rfl, rfl, own_of_allOwn hf, fun _ => rfl, fun _ _ _ h => absurd h List.not_mem_nil,
      fun _ _ _ _ h => absurd h List.not_mem_nil⟩

def isGet : Call → Bool
  | .get _ => true
  | _ => false

def Run.gets (r : Run) : Nat := (r.calls.filter isGet).length

theorem gets_store (r : Run) (st : Status) : ({ r with store := st } : Run).gets = r.gets := rfl

theorem attempt_gets (inv : Invoke) (r : Run) (op : Op) : (attempt inv r op).1.gets = r.gets + 1 := by
  apply attempt_cases inv r op (fun x => x.1.gets = r.gets + 1) <;>
    simp [Run.gets, List.filter_append, List.filter_cons, isGet]

theorem retry_gets_le (inv : Invoke) : ∀ (n : Nat) (r : Run) (sched : List Op),
    (runRetry inv n r sched).gets ≤ r.gets + n
  | 0, r, _ => by simp [runRetry]
  | n + 1, r, sched => by
    rw [runRetry_succ]
    split
    · rw [attempt_gets]; omega
    · have := retry_gets_le inv n (attempt inv r (sched.headD .ok)).1 sched.tail
      rw [attempt_gets] at this; omega

theorem retry_noop_gen (inv : Invoke) (s : Setter) (n : Nat) (store : Status) (sched : List Op)
    (h : (inv s store).2.2 = false) :
    let r := runRetry inv n (Run.init s store) sched
    r.store = store ∧ r.writes = 0 ∧ ∀ p sub ok, Call.update p sub ok ∉ r.calls := by
  let Q : Run → Prop := fun r => r.store = store ∧ r.writes = 0 ∧ ∀ p sub ok, Call.update p sub ok ∉ r.calls
  refine runRetry_inv _ (fun r => r.setter = s ∧ Q r) Q (fun _ h => h.2) ?_ n _ sched
    ⟨rfl, rfl, rfl, fun _ _ _ h => List.not_mem_nil h⟩
  intro r op ⟨hs, hst, hw, hc⟩
  have hno : (inv r.setter r.store).2.2 = false := by rw [hs, hst]; exact h
  apply attempt_cases inv r op (fun x => Q x.1 ∧ (x.2 = false → x.1.setter = s ∧ Q x.1))
  · intro _
    have : Q { r with calls := r.calls ++ [Call.get false] } :=
      ⟨hst, hw, fun p sub ok hm => hc p sub ok (mem_update_get hm)⟩
    exact ⟨this, fun _ => ⟨hs, this⟩⟩
  · exact fun _ => ⟨⟨hst, hw, fun p sub ok hm => hc p sub ok (mem_update_get hm)⟩, fun hf => nomatch hf⟩
  · intro hw'; rw [hno] at hw'; exact nomatch hw'

end NGF.StatusWrite
