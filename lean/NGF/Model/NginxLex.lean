/-
NGINX configuration tokeniser — a model of `ngx_conf_read_token` (src/core/ngx_conf_file.c),
written as a character fold so that statements about `pre ++ v ++ post` compose.

Part of the trusted base (DESIGN.md §4): this is what "how NGINX tokenises the file" MEANS in the
C03/C04 theorems. It is cross-checked against nginx-go-crossplane's lexer on the real generated
files by the C03 check.

Shape: `step : LexSt → Char → Except LexErr (LexSt × List Tok)`; `lexFrom` folds it; `lex` runs
from the initial state and checks the end-of-file condition. Tokens are the *post-processed* words
(escapes resolved exactly as the copy loop of ngx_conf_read_token does) and the three punctuators.
The nginx function returns once per statement and checks "`;`/`{` needs ≥1 word", "`}` needs 0
words"; `pending` counts the words of the current statement to reproduce those errors.
-/
namespace NGF.Nginx

inductive Tok
  | word (s : List Char) (quoted : Bool)   -- one argument; `quoted` = written in '…' or "…"
  | semi                                   -- ;
  | open                                   -- {
  | close                                  -- }
  deriving DecidableEq, Repr

inductive LexErr
  | unexpected (c : Char)        -- "unexpected \"c\""
  | unexpectedEOF                -- "unexpected end of file, expecting \";\" or \"}\""
  deriving DecidableEq, Repr

/-- Where the scanner is inside/between tokens (the C flags `last_space`, `need_space`,
`d_quoted`, `s_quoted`, `sharp_comment`). -/
inductive Mode
  | space          -- last_space = 1: between tokens
  | comment        -- sharp_comment = 1
  | bare           -- inside an unquoted token
  | dq             -- inside "…"
  | sq             -- inside '…'
  | needSpace      -- just closed a quoted token: need_space = 1
  deriving DecidableEq, Repr

structure LexSt where
  mode     : Mode
  esc      : Bool          -- `quoted` flag: previous char was a backslash
  dollar : Bool          -- `variable` flag: previous char was `$`
  cur      : List Char     -- raw characters of the token being read (between `start` and `pos`)
  pending  : Nat           -- number of words already read in the current statement
  deriving DecidableEq, Repr

def LexSt.init : LexSt := { mode := .space, esc := false, dollar := false, cur := [], pending := 0 }

def isWs (c : Char) : Bool := c == ' ' || c == '\t' || c == '\r' || c == '\n'

/-- The copy loop at the end of ngx_conf_read_token: `\"`, `\'`, `\\` drop the backslash;
`\t \r \n` become control characters; any other `\x` is kept verbatim (both characters). -/
def unescape : List Char → List Char
  | [] => []
  | '\\' :: c :: rest =>
      if c == '"' || c == '\'' || c == '\\' then c :: unescape rest
      else if c == 't' then '\t' :: unescape rest
      else if c == 'r' then '\r' :: unescape rest
      else if c == 'n' then '\n' :: unescape rest
      else '\\' :: c :: unescape rest
  | c :: rest => c :: unescape rest

/-- finish the current token -/
def emitWord (s : LexSt) (quoted : Bool) : Tok := .word (unescape s.cur) quoted

/-- One character. Follows the order of tests in ngx_conf_read_token. -/
def step (s : LexSt) (ch : Char) : Except LexErr (LexSt × List Tok) :=
  -- sharp_comment: skip to end of line
  if s.mode == .comment then
    if ch == '\n' then .ok ({ s with mode := .space }, []) else .ok (s, [])
  -- `quoted`: the character after a backslash is taken verbatim
  else if s.esc then
    .ok ({ s with esc := false, cur := s.cur ++ [ch] }, [])
  else match s.mode with
  | .needSpace =>
    if isWs ch then .ok ({ s with mode := .space }, [])
    else if ch == ';' then .ok ({ s with mode := .space, pending := 0 }, [.semi])
    else if ch == '{' then .ok ({ s with mode := .space, pending := 0 }, [.open])
    else if ch == ')' then
      -- falls through to the last_space branch with ch = ')': starts a bare token
      .ok ({ s with mode := .bare, cur := [ch], dollar := false }, [])
    else .error (.unexpected ch)
  | .space =>
    if isWs ch then .ok (s, [])
    else if ch == ';' then
      if s.pending == 0 then .error (.unexpected ch) else .ok ({ s with pending := 0 }, [.semi])
    else if ch == '{' then
      if s.pending == 0 then .error (.unexpected ch) else .ok ({ s with pending := 0 }, [.open])
    else if ch == '}' then
      if s.pending != 0 then .error (.unexpected ch) else .ok (s, [.close])
    else if ch == '#' then .ok ({ s with mode := .comment }, [])
    else if ch == '\\' then .ok ({ s with mode := .bare, esc := true, cur := [ch], dollar := false }, [])
    else if ch == '"' then .ok ({ s with mode := .dq, cur := [], dollar := false }, [])
    else if ch == '\'' then .ok ({ s with mode := .sq, cur := [], dollar := false }, [])
    else if ch == '$' then .ok ({ s with mode := .bare, cur := [ch], dollar := true }, [])
    else .ok ({ s with mode := .bare, cur := [ch], dollar := false }, [])
  | .bare =>
    if ch == '{' && s.dollar then .ok ({ s with cur := s.cur ++ [ch] }, [])   -- `${`
    else if ch == '\\' then .ok ({ s with esc := true, dollar := false, cur := s.cur ++ [ch] }, [])
    else if ch == '$' then .ok ({ s with dollar := true, cur := s.cur ++ [ch] }, [])
    else if isWs ch then
      .ok ({ s with mode := .space, dollar := false, cur := [], pending := s.pending + 1 }, [emitWord s false])
    else if ch == ';' then
      .ok ({ s with mode := .space, dollar := false, cur := [], pending := 0 }, [emitWord s false, .semi])
    else if ch == '{' then
      .ok ({ s with mode := .space, dollar := false, cur := [], pending := 0 }, [emitWord s false, .open])
    else .ok ({ s with dollar := false, cur := s.cur ++ [ch] }, [])
  | .dq =>
    if ch == '{' && s.dollar then .ok ({ s with cur := s.cur ++ [ch] }, [])
    else if ch == '\\' then .ok ({ s with esc := true, dollar := false, cur := s.cur ++ [ch] }, [])
    else if ch == '$' then .ok ({ s with dollar := true, cur := s.cur ++ [ch] }, [])
    else if ch == '"' then
      .ok ({ s with mode := .needSpace, dollar := false, cur := [], pending := s.pending + 1 }, [emitWord s true])
    else .ok ({ s with dollar := false, cur := s.cur ++ [ch] }, [])
  | .sq =>
    if ch == '{' && s.dollar then .ok ({ s with cur := s.cur ++ [ch] }, [])
    else if ch == '\\' then .ok ({ s with esc := true, dollar := false, cur := s.cur ++ [ch] }, [])
    else if ch == '$' then .ok ({ s with dollar := true, cur := s.cur ++ [ch] }, [])
    else if ch == '\'' then
      .ok ({ s with mode := .needSpace, dollar := false, cur := [], pending := s.pending + 1 }, [emitWord s true])
    else .ok ({ s with dollar := false, cur := s.cur ++ [ch] }, [])
  | .comment => .ok (s, [])   -- unreachable (handled above)

/-- Fold `step` over the input, accumulating tokens. -/
def lexFrom (s : LexSt) : List Char → Except LexErr (LexSt × List Tok)
  | [] => .ok (s, [])
  | c :: cs =>
    match step s c with
    | .error e => .error e
    | .ok (s1, t1) =>
      match lexFrom s1 cs with
      | .error e => .error e
      | .ok (s2, t2) => .ok (s2, t1 ++ t2)

/-- End of file is legal only between statements (`last_space` set, no pending words). -/
def atEOF (s : LexSt) : Bool :=
  (s.mode == .space || s.mode == .comment) && s.pending == 0 && !s.esc

/-- Tokenise a whole file. -/
def lex (input : List Char) : Except LexErr (List Tok) :=
  match lexFrom LexSt.init input with
  | .error e => .error e
  | .ok (s, ts) => if atEOF s then .ok ts else .error .unexpectedEOF

def lexString (s : String) : Except LexErr (List Tok) := lex s.toList

theorem lexFrom_append (s : LexSt) (a b : List Char) :
    lexFrom s (a ++ b) =
      match lexFrom s a with
      | .error e => .error e
      | .ok (s1, t1) =>
        match lexFrom s1 b with
        | .error e => .error e
        | .ok (s2, t2) => .ok (s2, t1 ++ t2) := by
  induction a generalizing s with
  | nil =>
    simp only [List.nil_append, lexFrom]
    cases lexFrom s b with
    | error e => rfl
    | ok p => cases p; simp
  | cons c cs ih =>
    simp only [List.cons_append, lexFrom]
    cases step s c with
    | error e => rfl
    | ok p =>
      obtain ⟨s1, t1⟩ := p
      simp only [ih s1]
      cases lexFrom s1 cs with
      | error e => rfl
      | ok q =>
        obtain ⟨s2, t2⟩ := q
        simp only
        cases lexFrom s2 b with
        | error e => rfl
        | ok r => obtain ⟨s3, t3⟩ := r; simp [List.append_assoc]

end NGF.Nginx
