/-
C03, stage 2: template rendering of the pipeline fragment.

`Pipeline.gen : Scenario → Conf` (C02, stage 2) stops at an ABSTRACT configuration. This file goes the rest of the way,
for the same fragment: an enriched configuration `ConfR` (what `dataplane.Configuration` holds for the fragment: servers
with their position in `conf.HTTPServers`, path rules with their index in `server.PathRules`, match rules with the
BackendGroup source (route namespace/name, rule index), the deduplicated BackendGroups), produced by `genR`, and

    render  : ConfR → List Dir                  what servers_template.go + split_clients_template.go print into http.conf
    matchesOf : ConfR → List (key × matches)    what executeServers marshals into matches.json

over the directive AST of Model/NginxParse (`NGF.Nginx.Dir`). `forget (genR s order) = Pipeline.gen s` is proved in
Proofs/RenderStruct.lean, so everything C02 ties/proves about `gen` speaks about the configuration rendered here.

Go functions / templates mirrored (file: function → here):
  dataplane/configuration.go: upsertRoute (BackendGroup source = route NsName + rule index) → `routeEntriesR`, `entriesR`;
      hostPathRules.buildServers (sort.Slice of PathRules by Path, PathType; of servers by Hostname; default server "")
      → `ruleLt`/`rank`, `nameRank`; portPathRules.buildServers (map iteration over ports: the order is NOT determined by
      the input, it is the parameter `order`) → `base`/`portOrder`; buildBackendGroups → `groupsOf`
  nginx/config/servers.go: createServers (serverID = index in conf.HTTPServers) → `RServer.sid`; createServer;
      createLocations (httpMatchKey = serverID_pathRuleIdx, ext locations, then internal locations, default root)
      → `renderRule`, `matchKey`, `renderServer`; initializeInternalLocation/createMatchLocation → `internalLoc`;
      updateLocation (RequestRedirect → return; else proxy_set_header list + proxy_pass) → `actDirs`;
      createReturnAndRewriteConfigForRedirectFilter (body) → `redirectBody`; createProxyPass/backendGroupName/
      backendGroupNeedsSplit → `passTarget`; createBaseProxySetHeaders + httpUpgradeHeader/httpConnectionHeader → `baseHeaders`;
      createDefaultRootLocation → `rootLoc`; createRouteMatch → `Pipeline.njsMatchOf` + redirectPath
  nginx/config/servers_template.go: serversTemplateText (IsDefaultHTTP branch, plain server branch with IPv4+IPv6
      listens, location body order: internal, return, set $match_key + js_content, proxy_http_version, proxy_set_header*,
      proxy_pass; the two unix-socket servers at the end) → `renderDefault`, `renderServer`, `tailServers`
  nginx/config/split_clients.go: createSplitClients/createSplitClientDistributions (+ split_clients_template.go: a
      `0.00` share is commented out) → `splitBlock`, `splitEntries`
  dataplane/types.go BackendGroup.Name + variable_names.go convertStringToSafeVariableName → `Mangle.groupVar`

Also here: the small structural well-formedness judge `wfDirs` (the clauses of Spec/WellFormedConf that concern the
rendered part: (listen, server_name) pairs, default_server per address, duplicate locations, `$match_key` keys and
internal redirect targets, split_clients variable names / percentages, variables of `proxy_pass`, arguments of
`listen`). It is run by the
driver on the REAL http.conf next to the big judge (agreement is reported in the evidence) and is the subject of
`render_wellformed_fragment` (Props/C03Render.lean).
Core-only.
-/
import NGF.Model.Pipeline
import NGF.Model.NginxParse
import NGF.Model.Mangle
import NGF.Model.SplitClientsJudge
import NGF.Spec.WellFormedConf

namespace NGF.Render
open NGF.Pipeline NGF.Nginx NGF.Mangle

/-! ### enriched entries: a match rule with the source of its BackendGroup -/

/-- `BackendGroup.Source` + `BackendGroup.RuleIdx` -/
structure Src where
  ns : Str
  name : Str
  rule : Nat
  deriving DecidableEq, Repr

structure REntry where
  e : Entry
  src : Src
  deriving Repr

/-- upsertRoute: `for i, rule := range route.Spec.Rules` … `newBackendGroup(rule.BackendRefs, routeNsName, i)` -/
def routeEntriesR (port : Nat) (hosts : List Str) (r : Route) : List REntry :=
  (enumFrom 0 r.rules).flatMap fun ir => hosts.flatMap fun h => ir.2.ms.map fun m =>
    { e := { port := port, host := h, m := m, key := keyOf r m, action := ir.2.action },
      src := ⟨r.ns, r.name, ir.1⟩ }

def entriesR (g : Gateway) (routes : List Route) : List REntry :=
  g.listeners.flatMap fun l => routes.flatMap fun r =>
    if r.valid then routeEntriesR l.port (acceptedAt g l r) r else []

/-- sortMatchRules on the enriched entries (the same relation on the same key) -/
def sortR (es : List REntry) : List REntry := es.mergeSort fun a b => Precedence.le a.e.key b.e.key

/-! ### enriched configuration -/

inductive RAct
  /-- proxy_pass of a match rule: BackendGroup source and backends -/
  | proxy (src : Src) (bs : List Backend)
  | redirect (code : Nat) (scheme : Option Str) (host : Option Str) (port : Option Nat)
  | status (code : Nat)
  deriving Repr

def RAct.forget : RAct → Act
  | .proxy _ bs => .proxy (distOf bs)
  | .redirect c s h p => .redirect c s h p
  | .status c => .status c

def actOfR (listenerPort : Nat) (src : Src) : Action → RAct
  | .redirect code scheme host port => .redirect code scheme host (shownPort listenerPort scheme port)
  | .forward bs => .proxy src bs

structure RMatch where
  njs : NjsMatch
  act : RAct

inductive RLocAct
  | direct (a : RAct)
  | njs (ms : List RMatch)

def RLocAct.forget : RLocAct → LocAct
  | .direct a => .direct a.forget
  | .njs ms => .njs (ms.map fun m => (m.njs, m.act.forget))

def rmatchOf (port : Nat) (x : REntry) : RMatch := ⟨njsMatchOf x.e.m, actOfR port x.src x.e.action⟩

/-- createLocations for one path rule (needsInternalLocations / isPathOnlyMatch), as `Pipeline.ruleAct` -/
def ruleActR (port : Nat) (mrs : List REntry) : RLocAct :=
  match mrs with
  | [x] => if isPathOnly x.e.m then .direct (actOfR port x.src x.e.action) else .njs [rmatchOf port x]
  | _ => .njs (mrs.map (rmatchOf port))

/-- one `dataplane.PathRule` of a server -/
structure RRule where
  /-- pathRuleIdx: position in the sorted `server.PathRules` -/
  idx : Nat
  exact : Bool
  path : Str
  /-- initializeExternalLocations: (`=` modifier?, path) -/
  ext : List (Bool × Str)
  act : RLocAct

structure RServer where
  /-- serverID: position in `conf.HTTPServers` -/
  sid : Nat
  port : Nat
  name : Str
  rules : List RRule
  /-- createDefaultRootLocation: no path rule has path "/" -/
  root404 : Bool

structure ConfR where
  /-- default servers: (port, serverID) -/
  dports : List (Nat × Nat)
  servers : List RServer
  /-- buildBackendGroups: one entry per (route, rule index) that occurs in a match rule -/
  groups : List (Src × List Backend)

def RServer.forget (sv : RServer) : CServer :=
  { port := sv.port, name := sv.name,
    locs := (sv.rules.flatMap fun r => r.ext.map fun k => ({ exact := k.1, path := k.2, act := r.act.forget } : CLoc)) ++
            (if sv.root404 then [({ exact := false, path := ['/'], act := .direct (.status 404) } : CLoc)] else []) }

def ConfR.forget (c : ConfR) : Conf :=
  { ports := c.dports.map (·.1), servers := c.servers.map RServer.forget }

/-! ### positions: the order of path rules, servers and ports -/

/-- the `less` of `sort.Slice(s.PathRules, …)`: Path, then PathType ("exact" < "prefix") -/
def ruleLt (a b : Bool × Str) : Bool :=
  if a.2 == b.2 then a.1 && !b.1 else Precedence.lexLt (bytes a.2) (bytes b.2)

/-- position of `k` after sorting distinct keys by `lt`: the number of smaller keys -/
def rank {α} (lt : α → α → Bool) (keys : List α) (k : α) : Nat := (keys.filter fun x => lt x k).length

/-- the `less` of `sort.Slice(servers, …)`: Hostname (the default server has hostname "") -/
def nameLt (a b : Str) : Bool := Precedence.lexLt (bytes a) (bytes b)

def namesOn (hosts : List (Nat × Str)) (p : Nat) : List Str := (hosts.filter fun ph => ph.1 == p).map (·.2)

/-- index of the first server of port `q` when the ports are emitted in the order `ord`
(every port contributes its default server and its named servers) -/
def base (hosts : List (Nat × Str)) : List Nat → Nat → Nat
  | [], _ => 0
  | p :: ps, q => if p == q then 0 else 1 + (namesOn hosts p).length + base hosts ps q

/-- the iteration order of `portPathRules`: the given order restricted to the Gateway's ports, then the remaining ports -/
def portOrder (order ports : List Nat) : List Nat := ((order.filter ports.contains) ++ ports).eraseDups

/-- serverID of the named server (port, name): default server of the port first, then by hostname -/
def sidOf (hosts : List (Nat × Str)) (ord : List Nat) (ph : Nat × Str) : Nat :=
  base hosts ord ph.1 + 1 + rank nameLt (namesOn hosts ph.1) ph.2

/-! ### genR -/

def pathKeyR (x : REntry) : Bool × Str := pathKey x.e

def serverOfR (es : List REntry) (sid port : Nat) (h : Str) : RServer :=
  let mine := es.filter fun x => x.e.port == port && x.e.host == h
  let keys := (mine.map pathKeyR).eraseDups
  let rules : List Precedence.PathRule := keys.map fun k => ⟨k.2, !k.1⟩
  { sid := sid, port := port, name := h,
    rules := (enumFrom 0 keys).map fun ik =>
      { idx := rank ruleLt keys ik.2, exact := ik.2.1, path := ik.2.2,
        ext := (Precedence.extLocs rules ik.1 ⟨ik.2.2, !ik.2.1⟩).map fun gl => (gl.exact, gl.path),
        act := ruleActR port (sortR (mine.filter fun x => pathKeyR x == ik.2)) },
    root404 := !(rules.any fun r => r.path == ['/']) }

/-- keep the first entry of every key -/
def dedupKey {β} : List (Src × β) → List Src → List (Src × β)
  | [], _ => []
  | x :: xs, seen => if seen.contains x.1 then dedupKey xs seen else x :: dedupKey xs (x.1 :: seen)

def backendsOf : Action → List Backend
  | .forward bs => bs
  | .redirect .. => []

/-- buildBackendGroups: the BackendGroups of all match rules of all servers, one per (source, rule index) -/
def groupsOf (es : List REntry) : List (Src × List Backend) :=
  dedupKey (es.map fun x => (x.src, backendsOf x.e.action)) []

def genR (s : Scenario) (order : List Nat) : ConfR :=
  match winner s with
  | none => { dports := [], servers := [], groups := [] }
  | some g =>
    let es := entriesR g s.routes
    let hosts := hostsOf g s.routes
    let ports := (g.listeners.map (·.port)).eraseDups
    let ord := portOrder order ports
    { dports := ports.map fun p => (p, base hosts ord p),
      servers := hosts.map fun ph => serverOfR es (sidOf hosts ord ph) ph.1 ph.2,
      groups := groupsOf es }

/-! ### rendering -/

abbrev Arg := List Char × Bool

def w (s : String) : Arg := (s.toList, false)
def wl (s : List Char) : Arg := (s, false)
def q (s : List Char) : Arg := (s, true)
def dir (name : String) (args : List Arg) : Dir := .mk name.toList args none
def blk (name : String) (args : List Arg) (ch : List Dir) : Dir := .mk name.toList args (some ch)

/-- `listen {{ $s.Listen }}…;` and `listen [::]:{{ $s.Listen }}…;` (IPFamily dual = the default) -/
def listenDirs (port : Nat) (extra : List String) : List Dir :=
  [dir "listen" (wl (digits port) :: extra.map w), dir "listen" (wl ("[::]:".toList ++ digits port) :: extra.map w)]

/-- the `IsDefaultHTTP` branch of the servers template -/
def renderDefault (port : Nat) : Dir :=
  blk "server" [] (listenDirs port ["default_server"] ++ [dir "default_type" [w "text/html"], dir "return" [w "404"]])

/-- createBaseProxySetHeaders(httpUpgradeHeader, httpConnectionHeader) (no keep-alive policy in the fragment) -/
def baseHeaders : List (String × String) := [
  ("Host", "$gw_api_compliant_host"), ("X-Forwarded-For", "$proxy_add_x_forwarded_for"), ("X-Real-IP", "$remote_addr"),
  ("X-Forwarded-Proto", "$scheme"), ("X-Forwarded-Host", "$host"), ("X-Forwarded-Port", "$server_port"),
  ("Upgrade", "$http_upgrade"), ("Connection", "$connection_upgrade")]

def requestURI : List Char := "$request_uri".toList

/-- backendGroupName; a group with more than one backend is addressed through its split_clients variable -/
def passHost (src : Src) : List Backend → List Char
  | [] => invalidBackendRef
  | [b] => if b.weight == 0 || !b.valid then invalidBackendRef else b.target
  | _ => '$' :: groupVar src.ns src.name src.rule

/-- createProxyPass (protocol http, no URLRewrite): `http://<upstream|$group_var>$request_uri` -/
def passTarget (src : Src) (bs : List Backend) : List Char := "http://".toList ++ passHost src bs ++ requestURI

/-- createReturnAndRewriteConfigForRedirectFilter: `<scheme>://<host>[:<port>]$request_uri`
(`port` is already `Pipeline.shownPort`) -/
def redirectBody (scheme host : Option Str) (port : Option Nat) : List Char :=
  scheme.getD "$scheme".toList ++ "://".toList ++ host.getD "$host".toList ++
    (match port with | some p => ':' :: digits p | none => []) ++ requestURI

def httpVersion : Dir := dir "proxy_http_version" [w "1.1"]

/-- the body of a location that carries an action (template order: return, …, proxy_http_version, headers, pass) -/
def actDirs : RAct → List Dir
  | .proxy src bs =>
    httpVersion :: (baseHeaders.map fun h => dir "proxy_set_header" [w h.1, q h.2.toList]) ++
      [dir "proxy_pass" [wl (passTarget src bs)]]
  | .redirect code scheme host port => [dir "return" [wl (digits code), q (redirectBody scheme host port)], httpVersion]
  | .status code => [dir "return" [wl (digits code), q []], httpVersion]

/-- `location {{ $l.Path }}`: createPath / exactPath -/
def locArgs (k : Bool × Str) : List Arg := if k.1 then [w "=", wl k.2] else [wl k.2]

/-- httpMatchKey := serverID + "_" + strconv.Itoa(pathRuleIdx) -/
def matchKey (sid idx : Nat) : List Char := digits sid ++ '_' :: digits idx

/-- an external location of type "redirect" -/
def njsDirs (sid idx : Nat) : List Dir :=
  [dir "set" [w "$match_key", wl (matchKey sid idx)], dir "js_content" [w "httpmatches.redirect"], httpVersion]

def internalLoc (idx : Nat) (jm : Nat × RMatch) : Dir :=
  blk "location" [wl (internalLocPath idx jm.1)] (dir "internal" [] :: actDirs jm.2.act)

/-- the locations of one path rule: external ones, then (if needed) one internal location per match rule -/
def renderRule (sid : Nat) (r : RRule) : List Dir :=
  match r.act with
  | .direct a => r.ext.map fun k => blk "location" (locArgs k) (actDirs a)
  | .njs ms => (r.ext.map fun k => blk "location" (locArgs k) (njsDirs sid r.idx)) ++ (enumFrom 0 ms).map (internalLoc r.idx)

def rootLoc : Dir := blk "location" [w "/"] (actDirs (.status 404))

def sortRules (rs : List RRule) : List RRule := rs.mergeSort fun a b => a.idx ≤ b.idx

def renderServer (sv : RServer) : Dir :=
  blk "server" [] (listenDirs sv.port [] ++ [dir "server_name" [wl sv.name]] ++
    (sortRules sv.rules).flatMap (renderRule sv.sid) ++ (if sv.root404 then [rootLoc] else []))

def unixServer (sock code : String) : Dir :=
  blk "server" [] [dir "listen" [w sock], dir "access_log" [w "off"], dir "return" [w code]]

def tailServers : List Dir :=
  [unixServer "unix:/var/run/nginx/nginx-503-server.sock" "503", unixServer "unix:/var/run/nginx/nginx-500-server.sock" "500"]

/-- all `server` blocks of `conf.HTTPServers` in serverID order -/
def serverDirs (c : ConfR) : List Dir :=
  (((c.dports.map fun d => (d.2, renderDefault d.1)) ++ (c.servers.map fun sv => (sv.sid, renderServer sv))).mergeSort
    fun a b => a.1 ≤ b.1).map (·.2)

/-- `fmt.Sprintf("%d.%02d", c/100, c%100)` followed by `%` -/
def pctName (c : Nat) : List Char := (NGF.SplitClients.centsDec c).chars ++ ['%']

/-- createSplitClientDistributions + the template: entries with a `0.00` share are commented out (no directive) -/
def splitEntries (bs : List Backend) : List Dir :=
  let ws := bs.map (·.weight)
  if ws.sum == 0 then [.mk "100%".toList [wl invalidBackendRef] none]
  else (zipDist bs (NGF.SplitClients.intCents ws)).filterMap fun vc =>
    if vc.2 == 0 then none else some (.mk (pctName vc.2) [wl vc.1] none)

def splitBlock (g : Src × List Backend) : Dir :=
  blk "split_clients" [w "$request_id", wl ('$' :: groupVar g.1.ns g.1.name g.1.rule)] (splitEntries g.2)

/-- backendGroupNeedsSplit -/
def needsSplit (g : Src × List Backend) : Bool := g.2.length > 1

def splitDirs (c : ConfR) : List Dir := (c.groups.filter needsSplit).map splitBlock

def preload : Dir := dir "js_preload_object" [w "matches", w "from", w "/etc/nginx/conf.d/matches.json"]

/-- what the servers template and the split_clients template put into http.conf for the fragment -/
def render (c : ConfR) : List Dir := preload :: serverDirs c ++ tailServers ++ splitDirs c

/-! ### matches.json -/

def withPath (idx : Nat) (jm : Nat × RMatch) : NjsMatch := { jm.2.njs with redirectPath := internalLocPath idx jm.1 }

def ruleMatches (sid : Nat) (r : RRule) : List (List Char × List NjsMatch) :=
  match r.act with
  | .direct _ => []
  | .njs ms => if r.ext.isEmpty then [] else [(matchKey sid r.idx, (enumFrom 0 ms).map (withPath r.idx))]

/-- `httpMatchPairs` of all servers (a Go map: the keys are distinct, see `matchKeys_nodup`) -/
def matchesOf (c : ConfR) : List (List Char × List NjsMatch) :=
  c.servers.flatMap fun sv => sv.rules.flatMap (ruleMatches sv.sid)

/-- what the well-formedness judges read of matches.json: key → redirect paths -/
def matchKeysOf (c : ConfR) : List (List Char × List (List Char)) :=
  (matchesOf c).map fun km => (km.1, km.2.map (·.redirectPath))

/-! ### hypotheses on names (the known findings of C03 inside the fragment) -/

def nameChar (c : Char) : Bool := c.isAlphanum || c == '-'

/-- no two adjacent hyphens and no trailing hyphen (`Proofs/Mangle.GoodFor '-'`) -/
def noDoubleHyphen : List Char → Bool
  | [] => true
  | [c] => c != '-'
  | c :: d :: r => !(c == '-' && d == '-') && noDoubleHyphen (d :: r)

/-- route namespaces and names are `[A-Za-z0-9-]+` (no dot: C03:variable-name-with-dot) without `--` in the namespace
(C03:mangle-collision-double-hyphen); upstream names contain no `$` -/
def namesSafe (s : Scenario) : Bool :=
  s.routes.all fun r =>
    r.ns.all nameChar && r.name.all nameChar && noDoubleHyphen r.ns &&
    r.rules.all fun rule => (backendsOf rule.action).all fun b => !b.target.contains '$'

/-- listener ports of the served Gateway are TCP ports (the CRD admits 1..65535 only) -/
def portsOK (s : Scenario) : Bool :=
  match winner s with
  | none => true
  | some g => g.listeners.all fun l => decide (1 ≤ l.port) && decide (l.port ≤ 65535)

/-! ### the small structural judge -/

open NGF.WF (Issue str)

def named (n : String) (ds : List Dir) : List Dir := ds.filter fun d => d.name == n.toList

def blocksNamed (n : String) (ds : List Dir) : List Dir := ds.filter fun d => d.name == n.toList && d.block.isSome

def body (d : Dir) : List Dir := d.block.getD []

def arg0 (d : Dir) : List Char := (d.args.head?.map (·.1)).getD []

def argLast (d : Dir) : List Char := (d.args.getLast?.map (·.1)).getD []

/-- first element that occurs again later -/
def firstDup {α} [DecidableEq α] : List α → Option α
  | [] => none
  | x :: xs => if x ∈ xs then some x else firstDup xs

def dupIssue {α} [DecidableEq α] (clause : String) (show_ : α → String) (l : List α) : List Issue :=
  match firstDup l with
  | some k => [⟨clause, show_ k⟩]
  | none => []

def showPair (p : List Char × List Char) : String := str p.1 ++ " " ++ str p.2

/-- (listen address, server_name) pairs of a server block; a server without server_name has the name "" -/
def srvPairs (s : Dir) : List (List Char × List Char) :=
  let listens := (named "listen" (body s)).map arg0
  let names := (named "server_name" (body s)).flatMap fun c => c.args.map (·.1)
  let names := if names.isEmpty then [[]] else names
  listens.flatMap fun l => names.map fun n => (l, n)

def defaultListens (s : Dir) : List (List Char) :=
  ((named "listen" (body s)).filter fun c => (c.args.map (·.1)).contains "default_server".toList).map arg0

/-- location identity: (modifier, path); a location without modifier is "P" -/
def locKeyL (d : Dir) : List Char × List Char :=
  match d.args with
  | [(p, _)] => ("P".toList, p)
  | [(m, _), (p, _)] => (m, p)
  | _ => ("?".toList, [])

def isInternal (d : Dir) : Bool := (body d).any fun c => c.name == "internal".toList

/-- `set $match_key <k>;` -/
def keyOfDir (c : Dir) : Option (List Char) :=
  if c.name == "set".toList && arg0 c == "$match_key".toList then some (argLast c) else none

/-- keys used by `set $match_key <k>;` in the locations of a server -/
def keysUsed (locs : List Dir) : List (List Char) := locs.flatMap fun d => (body d).filterMap keyOfDir

def keyIssues (mk : List (List Char × List (List Char))) (locs : List Dir) : List Issue :=
  let internalLocs := (locs.filter isInternal).map locKeyL
  (keysUsed locs).flatMap fun k =>
    match mk.find? (·.1 == k) with
    | none => [⟨"match-key-missing", str k⟩]
    | some (_, paths) => (paths.filter fun p => !internalLocs.contains ("P".toList, p)).map fun p =>
        ⟨"redirect-target-missing", str k ++ " -> " ++ str p⟩

/-- variable defined by a split_clients block (without the `$`) -/
def splitVar (d : Dir) : List Char := (argLast d).drop 1

/-- a split_clients percentage in hundredths (`ngx_atofp(value, len-1, 2)`; 0 is rejected) -/
def pctOf (name : List Char) : Option Nat :=
  if name.getLast? == some '%' then
    match NGF.SplitClientsJudge.atofp2 name.dropLast with
    | some 0 => none
    | x => x
  else none

/-- an entry of a split_clients block: a percentage, or `*` (the rest) -/
def pctEntry (name : List Char) : Option Nat := if name == ['*'] then some 0 else pctOf name

def showDir (d : Dir) : String := " ".intercalate (str d.name :: d.argStrings)

def splitIssues (sc : Dir) : List Issue :=
  let es := body sc
  (es.flatMap fun e => if e.args.length != 1 || e.block.isSome then [⟨"bad-split-entry", showDir e⟩] else []) ++
  (es.flatMap fun e => if (pctEntry e.name).isNone then [⟨"bad-percent", showDir e⟩] else []) ++
  (let total := (es.map fun e => (pctEntry e.name).getD 0).sum
   if total > 10000 then [⟨"percent-total", toString total⟩] else [])

def builtinL : List (List Char) := NGF.WF.builtinHttp.map String.toList

/-- one variable reference of a `proxy_pass` argument: defined by a split_clients block or built in -/
def refIssue (splitVars : List (List Char)) (arg : List Char) : NGF.WF.VarRef → List Issue
  | .err why => [⟨"bad-variable-syntax", "proxy_pass " ++ str arg ++ ": " ++ why⟩]
  | .name n =>
    if splitVars.contains n.toList || builtinL.contains n.toList then []
    else [⟨"unknown-variable", "proxy_pass " ++ str arg ++ ": unknown \"" ++ n ++ "\" variable"⟩]

/-- the variables of a `proxy_pass` argument as `ngx_http_script_compile` scans them -/
def passIssues (splitVars : List (List Char)) (d : Dir) : List Issue :=
  (NGF.WF.scriptVars (arg0 d)).flatMap (refIssue splitVars (arg0 d))

def serverIssues (mk : List (List Char × List (List Char))) (splitVars : List (List Char)) (s : Dir) : List Issue :=
  let locs := blocksNamed "location" (body s)
  dupIssue "duplicate-location" showPair (locs.map locKeyL) ++ keyIssues mk locs ++
    locs.flatMap fun l => (named "proxy_pass" (body l)).flatMap (passIssues splitVars)

/-- the arguments of a `listen` directive, as `Spec/WellFormedConf.listenWhy` (`ngx_parse_url`) reads them -/
def listenIssue (d : Dir) : List Issue :=
  match NGF.WF.listenWhy (d.args.map (·.1)) with
  | some why => [⟨"bad-listen", "listen " ++ " ".intercalate d.argStrings ++ ": " ++ why⟩]
  | none => []

/-- the judge: `ds` = the directives of the http block that come from http.conf, `mk` = matches.json (key → redirect paths) -/
def wfDirs (ds : List Dir) (mk : List (List Char × List (List Char))) : List Issue :=
  let servers := blocksNamed "server" ds
  let scs := blocksNamed "split_clients" ds
  let splitVars := scs.map splitVar
  dupIssue "duplicate-listen-server-name" showPair (servers.flatMap srvPairs) ++
  dupIssue "duplicate-default-server" str (servers.flatMap defaultListens) ++
  (scs.flatMap fun sc =>
    if (splitVar sc).all NGF.WF.isVarChar && !(splitVar sc).isEmpty then [] else [⟨"variable-name-not-lexable", "split_clients $" ++ str (splitVar sc)⟩]) ++
  dupIssue "duplicate-variable-definition" (fun v => "http $" ++ str v) splitVars ++
  scs.flatMap splitIssues ++
  servers.flatMap (serverIssues mk splitVars) ++
  servers.flatMap fun s => (named "listen" (body s)).flatMap listenIssue

end NGF.Render
