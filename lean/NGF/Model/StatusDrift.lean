/-
C08 — the retry loop against a CHANGING object ("live drift").

`NGF.Model.StatusWrite.runRetry` lets another writer change the stored object only as the cause of a
conflicting Update. Here every attempt is preceded by an optional edit of the stored object by
somebody else (`Step.edit = some st`: the status now stored is `st` — entries added, removed,
reordered, altered; any status at all), so the object the retry function's Get returns is a scripted
sequence of live objects that need not be the one the computed status was derived from.
`runLive` is what the driver executes; `runRetry` is the special case without edits
(`runLive_no_edits` in NGF/Proofs/StatusRetry.lean).

Harness side: `harness/c08/fake.go` (`op.pre`: the scripted client stores that status right before
the Get of the attempt), schedule syntax `e<i>+<op>`.
-/
import NGF.Model.StatusWrite

namespace NGF.StatusWrite

/-- One attempt of the retry function in a world with other writers. -/
structure Step where
  edit : Option Status   -- what another writer stored between the previous attempt and this Get
  op   : Op
  deriving DecidableEq, Repr

def Step.quiet : Step := ⟨none, .ok⟩

/-- the object the Get of this attempt returns when `store` was stored after the previous attempt -/
def Step.live (st : Step) (store : Status) : Status := st.edit.getD store

def attemptLive (inv : Invoke) (r : Run) (st : Step) : Run × Bool :=
  attempt inv { r with store := st.live r.store } st.op

/-- `wait.ExponentialBackoffWithContext` with `steps` steps over a script of (edit, outcome); a script
shorter than the number of attempts continues quietly (no edit, Get and Update succeed). -/
def runLive (inv : Invoke) : Nat → Run → List Step → Run
  | 0, r, _ => r
  | n + 1, r, script =>
    let st := script.headD .quiet
    let (r', done) := attemptLive inv r st
    if done then r' else runLive inv n r' script.tail

/-- What is stored after a NON-final attempt that fetched `live` (the environment's part only). -/
def afterAttempt (live : Status) : Op → Status
  | .updFail (some p) => p
  | _ => live

/-- The sequence of live objects the Gets of attempts 0, 1, … return as long as no write succeeds:
a function of the initial store and the script only (not of the setter). -/
def liveSeq : Nat → Status → List Step → List Status
  | 0, _, _ => []
  | n + 1, store, script =>
    let st := script.headD .quiet
    let live := st.live store
    live :: liveSeq n (afterAttempt live st.op) script.tail

end NGF.StatusWrite
