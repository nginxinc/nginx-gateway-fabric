/-
C05 (task C05-nil) — totality of the mirrored implicit panic sites under the CRD's admissibility predicates, and
`unsupported_surfaces_as_condition`: every admissible-but-unsupported value yields an error / condition, never silence.

All theorems are about the functions of `NGF.Model.NilGuards` that `ngfdriver_C05 unit` runs on the shapes the
harness feeds to the REAL functions (harness/c05/unit.go), on admissible AND CEL-bypassing shapes.

The same pattern on each surface (filters, listeners, backendRefs, BackendTLSPolicy, path matches): the validator is
total on admissible shapes; what it accepts the next stage handles without a dereference, for ALL shapes (validation
guards conversion / resolution); hence the pipeline is total; and the unsupported shapes are among those the validator
reports.  A function that is a chain of `if`s is total arm by arm (`ok_ite`).  For BackendTLSPolicy the code was
repaired (commit cc3f1c7) after this check found the crash; the pre-fix mirror `processBtpPre` stays as a regression
detector with its witness and exact characterisation.
-/
import NGF.Model.NilGuards
import NGF.Proofs.PanicSites

namespace NGF.NilGuards
open NGF.PanicSites (validateFilterType)

theorem validatePathMod_total (p : Option PathMod) (h : (match p with | none => true | some pm => pm.adm) = true) :
    ∃ b, validatePathMod p = .ok b := by
  cases p with
  | none => exact ⟨false, rfl⟩
  | some pm =>
    simp only [PathMod.adm, Bool.and_eq_true, beq_iff_eq] at h
    exact ok_ite (fun h1 => ⟨false, if_pos (h.1.2.trans h1)⟩) fun _ =>
      ok_ite (fun h2 => ⟨false, if_pos (h.2.trans h2)⟩) fun _ => ⟨true, rfl⟩

theorem validatePathFilter_total (f : Option PathFilter) (h : (match f with | none => true | some b => b.adm) = true) :
    ∃ b, validatePathFilter f = .ok b := by
  cases f with
  | none => exact ⟨true, rfl⟩
  | some b =>
    obtain ⟨e, he⟩ := validatePathMod_total b.path h
    exact ⟨e || b.bad, by simp only [validatePathFilter, he]⟩

/-- `validateFilter` never dereferences a nil union member on a filter that passes the CRD's CEL rules: for every
admissible filter shape (any type of the enum, any value-validator outcome).  Every arm of the switch is a literal
result or one of the two path-filter validators. -/
theorem Filter.validate_total (f : Filter) (ha : f.adm = true) : ∃ b, validateFilter f = .ok b := by
  simp only [Filter.adm, Bool.and_eq_true] at ha
  unfold validateFilter
  exact ok_ite (fun _ => ⟨_, rfl⟩) fun _ => ok_ite (fun _ => validatePathFilter_total _ ha.1.2) fun _ =>
    ok_ite (fun _ => validatePathFilter_total _ ha.2) fun _ =>
    ok_ite (fun _ => ⟨_, rfl⟩) fun _ => ok_ite (fun _ => ⟨_, rfl⟩) fun _ => ok_ite (fun _ => ⟨_, rfl⟩) fun _ => ⟨_, rfl⟩
/-- `convertPathModifier` dereferences exactly what the validators' `switch x.Path.Type` dereferences -/
theorem convertPathMod_of_validate (p : Option PathMod) {e : Bool} (h : validatePathMod p = .ok e) :
    convertPathMod p = .ok () := by
  cases p with
  | none => rfl
  | some pm =>
    exact ite_eq_of_ite_eq h (ite_eq_of_ite_eq · (fun _ => rfl) nofun) fun h =>
      ite_eq_of_ite_eq h (ite_eq_of_ite_eq · (fun _ => rfl) nofun) fun _ => rfl

theorem convertPathFilter_of_validate (f : Option PathFilter) (h : validatePathFilter f = .ok false) :
    convertPathFilter f = .ok () := by
  cases f with
  | none => cases h
  | some b =>
    simp only [validatePathFilter] at h
    cases hv : validatePathMod b.path with
    | error s => rw [hv] at h; cases h
    | ok e => exact convertPathMod_of_validate b.path hv

/-- For EVERY filter shape — admissible or not — a filter that `validateFilter` accepts without error is converted
by `createHTTPFilters` without a nil dereference: validation guards conversion.  The two functions switch over the
filter type in the same order. -/
theorem Filter.convert_after_validate (f : Filter) (h : validateFilter f = .ok false) : convertFilter f = .ok () := by
  have hdr (b : Option Bool) (h : Except.ok (ε := GSite) (validateBody b) = .ok false) :
      (if b.isSome then .ok () else .error .convertFilterBody : Except GSite Unit) = .ok () := by
    cases b with
    | none => cases h
    | some _ => rfl
  unfold validateFilter at h
  by_cases h0 : (!validateFilterType f.grpc f.type) = true
  · rw [if_pos h0] at h; cases h
  rw [if_neg h0] at h
  exact ite_eq_of_ite_eq h (convertPathFilter_of_validate _) fun h =>
    ite_eq_of_ite_eq h (convertPathFilter_of_validate _) fun h =>
    ite_eq_of_ite_eq h (hdr _) fun h => ite_eq_of_ite_eq h (hdr _) fun _ => rfl
/-- the whole filter path (validate, then convert what was accepted) is total on admissible filters -/
theorem Filter.pipeline_total (f : Filter) (ha : f.adm = true) : ∃ b, filterPipeline f = .ok b := by
  obtain ⟨b, hb⟩ := Filter.validate_total f ha
  unfold filterPipeline
  cases b with
  | true => exact ⟨true, by simp [hb]⟩
  | false => exact ⟨false, by simp [hb, Filter.convert_after_validate f hb]⟩

/-- an admissible RequestMirror filter (HTTP or GRPC) is reported as an error — it is never silently dropped -/
theorem Filter.unsupported_reported (f : Filter) (hu : f.unsupported = true) : filterPipeline f = .ok true := by
  have ht : f.type = "RequestMirror" := beq_iff_eq.mp hu
  have hv : validateFilterType f.grpc f.type = false := by
    rw [ht]; cases f.grpc <;> decide +kernel
  have : validateFilter f = .ok true := by
    unfold validateFilter; rw [hv]; rfl
  unfold filterPipeline
  rw [this]

/-- admissible filters of every type exist (non-vacuity), and the CEL-bypassing shapes do crash the mirror: a
RequestRedirect whose path says ReplaceFullPath without the value, and — behind a validation that is skipped —
nothing else (conversion is guarded for all shapes). -/
example : (⟨false, "RequestRedirect", some ⟨some ⟨"ReplaceFullPath", true, false⟩, false⟩, none, none, none, none, false⟩ :
    Filter).adm = true := by decide +kernel
example : (⟨true, "RequestMirror", none, none, none, none, none, true⟩ : Filter).adm = true := by decide +kernel

theorem Filter.cel_bypass_witness :
    let f : Filter := ⟨false, "RequestRedirect", some ⟨some ⟨"ReplaceFullPath", false, false⟩, false⟩, none, none, none, none, false⟩
    f.adm = false ∧ filterPipeline f = .error .pathModBody := by decide +kernel

/-- `tls.mode` is set whenever `tls` is (the CRD defaults it to Terminate) -/
def ModeSet (t : Option Tls) : Prop := ∀ x, t = some x → x.mode.isSome = true

theorem Tls.validate_total (t : Option Tls) (hm : ModeSet t) : ∃ n, httpsValidate t = .ok n := by
  cases t with
  | none => exact ⟨1, rfl⟩
  | some x =>
    obtain ⟨m, hmode⟩ := Option.isSome_iff_exists.mp (hm x rfl)
    simp only [httpsValidate, hmode]
    exact ok_ite (fun _ => ⟨_, rfl⟩) fun _ => ⟨_, rfl⟩

/-- the HTTPS validator reports nothing on one shape only: mode Terminate, no options, exactly one certificateRef,
and that a core Secret -/
theorem httpsValidate_zero {t : Option Tls} (h : httpsValidate t = .ok 0) :
    ∃ x, t = some x ∧ x.mode = some "Terminate" ∧ x.nOpts = 0 ∧ x.nCerts = 1 ∧ x.kindOk = true ∧ x.groupOk = true := by
  cases t with
  | none => cases h
  | some x =>
    cases hmode : x.mode with
    | none => simp only [httpsValidate, hmode] at h; cases h
    | some m =>
      simp only [httpsValidate, hmode] at h
      by_cases hc : (x.nCerts == 0) = true
      · rw [if_pos hc, Except.ok.injEq] at h; omega
      · rw [if_neg hc, Except.ok.injEq] at h
        -- a sum of 0/1 indicators is 0 only if each of them is
        simp at h hc
        obtain ⟨⟨⟨⟨hm, ho⟩, hk⟩, hg⟩, h1⟩ := h
        exact ⟨x, rfl, by rw [hmode, hm], ho, by omega, hk, hg⟩

/-- For EVERY tls shape: when the HTTPS validator reports nothing, the secret resolver finds `tls` and
`certificateRefs[0]` — the validator guards the resolver. -/
theorem Tls.resolve_after_validate (t : Option Tls) (h : httpsValidate t = .ok 0) : tlsResolve t = .ok () := by
  obtain ⟨x, rfl, _, _, h1, _⟩ := httpsValidate_zero h
  simp only [tlsResolve, h1]
  rfl

/-- `configure` is total once `tls.mode` is defaulted, and an unsupported listener comes out of it with a condition:
one walk over the four configurators -/
theorem Listener.configure_reports (l : ListenerIn) (hm : ModeSet l.tls) :
    ∃ o, configure l = .ok o ∧ (l.unsupported = true → o.hasConds = true) := by
  unfold configure ListenerIn.unsupported
  by_cases h1 : (l.proto == "HTTP") = true
  · rw [if_pos h1, beq_iff_eq.mp h1]; exact ⟨_, rfl, by simp⟩
  rw [if_neg h1]
  by_cases h2 : (l.proto == "HTTPS") = true
  · obtain ⟨n, hn⟩ := Tls.validate_total l.tls hm
    rw [if_pos h2, beq_iff_eq.mp h2]
    simp only [hn]
    by_cases h0 : (otherConds l + n != 0) = true
    · rw [if_pos h0]; exact ⟨_, rfl, fun _ => rfl⟩
    · -- the validator reported nothing, so the resolver runs and the shape is the supported one
      have hz : n = 0 := by
        have : otherConds l + n = 0 := by simpa using h0
        omega
      subst hz
      obtain ⟨x, hx, _, ho, hn1, hk, hg⟩ := httpsValidate_zero hn
      rw [if_neg h0, Tls.resolve_after_validate l.tls hn, hx]
      exact ⟨_, rfl, by simp [ho, hn1, hk, hg]⟩
  rw [if_neg h2]
  by_cases h3 : (l.proto == "TLS") = true
  · rw [if_pos h3, beq_iff_eq.mp h3]
    refine ⟨_, rfl, fun hu => ?_⟩
    -- `validateTLSFieldOnTLSListener` counts one unless tls is there with mode Passthrough
    cases ht : l.tls with
    | none => simp [tlsListenerValidate]
    | some t => cases hmode : t.mode <;> simp_all [tlsListenerValidate]
  · rw [if_neg h3]; exact ⟨_, rfl, fun _ => rfl⟩

/-- a listener that `configure` leaves valid has one of the three protocols `buildServers` knows -/
theorem Listener.valid_protocol (l : ListenerIn) (o : ListenerOut) (h : configure l = .ok o) (hv : o.valid = true) :
    l.proto = "HTTP" ∨ l.proto = "HTTPS" ∨ l.proto = "TLS" := by
  by_cases h1 : (l.proto == "HTTP") = true
  · exact Or.inl (beq_iff_eq.mp h1)
  by_cases h2 : (l.proto == "HTTPS") = true
  · exact Or.inr (Or.inl (beq_iff_eq.mp h2))
  by_cases h3 : (l.proto == "TLS") = true
  · exact Or.inr (Or.inr (beq_iff_eq.mp h3))
  unfold configure at h
  rw [if_neg h1, if_neg h2, if_neg h3, Except.ok.injEq] at h
  rw [← h] at hv
  cases hv

theorem protocolMapWrite_total (l : ListenerIn) (o : ListenerOut) (h : configure l = .ok o) :
    protocolMapWrite l.proto o.valid = .ok () := by
  unfold protocolMapWrite
  by_cases hv : o.valid = true
  · rcases Listener.valid_protocol l o h hv with hp | hp | hp <;> simp [hp, hv]
  · by_cases ht : (l.proto == "TLS") = true <;> simp [ht, hv]

theorem Listener.pipeline_reports (l : ListenerIn) (hm : ModeSet l.tls) :
    ∃ o, listenerPipeline l = .ok o ∧ (l.unsupported = true → o.hasConds = true) := by
  obtain ⟨o, hc, hr⟩ := Listener.configure_reports l hm
  exact ⟨o, by simp only [listenerPipeline, hc, protocolMapWrite_total l o hc], hr⟩

/-- the whole listener path (configurator choice, validators, secret resolver, the protocol map of `buildServers`)
is total for every listener whose `tls.mode` is defaulted — any protocol string, any tls shape -/
theorem Listener.pipeline_total (l : ListenerIn) (hm : ModeSet l.tls) : ∃ o, listenerPipeline l = .ok o :=
  (Listener.pipeline_reports l hm).imp fun _ h => h.1

theorem Listener.adm_modeSet (l : ListenerIn) (ha : l.adm = true) : ModeSet l.tls := by
  intro x hx
  unfold ListenerIn.adm at ha
  rw [hx] at ha
  simp only [Bool.and_eq_true] at ha
  exact ha.1.1.1

/-- every admissible-but-unsupported listener (protocol outside HTTP / HTTPS / TLS, HTTPS without tls, tls options,
no / several / non-Secret certificateRefs, a TLS listener that does not pass through) carries a condition -/
theorem Listener.unsupported_reported (l : ListenerIn) (hm : ModeSet l.tls) (hu : l.unsupported = true) :
    ∃ o, listenerPipeline l = .ok o ∧ o.hasConds = true :=
  (Listener.pipeline_reports l hm).imp fun _ h => ⟨h.1, h.2 hu⟩

example : (⟨"HTTPS", some ⟨some "Terminate", 0, true, true, 1⟩, false, true⟩ : ListenerIn).adm = true := by decide +kernel
example : ModeSet (some ⟨some "Terminate", 1, true, true, 0⟩) := by intro x hx; cases hx; rfl

/-- why the CRD default of `tls.mode` is needed: with it unset the HTTPS validator dereferences nil -/
theorem Tls.nil_mode_witness :
    let l : ListenerIn := ⟨"HTTPS", some ⟨none, 1, true, true, 0⟩, false, true⟩
    l.adm = false ∧ listenerPipeline l = .error .tlsMode := by decide +kernel

/-- For EVERY backendRef shape — admissible or not — `*ref.Port` is only reached behind `validateBackendRef`'s
"port cannot be nil": no hypothesis needed. -/
theorem BackendRef.pipeline_total (r : BackendRefShape) : ∃ v, backendRefPipeline r = .ok v := by
  unfold backendRefPipeline
  refine ok_ite (fun _ => ⟨_, rfl⟩) fun hv => ok_ite (fun _ => ⟨_, rfl⟩) fun _ => ?_
  cases hp : r.port with
  | some p => exact ⟨true, rfl⟩
  | none => simp [validateBackendRef, hp] at hv

/-- an unsupported backendRef (non-core group, kind other than Service, backendRef-level filters) is invalid — and
the Go function returns a condition with every `false` — for all shapes -/
theorem BackendRef.unsupported_reported (r : BackendRefShape) (hu : r.unsupported = true) :
    backendRefPipeline r = .ok false := by
  -- each of the three reasons is one of the first three tests of `validateBackendRef`
  simp only [BackendRefShape.unsupported, Bool.or_eq_true, Bool.not_eq_true', decide_eq_true_eq] at hu
  rcases hu with (h | h) | h <;> simp [backendRefPipeline, validateBackendRef, h]

example : (⟨"empty", false, false, false, none, true, 0, true⟩ : BackendRefShape).adm = true := by decide +kernel

/-- a backendRef with group "core", kind Service and NO port passes the CEL rule (it only looks at the empty group);
the mirror reports it invalid ("port cannot be nil") instead of dereferencing the port -/
example : (⟨"core", true, false, false, none, true, 0, true⟩ : BackendRefShape).adm = true
    ∧ backendRefPipeline ⟨"core", true, false, false, none, true, 0, true⟩ = .ok false := by decide +kernel

/-- `validateBackendTLSPolicy` has no implicit panic site of its own in the mirror -/
theorem validateBtp_total (b : BtpShape) : ∃ r, validateBtp b = .ok r := by
  unfold validateBtp
  exact ok_ite (fun _ => ⟨_, rfl⟩) fun _ => ok_ite (fun _ => ⟨_, rfl⟩) fun _ => by
    cases b.wellKnown <;> exact ⟨_, rfl⟩

/-- MAIN THEOREM for the `CACertificateRefs[0]` access of `processBackendTLSPolicies` (commit cc3f1c7: the index is
behind `len(…) > 0`): total for EVERY policy shape — nil, empty or non-empty list, any wellKnown value, ancestors full or
not — no admissibility hypothesis. -/
theorem Btp.process_total (b : BtpShape) : ∃ o, processBtp b = .ok o := by
  obtain ⟨⟨valid, ignored, n⟩, hv⟩ := validateBtp_total b
  unfold processBtp
  simp only [hv]
  refine ok_ite (fun hc => ok_ite (fun h0 => ?_) fun _ => ⟨_, rfl⟩) fun _ => ⟨_, rfl⟩
  simp only [Bool.and_eq_true, decide_eq_true_eq, beq_iff_eq] at hc h0
  omega

/-- the regression input (corpus/C05/04-…) is harmless on the current code -/
theorem Btp.empty_caRefs_now_ok :
    processBtp ⟨false, true, some 0, true, true, some "System"⟩ = .ok (true, 0) := by decide +kernel

example : (⟨false, true, some 1, true, true, none⟩ : BtpShape).adm = true := by decide +kernel

/-! regression detector: the PRE-FIX mirror (code before cc3f1c7).  These theorems document the old defect and keep its
signature (`C05:panic:backend_tls_policy.go:graph.processBackendTLSPolicies:index`, status `fixed`) meaningful: a revert makes
the real function behave like `processBtpPre` again, which the unit stream recognises (`pre=` of the driver). -/

/-- the old defect: `caCertificateRefs: []` next to `wellKnownCACertificates: System` passes both CEL rules (they test
`size(...) > 0`), decodes to an empty non-nil slice, validates through the wellKnown arm, and the pre-fix
`processBackendTLSPolicies` indexed element 0. -/
theorem Btp.pre_empty_caRefs_witness :
    let b : BtpShape := ⟨false, true, some 0, true, true, some "System"⟩
    b.adm = true ∧ processBtpPre b = .error .btpCaIndex := by decide +kernel

/-- the pre-fix index is reached exactly by a valid, not ignored policy whose list is non-nil and empty -/
theorem processBtpPre_error_iff (b : BtpShape) :
    (∃ s, processBtpPre b = .error s) ↔ ∃ n, validateBtp b = .ok (true, false, n) ∧ b.caRefs = some 0 := by
  obtain ⟨⟨valid, ignored, n⟩, hv⟩ := validateBtp_total b
  simp only [processBtpPre, hv, caLen]
  clear hv
  rcases b with ⟨_, _, _ | _ | k, _, _, _⟩ <;> cases valid <;> cases ignored <;> simp

/-- exact characterisation of the old panic over the mirror of `validateBackendTLSPolicy` -/
theorem Btp.pre_process_error_iff (b : BtpShape) :
    (∃ s, processBtpPre b = .error s) ↔
      (b.caRefs = some 0 ∧ b.ancestorsFull = false ∧ b.hostOk = true ∧ b.wellKnown = some "System") := by
  rw [processBtpPre_error_iff]
  -- with an empty list the policy validates through the `wellKnownCACertificates` arm
  constructor
  · rintro ⟨n, hv, hc⟩
    simp only [validateBtp, caLen, hc] at hv
    cases hw : b.wellKnown with
    | none => rw [hw] at hv; simp at hv
    | some w => rw [hw] at hv; simp at hv; simp [hc, hv]
  · rintro ⟨hc, hf, hh, hw⟩
    exact ⟨_, by simp only [validateBtp, caLen, hc, hw, hf, hh]; rfl, hc⟩
/-- what could be proved before the repair: without the empty non-nil list the processing is total -/
theorem Btp.pre_process_partial (b : BtpShape) (h : b.caRefs ≠ some 0) : ∃ o, processBtpPre b = .ok o := by
  cases hp : processBtpPre b with
  | ok o => exact ⟨o, rfl⟩
  | error s =>
    exfalso
    exact h ((Btp.pre_process_error_iff b).mp ⟨s, hp⟩).1

/-- an unsupported list of caCertificateRefs is non-empty, and on a non-empty list every arm of the validator adds
a condition and leaves the policy invalid — admissible or not -/
theorem validateBtp_of_unsupported {b : BtpShape} (hu : b.unsupported = true) :
    ∃ i n, validateBtp b = .ok (false, i, n) ∧ n > 0 := by
  simp only [BtpShape.unsupported, Bool.or_eq_true, Bool.and_eq_true, decide_eq_true_eq, beq_iff_eq,
    Bool.not_eq_true'] at hu
  have hp : caLen b > 0 := by omega
  have hpos : decide (caLen b > 0) = true := decide_eq_true hp
  unfold validateBtp
  by_cases hw : b.wellKnown.isSome = true
  · rw [if_pos (by rw [hpos, hw]; rfl)]; exact ⟨_, _, rfl, by omega⟩
  · have he : (if caLen b != 1 then 1 else if !b.caKindOk then 1 else if !b.caResolves then 1 else 0) = 1 := by
      rcases hu with h | ⟨h1, h2⟩
      · rw [if_pos (by simpa using (by omega : caLen b ≠ 1))]
      · rw [if_neg (by simp [h1]), if_pos (by rw [h2]; rfl)]
    rw [if_neg (by rw [hpos]; simpa using hw), if_pos hp]
    simp only [he]
    exact ⟨b.ancestorsFull, (if b.hostOk then 0 else 1) + 1, by simp, by omega⟩

/-- several caCertificateRefs, or one that is not a core ConfigMap, are admissible, unsupported, and reported -/
theorem Btp.unsupported_reported (b : BtpShape) (hu : b.unsupported = true) :
    ∃ v n, processBtp b = .ok (v, n) ∧ n > 0 := by
  obtain ⟨i, n, hv, hn⟩ := validateBtp_of_unsupported hu
  exact ⟨false, n, by simp only [processBtp, hv]; rfl, hn⟩

/-- `upsertRoute`'s `*m.Path.Type` and `convertPathType` are total on admissible path matches (path, type, value
defaulted by the CRD; type of the enum): any validator of the value -/
theorem PathMatch.pipeline_total (valueOk : String → Bool) (p : Option PanicSites.PathMatch)
    (ha : pathMatchAdm p = true) : ∃ n, pathMatchPipeline valueOk p = .ok n := by
  cases p with
  | none => simp [pathMatchAdm] at ha
  | some pm =>
    unfold pathMatchPipeline
    simp only
    by_cases hn : PanicSites.validatePathMatch valueOk (some pm) = 0
    · obtain ⟨pt, hpt⟩ := PanicSites.matchPathType_ok (k := 0) hn
      exact ⟨0, by simp [hn, hpt]⟩
    · refine ⟨PanicSites.validatePathMatch valueOk (some pm), ?_⟩
      simp [hn]

/-- a RegularExpression path match is not implemented and is reported: at least one error, for every value validator,
whether or not the value is set -/
theorem PathMatch.unsupported_reported (valueOk : String → Bool) (p : Option PanicSites.PathMatch)
    (hu : pathMatchUnsupported p = true) : ∃ n, pathMatchPipeline valueOk p = .ok n ∧ n > 0 := by
  cases p with
  | none => cases hu
  | some pm =>
    -- no error would mean a type `validatePathMatch` accepts
    have hpos : PanicSites.validatePathMatch valueOk (some pm) ≠ 0 := fun h0 => by
      obtain ⟨t, ht, h⟩ := PanicSites.validatePathMatch_zero h0
      cases (beq_iff_eq.mp hu).symm.trans ht
      revert h; decide
    exact ⟨_, by simp [pathMatchPipeline, hpos], Nat.pos_of_ne_zero hpos⟩

example : pathMatchAdm (some ⟨some "RegularExpression", some "/a.*"⟩) = true := by decide +kernel

/-- Every admissible-but-unsupported value of the mirrored surfaces — a RequestMirror filter, a RegularExpression path
match, a backendRef of another group / kind or with backendRef filters, a listener protocol other than HTTP / HTTPS /
TLS, tls options, an HTTPS listener without exactly one core-Secret certificateRef, a TLS listener that does not pass
through, several / non-ConfigMap caCertificateRefs — makes the mirrored function report an error or condition
(which the graph turns into a status condition), never silence.  Judged on the REAL functions' outputs by
`ngfdriver_C05 ujudge` on every generated shape. -/
theorem unsupported_surfaces_as_condition :
    (∀ f : Filter, f.unsupported = true → filterPipeline f = .ok true)
    ∧ (∀ (valueOk : String → Bool) (p : Option PanicSites.PathMatch), pathMatchAdm p = true → pathMatchUnsupported p = true →
        ∃ n, pathMatchPipeline valueOk p = .ok n ∧ n > 0)
    ∧ (∀ r : BackendRefShape, r.unsupported = true → backendRefPipeline r = .ok false)
    ∧ (∀ l : ListenerIn, l.adm = true → l.unsupported = true → ∃ o, listenerPipeline l = .ok o ∧ o.hasConds = true)
    ∧ (∀ b : BtpShape, b.adm = true → b.unsupported = true → ∃ v n, processBtp b = .ok (v, n) ∧ n > 0) :=
  ⟨Filter.unsupported_reported, fun valueOk p _ hu => PathMatch.unsupported_reported valueOk p hu,
   BackendRef.unsupported_reported,
   fun l ha hu => Listener.unsupported_reported l (Listener.adm_modeSet l ha) hu,
   fun b _ hu => Btp.unsupported_reported b hu⟩

end NGF.NilGuards
