/-
C11 — files on disk equal the last generated set, whatever I/O faults occurred.

Property theorems for the file manager model (`NGF.Model.FileMgr`): its functions are the ones
the driver `ngfdriver_C11` runs and the correspondence compares with the real
`file.ManagerImpl.ReplaceFiles` / `file.ClearFolders`.  Every theorem quantifies over ALL fault
schedules `sch : Nat → Option Fault` (any number of failing operations of any kind at any operation
index, including a crash of the process at any operation, with any partial-write length), all file
sets (no `Nodup` assumption unless stated) and all histories.  The last part does the same for the file SET of
`GeneratorImpl.Generate` (`NGF.Model.GenPaths`): its paths lie in the managed folders, are pairwise distinct for
Kubernetes-legal names, and carry the secret type exactly where they hold credentials.
-/
import NGF.Model.FileMgr
import NGF.Model.GenPaths
import NGF.Proofs.FileMgr
import NGF.Proofs.GenPaths
import NGF.Generated.FileFacts

namespace NGF.FileMgr
open NGF.Generated.FileMgr

/-! ## Facts regenerated from /repo on every run, tied to what the model assumes -/

theorem facts_file_modes : regularFileMode = regularMode ∧ secretFileMode = secretMode := ⟨rfl, rfl⟩

/-- the secret mode has no permission bit for "others", the regular one is world-readable (NGINX workers) -/
theorem secret_mode_not_world_readable : modeOf .secret % 8 = 0 ∧ secretFileMode % 8 = 0 := by decide +kernel

theorem facts_config_folders : configFolders = managedFolders := rfl

theorem facts_ignore_paths : ignoreFilePaths = ignorePaths := rfl

/-- the bootstrap files live in a managed folder (so `ClearFolders` meets them and must skip them) -/
theorem ignore_paths_in_managed_folders : ∀ p ∈ ignorePaths, dirOf p ∈ managedFolders := by
  have hm : "/etc/nginx/main-includes" ∈ managedFolders := by simp [managedFolders]
  simp only [ignorePaths, List.forall_mem_cons]
  refine ⟨dirOf_mem hm ?_, dirOf_mem hm ?_, dirOf_mem hm ?_, nofun⟩ <;> decide +kernel

/-- the path is tracked BEFORE `WriteFile` is called (commit 167f009): the model's `replaceFiles` is
`replaceFilesV true`. -/
theorem facts_track_before_write : trackBeforeWrite = true := rfl

theorem facts_replaceFiles_skeleton : replaceFilesSkeleton =
    ["0|range m.lastWrittenPaths",
     "1|if err := m.osFileManager.Remove(path); err != nil",
     "2|if os.IsNotExist(err)",
     "3|continue",
     "2|return fmt.Errorf(…)",
     "0|m.lastWrittenPaths = make([]string, 0, len(files))",
     "0|range files",
     "1|m.lastWrittenPaths = append(m.lastWrittenPaths, file.Path)",
     "1|if err := WriteFile(m.osFileManager, file); err != nil",
     "2|return fmt.Errorf(…)",
     "0|return nil"] := rfl

/-- `WriteFile`: Create, then Chmod (per type), then Write -/
theorem facts_writeFile_calls : writeFileCalls =
    ["Create(file.Path)", "Chmod(f, regularFileMode)", "Chmod(f, secretFileMode)",
     "Write(f, file.Content)"] := rfl

theorem facts_writeFile_skeleton : writeFileSkeleton =
    ["0|ensureType(file.Type)",
     "0|f, err := fileMgr.Create(file.Path)",
     "0|if err != nil",
     "1|return fmt.Errorf(…)",
     "0|var resultErr error",
     "0|defer",
     "1|if err := f.Close(); err != nil",
     "2|resultErr = errors.Join(resultErr, fmt.Errorf(…)",
     "0|switch file.Type",
     "1|case TypeRegular",
     "2|if err := fileMgr.Chmod(f, regularFileMode); err != nil",
     "3|resultErr = fmt.Errorf(…)",
     "3|return resultErr",
     "1|case TypeSecret",
     "2|if err := fileMgr.Chmod(f, secretFileMode); err != nil",
     "3|resultErr = fmt.Errorf(…)",
     "3|return resultErr",
     "1|default",
     "2|panic(fmt.Sprintf(\"unknown file type %d\", file.Type))",
     "0|if err := fileMgr.Write(f, file.Content); err != nil",
     "1|resultErr = fmt.Errorf(…)",
     "1|return resultErr",
     "0|return resultErr"] := rfl

theorem facts_clearFolders_skeleton : clearFoldersSkeleton =
    ["0|range paths",
     "1|entries, err := fileMgr.ReadDir(path)",
     "1|if err != nil",
     "2|return removedFiles, fmt.Errorf(…)",
     "1|range entries",
     "2|entryPath := filepath.Join(path, entry.Name())",
     "2|if slices.Contains(ignoreFilePaths, entryPath)",
     "3|continue",
     "2|if err := fileMgr.Remove(entryPath); err != nil",
     "3|return removedFiles, fmt.Errorf(…)",
     "2|removedFiles = append(removedFiles, entryPath)",
     "0|return removedFiles, nil"] := rfl

/-- `os.Create` truncates; `Remove`/`Chmod`/`Write`/`ReadDir` are the plain library calls -/
theorem facts_stdlib_os_calls : stdlibBodies =
    ["ReadDir: return os.ReadDir(dirname)",
     "Remove: return os.Remove(name)",
     "Write: _, err := file.Write(contents); return err",
     "Create: return os.Create(name)",
     "Chmod: return file.Chmod(mode)"] := rfl

/-- **The producer/classifier pair of ENOENT.** `StdLibOSFileManager.Remove` hands on the error of `os.Remove`
in a form that the test of `ReplaceFiles` recognises as "already gone" (returned unchanged and tested with
`os.IsNotExist` — or any other consistent pair, e.g. wrapped with `%w` and tested with `errors.Is`). This is what
makes `removeLoop` (= `removeLoopE true`, `remove_loop_is_enoent_tolerant`) the model of the code: wrapping the
error with `%w` while still testing with `os.IsNotExist` gives `removeLoopE false`, for which recovery is lost
for ever (`enoent_unrecognised_never_recovers`). -/
theorem facts_enoent_pair_consistent : enoentRecognised removeErrorShape notExistTest = true := by decide +kernel

example : enoentRecognised "wrapped-%w" "os.IsNotExist" = false ∧ enoentRecognised "wrapped-%w" "errors.Is" = true ∧
    enoentRecognised "wrapped-opaque" "errors.Is" = false := by decide +kernel

/-- `ClearFolders` keeps an entry iff its FULL path (`filepath.Join(folder, name)`) is an element of
`ignoreFilePaths` (`slices.Contains`, i.e. equality — not a suffix or base-name match), and the list holds
absolute paths. -/
theorem facts_ignore_match_full_path :
    ignoreMatchExpr = "slices.Contains(ignoreFilePaths, entryPath)" ∧
    entryPathExpr = "filepath.Join(path, entry.Name())" ∧
    ∀ p ∈ ignoreFilePaths, p.toList.head? = some '/' := by
  refine ⟨rfl, rfl, ?_⟩
  simp only [ignoreFilePaths, List.forall_mem_cons]
  decide_chars

/-- every path the generator can produce is built from a managed folder, directly inside it -/
theorem paths_in_managed_folders :
    (∀ p ∈ generatedFileConsts, dirOf p ∈ managedFolders) ∧
    (∀ d ∈ generatedPathFolders, d ∈ managedFolders) ∧
    (∀ s ∈ generatedPathShapes, s ∈ ["folder+/…", "join(folder,…)"]) ∧
    generatedPathShapes.length = generatedPathExprs.length ∧
    generatedPathFolders.length = generatedPathExprs.length := by
  have http : "/etc/nginx/conf.d" ∈ managedFolders := by simp [managedFolders]
  have main : "/etc/nginx/main-includes" ∈ managedFolders := by simp [managedFolders]
  have stream : "/etc/nginx/stream-conf.d" ∈ managedFolders := by simp [managedFolders]
  refine ⟨?_, by simp [generatedPathFolders, managedFolders], by simp [generatedPathShapes], rfl, rfl⟩
  simp only [generatedFileConsts, List.forall_mem_cons]
  refine ⟨dirOf_mem http ?_, dirOf_mem http ?_, dirOf_mem http ?_, dirOf_mem main ?_, dirOf_mem main ?_,
    dirOf_mem stream ?_, nofun⟩ <;> decide +kernel

/-- every folder nginx.conf pulls `*.conf` files from is cleared at start-up and tracked afterwards -/
theorem nginx_conf_includes_only_managed_folders :
    nginxConfGlobIncludeDirs ≠ [] ∧ ∀ d ∈ nginxConfGlobIncludeDirs, d ∈ managedFolders := by
  simp [nginxConfGlobIncludeDirs, managedFolders]

/-- static.StartManager clears exactly `ConfigFolders`, before the file manager exists, and gives up on error -/
theorem facts_startup_clears_config_folders :
    clearFoldersArgs = ["file.NewStdLibOSFileManager()", "ngxcfg.ConfigFolders"] ∧
    ngxcfgImport = "github.com/nginx/nginx-gateway-fabric/internal/mode/static/nginx/config" ∧
    clearBeforeManagerCreated = true ∧ clearFoldersErrorReturned = true := ⟨rfl, rfl, rfl, rfl⟩

/-! ## The invariant `Tracked` and what a successful replacement leaves -/

/-- One `ReplaceFiles` call, whatever fails or crashes in it, keeps every file of the managed folders
tracked (in `lastWrittenPaths`) or in the bootstrap set `B`. -/
theorem tracked_preserved (B : List String) (sch : Sched) (s : St) (F : List File)
    (h : Tracked B s) : Tracked B (replaceFiles sch s F).st :=
  replaceFiles_tracked B sch s F h

/-- … hence after any history of failed, partially executed or successful replacements. -/
theorem tracked_after_any_history (B : List String) :
    ∀ (calls : List (Sched × List File)) (s : St), Tracked B s → Tracked B (runCalls s calls)
  | [], _, h => h
  | (sch, F) :: r, s, h => tracked_after_any_history B r _ (tracked_preserved B sch s F h)

example : Tracked [] ⟨[], []⟩ := fun _ h => absurd rfl h

/-- Successful `ReplaceFiles F` from a tracked state: `lastWrittenPaths` = the paths of `F`; outside the
bootstrap set the disk is EXACTLY `F` (later entries of `F` win for a repeated path): every path of the
set holds content and mode of its entry, every other path is absent — no stale or partial file. A
bootstrap path not in `F` is removed if it was tracked and untouched otherwise. -/
theorem replace_ok_exact (B : List String) (sch : Sched) (s : St) (F : List File)
    (ht : Tracked B s) (hok : (replaceFiles sch s F).out = .ok) :
    (replaceFiles sch s F).st.last = F.map (·.path) ∧
    (∀ q, q ∉ B → get (replaceFiles sch s F).st.fs q = expectAfter F q none) ∧
    (∀ q, q ∈ B → get (replaceFiles sch s F).st.fs q =
        expectAfter F q (if q ∈ s.last then none else get s.fs q)) := by
  obtain ⟨hl, hg⟩ := replaceFilesV_ok true sch s F hok
  exact ⟨hl, replaceFilesV_ok_exact true B sch s F ht hok, fun q _ => hg q⟩

/-- Every file of the set is on disk with its exact content and its mode (distinct paths). -/
theorem replace_ok_files_present (sch : Sched) (s : St) (F : List File)
    (hnd : (F.map (·.path)).Nodup) (hok : (replaceFiles sch s F).out = .ok) :
    ∀ f ∈ F, get (replaceFiles sch s F).st.fs f.path = some ⟨f.content, modeOf f.typ⟩ :=
  fun f hf => ((replaceFilesV_ok true sch s F hok).2 f.path).trans (expectAfter_nodup F hnd _ f hf)

/-- Without the distinctness assumption: a path of the set holds content and mode of ONE of its entries
(the code lets the last one win; the generator never repeats a path). -/
theorem replace_ok_some_entry (sch : Sched) (s : St) (F : List File)
    (hok : (replaceFiles sch s F).out = .ok) :
    ∀ q ∈ F.map (·.path), ∃ f ∈ F, f.path = q ∧
      get (replaceFiles sch s F).st.fs q = some ⟨f.content, modeOf f.typ⟩ := by
  intro q hq
  rcases expectAfter_cases F q (if q ∈ s.last then none else get s.fs q) with hn | ⟨f, hf, hp, he⟩
  · exact absurd hq hn
  · exact ⟨f, hf, hp, ((replaceFilesV_ok true sch s F hok).2 q).trans he⟩

/-- Nothing else is left: a path outside the set and outside the bootstrap files is absent — in
particular the key file of a removed listener. -/
theorem replace_ok_nothing_else (B : List String) (sch : Sched) (s : St) (F : List File)
    (ht : Tracked B s) (hok : (replaceFiles sch s F).out = .ok) (q : String)
    (hq : q ∉ F.map (·.path)) (hb : q ∉ B) : get (replaceFiles sch s F).st.fs q = none := by
  rw [(replace_ok_exact B sch s F ht hok).2.1 q hb, expectAfter_not_mem F q none hq]

/-- After a successful replacement a path whose entries are all secret is not world-readable. -/
theorem replace_ok_secret_not_world_readable (sch : Sched) (s : St) (F : List File)
    (hok : (replaceFiles sch s F).out = .ok) (q : String) (hq : q ∈ F.map (·.path))
    (hsec : ∀ f ∈ F, f.path = q → f.typ = .secret) :
    ∃ o, get (replaceFiles sch s F).st.fs q = some o ∧ o.mode % 8 = 0 := by
  obtain ⟨f, hf, hp, hg⟩ := replace_ok_some_entry sch s F hok q hq
  refine ⟨_, hg, ?_⟩
  simp [hsec f hf hp, modeOf, secretMode]

/-- Even when `WriteFile` is interrupted by any fault or by a crash at any operation: the file it works on
is untouched, or empty, or has the requested mode and a prefix of the requested content. Secret bytes
are therefore never in a file with a mode other than the secret one. -/
theorem write_file_never_exposes (sch : Sched) (k : Nat) (fs : FS) (f : File) :
    get (writeFile sch k fs f).fs f.path = get fs f.path ∨
    ∃ o, get (writeFile sch k fs f).fs f.path = some o ∧
      (o.content = [] ∨ (o.mode = modeOf f.typ ∧ o.content <+: f.content)) :=
  writeFile_safe sch k fs f

/-- From a tracked state, after ANY history of replacements under ANY fault schedules (single, double,
n-fold failures of remove / create / chmod / write at any operation index, partial writes of any length),
a replacement that succeeds leaves exactly its own set outside the bootstrap files. -/
theorem next_success_exact (B : List String) (calls : List (Sched × List File)) (s : St)
    (ht : Tracked B s) (sch : Sched) (F : List File)
    (hok : (replaceFiles sch (runCalls s calls) F).out = .ok) :
    ∀ q, q ∉ B → get (replaceFiles sch (runCalls s calls) F).st.fs q = expectAfter F q none :=
  (replace_ok_exact B sch _ F (tracked_after_any_history B calls s ht) hok).2.1

/-- … with no bootstrap files at all (`B = []`), the whole disk is exactly the latest set. -/
theorem next_success_exact_whole_disk (calls : List (Sched × List File)) (s : St)
    (ht : Tracked [] s) (sch : Sched) (F : List File)
    (hok : (replaceFiles sch (runCalls s calls) F).out = .ok) :
    ∀ q, get (replaceFiles sch (runCalls s calls) F).st.fs q = expectAfter F q none :=
  fun q => next_success_exact [] calls s ht sch F hok q (by simp)

private def kpL : File := ⟨"/etc/nginx/secrets/ssl_keypair_ns_l.pem", [75, 69, 89], .secret⟩
private def hcL : File := ⟨"/etc/nginx/conf.d/http.conf", [104, 49], .regular⟩

/-! ## When a replacement succeeds: recovery is live, and no error of the write phase is benign -/

/-- the model's removal loop is the ENOENT-tolerant one (see `facts_enoent_pair_consistent`) -/
theorem remove_loop_is_enoent_tolerant (sch : Sched) (s : St) (F : List File) :
    replaceFilesE true sch s F = replaceFiles sch s F := replaceFilesE_true sch s F

/-- **`ReplaceFiles` without an injected fault returns nil — from EVERY state**, in particular from every
state reachable by any history of failed, partial or crashed calls: tracked paths that are not on disk
(failed `Create`, half-done removal loop, a file somebody else removed) are tolerated. "The next successful
replacement leaves exactly the latest set" is therefore not vacuous: the next fault-free replacement IS
successful. -/
theorem fault_free_replace_succeeds (s : St) (F : List File) : (replaceFiles noFaults s F).out = .ok :=
  replaceFiles_noFaults s F

/-- … after any history, and then the disk is exactly the new set (outside the bootstrap files). -/
theorem fault_free_replace_recovers (B : List String) (calls : List (Sched × List File)) (s : St)
    (ht : Tracked B s) (F : List File) :
    (replaceFiles noFaults (runCalls s calls) F).out = .ok ∧
    ∀ q, q ∉ B → get (replaceFiles noFaults (runCalls s calls) F).st.fs q = expectAfter F q none :=
  ⟨fault_free_replace_succeeds _ F, next_success_exact B calls s ht noFaults F (fault_free_replace_succeeds _ F)⟩

/-- the same for the whole control plane: while it is up, a fault-free replacement succeeds -/
theorem system_fault_free_replace_succeeds (fs0 : FS) (steps : List Step) (F : List File) :
    let s := sysRun ⟨⟨fs0, []⟩, false⟩ steps
    s.up = true → (sysStep s (.replace noFaults F)).2 = .ok := by
  intro s hup
  unfold sysStep
  simp only [hup, if_true]
  exact fault_free_replace_succeeds s.st F

/-- create of the first file fails: its path is tracked and not on disk -/
private def createFails : Sched := fun k => if k = 0 then some .eio else none

example : (replaceFiles createFails ⟨[], []⟩ [hcL, kpL]).out = .failed ∧
    (replaceFiles createFails ⟨[], []⟩ [hcL, kpL]).st.last = [hcL.path] ∧
    (replaceFiles noFaults (replaceFiles createFails ⟨[], []⟩ [hcL, kpL]).st [hcL]).out = .ok := by decide +kernel

/-- **Witness for the variant that does not recognise ENOENT** (`Remove` wraps the error with `%w`,
`ReplaceFiles` still asks `os.IsNotExist`): one failed `Create` leaves a tracked path that is not on disk … -/
theorem enoent_unrecognised_witness :
    let r := replaceFilesE false createFails ⟨[], []⟩ [hcL, kpL]
    r.out = .failed ∧ r.st.last = [hcL.path] ∧ get r.st.fs hcL.path = none := by decide +kernel

/-- … and from then on EVERY replacement fails, with no fault injected, for every file set, and leaves the
state as it is — so also the one after it, and so on: the disk never reaches the latest set again. -/
theorem enoent_unrecognised_never_recovers (sets : List (List File)) (F : List File) :
    let s1 := (replaceFilesE false createFails ⟨[], []⟩ [hcL, kpL]).st
    let sn := sets.foldl (fun s G => (replaceFilesE false noFaults s G).st) s1
    sn = s1 ∧ (replaceFilesE false noFaults sn F).out = .failed := by
  intro s1 sn
  have h1 : s1.last = [hcL.path] ∧ get s1.fs hcL.path = none := by decide +kernel
  have hstuck := fun G => replaceFilesE_false_stuck s1 hcL.path [] G h1.1 h1.2
  have hsn : sn = s1 := by
    show sets.foldl (fun s G => (replaceFilesE false noFaults s G).st) s1 = s1
    induction sets with
    | nil => rfl
    | cons G r ih => rw [List.foldl_cons, (hstuck G).2]; exact ih
  exact ⟨hsn, by rw [hsn]; exact (hstuck F).1⟩

/-- **No error value is benign in the write phase.** If `ReplaceFiles` returns nil then NO operation of its write
phase (Create, Chmod, Write of every file: the `3 * |F|` operations after the removal loop) was hit by a fault —
of any kind and whatever error the operation would have returned (EIO, EACCES, ENOSPC, a bare or wrapped ENOENT,
a short write): every such error makes the call return an error (or the process die), so that the caller retries
instead of reloading NGINX with a file missing. -/
theorem write_error_aborts_any_class (sch : Sched) (s : St) (F : List File)
    (hok : (replaceFiles sch s F).out = .ok) :
    ∀ j, j < 3 * F.length → sch (s.last.length + j) = none :=
  ((replaceFilesV_ok_iff true sch s F).1 hok).2

/-- in particular an ENOENT at the `Create` of the key file (operation 3) fails the call -/
example :
    let sch : Sched := fun k => if k = 3 then some .enoent else none
    (replaceFiles sch ⟨[], []⟩ [hcL, kpL]).out = .failed ∧
      (replaceFiles noFaults (replaceFiles sch ⟨[], []⟩ [hcL, kpL]).st [hcL, kpL]).out = .ok := by decide +kernel

/-- **Witness for the variant "ENOENT on create is benign"** (the write loop `continue`s on an error that unwraps to
`fs.ErrNotExist`): the call returns nil although the key file of the new listener was never written — the disk is
not the generated set after a "successful" replacement, and nobody retries. -/
theorem enoent_on_create_benign_witness :
    let sch : Sched := fun k => if k = 3 then some .enoent else none
    let r := replaceFilesBenign sch ⟨[], []⟩ [hcL, kpL]
    r.out = .ok ∧ get r.st.fs kpL.path = none ∧ kpL.path ∈ r.st.last := by decide +kernel

/-! ## Start-up cleanup, crashes and the whole control plane -/

/-- `ClearFolders` never touches a bootstrap file and never creates anything — under every schedule. -/
theorem clear_keeps_bootstrap (sch : Sched) (fs : FS) (folders : List String) (q : String)
    (hq : q ∈ ignorePaths) : get (clearFolders sch fs folders).fs q = get fs q := by
  rcases clearLoop_onlyRemoves sch folders 0 fs q with h | ⟨_, hn⟩
  · exact h
  · exact absurd hq hn

/-- A `ClearFolders` run that completes leaves, in the folders it was given, only bootstrap files. -/
theorem clear_ok_only_bootstrap (sch : Sched) (fs : FS)
    (hin : InFolders fs) (hok : (clearFolders sch fs managedFolders).out = .ok) (q : String)
    (hq : get (clearFolders sch fs managedFolders).fs q ≠ none) : q ∈ ignorePaths := by
  apply Decidable.byContradiction; intro hn
  have hg := clearLoop_ok sch managedFolders 0 fs hok q
  have hpres : get fs q ≠ none := (clearLoop_onlyRemoves sch managedFolders 0 fs).present hq
  have : dirOf q ∈ managedFolders ∧ q ∉ ignorePaths := ⟨hin q hpres, hn⟩
  rw [if_pos this] at hg
  exact hq hg

theorem clear_without_faults_ok (fs : FS) (folders : List String) :
    (clearFolders noFaults fs folders).out = .ok := clearLoop_noFaults folders 0 fs

/-- **What start-up keeps is decided by the FULL path.** A completed `ClearFolders(ConfigFolders)` keeps a file
of the managed folders iff its full path is an element of `ignorePaths`; every other file — also one whose
NAME equals, ends with or contains a bootstrap file name, in any folder — is removed. -/
theorem clear_keeps_iff_full_path (sch : Sched) (fs : FS) (hin : InFolders fs)
    (hok : (clearFolders sch fs managedFolders).out = .ok) (q : String) :
    get (clearFolders sch fs managedFolders).fs q ≠ none ↔ (get fs q ≠ none ∧ q ∈ ignorePaths) := by
  constructor
  · intro hq
    have hi := clear_ok_only_bootstrap sch fs hin hok q hq
    exact ⟨by rw [← clear_keeps_bootstrap sch fs managedFolders q hi]; exact hq, hi⟩
  · rintro ⟨hq, hi⟩
    rw [clear_keeps_bootstrap sch fs managedFolders q hi]; exact hq

/-- stale files whose names end with / equal / contain a bootstrap name do not survive a restart -/
example :
    let o : FileObj := ⟨[1], 0o644⟩
    let fs : FS := [("/etc/nginx/main-includes/main.conf", o), ("/etc/nginx/main-includes/xmain.conf", o),
      ("/etc/nginx/main-includes/main.conf.bak", o), ("/etc/nginx/conf.d/main.conf", o),
      ("/etc/nginx/conf.d/mgmt.conf", o), ("/etc/nginx/includes/SnippetsFilter_http_default_main.conf", o),
      ("/etc/nginx/secrets/deployment_ctx.json", o)]
    let r := clearFolders noFaults fs managedFolders
    r.out = .ok ∧ keys r.fs = ["/etc/nginx/main-includes/main.conf"] := by decide +kernel

/-- **Crash at any operation, then start-up cleanup.** Let the disk hold only files of the managed
folders; run `ReplaceFiles` under ANY schedule — in particular one that kills the process at operation
`k` after `n` bytes of a write, for every `k` and `n`; then a restarted control plane runs
`ClearFolders(ConfigFolders)`: it completes and leaves nothing but bootstrap files, each exactly as the
crash left it. -/
theorem crash_then_clear (sch : Sched) (s : St) (F : List File)
    (hin : InFolders s.fs) (hF : PathsManaged F) :
    let crashed := (replaceFiles sch s F).st.fs
    let r := clearFolders noFaults crashed managedFolders
    r.out = .ok ∧ (∀ q, get r.fs q ≠ none → q ∈ ignorePaths) ∧
      (∀ q ∈ ignorePaths, get r.fs q = get crashed q) := by
  have hin' := replaceFiles_inFolders sch s F hin hF
  exact ⟨clear_without_faults_ok _ _,
    fun q hq => clear_ok_only_bootstrap noFaults _ hin' (clear_without_faults_ok _ _) q hq,
    fun q hq => clear_keeps_bootstrap noFaults _ _ q hq⟩

/-- invariant of the control plane across replacements, failures, crashes and restarts -/
structure SysInv (s : Sys) : Prop where
  inFolders : InFolders s.st.fs
  tracked   : s.up = true → Tracked ignorePaths s.st

def StepManaged : Step → Prop
  | .replace _ F => PathsManaged F
  | .start _ => True

theorem sys_inv_init (fs : FS) (h : InFolders fs) : SysInv ⟨⟨fs, []⟩, false⟩ :=
  ⟨h, fun hup => by simp at hup⟩

theorem sys_inv_step (s : Sys) (a : Step) (hi : SysInv s) (ha : StepManaged a) :
    SysInv (sysStep s a).1 := by
  cases a with
  | replace sch F =>
    unfold sysStep
    by_cases hup : s.up = true
    · simp only [hup, if_true]
      exact ⟨replaceFiles_inFolders sch s.st F hi.inFolders ha,
        fun _ => replaceFiles_tracked ignorePaths sch s.st F (hi.tracked hup)⟩
    · simp only [hup]; exact hi
  | start sch =>
    unfold sysStep
    refine ⟨fun q hq => ?_, fun hup q hq => ?_⟩
    · exact hi.inFolders q ((clearLoop_onlyRemoves sch managedFolders 0 s.st.fs).present hq)
    · have hok : (clearFolders sch s.st.fs managedFolders).out = .ok := by simpa using hup
      exact .inr (clear_ok_only_bootstrap sch s.st.fs hi.inFolders hok q hq)

/-- The invariant holds after every sequence of replacements (each under any fault schedule, possibly
crashing) and (re)starts (each possibly failing or crashing half-way). -/
theorem sys_invariant :
    ∀ (steps : List Step) (s : Sys), SysInv s → (∀ a ∈ steps, StepManaged a) → SysInv (sysRun s steps)
  | [], _, hi, _ => hi
  | a :: as, s, hi, hm =>
    sys_invariant as _ (sys_inv_step s a hi (hm a (by simp))) (fun b hb => hm b (by simp [hb]))

theorem sysStep_replace_ok {s : Sys} {sch : Sched} {F : List File} (hok : (sysStep s (.replace sch F)).2 = .ok) :
    s.up = true ∧ (replaceFiles sch s.st F).out = .ok ∧
      (sysStep s (.replace sch F)).1.st = (replaceFiles sch s.st F).st := by
  unfold sysStep at hok ⊢
  by_cases hup : s.up = true
  · simp only [hup, if_true] at hok ⊢
    exact ⟨trivial, hok, trivial⟩
  · simp [hup] at hok

/-- **The property for the whole control plane.** Start from any disk content inside the managed
folders (e.g. what a previous incarnation left), take any sequence of start-ups, replacements, failures
and crashes; whenever a replacement then succeeds, the managed folders contain exactly its set, except
for bootstrap files that start-up deliberately kept. -/
theorem system_success_exact (fs0 : FS) (h0 : InFolders fs0) (steps : List Step)
    (hm : ∀ a ∈ steps, StepManaged a) (sch : Sched) (F : List File) :
    let s := sysRun ⟨⟨fs0, []⟩, false⟩ steps
    (sysStep s (.replace sch F)).2 = .ok →
      ∀ q, q ∉ ignorePaths → get (sysStep s (.replace sch F)).1.st.fs q = expectAfter F q none := by
  intro s hok
  have hi : SysInv s := sys_invariant steps _ (sys_inv_init fs0 h0) hm
  obtain ⟨hup, hok', hst⟩ := sysStep_replace_ok hok
  rw [hst]
  exact (replace_ok_exact ignorePaths sch s.st F (hi.tracked hup) hok').2.1

/-- A completed start-up leaves only bootstrap files, untouched (whatever happened before). -/
theorem system_start_ok_only_bootstrap (fs0 : FS) (h0 : InFolders fs0) (steps : List Step)
    (hm : ∀ a ∈ steps, StepManaged a) (sch : Sched) :
    let s := sysRun ⟨⟨fs0, []⟩, false⟩ steps
    (sysStep s (.start sch)).2 = .ok →
      (∀ q, get (sysStep s (.start sch)).1.st.fs q ≠ none → q ∈ ignorePaths) ∧
      (∀ q ∈ ignorePaths, get (sysStep s (.start sch)).1.st.fs q = get s.st.fs q) ∧
      (sysStep s (.start sch)).1.st.last = [] := by
  intro s hok
  have hi : SysInv s := sys_invariant steps _ (sys_inv_init fs0 h0) hm
  exact ⟨fun q hq => clear_ok_only_bootstrap sch s.st.fs hi.inFolders hok q hq,
    fun q hq => clear_keeps_bootstrap sch s.st.fs managedFolders q hq, rfl⟩

/-! ## Non-vacuity: concrete runs of the same functions -/

private def kp : File := ⟨"/etc/nginx/secrets/ssl_keypair_ns_l.pem", [75, 69, 89], .secret⟩
private def hc : File := ⟨"/etc/nginx/conf.d/http.conf", [104, 49], .regular⟩
private def hc2 : File := ⟨"/etc/nginx/conf.d/http.conf", [104, 50], .regular⟩
/-- operation 5 (the write of the key file) puts one byte on disk and fails -/
private def partialKey : Sched := fun k => if k = 5 then some (.partialW 1) else none
/-- the process dies at operation 5 after two bytes -/
private def crashKey : Sched := fun k => if k = 5 then some (.crash 2) else none

/-- a failed replacement leaves a partial key file, tracked … -/
example :
    let r := replaceFiles partialKey ⟨[], []⟩ [hc, kp]
    r.out = .failed ∧ get r.st.fs kp.path = some ⟨[75], 0o640⟩ ∧ kp.path ∈ r.st.last := by decide +kernel

/-- … and the next successful replacement (listener removed) leaves exactly the new set. -/
example :
    let r := replaceFiles partialKey ⟨[], []⟩ [hc, kp]
    let r2 := replaceFiles noFaults r.st [hc2]
    r2.out = .ok ∧ get r2.st.fs kp.path = none ∧ get r2.st.fs hc.path = some ⟨[104, 50], 0o644⟩ ∧
      r2.st.last = [hc.path] := by decide +kernel

/-- a crash in the middle of the key file, then start-up cleanup with main.conf present -/
example :
    let boot : FS := [("/etc/nginx/main-includes/main.conf", ⟨[1], 0o644⟩)]
    let r := replaceFiles crashKey ⟨boot, []⟩ [hc, kp]
    let c := clearFolders noFaults r.st.fs managedFolders
    r.out = .crashed ∧ get r.st.fs kp.path = some ⟨[75, 69], 0o640⟩ ∧
      c.out = .ok ∧ keys c.fs = ["/etc/nginx/main-includes/main.conf"] := by decide +kernel

/-- hypotheses of `system_success_exact` / `crash_then_clear` are satisfiable -/
example : PathsManaged [hc, kp] := by
  have http : "/etc/nginx/conf.d" ∈ managedFolders := by simp [managedFolders]
  have secrets : "/etc/nginx/secrets" ∈ managedFolders := by simp [managedFolders]
  simp only [PathsManaged, List.forall_mem_cons]
  refine ⟨dirOf_mem http ?_, dirOf_mem secrets ?_, nofun⟩ <;> decide +kernel

/-- a tolerated ENOENT followed by a second fault in the same call -/
example :
    let sch : Sched := fun k => if k = 0 then some .enoent else if k = 2 then some .eio else none
    let r := replaceFiles sch ⟨[(hc.path, ⟨[1], 0o644⟩)], [hc.path]⟩ [hc, kp]
    r.out = .failed ∧ r.ops = 3 ∧ r.st.last = [hc.path] ∧ get r.st.fs hc.path = some ⟨[], 0o644⟩ := by
  decide +kernel

/-! ## The regression the check must see again: tracking only after a successful write -/

/-- With the earlier code (`before = false`) the invariant is NOT preserved: the partially written key
file is on disk and untracked … -/
theorem untracked_failed_write_witness :
    let r := replaceFilesV false partialKey ⟨[], []⟩ [hc, kp]
    r.out = .failed ∧ get r.st.fs kp.path = some ⟨[75], 0o640⟩ ∧ kp.path ∉ r.st.last := by decide +kernel

/-- … and it survives the next successful replacement: the property fails for that variant. -/
theorem untracked_failed_write_survives :
    let r := replaceFilesV false partialKey ⟨[], []⟩ [hc, kp]
    let r2 := replaceFilesV false noFaults r.st [hc2]
    r2.out = .ok ∧ get r2.st.fs kp.path = some ⟨[75], 0o640⟩ := by decide +kernel

/-- For that variant the statement only holds when no chmod/write fails after a successful create,
i.e. when every call either succeeds or leaves `Tracked` intact by hypothesis. -/
theorem next_success_exact_partial (B : List String) (s : St) (ht : Tracked B s)
    (sch : Sched) (F : List File) (hok : (replaceFilesV false sch s F).out = .ok) :
    ∀ q, q ∉ B → get (replaceFilesV false sch s F).st.fs q = expectAfter F q none :=
  replaceFilesV_ok_exact false B sch s F ht hok

/-! ## The generated file SET: `GeneratorImpl.Generate` inside the model

`NGF.GenPaths.generatedEntries` mirrors `Generate` / `executeConfigTemplates` / `generateMgmtFiles` (which files,
in which folder, of which type); `Objs.toIn` adds the name manglings (key pair / bundle ids, SnippetsFilter and
policy include names). The hypotheses `PathsManaged F` and `Nodup` of the theorems above are DISCHARGED here for
every set the generator can produce from Kubernetes-legal names. -/

section Generated
open NGF.GenPaths NGF.Mangle

/-- the structure of `Generate` the model mirrors: key pairs, then the configuration templates, then the bundles;
one file per distinct destination (map keyed by `res.dest`), all regular; the mgmt files only for NGINX Plus -/
theorem facts_generate_structure :
    generateSkeleton =
      ["0|files := make([]file.File, 0)",
       "0|range conf.SSLKeyPairs",
       "1|files = append(files, generatePEM(id, pair.Cert, pair.Key))",
       "0|policyGenerator := policies.NewCompositeGenerator( clientsettings.NewGenerator(), observability.NewGenerator(conf.Telemetry), )",
       "0|files = append(files, g.executeConfigTemplates(conf, policyGenerator)...)",
       "0|range conf.CertBundles",
       "1|files = append(files, generateCertBundle(id, bundle))",
       "0|return files"] ∧
    executeConfigTemplatesSkeleton =
      ["0|fileBytes := make(map[string][]byte)",
       "0|httpUpstreams := g.createUpstreams(conf.Upstreams, upstreamsettings.NewProcessor())",
       "0|keepAliveCheck := newKeepAliveChecker(httpUpstreams)",
       "0|range g.getExecuteFuncs(generator, httpUpstreams, keepAliveCheck)",
       "1|results := execute(conf)",
       "1|range results",
       "2|fileBytes[res.dest] = append(fileBytes[res.dest], res.data...)",
       "0|var mgmtFiles []file.File",
       "0|if g.plus",
       "1|mgmtFiles = g.generateMgmtFiles(conf)",
       "0|files := make([]file.File, 0, len(fileBytes)+len(mgmtFiles))",
       "0|range fileBytes",
       "1|files = append(files, file.File{ Path: fp, Content: bytes, Type: file.TypeRegular, })",
       "0|files = append(files, mgmtFiles...)",
       "0|return files"] := ⟨rfl, rfl⟩

/-- every `file.File` literal of the generator package with its path expression and its type: exactly the entries
of `pemEntry`, `crtEntry`, `confEntries` (regular) and `mgmtAll` — in particular WHICH files are `TypeSecret` -/
theorem facts_generated_file_literals : generatedFileLiterals =
    ["generator.go:GenerateDeploymentContext: mainIncludesFolder + \"/deployment_ctx.json\" | file.TypeRegular",
     "generator.go:executeConfigTemplates: fp | file.TypeRegular",
     "generator.go:generatePEM: generatePEMFileName(id) | file.TypeSecret",
     "generator.go:generateCertBundle: generateCertBundleFileName(id) | file.TypeRegular",
     "main_config.go:generateMgmtFiles: secretsFolder + \"/license.jwt\" | file.TypeSecret",
     "main_config.go:generateMgmtFiles: secretsFolder + \"/mgmt-ca.crt\" | file.TypeSecret",
     "main_config.go:generateMgmtFiles: secretsFolder + \"/mgmt-tls.crt\" | file.TypeSecret",
     "main_config.go:generateMgmtFiles: secretsFolder + \"/mgmt-tls.key\" | file.TypeSecret",
     "main_config.go:generateMgmtFiles: mgmtIncludesFile | file.TypeRegular"] := rfl

/-- the destinations of all `executeResult`s: the five fixed files of `fixedConf` and the include files -/
theorem facts_execute_dests :
    executeDests =
      ["base_http_config.go:executeBaseHTTPConfig: httpConfigFile",
       "includes.go:createIncludeExecuteResultsFromServers: filename",
       "includes.go:createIncludeExecuteResults: inc.Name",
       "main_config.go:executeMainConfig: mainIncludesConfigFile",
       "maps.go:executeMaps: httpConfigFile",
       "maps.go:executeStreamMaps: streamConfigFile",
       "servers.go:executeServers: httpConfigFile",
       "servers.go:executeServers: httpMatchVarsFile",
       "split_clients.go:executeSplitClients: httpConfigFile",
       "stream_servers.go:executeStreamServers: streamConfigFile",
       "telemetry.go:executeTelemetry: httpConfigFile",
       "upstreams.go:executeUpstreams: httpConfigFile",
       "upstreams.go:executeStreamUpstreams: streamConfigFile",
       "version.go:executeVersion: configVersionFile"] ∧
    executeFuncs =
      ["executeMainConfig", "executeBaseHTTPConfig", "g.newExecuteServersFunc(generator, keepAliveCheck)",
       "newExecuteUpstreamsFunc(upstreams)", "executeSplitClients", "executeMaps", "executeTelemetry",
       "g.executeStreamServers", "g.executeStreamUpstreams", "executeStreamMaps", "executeVersion"] ∧
    (fixedConf.map fun e => String.ofList e.path) =
      ["/etc/nginx/main-includes/main.conf", "/etc/nginx/conf.d/http.conf", "/etc/nginx/conf.d/matches.json",
       "/etc/nginx/stream-conf.d/stream.conf", "/etc/nginx/conf.d/config-version.conf"] ∧
    (∀ p ∈ fixedConf.map (fun e => String.ofList e.path), p ∈ generatedFileConsts) := by
  refine ⟨rfl, rfl, ?_⟩
  -- the equation first; it then turns the membership claim into one about the listed paths
  refine (fun h => ⟨h, by rw [h]; simp [generatedFileConsts]⟩) ?_
  simp only [fixedConf, mainConf, httpConf, matchesJson, streamConf, versionConf, List.map, Entry.path, mkPath,
    Folder.path, lit]
  repeat rw [String.toList_ofList]
  rfl

/-- the include names use the formats of the source: `createSnippetName` with the four `NginxContext` values, the
ClientSettingsPolicy and ObservabilityPolicy file names -/
theorem facts_include_name_formats (c : SnipCtx) (k : ObsKind) (ns name : Name) :
    snippetName c ns name = sprintf snippetNameFmt [c.str, ns, name] ∧
    snippetNameArgs = ["nc", "nsname.Namespace", "nsname.Name"] ∧
    nginxContexts = [SnipCtx.main, .http, .server, .location].map (fun c => String.ofList c.str) ∧
    cspFileFmts = ["ClientSettingsPolicy_%s_%s.conf"] ∧
    cspName ns name = sprintf cspFileFmt [ns, name] ∧
    obsFileFmts = ["ObservabilityPolicy_%s_%s_%s.conf", "ObservabilityPolicy_%s_%s_int.conf"] ∧
    obsFileSuffixes = ["ext", "redirect"] ∧
    obsName k ns name = sprintf obsFileFmt [ns, name, k.str] ∧
    obsName .int ns name = sprintf obsIntFileFmt [ns, name] := by
  -- Each name of the model against `sprintf` run on the format: the model's literals are replaced by their
  -- characters and the appends reassociated; what is left is computation on lists. (`sprintf` leaves `name ++ []`
  -- where a format ends in `%s`, hence the `append_nil` for `snippetName`.)
  rw [← List.append_nil (snippetName c ns name)]
  refine ⟨?_, rfl, by simp only [nginxContexts, List.map, SnipCtx.str, lit, String.ofList_toList], rfl, ?_, rfl, rfl,
    ?_, ?_⟩
  all_goals
    simp only [snippetName, cspName, obsName, ObsKind.str]
    repeat rw [lit_ofList]
    simp only [List.append_assoc, List.cons_append, List.nil_append]
    rfl

/-- a non-trivial object set: two key pairs (one name with dots), a bundle, all four snippet contexts, both policy
kinds, NGINX Plus with client certificate material -/
def sampleObjs : Objs where
  keyPairs    := [("default".toList, "cafe-secret".toList), ("team-a".toList, "tls.example.com".toList)]
  bundles     := [("default".toList, "backend-ca".toList)]
  snippets    := [(.main, "default".toList, "sf".toList), (.http, "default".toList, "sf".toList),
                  (.server, "default".toList, "main".toList), (.location, "default".toList, "sf".toList),
                  (.location, "default".toList, "sf".toList)]
  csPolicies  := [("default".toList, "csp".toList)]
  obsPolicies := [(.ext, "default".toList, "obs".toList), (.redirect, "default".toList, "obs".toList),
                  (.int, "default".toList, "obs".toList)]
  plus := true
  mgmtCA := false
  mgmtCert := true
  mgmtKey := true

theorem sampleObjs_legal : Legal sampleObjs := by
  constructor <;> (simp only [sampleObjs, K8sName]; decide_chars)

example : (generatedPaths sampleObjs.toIn).map (fun pt => (String.ofList pt.1, pt.2)) =
    [("/etc/nginx/secrets/ssl_keypair_default_cafe-secret.pem", .secret),
     ("/etc/nginx/secrets/ssl_keypair_team-a_tls.example.com.pem", .secret),
     ("/etc/nginx/main-includes/main.conf", .regular),
     ("/etc/nginx/conf.d/http.conf", .regular),
     ("/etc/nginx/includes/SnippetsFilter_main_default_sf.conf", .regular),
     ("/etc/nginx/includes/SnippetsFilter_http_default_sf.conf", .regular),
     ("/etc/nginx/includes/SnippetsFilter_http.server_default_main.conf", .regular),
     ("/etc/nginx/includes/SnippetsFilter_http.server.location_default_sf.conf", .regular),
     ("/etc/nginx/includes/ClientSettingsPolicy_default_csp.conf", .regular),
     ("/etc/nginx/includes/ObservabilityPolicy_default_obs_ext.conf", .regular),
     ("/etc/nginx/includes/ObservabilityPolicy_default_obs_redirect.conf", .regular),
     ("/etc/nginx/includes/ObservabilityPolicy_default_obs_int.conf", .regular),
     ("/etc/nginx/conf.d/matches.json", .regular),
     ("/etc/nginx/stream-conf.d/stream.conf", .regular),
     ("/etc/nginx/conf.d/config-version.conf", .regular),
     ("/etc/nginx/secrets/license.jwt", .secret),
     ("/etc/nginx/secrets/mgmt-tls.crt", .secret),
     ("/etc/nginx/secrets/mgmt-tls.key", .secret),
     ("/etc/nginx/main-includes/deployment_ctx.json", .regular),
     ("/etc/nginx/main-includes/mgmt.conf", .regular),
     ("/etc/nginx/secrets/cert_bundle_default_backend-ca.crt", .regular)] := by
  -- unfold the generator down to its literals, replace every literal by its characters, compute on lists
  simp only [generatedPaths, generatedEntries, confEntries, execDests, mgmtEntries, sampleObjs, Objs.toIn,
    List.map_cons, List.map_nil, List.map_append, pemEntry, crtEntry, snippetEntry, policyEntry, mainConf, httpConf,
    matchesJson, streamConf, versionConf, keyPairId, bundleId, snippetName, cspName, obsName, SnipCtx.str, ObsKind.str,
    Entry.path, mkPath, Folder.path]
  repeat rw [lit_ofList]
  repeat rw [String.toList_ofList]
  rfl

/-- the model's key pair / bundle / ClientSettingsPolicy paths ARE the manglings C03 ties to the source formats
(`NGF.Mangle.pemFile/bundleFile/cspFile`, `Props/C03: keyPair_bundle_use_source_format`, `cspFile_uses_source_format`) -/
theorem generated_paths_use_mangle (ns name : Name) :
    (pemEntry (keyPairId ns name)).path = pemFile ns name ∧
    (crtEntry (bundleId ns name)).path = bundleFile ns name ∧
    (policyEntry (cspName ns name)).path = cspFile ns name :=
  ⟨pemEntry_path ns name, crtEntry_path ns name, cspEntry_path ns name⟩

/-- **Every generated path lies directly in one of the five managed folders** — for ALL inputs of `Generate` whose
names contain no `/` (no Kubernetes name does): key pair and bundle ids, snippet names, policy file names of any
number and shape, OSS and Plus. This is the hypothesis `PathsManaged` of `crash_then_clear` and of the control-plane
theorems, here a theorem about the generator model. -/
theorem generated_paths_managed (g : GenIn) (hs : SlashFree g) :
    (∀ pt ∈ generatedPaths g, dirOf (String.ofList pt.1) ∈ managedFolders) ∧
    ∀ c, PathsManaged (generatedFiles g c) := by
  refine ⟨fun pt hpt => ?_, fun c f hf => ?_⟩
  · obtain ⟨e, he, rfl⟩ := List.mem_map.1 hpt
    exact entry_managed g hs e he
  · obtain ⟨e, he, rfl⟩ := List.mem_map.1 hf
    exact entry_managed g hs e he

example : SlashFree sampleObjs.toIn := slashFree_toIn _ sampleObjs_legal

/-- the hypothesis cannot be dropped: an id with a slash leaves the managed folders (it would neither be cleared at
start-up nor, the sub-directory missing, be creatable) -/
example :
    let g : GenIn := ⟨["a/b".toList], [], [], [], false, false, false, false⟩
    (generatedPaths g).head?.map (fun pt => dirOf (String.ofList pt.1)) = some "/etc/nginx/secrets/a" := by
  intro g
  simp only [g, generatedPaths, generatedEntries, List.map_cons, List.map_nil, List.cons_append, List.nil_append,
    List.head?_cons, Option.map_some, pemEntry, Entry.path, mkPath, Folder.path, lit]
  rw [dirOf_ofList rfl]
  repeat rw [String.toList_ofList]
  rfl

/-- **Distinct objects give distinct paths**: for Kubernetes-legal namespaces and names (no `_`, no `/`) and
distinct key-pair Secrets / bundle ConfigMaps, no two files of the generated set share a path — whatever the
multiplicity of snippets and policies (they are deduplicated by destination), OSS or Plus. -/
theorem generated_paths_nodup (o : Objs) (hl : Legal o) :
    ((generatedPaths o.toIn).map (·.1)).Nodup ∧ ∀ c, ((generatedFiles o.toIn c).map (·.path)).Nodup := by
  have hp := paths_nodup o hl
  refine ⟨?_, fun c => ?_⟩
  · have : (generatedPaths o.toIn).map (·.1) = (generatedEntries o.toIn).map Entry.path := by
      simp [generatedPaths, List.map_map, Function.comp]
    rw [this]; exact hp
  have : (generatedFiles o.toIn c).map (·.path) = ((generatedEntries o.toIn).map Entry.path).map String.ofList := by
    simp [generatedFiles, List.map_map, Function.comp]
  rw [this]
  exact nodup_map_of_inj hp (fun a _ b _ e => String.ofList_injective e)

/-- without the legality of the names the statement is false: `_` in a namespace makes two Secrets collide
(the collision C03 registers for the ids; here it means one PEM file for two key pairs) -/
theorem generated_paths_nodup_false :
    let o : Objs := { sampleObjs with keyPairs := [("a_b".toList, "c".toList), ("a".toList, "b_c".toList)] }
    o.keyPairs.Nodup ∧ ¬ ((generatedPaths o.toIn).map (·.1)).Nodup := by
  intro o
  have hid : keyPairId "a_b".toList "c".toList = keyPairId "a".toList "b_c".toList := by
    rw [keyPairId, keyPairId, show lit "_" = ['_'] from lit_ofList _]
    repeat rw [String.toList_ofList]
    simp only [List.append_assoc, List.cons_append, List.nil_append]
  refine ⟨?_, fun h => ?_⟩
  · simp only [o]
    decide_chars
  · -- the path list begins with the PEM files of the two Secrets, and these are one file
    have h2 : ((pemEntry (keyPairId "a_b".toList "c".toList)).path ::
        (pemEntry (keyPairId "a".toList "b_c".toList)).path :: _).Nodup := h
    rw [hid] at h2
    exact (List.nodup_cons.1 h2).1 List.mem_cons_self

/-- **Secret files have the secret type.** (i) For arbitrary slash-free ids: the file at the PEM path of every key
pair is `TypeSecret`. (ii) For legal objects: a generated file is `TypeSecret` IFF its path is a secret path (PEM of
a key pair, NGINX Plus token, mgmt client certificate material); so no key material is ever written under the
world-readable mode, and `modeOf .secret` has no bit for others. -/
theorem secret_files_have_secret_type :
    (∀ (g : GenIn), SlashFree g → ∀ pt ∈ generatedPaths g, ∀ id ∈ g.keyPairIds,
        pt.1 = (pemEntry id).path → pt.2 = .secret) ∧
    (∀ (o : Objs), Legal o → ∀ pt ∈ generatedPaths o.toIn,
        (pt.2 = .secret ↔ pt.1 ∈ secretPaths o.toIn)) ∧
    modeOf .secret % 8 = 0 := by
  refine ⟨fun g hs pt hpt id hid hp => ?_, fun o hl pt hpt => ?_, by decide⟩
  · obtain ⟨e, he, rfl⟩ := List.mem_map.1 hpt
    exact pem_typ_secret g hs e he id hid hp
  · obtain ⟨e, he, rfl⟩ := List.mem_map.1 hpt
    exact ⟨secret_typ_path _ e he, secret_path_typ o hl e he⟩

example : (secretPaths sampleObjs.toIn).map String.ofList =
    ["/etc/nginx/secrets/ssl_keypair_default_cafe-secret.pem", "/etc/nginx/secrets/ssl_keypair_team-a_tls.example.com.pem",
     "/etc/nginx/secrets/license.jwt", "/etc/nginx/secrets/mgmt-ca.crt", "/etc/nginx/secrets/mgmt-tls.crt",
     "/etc/nginx/secrets/mgmt-tls.key"] := by
  simp only [secretPaths, sampleObjs, Objs.toIn, mgmtSecrets, List.map_cons, List.map_nil, List.map_append, pemEntry,
    keyPairId, Entry.path, mkPath, Folder.path, lit]
  repeat rw [String.toList_ofList]
  rfl

/-- **Generate, then replace.** Take ANY legal object set, ANY contents, ANY tracked state (any history of failed
or crashed calls) and ANY fault schedule: if `ReplaceFiles` of the generated set succeeds, then `lastWrittenPaths`
is the generated path list, every generated file is on disk with exactly its content and the mode of its type, the
PEM file of every key pair is not world-readable, every generated path lies in a managed folder, and outside the
bootstrap files nothing else is on disk. (`replace_ok_exact` with `PathsManaged` and `Nodup` discharged by
`generated_paths_managed` / `generated_paths_nodup`.) -/
theorem generate_then_replace_exact (B : List String) (sch : Sched) (s : St) (o : Objs) (c : Name → List Nat)
    (hl : Legal o) (ht : Tracked B s) (hok : (replaceFiles sch s (generatedFiles o.toIn c)).out = .ok) :
    let F := generatedFiles o.toIn c
    let r := replaceFiles sch s F
    r.st.last = F.map (·.path) ∧
    (∀ f ∈ F, get r.st.fs f.path = some ⟨f.content, modeOf f.typ⟩) ∧
    (∀ p ∈ o.keyPairs, get r.st.fs (String.ofList (pemFile p.1 p.2)) =
        some ⟨c (pemFile p.1 p.2), secretMode⟩) ∧
    (∀ q, q ∉ B → q ∉ F.map (·.path) → get r.st.fs q = none) ∧
    PathsManaged F := by
  intro F r
  have hnd := (generated_paths_nodup o hl).2 c
  have hpres := replace_ok_files_present sch s F hnd hok
  refine ⟨(replace_ok_exact B sch s F ht hok).1, hpres, fun p hp => ?_,
    fun q hq hn => replace_ok_nothing_else B sch s F ht hok q hn hq,
    (generated_paths_managed _ (slashFree_toIn o hl)).2 c⟩
  have hmem : (⟨String.ofList (pemFile p.1 p.2), c (pemFile p.1 p.2), .secret⟩ : File) ∈ F := by
    refine List.mem_map.2 ⟨pemEntry (keyPairId p.1 p.2), ?_, by rw [pemEntry_path]; rfl⟩
    exact (mem_generatedEntries _ _).2 (.inl ⟨_, List.mem_map.2 ⟨p, hp, rfl⟩, rfl⟩)
  simpa [modeOf] using hpres _ hmem

/-- the hypotheses are satisfiable: the sample set replaced without faults on an empty disk -/
example : (replaceFiles noFaults ⟨[], []⟩ (generatedFiles sampleObjs.toIn fun p => [p.length])).out = .ok :=
  fault_free_replace_succeeds _ _

/-- a control-plane step whose file set comes from the generator -/
inductive GStep
  | replace (sch : Sched) (o : Objs) (c : Name → List Nat)
  | start (sch : Sched)

def GStep.toStep : GStep → Step
  | .replace sch o c => .replace sch (generatedFiles o.toIn c)
  | .start sch => .start sch

def GStep.Legal : GStep → Prop
  | .replace _ o _ => GenPaths.Legal o
  | .start _ => True

/-- **The property for the control plane fed by the generator**: `StepManaged` is not a hypothesis here. From any
disk inside the managed folders, after any sequence of start-ups and replacements of generated sets under any fault
schedules (failures, crashes, restarts), a replacement of a generated set that succeeds leaves every generated file
with its exact content and mode, and nothing else outside the bootstrap files. -/
theorem system_generated_success_exact (fs0 : FS) (h0 : InFolders fs0) (steps : List GStep)
    (hlg : ∀ a ∈ steps, a.Legal) (sch : Sched) (o : Objs) (c : Name → List Nat) (hl : Legal o) :
    let F := generatedFiles o.toIn c
    let s := sysRun ⟨⟨fs0, []⟩, false⟩ (steps.map GStep.toStep)
    (sysStep s (.replace sch F)).2 = .ok →
      (∀ f ∈ F, get (sysStep s (.replace sch F)).1.st.fs f.path = some ⟨f.content, modeOf f.typ⟩) ∧
      (∀ q, q ∉ ignorePaths → q ∉ F.map (·.path) → get (sysStep s (.replace sch F)).1.st.fs q = none) := by
  intro F s hok
  have hm : ∀ a ∈ steps.map GStep.toStep, StepManaged a := by
    intro a ha
    obtain ⟨g, hg, rfl⟩ := List.mem_map.1 ha
    cases g with
    | replace sch' o' c' => exact (generated_paths_managed _ (slashFree_toIn o' (hlg _ hg))).2 c'
    | start _ => trivial
  have hi : SysInv s := sys_invariant _ _ (sys_inv_init fs0 h0) hm
  obtain ⟨hup, hok', hst⟩ := sysStep_replace_ok hok
  rw [hst]
  exact ⟨replace_ok_files_present sch s.st F ((generated_paths_nodup o hl).2 c) hok',
    fun q hq hn => replace_ok_nothing_else ignorePaths sch s.st F (hi.tracked hup) hok' q hn hq⟩

end Generated

end NGF.FileMgr
