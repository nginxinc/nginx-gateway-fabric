/-
C06 (task C06-certs) — ReferenceGrant gating of certificate Secrets over the TLS layer of the pipeline model.

`genTG s = PipelineTls.genT (toT s)` (Model/PipelineTlsRefs.lean): the C16 pipeline model with the ReferenceGrants as C06
models them. All statements are for ALL `ScenarioTG`; "justified" is the declarative spec `RefGrant.Permitted` (proved
equivalent to the resolver model in `refAllowed_iff_spec`). Uses C16's theorems `ssl_server_cert_is_attaching_listeners_secret`,
`keypairs_exact`, `invalid_secret_no_ssl_server`, `unresolved_listeners_contribute_nothing` (Props/C16Pipeline.lean).
-/
import NGF.Props.C06
import NGF.Props.C16Pipeline
import NGF.Proofs.PipelineTlsRefs

namespace NGF.PipelineTlsRefs
open NGF.Pipeline NGF.PipelineTls
open NGF.RefGrant (Permitted fromGateway toSecret)

/-! ### projection: `PipelineTls` on the projected grants asks exactly the C06 resolver -/

/-- PROJECTION LEMMA: the permission bit `PipelineTls` computes from the projected grants is the answer of the C06 resolver
model (`newReferenceGrantResolver` + `refAllowed(toSecret(ns/name), fromGateway(gwNs))`) on the grants themselves -/
theorem secretRefAllowed_conv (gs : List RefGrant.Grant) (gwNs sNs sName : Str) :
    Tls.secretRefAllowed (gs.map convGrant) gwNs sNs sName =
      RefGrant.refAllowed (RefGrant.newResolver gs) (toSecret (String.ofList sNs) (String.ofList sName))
        (fromGateway (String.ofList gwNs)) :=
  Bool.eq_iff_iff.2 ((secretRefAllowed_conv_iff gs gwNs sNs sName).trans
    (RefGrant.secret_ref_allowed_iff gs (String.ofList gwNs) (String.ofList sNs) (String.ofList sName)).symm)

/-- … and agrees with `RefGrant.certRefVerdict` (the model the resolver correspondence runs against the real code) -/
theorem certRefVerdict_conv (gs : List RefGrant.Grant) (gwNs : String) (c : RefGrant.CertRef) :
    (RefGrant.certRefVerdict gs gwNs c = .refNotPermitted) ↔
      (c.ns.getD gwNs ≠ gwNs ∧
        Tls.secretRefAllowed (gs.map convGrant) gwNs.toList (c.ns.getD gwNs).toList c.name.toList = false) := by
  rw [secretRefAllowed_conv]
  simp only [String.ofList_toList]
  unfold RefGrant.certRefVerdict
  by_cases h : c.ns.getD gwNs = gwNs
  · simp [h]
  · cases ha : RefGrant.refAllowed (RefGrant.newResolver gs) (toSecret (c.ns.getD gwNs) c.name) (fromGateway gwNs) <;> simp [h, ha]

theorem not_justified_iff {gs : List RefGrant.Grant} {gwNs : Str} {c : Str × Str} :
    ¬ CertJustified gs gwNs c ↔ c.1 ≠ gwNs ∧ Tls.secretRefAllowed (gs.map convGrant) gwNs c.1 c.2 = false := by
  unfold CertJustified
  rw [← secretRefAllowed_conv_iff]
  cases Tls.secretRefAllowed (gs.map convGrant) gwNs c.1 c.2 <;> simp

theorem valid_listener_justified (s : ScenarioTG) (g : GatewayT) (l : ListenerT) (hv : validHttps (toT s) g l = true) :
    ∃ c, l.cert = some c ∧ CertJustified s.grants g.ns c ∧
      ∃ sec, Tls.findSecret s.secrets c.1 c.2 = some sec ∧ sec.isTLS = true ∧ sec.pairOK = true := by
  obtain ⟨c, hc, hp, rest⟩ := valid_cert hv
  refine ⟨c, hc, ?_, rest⟩
  rcases hp with h | h
  · exact .inl h
  · exact .inr ((secretRefAllowed_conv_iff s.grants g.ns c.1 c.2).1 h)

theorem unjustified_listener_invalid (s : ScenarioTG) (g : GatewayT) (l : ListenerT) (c : Str × Str) (hc : l.cert = some c)
    (hj : ¬ CertJustified s.grants g.ns c) :
    validHttps (toT s) g l = false ∧ resolution (toT s) g l ≠ .ok := by
  obtain ⟨hne, ha⟩ := not_justified_iff.1 hj
  refine ⟨(resolution_failures_T (toT s) g l).2.1 c hc hne ha, ?_⟩
  intro hok
  obtain ⟨_, _, _, hp, _⟩ := Tls.resolveRef_ok_iff.1 hok
  simp only [certRefOf, hc] at hp
  rcases hp with h | h
  · exact hne h
  · rw [show (toT s).grants = s.grants.map convGrant from rfl, ha] at h; cases h

/-- Every SSL server of the generated configuration presents the key pair of a VALID HTTPS listener of the served Gateway
(on that port, covering the server name), the emitted key-pair file of that id holds the bytes of THAT listener's
Secret, and the listener's certificate reference is JUSTIFIED: the Secret lives in the Gateway's namespace, or a
ReferenceGrant in the Secret's namespace names (gateway.networking.k8s.io, Gateway, Gateway namespace) in `from` and
(core, Secret, no name or that name) in `to`. -/
theorem crossns_cert_needs_grant_genT (s : ScenarioTG) (hns : CertNsPlain (toT s)) (sv : CServer) (kp : Option (List Char))
    (h : (sv, kp) ∈ (genTG s).ssl) :
    ∃ gT, winnerT (toT s) = some gT ∧ ∃ l ∈ gT.listeners, validHttps (toT s) gT l = true ∧ l.base.port = sv.port ∧
      Tls.covers l.base.host sv.name = true ∧
      ∃ c sec, l.cert = some c ∧ kp = some (Tls.keyPairId c) ∧ Tls.findSecret s.secrets c.1 c.2 = some sec ∧
        (∃ k ∈ (genTG s).keyPairs, k.id = Tls.keyPairId c ∧ k.cert = sec.cert ∧ k.key = sec.key) ∧
        CertJustified s.grants gT.ns c := by
  obtain ⟨gT, hw, l, hl, hv, hp, hcov, _, c, sec, hc, hkp, hs, _, _, hk⟩ :=
    ssl_server_cert_is_attaching_listeners_secret (toT s) hns sv kp h
  obtain ⟨c', hc', hj, _⟩ := valid_listener_justified s gT l hv
  rw [hc] at hc'; cases hc'
  exact ⟨gT, hw, l, hl, hv, hp, hcov, c, sec, hc, hkp, hs, hk, hj⟩

/-- the same for the key-pair FILES: every emitted file holds the bytes of the Secret of a valid listener with a justified
reference — no key material crosses a namespace without a grant -/
theorem keypair_files_need_grant (s : ScenarioTG) (hns : CertNsPlain (toT s)) (gT : GatewayT) (hw : winnerT (toT s) = some gT)
    (k : Tls.KeyPair) (hk : k ∈ (genTG s).keyPairs) :
    ∃ l ∈ gT.listeners, validHttps (toT s) gT l = true ∧ ∃ c sec, l.cert = some c ∧
      Tls.findSecret s.secrets c.1 c.2 = some sec ∧ k = ⟨Tls.keyPairId c, sec.cert, sec.key⟩ ∧ CertJustified s.grants gT.ns c := by
  obtain ⟨l, hl, hv, c, sec, hc, hs, e⟩ := (keypairs_exact (toT s) hns gT hw k).1 hk
  obtain ⟨c', hc', hj, _⟩ := valid_listener_justified s gT l hv
  rw [hc] at hc'; cases hc'
  exact ⟨l, hl, hv, c, sec, hc, hs, e, hj⟩

/-- A listener of the served Gateway whose certificate reference is not justified is "not programmed" on the data plane:
it is invalid; the SSL part of the configuration (servers, SSL ports, key-pair files) is that of the cluster WITHOUT it
(and without the other unresolved listeners); no SSL server presents its key pair and no key-pair file of its Secret
is written (names without `_`); and if every HTTPS listener of its port is in the same situation — in particular if it
is the only one — the port is not open for TLS at all: no SSL server, no default server, no certificate for any SNI. -/
theorem no_grant_listener_contributes_nothing (s : ScenarioTG) (gT : GatewayT) (hw : winnerT (toT s) = some gT)
    (l : ListenerT) (hl : l ∈ gT.listeners) (c : Str × Str) (hc : l.cert = some c) (hj : ¬ CertJustified s.grants gT.ns c) :
    validHttps (toT s) gT l = false ∧
    (l.https = true → keepResolved (toT s) gT l = false) ∧
    ((genT (dropUnresolved (toT s))).ssl = (genTG s).ssl ∧ (genT (dropUnresolved (toT s))).sslPorts = (genTG s).sslPorts ∧
      (genT (dropUnresolved (toT s))).keyPairs = (genTG s).keyPairs) ∧
    (CertNsPlain (toT s) → (∀ sv kp, (sv, kp) ∈ (genTG s).ssl → kp ≠ some (Tls.keyPairId c)) ∧
      ∀ k ∈ (genTG s).keyPairs, k.id ≠ Tls.keyPairId c) ∧
    ((∀ o ∈ gT.listeners, o.https = true → o.base.port = l.base.port → o = l) →
      l.base.port ∉ (genTG s).sslPorts ∧ (∀ sv kp, (sv, kp) ∈ (genTG s).ssl → sv.port ≠ l.base.port) ∧
      ∀ sni, presented (genTG s) l.base.port sni = none) := by
  obtain ⟨hinv, hres⟩ := unjustified_listener_invalid s gT l c hc hj
  refine ⟨hinv, ?_, unresolved_listeners_contribute_nothing (toT s), ?_, ?_⟩
  · intro hh
    simp [keepResolved, hh, hres]
  · intro hns
    have hg := winnerT_mem hw
    have hplain := hns gT hg l hl c hc
    constructor
    · intro sv kp hm hkp
      obtain ⟨gT', hw', l', hl', _, _, _, c', sec, hc', hkp', _, _, hj'⟩ := crossns_cert_needs_grant_genT s hns sv kp hm
      rw [hw] at hw'; cases hw'
      rw [hkp] at hkp'
      have : c = c' := Tls.keyPairId_inj hplain (hns gT hg l' hl' c' hc') (Option.some.inj hkp')
      exact hj (this ▸ hj')
    · intro k hk hid
      obtain ⟨l', hl', _, c', sec, hc', _, e, hj'⟩ := keypair_files_need_grant s hns gT hw k hk
      have hid' : Tls.keyPairId c' = Tls.keyPairId c := by rw [← hid, e]
      have : c' = c := Tls.keyPairId_inj (hns gT hg l' hl' c' hc') hplain hid'
      exact hj (this ▸ hj')
  · intro honly
    apply invalid_secret_no_ssl_server (toT s) gT hw l.base.port
    intro o ho hh hp
    rw [honly o ho hh hp]
    exact hres

theorem winnerT_grants (s : ScenarioTG) (gs' : List RefGrant.Grant) :
    winnerT (toT { s with grants := gs' }) = winnerT (toT s) := by
  unfold winnerT allPart proj toT; rfl

theorem not_permitted_after_revokeCert (gs : List RefGrant.Grant) (gwNs : Str) (c : Str × Str) (hne : c.1 ≠ gwNs) :
    ¬ CertJustified (revokeCert gs gwNs c) gwNs c := by
  rintro (h | h)
  · exact hne h
  · obtain ⟨g, hg, rest⟩ := h
    have hf := (List.mem_filter.1 hg).2
    have : RefGrant.permittedB [g] "Secret" (String.ofList c.1) (String.ofList c.2) (fromGateway (String.ofList gwNs)) = true :=
      (RefGrant.permittedB_iff _ _ _ _ _).2 ⟨g, by simp, rest⟩
    rw [this] at hf; exact absurd hf (by decide)

/-- `cert_grant_revocation_effective`: delete every ReferenceGrant that permits (Gateway, Gateway namespace) → (Secret c) —
whatever other grants remain. In the configuration generated from the remaining cluster every listener of the served
Gateway that names that Secret is invalid, no SSL server presents its key pair and its key-pair file is not written. -/
theorem cert_grant_revocation_effective (s : ScenarioTG) (gT : GatewayT) (hw : winnerT (toT s) = some gT) (c : Str × Str)
    (hne : c.1 ≠ gT.ns) :
    let s' : ScenarioTG := { s with grants := revokeCert s.grants gT.ns c }
    winnerT (toT s') = some gT ∧
    (∀ l ∈ gT.listeners, l.cert = some c → validHttps (toT s') gT l = false) ∧
    (CertNsPlain (toT s) → (∃ l ∈ gT.listeners, l.cert = some c) →
      (∀ sv kp, (sv, kp) ∈ (genTG s').ssl → kp ≠ some (Tls.keyPairId c)) ∧ ∀ k ∈ (genTG s').keyPairs, k.id ≠ Tls.keyPairId c) := by
  intro s'
  have hw' : winnerT (toT s') = some gT := (winnerT_grants s _).trans hw
  have hj : ¬ CertJustified s'.grants gT.ns c := not_permitted_after_revokeCert s.grants gT.ns c hne
  refine ⟨hw', fun l hl hc => (no_grant_listener_contributes_nothing s' gT hw' l hl c hc hj).1, ?_⟩
  rintro hns ⟨l, hl, hc⟩
  exact (no_grant_listener_contributes_nothing s' gT hw' l hl c hc hj).2.2.2.1 hns

theorem secretRefAllowed_mono {gs gs' : List RefGrant.Grant} (hsub : ∀ g ∈ gs, g ∈ gs') (gwNs sNs sName : Str)
    (h : Tls.secretRefAllowed (gs.map convGrant) gwNs sNs sName = true) :
    Tls.secretRefAllowed (gs'.map convGrant) gwNs sNs sName = true := by
  rw [secretRefAllowed_conv_iff] at h ⊢
  obtain ⟨g, hg, rest⟩ := h
  exact ⟨g, hsub g hg, rest⟩

theorem validHttps_mono {s : ScenarioTG} {gs' : List RefGrant.Grant} (hsub : ∀ g ∈ s.grants, g ∈ gs') (g : GatewayT)
    (l : ListenerT) (hv : validHttps (toT s) g l = true) : validHttps (toT { s with grants := gs' }) g l = true := by
  obtain ⟨h1, h2, h3⟩ := validHttps_iff.1 hv
  refine validHttps_iff.2 ⟨h1, h2, ?_⟩
  obtain ⟨h0, hk, hgp, hp, rest⟩ := Tls.resolveRef_ok_iff.1 h3
  exact Tls.resolveRef_ok_iff.2 ⟨h0, hk, hgp, hp.imp id (secretRefAllowed_mono hsub _ _ _), rest⟩

/-- `cert_grants_monotone`: adding ReferenceGrants never removes a served certificate — every valid HTTPS listener stays
valid, every open SSL port stays open and every emitted key-pair file (id and bytes) is still emitted. (WHICH listener's
certificate a given server name presents can change: a listener that becomes valid may be the more specific one.) -/
theorem cert_grants_monotone (s : ScenarioTG) (gs' : List RefGrant.Grant) (hsub : ∀ g ∈ s.grants, g ∈ gs')
    (gT : GatewayT) (hw : winnerT (toT s) = some gT) :
    let s' : ScenarioTG := { s with grants := gs' }
    (∀ l ∈ gT.listeners, validHttps (toT s) gT l = true → validHttps (toT s') gT l = true) ∧
    (∀ p ∈ (genTG s).sslPorts, p ∈ (genTG s').sslPorts) ∧
    (CertNsPlain (toT s) → ∀ k ∈ (genTG s).keyPairs, k ∈ (genTG s').keyPairs) := by
  intro s'
  have hw' : winnerT (toT s') = some gT := (winnerT_grants s _).trans hw
  refine ⟨fun l _ hv => validHttps_mono hsub gT l hv, ?_, ?_⟩
  · intro p hp
    obtain ⟨l, hl, hv, hpl⟩ := (ssl_port_iff hw p).1 hp
    exact (ssl_port_iff hw' p).2 ⟨l, hl, validHttps_mono hsub gT l hv, hpl⟩
  · intro hns k hk
    obtain ⟨l, hl, hv, c, sec, hc, hs, e⟩ := (keypairs_exact (toT s) hns gT hw k).1 hk
    exact (keypairs_exact (toT s') hns gT hw' k).2 ⟨l, hl, validHttps_mono hsub gT l hv, c, sec, hc, hs, e⟩

theorem service_grants_permit_no_secret (gs : List RefGrant.Grant) (hk : ∀ g ∈ gs, ∀ t ∈ g.tos, t.kind ≠ "Secret")
    (ns name : String) (frm : RefGrant.FromRes) : ¬ Permitted gs "Secret" ns name frm := by
  rintro ⟨g, hg, _, _, t, ht, _, hkind, _⟩
  exact hk g hg t ht hkind

theorem secret_grants_permit_no_service (gs : List RefGrant.Grant) (hk : ∀ g ∈ gs, ∀ t ∈ g.tos, t.kind ≠ "Service")
    (ns name : String) (frm : RefGrant.FromRes) : ¬ Permitted gs "Service" ns name frm := by
  rintro ⟨g, hg, _, _, t, ht, _, hkind, _⟩
  exact hk g hg t ht hkind

/-- `backend_grants_do_not_leak_to_secrets`, over the composed TLS model: ReferenceGrants whose `to` entries are all for
Services (any names, any `from`, any namespace) generate exactly the configuration of the cluster without grants — they
open no certificate Secret (the kind is part of both lookups of the resolver; cf. seeded change C06-r4m1). -/
theorem backend_grants_do_not_leak_to_secrets (s : ScenarioTG) (hk : ∀ g ∈ s.grants, ∀ t ∈ g.tos, t.kind ≠ "Secret") :
    genTG s = genTG { s with grants := [] } := by
  have key : ∀ gwNs sNs sName, Tls.secretRefAllowed (s.grants.map convGrant) gwNs sNs sName = false := by
    intro gwNs sNs sName
    cases h : Tls.secretRefAllowed (s.grants.map convGrant) gwNs sNs sName
    · rfl
    · exact absurd ((secretRefAllowed_conv_iff _ _ _ _).1 h) (service_grants_permit_no_secret s.grants hk _ _ _)
  refine genT_congr_grants (toT { s with grants := [] }) (s.grants.map convGrant) fun g l => ?_
  have hres : resolution { toT { s with grants := [] } with grants := s.grants.map convGrant } g l =
      resolution (toT { s with grants := [] }) g l := Tls.resolveRef_congr (key _ _ _)
  unfold validHttps; rw [hres]

/-- … and conversely over the backend model of §8: grants whose `to` entries are all for Secrets (certificate grants)
generate exactly the configuration of the cluster without grants — they open no Service -/
theorem secret_grants_do_not_leak_to_backends (c : PipelineRefs.ScenarioR) (hk : ∀ g ∈ c.grants, ∀ t ∈ g.tos, t.kind ≠ "Service") :
    PipelineRefs.genR { c with grants := [] } = PipelineRefs.genR c := by
  apply PipelineRefs.grants_matter_through_verdicts
  intro g _ r _ _ ru _ refs _ ref _
  have hfalse : ∀ (gs : List RefGrant.Grant), (∀ g ∈ gs, ∀ t ∈ g.tos, t.kind ≠ "Service") → ∀ n,
      RefGrant.refAllowedFrom (RefGrant.newResolver gs) (RefGrant.fromRoute .http r.ns) (RefGrant.toService n ref.name) = false := by
    intro gs hgs n
    cases h : RefGrant.refAllowedFrom (RefGrant.newResolver gs) (RefGrant.fromRoute .http r.ns) (RefGrant.toService n ref.name)
    · rfl
    · exact absurd ((RefGrant.service_ref_allowed_iff gs .http r.ns n ref.name).1 h) (secret_grants_permit_no_service gs hgs _ _ _)
  unfold RefGrant.routeRefVerdict RefGrant.validateRouteBackendRef
  simp only
  split
  · rfl
  · unfold RefGrant.validateBackendRef
    cases hns : ref.ns with
    | none => rfl
    | some n => simp only [hfalse c.grants hk n, hfalse [] (by simp) n]

/-! ### non-vacuity (by evaluation, as for `gen`) -/

def exSecret : Tls.SecretObj := ⟨"certs".toList, "tls-x".toList, true, true, "CERT".toList, "KEY".toList⟩

def exGwT : GatewayT :=
  { ns := "default".toList, name := "gw".toList, cls := "nginx".toList, age := 1,
    listeners := [{ base := { name := "https".toList, port := 443, host := "foo.example.com".toList, fromAll := true },
                    https := true, cert := some ("certs".toList, "tls-x".toList) }] }

def exTG (grants : List RefGrant.Grant) : ScenarioTG :=
  { cls := "nginx".toList, ctlr := "ctl".toList, classes := [⟨"nginx".toList, "ctl".toList⟩], gateways := [exGwT], routes := [],
    secrets := [exSecret], grants := grants }

def certGrant : RefGrant.Grant := ⟨"certs", "g", [⟨RefGrant.gatewayGroup, "Gateway", "default"⟩], [⟨"", "Secret", some "tls-x"⟩]⟩

-- granted: the listener's own SSL server presents the cross-namespace Secret, the port is open, the file is written
#guard ((genTG (exTG [certGrant])).ssl.map (·.2)) == [some "ssl_keypair_certs_tls-x".toList]
#guard (genTG (exTG [certGrant])).sslPorts == [443] && ((genTG (exTG [certGrant])).keyPairs.map (·.id)) == ["ssl_keypair_certs_tls-x".toList]
-- no grant / revoked / a Service grant of the same shape / a grant for another Gateway namespace / for another name:
-- no SSL server, no SSL port, no key-pair file
#guard [[], revokeCert [certGrant] "default".toList ("certs".toList, "tls-x".toList),
        [{ certGrant with tos := [⟨"", "Service", some "tls-x"⟩] }], [{ certGrant with froms := [⟨RefGrant.gatewayGroup, "Gateway", "other"⟩] }],
        [{ certGrant with tos := [⟨"", "Secret", some "tls"⟩] }], [{ certGrant with ns := "default" }]].all fun gs =>
    (genTG (exTG gs)).ssl.isEmpty && (genTG (exTG gs)).sslPorts.isEmpty && (genTG (exTG gs)).keyPairs.isEmpty
example : CertJustified [certGrant] "default".toList ("certs".toList, "tls-x".toList) :=
  .inr ((RefGrant.permittedB_iff _ _ _ _ _).1 (by
    decide_chars))
example : ¬ CertJustified [] "default".toList ("certs".toList, "tls-x".toList) := by
  rintro (h | ⟨g, hg, _⟩)
  · repeat rw [String.toList_ofList] at h
    exact absurd h (by decide)
  · cases hg

end NGF.PipelineTlsRefs
