/-
C03 — every generated configuration is loadable by NGINX.

Scope of the proofs (see notes/C03.md): the name manglings of the generator (`NGF.Mangle`, tied to the
source by the regenerated format strings `NGF.Generated.ConfNames` and to the behaviour by the
correspondence run) and the path scheme of createLocations. The property itself ("NGINX can load
the file set") is evaluated by `NGF.WF.judge` on the real files; the theorems below say for which
inputs the mangled names are unique and lexically legal, give the witnesses where they are not, and
tie the judge's directive table to the directives the templates emit.
-/
import NGF.Proofs.Mangle
import NGF.Proofs.ConfRegex
import NGF.Spec.WellFormedConf
import NGF.Generated.ConfNameFacts

namespace NGF.Props.C03
open NGF.Mangle
open NGF.Generated

/-! ## 1. Facts regenerated from the source: the model uses the formats the code uses -/

theorem groupName_uses_source_format (ns name : List Char) (idx : Nat) :
    groupName ns name idx = sprintf ConfNames.groupFmt [ns, name, digits idx] ∧
    ConfNames.groupArgs = ["bg.Source.Namespace", "bg.Source.Name", "bg.RuleIdx"] := by
  have e : sprintf ConfNames.groupFmt [ns, name, digits idx] =
      lit "group_" ++ (ns ++ (lit "__" ++ (name ++ (lit "_rule" ++ (digits idx ++ []))))) := by
    unfold lit; repeat rw [String.toList_ofList]; rfl
  refine ⟨?_, rfl⟩
  rw [e, List.append_nil]
  simp only [groupName, List.append_assoc]

theorem upstreamName_uses_source_format (ns svc : List Char) (port : Nat) :
    upstreamName ns svc port = sprintf ConfNames.upstreamFmt [ns, svc, digits port] ∧
    ConfNames.upstreamArgs = ["b.SvcNsName.Namespace", "b.SvcNsName.Name", "b.ServicePort.Port"] := by
  have e : sprintf ConfNames.upstreamFmt [ns, svc, digits port] =
      ns ++ (lit "_" ++ (svc ++ (lit "_" ++ (digits port ++ [])))) := by
    unfold lit; repeat rw [String.toList_ofList]; rfl
  refine ⟨?_, rfl⟩
  rw [e, List.append_nil]
  simp only [upstreamName, List.append_assoc]

theorem keyPair_bundle_use_source_format (ns name : List Char) :
    keyPairId ns name = sprintf ConfNames.keyPairFmt [ns, name] ∧
    bundleId ns name = sprintf ConfNames.bundleFmt [ns, name] ∧
    pemFile ns name = ConfNames.secretsFolder ++ '/' :: keyPairId ns name ++ lit ".pem" ∧
    bundleFile ns name = ConfNames.secretsFolder ++ '/' :: bundleId ns name ++ lit ".crt" ∧
    ConfNames.keyPairArgs = ["secret.Namespace", "secret.Name"] ∧
    ConfNames.bundleArgs = ["configMap.Namespace", "configMap.Name"] ∧
    ConfNames.pemFileBody = ["return filepath.Join(secretsFolder, string(id)+\".pem\")"] ∧
    ConfNames.bundleFileBody = ["return filepath.Join(secretsFolder, string(id)+\".crt\")"] := by
  have ek : sprintf ConfNames.keyPairFmt [ns, name] = lit "ssl_keypair_" ++ (ns ++ (lit "_" ++ (name ++ []))) := by
    unfold lit; repeat rw [String.toList_ofList]; rfl
  have eb : sprintf ConfNames.bundleFmt [ns, name] = lit "cert_bundle_" ++ (ns ++ (lit "_" ++ (name ++ []))) := by
    unfold lit; repeat rw [String.toList_ofList]; rfl
  have ef : lit "/etc/nginx/secrets/" = ConfNames.secretsFolder ++ ['/'] := by
    unfold lit; rw [String.toList_ofList]; rfl
  refine ⟨?_, ?_, ?_, ?_, rfl, rfl, rfl, rfl⟩
  · rw [ek, List.append_nil]; simp only [keyPairId, List.append_assoc]
  · rw [eb, List.append_nil]; simp only [bundleId, List.append_assoc]
  · simp only [pemFile, ef, List.append_assoc, List.cons_append, List.nil_append]
  · simp only [bundleFile, ef, List.append_assoc, List.cons_append, List.nil_append]

theorem cspFile_uses_source_format (ns name : List Char) :
    cspFile ns name = ConfNames.includesFolder ++ '/' :: sprintf ConfNames.cspFileFmt [ns, name] ∧
    ConfNames.cspFileArgs = ["csp.Namespace", "csp.Name"] ∧
    ConfNames.policyIncludeNameExprs = ["includesFolder + \"/\" + file.Name"] := by
  have e : sprintf ConfNames.cspFileFmt [ns, name] =
      lit "ClientSettingsPolicy_" ++ (ns ++ (lit "_" ++ (name ++ (lit ".conf" ++ [])))) := by
    unfold lit; repeat rw [String.toList_ofList]; rfl
  have ef : lit "/etc/nginx/includes/" = ConfNames.includesFolder ++ ['/'] := by
    unfold lit; rw [String.toList_ofList]; rfl
  refine ⟨?_, rfl, rfl⟩
  rw [e, List.append_nil]
  simp only [cspFile, ef, List.append_assoc, List.cons_append, List.nil_append]

theorem sockets_use_source_format (port : Nat) (host : List Char) :
    sockTLS port host = sprintf ConfNames.sockTLSFmt [host, digits port] ∧
    sockHTTPS port = sprintf ConfNames.sockHTTPSFmt [digits port] ∧
    passVar port = sprintf ConfNames.passVarFmt [digits port] ∧
    ConfNames.sockTLSArgs = ["hostname", "port"] := by
  have e1 : sprintf ConfNames.sockTLSFmt [host, digits port] =
      lit "unix:/var/run/nginx/" ++ (host ++ (lit "-" ++ (digits port ++ (lit ".sock" ++ [])))) := by
    unfold lit; repeat rw [String.toList_ofList]; rfl
  have e2 : sprintf ConfNames.sockHTTPSFmt [digits port] =
      lit "unix:/var/run/nginx/https" ++ (digits port ++ (lit ".sock" ++ [])) := by
    unfold lit; repeat rw [String.toList_ofList]; rfl
  have e3 : sprintf ConfNames.passVarFmt [digits port] = lit "$dest" ++ (digits port ++ []) := by
    unfold lit; repeat rw [String.toList_ofList]; rfl
  refine ⟨?_, ?_, ?_, rfl⟩
  · rw [e1, List.append_nil]; simp only [sockTLS, List.append_assoc]
  · rw [e2, List.append_nil]; simp only [sockHTTPS, List.append_assoc]
  · rw [e3, List.append_nil]; rfl

theorem safeVar_uses_source_chars (s : List Char) :
    safeVar s = s.map (fun c => if [c] = ConfNames.safeVarOld then '_' else c) ∧
    ConfNames.safeVarNew = ['_'] ∧
    ConfNames.safeVarBody = ["return strings.ReplaceAll(s, \"-\", \"_\")"] ∧
    ConfNames.addHdrVarBody =
      ["return strings.ToLower(convertStringToSafeVariableName(name)) + \"_header_var\""] := by
  refine ⟨?_, rfl, rfl, rfl⟩
  simp only [safeVar, ConfNames.safeVarOld, List.cons.injEq, and_true]

/-- the location / rewrite scheme the model mirrors is the one in servers.go -/
theorem location_scheme_facts :
    ConfNames.internalLocFmt = "%s-rule%d-route%d" ∧
    ConfNames.internalRoutePathPrefix = "/_ngf-internal" ∧
    ConfNames.rootPath = "/" ∧
    ConfNames.exactPathBody = ["return fmt.Sprintf(\"= %s\", path)"] ∧
    ConfNames.isNonSlashedPrefixPathBody =
      ["return pathType == dataplane.PathTypePrefix && !strings.HasSuffix(path, \"/\")"] ∧
    ConfNames.rewriteFmts = ["^ %s", "^%s([^?]*)?", "%s$1?$args?", "^%s(?:/([^?]*))?", "%s/$1?$args?", "%s %s"] ∧
    ConfNames.pathFmt = "/[^\\s{};]*" :=
  ⟨rfl, rfl, rfl, rfl, rfl, rfl, rfl⟩

/-- Every word that a template or a static file puts in directive position has an entry in the
judge's directive table (or is one of the keywords handled structurally). A directive added to a
template without a table entry breaks this obligation. -/
theorem template_directives_in_table :
    ∀ d ∈ ConfNames.templateDirectives ++ ConfNames.staticDirectives,
      NGF.WF.known d = true ∨ d ∈ ["include", "hostnames", "default"] := by
  decide +kernel

/-! ## 2. Injectivity of the manglings -/

/-- `(*BackendGroup).Name` itself is injective on Kubernetes names (no `_` in namespace / name). -/
theorem mangle_injective_groupName {ns ns' name name' : List Char} {i j : Nat}
    (hns : '_' ∉ ns) (hns' : '_' ∉ ns') (hn : '_' ∉ name) (hn' : '_' ∉ name')
    (h : groupName ns name i = groupName ns' name' j) : ns = ns' ∧ name = name' ∧ i = j := by
  simp only [groupName, lit, List.append_assoc] at h
  have h1 := List.append_cancel_left (as := "group_".toList) h
  have e1 : "__".toList = ['_', '_'] := by rw [String.toList_ofList]
  have e2 : "_rule".toList = '_' :: "rule".toList := by repeat rw [String.toList_ofList]
  rw [e1, e2] at h1
  simp only [List.cons_append, List.nil_append] at h1
  obtain ⟨a1, a2⟩ := append_sep_inj hns hns' h1
  simp only [List.cons.injEq, true_and] at a2
  obtain ⟨b1, b2⟩ := append_sep_inj hn hn' a2
  have b3 := List.append_cancel_left b2
  exact ⟨a1, b1, digits_injective b3⟩

/-- FULL STRENGTH IS FALSE for the variable actually used in the configuration: after `-`→`_`
two different (namespace, route) pairs get the same `split_clients` variable. -/
theorem mangle_injective_groupVar_false :
    groupVar "a--b".toList "c".toList 0 = groupVar "a".toList "b--c".toList 0 ∧
    ("a--b".toList, "c".toList) ≠ ("a".toList, "b--c".toList) := by
  unfold groupVar groupName lit
  decide_chars

/-- …and route names may contain dots (DNS subdomains), which NGINX does not accept in a variable name. -/
theorem groupVar_image_not_lexable_witness :
    (groupVar "ns".toList "my.route".toList 0).all isVarChar = false := by
  unfold groupVar groupName lit
  decide_chars

/-- Partial theorem: the variable name is injective when the mangled namespace has no `__` and does
not end in `_` (implied by: no `--`, no trailing `-`, see `goodFor_safeVar`). -/
theorem mangle_injective_groupVar_partial {ns ns' name name' : List Char} {i j : Nat}
    (hns : '_' ∉ ns) (hns' : '_' ∉ ns') (hn : '_' ∉ name) (hn' : '_' ∉ name')
    (hg : GoodFor '_' (safeVar ns) = true) (hg' : GoodFor '_' (safeVar ns') = true)
    (h : groupVar ns name i = groupVar ns' name' j) : ns = ns' ∧ name = name' ∧ i = j :=
  groupVar_inj hns hns' hn hn' hg hg' h

/-- a DNS label without `--` satisfies the hypothesis of the partial theorem -/
theorem partial_hypothesis_from_dns {ns : List Char} (hu : '_' ∉ ns) (hh : GoodFor '-' ns = true) :
    GoodFor '_' (safeVar ns) = true := goodFor_safeVar hu hh

example : GoodFor '_' (safeVar "team-a".toList) = true ∧ GoodFor '_' (safeVar "a--b".toList) = false := by
  decide_chars

/-- lexical class: for names made of `[A-Za-z0-9-]` the variable is a legal NGINX variable name -/
theorem groupVar_lexable {ns name : List Char} (idx : Nat)
    (hns : ns.all isNameChar = true) (hn : name.all isNameChar = true) :
    (groupVar ns name idx).all isVarChar = true :=
  groupVar_all_isVarChar idx hns hn

example : (groupVar "team-a".toList "coffee-route".toList 12).all isVarChar = true := by
  unfold groupVar groupName lit
  decide_chars

/-- Hence NGINX's scan of the reference `$<groupVar>$request_uri` (maximal `[A-Za-z0-9_]` run, as in
`ngx_http_script_compile` and `NGF.WF.scriptVars`) reads exactly the defined variable … -/
theorem groupVar_reference_read_whole {ns name : List Char} (idx : Nat) (rest : List Char)
    (hns : ns.all isNameChar = true) (hn : name.all isNameChar = true) :
    (groupVar ns name idx ++ '$' :: rest).takeWhile isVarChar = groupVar ns name idx :=
  (takeWhile_dropWhile_stop (groupVar_lexable idx hns hn) (by decide)).1

/-- … whereas for a route name with a dot it stops early at an undefined name (reload fails). -/
theorem groupVar_reference_truncated_witness :
    (groupVar "ns".toList "my.route".toList 0 ++ "$request_uri".toList).takeWhile isVarChar = "group_ns__my".toList ∧
    NGF.WF.scriptVars ("http://$group_ns__my.route_rule0$request_uri".toList) =
      [.name "group_ns__my", .name "request_uri"] := by
  unfold groupVar groupName lit
  decide_chars

/-- upstream names `<ns>_<svc>_<port>` -/
theorem mangle_injective_upstreamName {ns ns' svc svc' : List Char} {p q : Nat}
    (hns : '_' ∉ ns) (hns' : '_' ∉ ns') (hs : '_' ∉ svc) (hs' : '_' ∉ svc')
    (h : upstreamName ns svc p = upstreamName ns' svc' q) : ns = ns' ∧ svc = svc' ∧ p = q := by
  simp only [upstreamName, List.append_assoc] at h
  obtain ⟨a1, a2⟩ := append_sep_inj hns hns' h
  obtain ⟨b1, b2⟩ := append_sep_inj hs hs' a2
  exact ⟨a1, b1, digits_injective b2⟩

example : upstreamName "team-a".toList "coffee".toList 80 = "team-a_coffee_80".toList := by
  unfold upstreamName lit
  decide_chars

/-- key pair / bundle / policy include names: `<prefix><ns>_<name><suffix>`; the name may be any
string (Secret, ConfigMap and policy names are DNS subdomains and may contain `.` and `--`). -/
theorem mangle_injective_keyPair {ns ns' name name' : List Char} (hns : '_' ∉ ns) (hns' : '_' ∉ ns')
    (h : pemFile ns name = pemFile ns' name') : ns = ns' ∧ name = name' := by
  simp only [pemFile, keyPairId, List.append_assoc] at h
  exact affix_sep_inj hns hns' (List.append_cancel_left h)

theorem mangle_injective_bundle {ns ns' name name' : List Char} (hns : '_' ∉ ns) (hns' : '_' ∉ ns')
    (h : bundleFile ns name = bundleFile ns' name') : ns = ns' ∧ name = name' := by
  simp only [bundleFile, bundleId, List.append_assoc] at h
  exact affix_sep_inj hns hns' (List.append_cancel_left h)

theorem mangle_injective_cspFile {ns ns' name name' : List Char} (hns : '_' ∉ ns) (hns' : '_' ∉ ns')
    (h : cspFile ns name = cspFile ns' name') : ns = ns' ∧ name = name' := by
  simp only [cspFile, List.append_assoc] at h
  exact affix_sep_inj hns hns' (List.append_cancel_left h)

example : pemFile "default".toList "tls.b".toList = "/etc/nginx/secrets/ssl_keypair_default_tls.b.pem".toList := by
  unfold pemFile keyPairId lit
  decide_chars

/-- TLS passthrough socket names `unix:/var/run/nginx/<hostname>-<port>.sock` are injective … -/
theorem mangle_injective_sockTLS {h h' : List Char} {p q : Nat}
    (e : sockTLS p h = sockTLS q h') : h = h' ∧ p = q := by
  simp only [sockTLS, lit, List.append_assoc] at e
  have e1 := List.append_cancel_left e
  have r := congrArg List.reverse e1
  simp only [List.reverse_append, List.append_assoc] at r
  have r1 := List.append_cancel_left r
  have e2 : "-".toList.reverse = ['-'] := by rw [String.toList_ofList]; rfl
  rw [e2] at r1
  simp only [List.cons_append, List.nil_append] at r1
  have nd : ∀ n, '-' ∉ (digits n).reverse := fun n m =>
    not_mem_digits_of_not_isDigit (c := '-') (by decide) (List.mem_reverse.mp m)
  obtain ⟨c1, c2⟩ := append_sep_inj (nd p) (nd q) r1
  exact ⟨by simpa using congrArg List.reverse c2, digits_injective (by simpa using congrArg List.reverse c1)⟩

/-- … but NOT always within the 107 bytes of `sun_path`: hostnames are up to 253 characters. -/
theorem sockTLS_path_too_long_witness :
    (sockPath (sockTLS 8443 (List.replicate 63 'a' ++ '.' :: List.replicate 63 'b' ++ ".example.com".toList))).length > 107 := by
  unfold sockPath sockTLS lit
  decide_chars

/-- `_partial`: hostnames of at most 80 characters and ports below 100000 always fit. -/
theorem sockTLS_path_fits_partial {h : List Char} {p : Nat} (hh : h.length ≤ 80) (hp : (digits p).length ≤ 5) :
    (sockPath (sockTLS p h)).length ≤ 107 := by
  -- `unix:` is dropped; what remains is `/var/run/nginx/` (15), the hostname, `-`, the port and `.sock` (5)
  have e : lit "unix:/var/run/nginx/" = lit "unix:" ++ lit "/var/run/nginx/" := by
    unfold lit; repeat rw [String.toList_ofList]
    rfl
  have l0 : (lit "unix:").length = 5 := by unfold lit; rw [String.toList_ofList]; rfl
  have l1 : (lit "/var/run/nginx/").length = 15 := by unfold lit; rw [String.toList_ofList]; rfl
  have l2 : (lit "-").length = 1 := by unfold lit; rw [String.toList_ofList]; rfl
  have l3 : (lit ".sock").length = 5 := by unfold lit; rw [String.toList_ofList]; rfl
  simp only [sockPath, sockTLS, e, List.append_assoc, List.drop_left' l0, List.length_append, l1, l2, l3]
  omega

example : (sockPath (sockTLS 443 "cafe.example.com".toList)).length ≤ 107 := by
  unfold sockPath sockTLS lit
  decide_chars

/-! ## 3. Locations of a server are pairwise distinct (createLocations / initializeExternalLocations) -/

/-- For path rules with pairwise distinct `(path, type)` the external locations generated for a
server are pairwise distinct `(modifier, path)` keys: NGINX never sees a duplicate location. -/
theorem locations_distinct (rules : List (List Char × PathType)) (hnd : rules.Nodup) :
    (serverExternalLocs rules).Nodup :=
  serverExternalLocs_nodup rules hnd

example : (serverExternalLocs [("/coffee".toList, .prefix), ("/coffee".toList, .exact), ("/coffee/".toList, .prefix),
    ("/tea".toList, .prefix)]).Nodup := by
  decide_chars

/-- external prefix locations always end in `/`, internal locations never do: they cannot clash -/
theorem internal_vs_external (rules : List (List Char × PathType)) (i j : Nat) :
    (false, internalLocPath i j) ∉ serverExternalLocs rules :=
  internalLoc_not_external rules i j

/-! ## 4. The rewrite regex: accepted for plain paths, rejected for admissible paths with `(` -/

/-- the generated `rewrite` regex for the admissible match path `/a(b` does not compile -/
theorem rewrite_regex_compiles_false :
    NGF.WF.regexVerdict (rewriteRegex "/v2".toList "/a(b".toList) = .bad "missing )" := by
  unfold rewriteRegex lit
  decide_chars

/-- `_partial`: for match paths without PCRE metacharacters both shapes of the generated regex compile -/
theorem rewrite_regex_compiles_partial (fp path : List Char) (hp : path.all NGF.WF.plainRe = true) (hne : path ≠ []) :
    NGF.WF.regexVerdict (rewriteRegex fp path) = .ok := by
  unfold rewriteRegex
  split <;> rw [NGF.WF.regexVerdict_caret_plain path _ hp hne] <;> unfold lit <;> rw [String.toList_ofList] <;>
    decide +kernel

example : ("/coffee-1/latte_x".toList).all NGF.WF.plainRe = true := by
  decide_chars
example : NGF.WF.regexVerdict (rewriteRegex "/v2".toList "/coffee".toList) = .ok := by
  unfold rewriteRegex lit
  decide_chars
example : NGF.WF.regexVerdict (rewriteRegex "/v2/".toList "/coffee".toList) = .ok := by
  unfold rewriteRegex lit
  decide_chars

end NGF.Props.C03
