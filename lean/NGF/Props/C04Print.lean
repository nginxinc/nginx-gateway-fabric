/-
C04, text step for the fragment of Model/Pipeline + Model/Render: the TEXT NGF writes for `render (genR s order)`
(Model/Print `printDirs`: the way the Go templates write words, `;`, ` {`, double quotes) is read back by NGINX's tokeniser
(`NGF.Nginx.lex`, the trusted model of ngx_conf_read_token) as EXACTLY the intended directives — for ALL scenarios and port
orders whose guarded string fields satisfy the predicates the REAL validators enforce (`PrintGuards.fieldsOK`, over the
regexes regenerated from /repo), in the backslash-free region (`PrintGuards.noBackslash`); without that restriction (the
validators accept backslashes in match paths and `\x` pairs in redirect hostnames) the token skeleton is still the intended one.

The tie to the code: driver mode `print` (Model/PrintTie) compares `lex (printDirs (render (genR s order)))` with the tokens
of the REAL http.conf, token for token, on fragment scenarios with hostile values in every guarded field, and relates
`fieldsOK`/`matchCondsOK` to what the real validators accept (props/c04.py `_print_stream`).
-/
import NGF.Props.C04
import NGF.Model.Print
import NGF.Model.PrintGuards
import NGF.Proofs.PrintLex
import NGF.Proofs.PrintFields
import NGF.Proofs.PrintDollar
import NGF.Proofs.PrintShape
import NGF.Proofs.PrintFieldsEsc

namespace NGF.Props.C04Print
open NGF.Nginx NGF.Inj NGF.Print NGF.PrintGuards NGF.PrintShape NGF.Pipeline NGF.Render NGF.Props.C04

theorem headChar_of_plain {c : Char} (h : Plain c) : headChar c = true := plain_startOK h

theorem bareOK_of_plain {v : List Char} (hne : v ≠ []) (hp : ∀ c ∈ v, Plain c) : bareOK v = true :=
  bareOK_of_all_head hne fun c hc => headChar_of_plain (hp c hc)

/-- graph.validateHostname ⇒ safe `server_name` word -/
theorem hostname_bareOK {v : List Char} (h : validateHostname v = true) : bareOK v = true :=
  bareOK_of_plain (hostname_plain h).1 (hostname_plain h).2

/-- ValidatePathInMatch, no backslash ⇒ safe `location` word -/
theorem path_bareOK {v : List Char} (h : validatePathInMatch v = true) (hb : v.contains '\\' = false) : bareOK v = true := by
  simp only [validatePathInMatch, Bool.and_eq_true] at h
  obtain ⟨⟨t, rfl⟩, hc⟩ := pathRe_chars h.2
  have hb' : '\\' ∉ '/' :: t := by simpa using hb
  refine bareOK_cons (by decide) (List.all_eq_true.mpr fun c hct => ?_)
  have hcs : c ∈ '/' :: t := List.mem_cons_of_mem _ hct
  obtain ⟨h1, h2, h3, _⟩ := hc c hcs
  have h4 : c ≠ '\\' := fun e => hb' (e ▸ hcs)
  simp [tailChar, h1, h2, h3, h4]

/-- DNS-1123 names (metadata.name / namespace) consist of tail characters -/
theorem k8sName_tail {v : List Char} (h : k8sNameOK v = true) : v.all tailChar = true := by
  have := (charset_regex_plain G.dnsSubdomainRe (by simp) h).2
  exact List.all_eq_true.mpr fun c hc => tailChar_of_headChar (headChar_of_plain (this c hc))

theorem plain_of_upstreamChar {c : Char}
    (h : (('a' ≤ c && c ≤ 'z') || ('0' ≤ c && c ≤ '9') || c == '-' || c == '.' || c == '_') = true) : Plain c := by
  simp only [Bool.or_eq_true, beq_iff_eq] at h
  rcases h with (((h | h) | h) | h) | h
  · simp only [Bool.and_eq_true, decide_eq_true_eq, Char.le_def, UInt32.le_iff_toNat_le] at h
    simp only [Plain, specials, Char.toNat, List.mem_cons, List.not_mem_nil, or_false]
    have ha : 'a'.val.toNat = 97 := rfl
    have hz : 'z'.val.toNat = 122 := rfl
    omega
  · exact plain_of_isDigit h
  all_goals (subst h; unfold Plain; decide)

theorem upstream_plain {v : List Char} (h : upstreamOK v = true) : ∀ c ∈ v, Plain c := by
  simp only [upstreamOK, Bool.and_eq_true, List.all_eq_true] at h
  exact fun c hc => plain_of_upstreamChar (h.2 c hc)

theorem upstream_bareOK {v : List Char} (h : upstreamOK v = true) : bareOK v = true := by
  refine bareOK_of_plain ?_ (upstream_plain h)
  intro e; subst e; simp [upstreamOK] at h

/-- ValidateRedirectScheme accepts exactly the two schemes of the generated list -/
theorem scheme_cases {v : List Char} (h : validateRedirectScheme v = true) : v = "http".toList ∨ v = "https".toList := by
  simp only [validateRedirectScheme] at h
  have hmem : String.ofList v ∈ NGF.Generated.Regexes.supportedRedirectSchemes := by simpa using h
  have : String.ofList v = "http" ∨ String.ofList v = "https" := by
    simpa [NGF.Generated.Regexes.supportedRedirectSchemes] using hmem
  exact this.imp (fun e => by rw [← e]; simp) (fun e => by rw [← e]; simp)

theorem scheme_dqOK {v : List Char} (h : validateRedirectScheme v = true) : dqOK v = true := by
  rcases scheme_cases h with rfl | rfl <;> decide_chars

theorem plain_of_inert_no_backslash {m : Mode} {v : List Char} (h : Inert m v) (hb : '\\' ∉ v) :
    ∀ c ∈ v, isTerm m c = false := by
  induction h with
  | nil => intro c hc; simp at hc
  | plain ht _ _ ih =>
    intro c hc
    rcases List.mem_cons.mp hc with rfl | hc
    · exact ht
    · exact ih (fun hm => hb (List.mem_cons_of_mem _ hm)) c hc
  | esc _ _ => exact absurd (List.mem_cons_self ..) hb

/-- HTTPRedirectValidator.ValidateHostname, no backslash ⇒ safe content of the quoted `return` body -/
theorem redirectHost_dqOK {v : List Char} (h : validateEscapedStringNoVarExpansion v = true)
    (hb : v.contains '\\' = false) : dqOK v = true := by
  have hb' : '\\' ∉ v := by simpa using hb
  have := plain_of_inert_no_backslash (escapedStringsNoVarRe_novar h).1 hb'
  simp only [dqOK, List.all_eq_true, Bool.not_eq_true', Bool.or_eq_false_iff, beq_eq_false_iff_ne, ne_eq]
  intro c hc
  refine ⟨?_, fun e => hb' (e ▸ hc)⟩
  have := this c hc
  simpa [isTerm] using this

theorem actionOK_safe {a : Action} (h : actionOK a = true) (hb : actionNoBackslash a = true) : actionSafe a = true := by
  cases a with
  | redirect code sch host port =>
    simp only [actionOK, Bool.and_eq_true] at h
    simp only [actionSafe, Bool.and_eq_true]
    refine ⟨?_, ?_⟩
    · cases sch with
      | none => rfl
      | some x => exact scheme_dqOK (by simpa using h.1)
    · cases host with
      | none => rfl
      | some x =>
        have hx : x.contains '\\' = false := by simpa [actionNoBackslash] using hb
        exact redirectHost_dqOK (by simpa using h.2) hx
  | forward bs =>
    simp only [actionOK, List.all_eq_true, Bool.or_eq_true] at h
    simp only [actionSafe, List.all_eq_true, Bool.or_eq_true]
    exact fun b hb' => (h b hb').imp id upstream_bareOK

theorem fieldsOK_safe {s : Scenario} (h : fieldsOK s = true) (hb : noBackslash s = true) : fieldsSafe s = true := by
  simp only [fieldsOK, Bool.and_eq_true, List.all_eq_true] at h
  simp only [noBackslash, List.all_eq_true] at hb
  simp only [fieldsSafe, Bool.and_eq_true, List.all_eq_true]
  refine ⟨fun g hg l hl => ?_, fun r hr => ?_⟩
  · have := h.1 g hg l hl
    simp only [listenerOK, Bool.or_eq_true] at this
    simp only [listenerSafe, Bool.or_eq_true]
    exact this.imp id hostname_bareOK
  · have h := h.2 r hr
    have hb := hb r hr
    cases hv : r.valid with
    | false => simp [routeSafe, hv]
    | true =>
      simp only [PrintGuards.routeOK, ruleOK, hv, Bool.not_true, Bool.false_or, Bool.and_eq_true, List.all_eq_true] at h
      simp only [hv, Bool.not_true, Bool.false_or, Bool.and_eq_true, List.all_eq_true, Bool.not_eq_true'] at hb
      simp only [routeSafe, ruleSafe, hv, Bool.not_true, Bool.false_or, Bool.and_eq_true, List.all_eq_true]
      exact ⟨⟨⟨List.all_eq_true.mp (k8sName_tail h.1.1.1), List.all_eq_true.mp (k8sName_tail h.1.1.2)⟩,
        fun x hx => hostname_bareOK (h.1.2 x hx)⟩, fun rule hr =>
        ⟨fun m hm => path_bareOK ((h.2 rule hr).1 m hm) ((hb rule hr).1 m hm), actionOK_safe (h.2 rule hr).2 (hb rule hr).2⟩⟩

/-- ValidatePathInMatch ⇒ a `location` word that may contain backslashes -/
theorem path_looseOK {v : List Char} (h : validatePathInMatch v = true) : looseOK v = true := by
  simp only [validatePathInMatch, Bool.and_eq_true] at h
  obtain ⟨t, rfl, ht⟩ := pathRe_nonterm h.2
  simp only [looseOK, Bool.and_eq_true, List.all_eq_true]
  refine ⟨by decide, fun c hc => ?_⟩
  have := ht c hc
  simpa [looseChar, isTerm] using this

theorem actionOK_weak {a : Action} (h : actionOK a = true) : ActionP wP a :=
  actionP_of_tests (P := wP) (fun _ hx => escOK_of_dqOK (scheme_dqOK hx))
    (fun _ hx => escOK_of_inert (escapedStringsNoVarRe_novar hx).1) (fun _ => upstream_bareOK) a h

theorem fieldsOK_weak {s : Scenario} (h : fieldsOK s = true) : FieldsP wP s := by
  simp only [fieldsOK, Bool.and_eq_true, List.all_eq_true] at h
  refine ⟨?_, ?_⟩
  · intro g hg l hl
    have := h.1 g hg l hl
    simp only [listenerOK, Bool.or_eq_true, List.isEmpty_iff] at this
    exact this.imp id hostname_bareOK
  · intro r hr hv
    have hr' := h.2 r hr
    simp only [PrintGuards.routeOK, hv, Bool.not_true, Bool.false_or, Bool.and_eq_true, List.all_eq_true] at hr'
    refine ⟨k8sName_tail hr'.1.1.1, k8sName_tail hr'.1.1.2, fun x hx => hostname_bareOK (hr'.1.2 x hx), ?_⟩
    intro rule hrule
    have := hr'.2 rule hrule
    simp only [ruleOK, Bool.and_eq_true, List.all_eq_true] at this
    exact ⟨fun m hm => path_looseOK (this.1 m hm), actionOK_weak this.2⟩

/-- **Any directive tree** (simple directives and blocks nested to any depth) whose words are lexically safe, written the
way the templates write it, is tokenised as exactly its intended tokens … -/
theorem print_then_lex_dirs {ds : List Dir} (h : dirsOK ds = true) : lex (printDirs ds) = .ok (dirsToks ds) :=
  lex_printDirs h

/-- … and parsed back as exactly the tree. -/
theorem print_then_parse_dirs {ds : List Dir} (h : dirsOK ds = true) : parse (printDirs ds) = .ok ds :=
  parse_printDirs h

/-- one directive with safe words, in front of any continuation: its own tokens, then the lexer is between statements
(the single-directive form; `lexFrom_print` covers blocks as well) -/
theorem print_one_directive (n : List Char) (args : List Print.Arg) (hn : bareOK n = true) (ha : args.all argOK = true)
    (post : List Char) :
    lexFrom LexSt.init (printDir (.mk n args none) ++ post) =
      prepend (Tok.word n false :: args.map argTok ++ [.semi]) (lexFrom LexSt.init post) := by
  have := lexFrom_print.1 (.mk n args none) (by simp [dirOK, hn, ha]) post
  simpa [Print.dirToks, init_eq] using this

/-- **Dataflow**: if every guarded field passes its validator (and, for the exact read-back, contains no backslash), every
word of the rendered tree is lexically safe — for all scenarios and all port orders. -/
theorem fields_safe_dirs {s : Scenario} (h : fieldsOK s = true) (hb : noBackslash s = true) (order : List Nat) :
    dirsOK (render (genR s order)) = true :=
  dirsOK_render_genR (fieldsOK_safe h hb) order

/-- **The generated text is tokenised as exactly the intended token stream.** -/
theorem print_then_lex {s : Scenario} (h : fieldsOK s = true) (hb : noBackslash s = true) (order : List Nat) :
    lex (printDirs (render (genR s order))) = .ok (dirsToks (render (genR s order))) :=
  lex_printDirs (fields_safe_dirs h hb order)

/-- **The generated text is read back as exactly the intended directives**: no field value can end a directive, open or
close a block, start a comment, or split into several arguments. -/
theorem print_then_parse {s : Scenario} (h : fieldsOK s = true) (hb : noBackslash s = true) (order : List Nat) :
    parse (printDirs (render (genR s order))) = .ok (render (genR s order)) :=
  parse_printDirs (fields_safe_dirs h hb order)

theorem fields_weak_dirs {s : Scenario} (h : fieldsOK s = true) (order : List Nat) :
    dirsOKw (render (genR s order)) = true :=
  dirsOKw_render (confW_genR (fieldsOK_weak h) order)

/-- **The structure of the generated text, from the validators alone** (backslashes in match paths and redirect hostnames
included): the text is tokenised, the end of file is legal, and the token skeleton — which positions are words (quoted or
bare), `;`, `{`, `}` — is exactly the one of the intended directives. The words themselves are the unescaped ones. -/
theorem print_skeleton {s : Scenario} (h : fieldsOK s = true) (order : List Nat) :
    ∃ ts, lex (printDirs (render (genR s order))) = .ok ts ∧
      Print.skeleton ts = Print.skeleton (dirsToks (render (genR s order))) :=
  lex_printDirs_w (fields_weak_dirs h order)

/-- the same for any tree with weakly safe words -/
theorem print_skeleton_dirs {ds : List Dir} (h : dirsOKw ds = true) :
    ∃ ts, lex (printDirs ds) = .ok ts ∧ Print.skeleton ts = Print.skeleton (dirsToks ds) := lex_printDirs_w h

/-- the token skeleton of the text of a tree with (weakly) safe words is the skeleton of its intended tokens, which depends
only on the shape -/
theorem skeleton_of_shape {xs ys : List Dir} (hx : dirsOKw xs = true) (hy : dirsOKw ys = true)
    (hs : sameShapes xs ys = true) :
    (lex (printDirs xs)).map Print.skeleton = (lex (printDirs ys)).map Print.skeleton := by
  obtain ⟨ts, e, hk⟩ := lex_printDirs_w hx
  obtain ⟨ts', e', hk'⟩ := lex_printDirs_w hy
  rw [e, e']
  simp only [Except.map]
  rw [hk, hk', sameShape_skeletons.2 xs ys hs]

/-- **The token skeleton does not depend on the values**, configuration level: two enriched configurations that differ
only in the VALUES of their strings (`sameConf`: same servers, serverIDs, path rules, kinds of locations and actions, match
rules, BackendGroup weights; any server names, paths, redirect parts, sources, upstream names) whose strings satisfy the weak
word predicates are printed to texts with the same token skeleton (which positions are words — quoted or bare —, `;`, `{`,
`}`). -/
theorem skeleton_independent_of_values_conf {c c' : ConfR} (hs : sameConf c c' = true) (h : ConfP wP c) (h' : ConfP wP c') :
    (lex (printDirs (render c))).map Print.skeleton = (lex (printDirs (render c'))).map Print.skeleton :=
  skeleton_of_shape (dirsOKw_render h) (dirsOKw_render h') (sameShapes_render hs)

/-- **The token skeleton does not depend on the values — from the validators alone.** -/
theorem skeleton_independent_of_values_full {s s' : Scenario} (h : fieldsOK s = true) (h' : fieldsOK s' = true)
    (order order' : List Nat) (hs : sameConf (genR s order) (genR s' order') = true) :
    (lex (printDirs (render (genR s order)))).map Print.skeleton =
      (lex (printDirs (render (genR s' order')))).map Print.skeleton :=
  skeleton_independent_of_values_conf hs (confW_genR (fieldsOK_weak h) order) (confW_genR (fieldsOK_weak h') order')

/-- **The token skeleton does not depend on the values**: for two scenarios (and port orders) whose guarded fields pass their
validators and whose configurations have the same shape — they differ only in the values of the guarded string fields —
the generated texts have the same token skeleton: the property's statement, for the fragment. -/
theorem skeleton_independent_of_values {s s' : Scenario} (h : fieldsOK s = true) (hb : noBackslash s = true)
    (h' : fieldsOK s' = true) (hb' : noBackslash s' = true) (order order' : List Nat)
    (hs : sameConf (genR s order) (genR s' order') = true) :
    (lex (printDirs (render (genR s order)))).map Print.skeleton =
      (lex (printDirs (render (genR s' order')))).map Print.skeleton :=
  skeleton_independent_of_values_full h h' order order' hs

/-- … and that skeleton is the one of the intended token stream -/
theorem skeleton_is_intended {s : Scenario} (h : fieldsOK s = true) (hb : noBackslash s = true) (order : List Nat) :
    (lex (printDirs (render (genR s order)))).map Print.skeleton = .ok (Print.skeleton (dirsToks (render (genR s order)))) := by
  rw [print_then_lex h hb order]; rfl

/-- **Method, header names/values and query parameters do not reach http.conf**: the rendered tree is the same when the
conditions of all match rules are forgotten; they are marshalled into matches.json only (`Render.matchesOf`). -/
theorem render_ignores_conditions (c : ConfR) : render (eraseConds c) = render c := render_eraseConds c

theorem upstream_noDollar {v : List Char} (h : upstreamOK v = true) : '$' ∉ v := no_dollar_of_plain (upstream_plain h)

theorem scheme_noDollar {v : List Char} (h : validateRedirectScheme v = true) : '$' ∉ v := by
  rcases scheme_cases h with rfl | rfl <;> decide_chars

theorem actionOK_noDollar {a : Action} (h : actionOK a = true) : actionNoDollar a = true := by
  cases a with
  | redirect code sch host port =>
    simp only [actionOK, Bool.and_eq_true] at h
    simp only [actionNoDollar, Bool.and_eq_true]
    refine ⟨?_, ?_⟩
    · cases sch with
      | none => rfl
      | some x => simpa using scheme_noDollar (v := x) (by simpa using h.1)
    · cases host with
      | none => rfl
      | some x =>
        have hx : validateEscapedStringNoVarExpansion x = true := by simpa using h.2
        simpa using (escapedStringsNoVarRe_novar (s := x) hx).2
  | forward bs =>
    simp only [actionOK, List.all_eq_true, Bool.or_eq_true] at h
    simp only [actionNoDollar, List.all_eq_true, Bool.or_eq_true]
    exact fun b hb => (h b hb).imp id fun hu => by simpa using upstream_noDollar hu

/-- the validators exclude `$` from every guarded field except match paths (ValidatePathInMatch accepts `$`) -/
theorem fieldsOK_noDollar {s : Scenario} (h : fieldsOK s = true) : noDollarOutsidePaths s = true := by
  simp only [fieldsOK, Bool.and_eq_true, List.all_eq_true] at h
  simp only [noDollarOutsidePaths, Bool.and_eq_true, List.all_eq_true]
  refine ⟨?_, ?_⟩
  · intro g hg l hl
    have := h.1 g hg l hl
    simp only [listenerOK, Bool.or_eq_true, List.isEmpty_iff] at this
    rcases this with e | e
    · simp [e]
    · simpa using no_dollar_of_plain (hostname_plain e).2
  · intro r hr
    have hr' := h.2 r hr
    cases hv : r.valid with
    | false => simp
    | true =>
      simp only [PrintGuards.routeOK, hv, Bool.not_true, Bool.false_or, Bool.and_eq_true, List.all_eq_true] at hr'
      simp only [Bool.not_true, Bool.false_or, Bool.and_eq_true, List.all_eq_true]
      refine ⟨⟨⟨?_, ?_⟩, ?_⟩, ?_⟩
      · simpa using no_dollar_of_plain (charset_regex_plain G.dnsSubdomainRe (by simp) hr'.1.1.1).2
      · simpa using no_dollar_of_plain (charset_regex_plain G.dnsSubdomainRe (by simp) hr'.1.1.2).2
      · intro x hx; simpa using no_dollar_of_plain (hostname_plain (hr'.1.2 x hx)).2
      · intro rule hrule
        have := hr'.2 rule hrule
        simp only [ruleOK, Bool.and_eq_true] at this
        exact actionOK_noDollar this.2

/-- **`$` only where the template put it.** In the rendered tree of a scenario whose fields pass their validators, every
argument of every directive other than `location` contains `$` only as the start of a variable the TEMPLATE writes
(`$scheme`, `$host`, `$request_uri`, `$group_…`, the fixed proxy headers, `$match_key`, `$request_id`); `server_name`
arguments contain no `$` at all. (A match path may contain `$`: it reaches `location` arguments only, which NGINX does
not interpolate.) -/
theorem dollar_only_from_template_or_path {s : Scenario} (h : fieldsOK s = true) (order : List Nat) :
    dollarsOK (render (genR s order)) = true :=
  dollarsOK_render_genR (fieldsOK_noDollar h) order

/-- the same, directive by directive -/
theorem no_variable_in_location_or_server_name {s : Scenario} (h : fieldsOK s = true) (order : List Nat) :
    ∀ d ∈ flatDirs (render (genR s order)),
      (d.name = "server_name".toList → ∀ a ∈ d.args, '$' ∉ a.1) ∧
      (d.name ≠ "location".toList → ∀ a ∈ d.args, tmplDollar a.1 = true) := by
  intro d hd
  have hok : argsDollarOK d.name d.args = true := (dollarOK_iff_flat.2 _).mp (dollar_only_from_template_or_path h order) d hd
  refine ⟨?_, ?_⟩
  · intro hn a ha
    rw [hn] at hok
    have : (("server_name".toList == "location".toList) = false) := by decide_chars
    simp only [argsDollarOK, this, Bool.false_eq_true, if_false, beq_self_eq_true, if_true, List.all_eq_true,
      Bool.not_eq_true', List.contains_eq_mem, decide_eq_false_iff_not] at hok
    exact hok a ha
  · intro hn a ha
    have h1 : (d.name == "location".toList) = false := by simpa using hn
    simp only [argsDollarOK, h1, Bool.false_eq_true, if_false] at hok
    split at hok
    · have := List.all_eq_true.mp hok a ha
      exact tmplDollar_of_noDollar (by simpa using this)
    · exact List.all_eq_true.mp hok a ha

/-- a `;` in a match path ends the `location` statement early (ValidatePathInMatch rejects it) -/
theorem witness_path_semicolon :
    validatePathInMatch "/x;y".toList = false ∧
    (lex (printDirs [blk "location" [wl "/x;y".toList] [dir "return" [w "200"]]])).toOption =
      some [.word "location".toList false, .word "/x".toList false, .semi, .word "y".toList false, .open,
            .word "return".toList false, .word "200".toList false, .semi, .close] := by
  dsimp only [blk, dir, w]
  decide_chars

/-- a `{` in a hostname opens a block inside `server_name` (validateHostname rejects it) -/
theorem witness_hostname_brace :
    validateHostname "a{b.example.com".toList = false ∧
    (lex (printDirs [dir "server_name" [wl "a{b.example.com".toList]])).toOption =
      some [.word "server_name".toList false, .word "a".toList false, .open, .word "b.example.com".toList false, .semi] := by
  dsimp only [dir]
  decide_chars

/-- a space in a route name splits the `$group_…` variable of `split_clients` into two arguments (DNS-1123 excludes it) -/
theorem witness_name_space :
    k8sNameOK "my route".toList = false ∧
    (lex (printDirs [blk "split_clients" [w "$request_id", wl ('$' :: NGF.Mangle.groupVar "default".toList "my route".toList 0)] []])).toOption =
      some [.word "split_clients".toList false, .word "$request_id".toList false, .word "$group_default__my".toList false,
            .word "route_rule0".toList false, .open, .close] := by
  dsimp only [blk, w]
  decide_chars

/-- a `"` in a redirect hostname ends the quoted `return` body early (the escaped-string validator rejects it) -/
theorem witness_redirect_quote :
    validateEscapedStringNoVarExpansion "a\"b".toList = false ∧
    (lex (printDirs [dir "return" [w "302", q "https://a\"b$request_uri".toList]])).toOption = none := by
  dsimp only [dir, w]
  decide_chars

/-- why `noBackslash`: ValidatePathInMatch accepts `/a\\b`; the printed word is read back with ONE backslash (the copy loop of
ngx_conf_read_token) — a different word, but the same token skeleton: no injection (Props/C04 `path_hole_safe`) -/
theorem backslash_path_read_back_differs :
    validatePathInMatch "/a\\\\b".toList = true ∧
    (lex (printDirs [blk "location" [wl "/a\\\\b".toList] []])).toOption =
      some [.word "location".toList false, .word "/a\\b".toList false, .open, .close] ∧
    Print.skeleton [.word "location".toList false, .word "/a\\b".toList false, .open, .close] =
      Print.skeleton (dirsToks [blk "location" [wl "/a\\\\b".toList] []]) := by
  dsimp only [blk]
  decide_chars

/-- a scenario inside the hypotheses with a hostile-looking but accepted path and redirect hostname -/
def exScenario : Scenario :=
  { cls := "nginx".toList, ctlr := "c".toList, classes := [⟨"nginx".toList, "c".toList⟩],
    gateways := [{ ns := "default".toList, name := "gw".toList, cls := "nginx".toList, age := 1,
                   listeners := [{ name := "l".toList, port := 80, host := "*.example.com".toList, fromAll := true }] }],
    routes := [{ ns := "default".toList, name := "hr-1".toList, age := 2,
                 parents := [{ ns := "default".toList, name := "gw".toList, sectionName := none }],
                 hostnames := ["cafe.example.com".toList],
                 rules := [{ ms := [{ exact := false, path := "/tea\"x#y'$v".toList, method := [], headers := [], query := [] }],
                             action := .forward [⟨"default_svc0_80".toList, 1, true⟩, ⟨"default_svc1_80".toList, 3, true⟩] },
                           { ms := [{ exact := true, path := "/r".toList, method := "GET".toList, headers := [], query := [] }],
                             action := .redirect 302 (some "https".toList) (some "a;b } c".toList) none }],
                 valid := true }] }

example : fieldsOK exScenario = true ∧ noBackslash exScenario = true := by
  dsimp only [exScenario]
  decide_chars
#guard dirsOK (render (genR exScenario []))
#guard (parse (printDirs (render (genR exScenario [])))).toOption.map (·.length) == some (render (genR exScenario [])).length
#guard ((lex (printDirs (render (genR exScenario [])))).toOption.map (·.length)).getD 0 > 150
#guard dollarsOK (render (genR exScenario []))
/-- the same scenario with other values in every guarded field: same shape, same skeleton -/
def exScenario' : Scenario :=
  { exScenario with
    gateways := [{ ns := "default".toList, name := "gw".toList, cls := "nginx".toList, age := 1,
                   listeners := [{ name := "l".toList, port := 80, host := "*.example.org".toList, fromAll := true }] }],
    routes := [{ ns := "default".toList, name := "other".toList, age := 2,
                 parents := [{ ns := "default".toList, name := "gw".toList, sectionName := none }],
                 hostnames := ["shop.example.org".toList],
                 rules := [{ ms := [{ exact := false, path := "/zzz".toList, method := [], headers := [], query := [] }],
                             action := .forward [⟨"default_a_80".toList, 1, true⟩, ⟨"default_b_80".toList, 3, true⟩] },
                           { ms := [{ exact := true, path := "/q".toList, method := "GET".toList, headers := [], query := [] }],
                             action := .redirect 302 (some "http".toList) (some "x.example.org".toList) none }],
                 valid := true }] }

example : fieldsOK exScenario' = true ∧ noBackslash exScenario' = true := by
  dsimp only [exScenario', exScenario]
  decide_chars
#guard sameConf (genR exScenario []) (genR exScenario' [])
#guard (lex (printDirs (render (genR exScenario [])))).toOption.map Print.skeleton ==
  (lex (printDirs (render (genR exScenario' [])))).toOption.map Print.skeleton
#guard (lex (printDirs (render (genR exScenario [])))).toOption != (lex (printDirs (render (genR exScenario' [])))).toOption

/-- a scenario with backslashes inside the hypotheses -/
def exBackslash : Scenario :=
  { exScenario with
    routes := [{ ns := "default".toList, name := "hr-1".toList, age := 2,
                 parents := [{ ns := "default".toList, name := "gw".toList, sectionName := none }],
                 hostnames := ["cafe.example.com".toList],
                 rules := [{ ms := [{ exact := false, path := "/tea\\".toList, method := [], headers := [], query := [] }],
                             action := .forward [⟨"default_svc0_80".toList, 1, true⟩, ⟨"default_svc1_80".toList, 3, true⟩] },
                           { ms := [{ exact := true, path := "/r\\\\x".toList, method := "GET".toList, headers := [], query := [] }],
                             action := .redirect 302 (some "https".toList) (some "a\\\"b".toList) none }],
                 valid := true }] }

example : fieldsOK exBackslash = true ∧ noBackslash exBackslash = false := by
  dsimp only [exBackslash, exScenario]
  decide_chars
#guard dirsOKw (render (genR exBackslash [])) && !dirsOK (render (genR exBackslash []))
#guard sameConf (genR exScenario []) (genR exBackslash [])
#guard (lex (printDirs (render (genR exBackslash [])))).toOption.map Print.skeleton ==
  some (Print.skeleton (dirsToks (render (genR exBackslash []))))
#guard (lex (printDirs (render (genR exBackslash [])))).toOption != some (dirsToks (render (genR exBackslash [])))

end NGF.Props.C04Print
