/-
C13 — upstreams contain exactly the ready endpoints of the referenced Service port.

Property theorems about the model functions of `NGF.Model.Resolver` (the functions the driver runs and the
correspondence compares with the real code) and the judges of `NGF.Model.ResolverSpec` (the property as it
is evaluated on the real code's outputs).  Helper lemmas: `NGF.Proofs.Resolver`, `NGF.Proofs.ResolverPlus`,
`NGF.Proofs.ResolverFaults`, and for the pipeline layer `NGF.Proofs.PipelineEndpoints`.
Quantification: ALL lists of EndpointSlices, ServicePorts, allowed address types, and ALL sequences of
reload / endpoints-only steps under NGINX Plus.
-/
import NGF.Proofs.Resolver
import NGF.Proofs.ResolverPlus
import NGF.Generated.ResolverFacts
import NGF.Props.C13Handler
import NGF.Props.C13History
import NGF.Proofs.PipelineEndpoints

namespace NGF.Resolver

/-! ## 1. Resolution -/

/-- `findPort` returns the value of the first EndpointPort entry that has no number ("all ports": the
ServicePort's integer targetPort, else its port) or that carries the ServicePort's name; 0 when no entry does. -/
theorem findPort_spec (ports : List EndpointPort) (sp : SvcPort) :
    findPort ports sp = match ports.find? (hitsB sp) with
      | some p => hitValue sp p
      | none => 0 :=
  findPort_eq ports sp

/-- Under the Kubernetes rules for a slice derived from a Service (every entry has a number, names are
unique) `findPort` is simply "the number of the entry named like the ServicePort". -/
theorem findPort_named {ports : List EndpointPort} {sp : SvcPort} {n : Nat}
    (hnum : ∀ p ∈ ports, p.port ≠ none) (huniq : (ports.map (·.name)).Nodup)
    (hmem : ⟨some sp.name, some n⟩ ∈ ports) : findPort ports sp = n := by
  rw [findPort_eq]
  cases hf : ports.find? (hitsB sp) with
  | none =>
    have := List.find?_eq_none.mp hf _ hmem
    simp [hitsB] at this
  | some p =>
    have hp := List.mem_of_find?_eq_some hf
    have hh := List.find?_some hf
    have hname : p.name = some sp.name := by
      cases hpp : p.port with
      | none => exact absurd hpp (hnum p hp)
      | some _ => simpa [hitsB, hpp] using hh
    have : p = ⟨some sp.name, some n⟩ := inj_of_nodup_map huniq _ hp _ hmem hname
    subst this
    rfl

theorem findPort_unnamed {ports : List EndpointPort} {sp : SvcPort}
    (hnum : ∀ p ∈ ports, p.port ≠ none) (hno : ∀ p ∈ ports, p.name ≠ some sp.name) :
    findPort ports sp = 0 := by
  rw [findPort_eq]
  cases hf : ports.find? (hitsB sp) with
  | none => rfl
  | some p =>
    have hp := List.mem_of_find?_eq_some hf
    have hh := List.find?_some hf
    cases hpp : p.port with
    | none => exact absurd hpp (hnum p hp)
    | some _ => simp [hitsB, hpp, hno p hp] at hh

/-- **resolve_eq_spec.** For every set of EndpointSlices, ServicePort and allowed address types the list
returned by `Resolve` is duplicate-free and contains exactly the endpoints of the declarative set `InSpec`:
ready addresses of the slices that carry the Service's label in its namespace, are not FQDN, have an allowed
address type and publish the referenced port — each with the port that slice publishes. -/
theorem resolve_eq_spec (all : List Slice) (ns name : String) (sp : SvcPort) (allowed : List AddrType)
    (hp : sp.port ≠ 0) (hname : name ≠ "") (hns : ns ≠ "") :
    (∀ e, e ∈ (resolve all ns name sp allowed).eps ↔ InSpec all ns name sp allowed e) ∧
    (resolve all ns name sp allowed).eps.Nodup :=
  ⟨mem_resolve_eps hp hname hns, nodup_resolve_eps all ns name sp allowed⟩

/-- The same for what `buildUpstreams` stores, for each IP-family setting. -/
theorem upstreamEndpoints_eq_spec (all : List Slice) (ns name : String) (sp : SvcPort) (fam : IPFamily)
    (hp : sp.port ≠ 0) (hname : name ≠ "") (hns : ns ≠ "") :
    (∀ e, e ∈ upstreamEndpoints all ns name sp fam ↔ InSpec all ns name sp (getAllowedAddressType fam) e) ∧
    (upstreamEndpoints all ns name sp fam).Nodup :=
  resolve_eq_spec all ns name sp _ hp hname hns

theorem mem_map_upstreamEndpoints (f : Ep → String) (all : List Slice) (ns name : String) (sp : SvcPort)
    (fam : IPFamily) (hp : sp.port ≠ 0) (hname : name ≠ "") (hns : ns ≠ "") (x : String) :
    x ∈ (upstreamEndpoints all ns name sp fam).map f ↔
      ∃ e, InSpec all ns name sp (getAllowedAddressType fam) e ∧ x = f e := by
  have hmem := (upstreamEndpoints_eq_spec all ns name sp fam hp hname hns).1
  rw [List.mem_map]
  constructor
  · rintro ⟨e, he, rfl⟩; exact ⟨e, (hmem e).mp he, rfl⟩
  · rintro ⟨e, he, rfl⟩; exact ⟨e, (hmem e).mpr he, rfl⟩

/-- no endpoint of the declarative set ⇔ the upstream gets no endpoints (errors included) -/
theorem resolve_empty_iff (all : List Slice) (ns name : String) (sp : SvcPort) (allowed : List AddrType)
    (hp : sp.port ≠ 0) (hname : name ≠ "") (hns : ns ≠ "") :
    (resolve all ns name sp allowed).eps = [] ↔ ∀ e, ¬ InSpec all ns name sp allowed e := by
  constructor
  · intro h e he
    have := (mem_resolve_eps hp hname hns e).mpr he
    simp [h] at this
  · intro h
    cases hl : (resolve all ns name sp allowed).eps with
    | nil => rfl
    | cons e t => exact absurd ((mem_resolve_eps hp hname hns e).mp (by simp [hl])) (h e)

/-- an unready, nil-ready or FQDN endpoint never reaches NGINX; IPv4 never passes an IPv6-only setting -/
theorem resolve_excludes (all : List Slice) (ns name : String) (sp : SvcPort) (allowed : List AddrType)
    (hp : sp.port ≠ 0) (hname : name ≠ "") (hns : ns ≠ "") (e : Ep)
    (he : e ∈ (resolve all ns name sp allowed).eps) :
    e.port ≠ 0 ∧ ∃ s ∈ all, s.addrType ∈ allowed ∧ s.addrType ≠ .fqdn ∧
      ∃ ep ∈ s.endpoints, ep.ready = some true ∧ e.address ∈ ep.addresses := by
  obtain ⟨s, hs, _, _, hf, ha, hpub, _, hep⟩ := (mem_resolve_eps hp hname hns e).mp he
  exact ⟨(publishedPort_some.mp hpub).2, s, hs, ha, hf, hep⟩

/-- **The judge run on the real outputs accepts everything the model computes** (for every admissible input),
so a `fail` of the judge on a real output is a divergence of the code from the proved model. -/
theorem judge_accepts_model (all : List Slice) (ns name : String) (sp : SvcPort) (allowed : List AddrType)
    (hadm : admissible all ns name sp allowed = true) :
    judgeResolve all ns name sp allowed (resolve all ns name sp allowed).eps = [] :=
  judgeResolve_model hadm

/-! non-vacuity: two slices with an overlapping address, an unready endpoint, a nil ready, an FQDN slice,
a slice of another service with a similar name, named and nil ports -/
def exSlices : List Slice :=
  [ ⟨"ns", some "svc", .ipv4, [⟨some "http", some 8080⟩, ⟨some "https", some 8443⟩],
      [⟨["10.0.0.1", "10.0.0.2"], some true⟩, ⟨["10.0.0.3"], some false⟩, ⟨["10.0.0.4"], none⟩]⟩,
    ⟨"ns", some "svc", .ipv4, [⟨some "http", some 8080⟩], [⟨["10.0.0.2", "10.0.0.5"], some true⟩]⟩,
    ⟨"ns", some "svc", .ipv6, [⟨some "http", none⟩], [⟨["fd00::1"], some true⟩]⟩,
    ⟨"ns", some "svc", .fqdn, [⟨some "http", some 8080⟩], [⟨["a.example.com"], some true⟩]⟩,
    ⟨"ns", some "svc-a", .ipv4, [⟨some "http", some 8080⟩], [⟨["10.9.9.9"], some true⟩]⟩,
    ⟨"ns2", some "svc", .ipv4, [⟨some "http", some 8080⟩], [⟨["10.8.8.8"], some true⟩]⟩ ]

example :
    resolve exSlices "ns" "svc" ⟨"http", 80, .int 3000⟩ [.ipv4, .ipv6] =
      .ok [⟨"10.0.0.1", 8080, false⟩, ⟨"10.0.0.2", 8080, false⟩, ⟨"10.0.0.5", 8080, false⟩,
           ⟨"fd00::1", 3000, true⟩] := by decide +kernel

example : admissible exSlices "ns" "svc" ⟨"http", 80, .int 3000⟩ [.ipv4, .ipv6] = true := by decide +kernel
example : resolve exSlices "ns" "svc" ⟨"grpc", 80, .int 3000⟩ [.ipv4] = .errNoValid := by decide +kernel
example : resolve exSlices "ns" "nope" ⟨"http", 80, .int 3000⟩ [.ipv4] = .errNoEndpoints := by decide +kernel

/-- the judge is not vacuous: it rejects an output that keeps an unready address, drops a ready one,
uses the Service port instead of the slice's port, or repeats an endpoint -/
example :
    judgeResolve exSlices "ns" "svc" ⟨"http", 80, .int 3000⟩ [.ipv4]
      [⟨"10.0.0.1", 8080, false⟩, ⟨"10.0.0.2", 8080, false⟩, ⟨"10.0.0.5", 8080, false⟩, ⟨"10.0.0.3", 8080, false⟩]
      = ["resolve_unsound"] ∧
    judgeResolve exSlices "ns" "svc" ⟨"http", 80, .int 3000⟩ [.ipv4]
      [⟨"10.0.0.1", 8080, false⟩, ⟨"10.0.0.2", 8080, false⟩] = ["resolve_incomplete"] ∧
    judgeResolve exSlices "ns" "svc" ⟨"http", 80, .int 3000⟩ [.ipv4]
      [⟨"10.0.0.1", 80, false⟩, ⟨"10.0.0.2", 80, false⟩, ⟨"10.0.0.5", 80, false⟩]
      = ["resolve_unsound", "resolve_incomplete"] ∧
    judgeResolve exSlices "ns" "svc" ⟨"http", 80, .int 3000⟩ [.ipv4]
      [⟨"10.0.0.1", 8080, false⟩, ⟨"10.0.0.2", 8080, false⟩, ⟨"10.0.0.5", 8080, false⟩, ⟨"10.0.0.2", 8080, false⟩]
      = ["resolve_duplicates"] := by decide +kernel

/-! ## 2. From endpoints to `server` lines -/

/-- **empty_gives_503** (NGINX OSS): an upstream without endpoints gets exactly the 503 placeholder server. -/
theorem empty_gives_503 (name : String) :
    configServers (createUpstream false ⟨name, []⟩) = [nginx503Server] := by
  simp [createUpstream, configServers]

/-- OSS: otherwise exactly one `server address:port` per endpoint (IPv6 in brackets), never the placeholder list. -/
theorem oss_servers (u : Up) :
    configServers (createUpstream false u) =
      if u.eps = [] then [nginx503Server] else u.eps.map serverAddress := by
  cases h : u.eps <;> simp [createUpstream, configServers, h]

theorem oss_judge_accepts (u : Up) (hnd : (u.eps.map serverAddress).Nodup) :
    judgeServers u.eps (configServers (createUpstream false u)) = [] := by
  rw [oss_servers]
  cases h : u.eps with
  | nil => simp [judgeServers]
  | cons e t =>
    have h1 : sameSet ((e :: t).map serverAddress) ((e :: t).map serverAddress) = true :=
      sameSet_iff.mpr (SetEq.refl _)
    have h2 : nodupB ((e :: t).map serverAddress) = true := nodupB_iff.mpr (h ▸ hnd)
    simp only [judgeServers, List.isEmpty_cons, Bool.false_eq_true, if_false, reduceCtorEq]
    rw [h1, h2]; rfl

/-- NGINX Plus: the generated upstream has a state file and NO `server` line — not even the placeholder. -/
theorem plus_config_has_no_servers (u : Up) : configServers (createUpstream true u) = [] := by
  simp [createUpstream, configServers]

/-- stream upstreams exist only for upstreams with endpoints (both OSS and Plus) -/
theorem stream_upstreams_nonempty (plus : Bool) (ups : List Up) (n : NgxUpstream)
    (h : n ∈ createStreamUpstreams plus ups) : ∃ u ∈ ups, u.eps ≠ [] ∧ n.name = u.name := by
  simp only [createStreamUpstreams, List.mem_map, List.mem_filter] at h
  obtain ⟨u, ⟨hu, he⟩, rfl⟩ := h
  refine ⟨u, hu, ?_, rfl⟩
  intro h0; simp [h0] at he

/-- **End to end, NGINX OSS**: for every set of slices, ServicePort and IP-family setting, the `server` lines of
the upstream are exactly the addresses of the declarative set — or exactly the 503 placeholder when it is empty. -/
theorem oss_upstream_eq_spec (all : List Slice) (ns name : String) (sp : SvcPort) (fam : IPFamily) (uname : String)
    (hp : sp.port ≠ 0) (hname : name ≠ "") (hns : ns ≠ "") :
    let servers := configServers (createUpstream false ⟨uname, upstreamEndpoints all ns name sp fam⟩)
    ((∀ e, ¬ InSpec all ns name sp (getAllowedAddressType fam) e) → servers = [nginx503Server]) ∧
    ((∃ e, InSpec all ns name sp (getAllowedAddressType fam) e) →
      ∀ x, x ∈ servers ↔ ∃ e, InSpec all ns name sp (getAllowedAddressType fam) e ∧ x = serverAddress e) := by
  intro servers
  have hs : servers = if upstreamEndpoints all ns name sp fam = [] then [nginx503Server]
      else (upstreamEndpoints all ns name sp fam).map serverAddress := oss_servers _
  have hmem := (upstreamEndpoints_eq_spec all ns name sp fam hp hname hns).1
  constructor
  · intro hno
    have : upstreamEndpoints all ns name sp fam = [] :=
      (resolve_empty_iff all ns name sp _ hp hname hns).mpr hno
    rw [hs, this]; rfl
  · rintro ⟨e0, he0⟩ x
    have hne : upstreamEndpoints all ns name sp fam ≠ [] := by
      intro h; have := (hmem e0).mpr he0; simp [h] at this
    rw [hs, if_neg hne]
    exact mem_map_upstreamEndpoints serverAddress all ns name sp fam hp hname hns x

/-- `ConvertEndpoints` (API) and `createUpstream` (file) write the same server string for every endpoint the
resolver can return (its ports are never 0, `resolve_excludes`). -/
theorem convertEndpoint_eq_serverAddress (e : Ep) (h : e.port ≠ 0) : convertEndpoint e = serverAddress e := by
  unfold convertEndpoint serverAddress
  simp only [h, ne_eq, not_false_eq_true, if_true]
  cases e.ipv6
  · simp [String.append_assoc]
  · simp only [if_true, String.append_assoc]
    congr 2

/-! ## 3. NGINX Plus: `serversEqual` -/

/-- **serversEqual_iff_seteq**: on duplicate-free lists `serversEqual` decides equality of the server sets. -/
theorem serversEqual_iff_seteq (new old : List String) (hnew : new.Nodup) (hold : old.Nodup) :
    serversEqual new old = true ↔ SetEq new old :=
  ⟨setEq_of_serversEqual hold, serversEqual_of_setEq hnew hold⟩

/-- what the handler needs (NGINX's own list is duplicate-free): "equal" ⇒ nothing to update -/
theorem serversEqual_sound (new old : List String) (hold : old.Nodup) (h : serversEqual new old = true) :
    SetEq new old :=
  setEq_of_serversEqual hold h

/-- the unconditional statement is false in both directions -/
theorem serversEqual_not_iff_seteq_unconditionally :
    (serversEqual ["a", "b", "c"] ["a", "a", "b"] = true ∧ ¬ SetEq ["a", "b", "c"] ["a", "a", "b"]) ∧
    (serversEqual ["a", "a"] ["a"] = false ∧ SetEq ["a", "a"] ["a"]) := by
  refine ⟨⟨by decide +kernel, ?_⟩, by decide +kernel, ?_⟩
  · intro h; have := (h "c").mp (by simp); simp at this
  · intro x; simp

example : serversEqual ["10.0.0.1:80", "10.0.0.2:80"] ["10.0.0.2:80", "10.0.0.1:80"] = true := by decide +kernel
example : serversEqual ["10.0.0.1:80", "10.0.0.3:80"] ["10.0.0.2:80", "10.0.0.1:80"] = false := by decide +kernel

/-! ## 4. NGINX Plus: sequences of configurations -/

/-- **plus_update_converges.** For ALL sequences of earlier steps and every configuration applied through the
API (`updateUpstreamServers`): each upstream of that configuration that exists in NGINX holds exactly the
endpoints of that (the last) configuration — http and stream. -/
theorem plus_update_converges (a0 : Api) (h0 : a0.Inv) (ops : List Op) (hops : ∀ o ∈ ops, o.conf.WF)
    (c : Conf) (hc : c.WF) :
    (∀ u ∈ c.http, u.name ∈ (run a0 ops).http.keys →
      SetEq ((run a0 (ops ++ [.endpoints c])).http.servers u.name) (convertEndpoints u.eps)) ∧
    (∀ u ∈ c.stream, u.name ∈ (run a0 ops).stream.keys →
      SetEq ((run a0 (ops ++ [.endpoints c])).stream.servers u.name) (convertEndpoints u.eps)) := by
  have hinv := inv_run ops a0 h0
  rw [run_append]
  exact ⟨fun u hu hk => endpoints_step_http hc hinv hu hk, fun u hu hk => endpoints_step_stream hc hinv hu hk⟩

/-- what a reload-path application (`updateNginxConf`: files, reload, API update) leaves, whatever NGINX held -/
theorem reload_path_result (a : Api) (ha : a.Inv) (c : Conf) (hc : c.WF) :
    (∀ u ∈ c.http, SetEq ((step a (.reload c)).http.servers u.name) (convertEndpoints u.eps)) ∧
    (∀ u ∈ c.stream, SetEq ((step a (.reload c)).stream.servers u.name) (convertEndpoints u.eps)) :=
  ⟨fun _ hu => reload_step_http hc ha hu, fun _ hu => reload_step_stream hc ha hu⟩

/-- **End to end, NGINX Plus** (both paths): after the configuration built from ANY set of slices has been
applied — by a reload from any state, or through the API on top of any history in which the upstream exists —
the servers NGINX holds for the upstream are exactly the addresses of the declarative set. -/
theorem plus_upstream_eq_spec (all : List Slice) (ns name : String) (sp : SvcPort) (fam : IPFamily) (uname : String)
    (hp : sp.port ≠ 0) (hname : name ≠ "") (hns : ns ≠ "")
    (a : Api) (ha : a.Inv) (c : Conf) (hc : c.WF)
    (hu : (⟨uname, upstreamEndpoints all ns name sp fam⟩ : Up) ∈ c.http) :
    (∀ x, x ∈ (step a (.reload c)).http.servers uname ↔
      ∃ e, InSpec all ns name sp (getAllowedAddressType fam) e ∧ x = convertEndpoint e) ∧
    (uname ∈ a.http.keys → ∀ x, x ∈ (step a (.endpoints c)).http.servers uname ↔
      ∃ e, InSpec all ns name sp (getAllowedAddressType fam) e ∧ x = convertEndpoint e) := by
  have key := mem_map_upstreamEndpoints convertEndpoint all ns name sp fam hp hname hns
  constructor
  · intro x; exact ((reload_step_http hc ha hu) x).trans (key x)
  · intro hk x; exact ((endpoints_step_http hc ha hu hk) x).trans (key x)

/-- An endpoints-only change keeps the upstream names NGINX was last reloaded with. -/
def SameNames (c c' : Conf) : Prop :=
  c'.http.map (·.name) = c.http.map (·.name) ∧ c'.stream.map (·.name) = c.stream.map (·.name)

/-- **plus_equals_reload (http, full strength).** After a reload with `cR` and ANY sequence of endpoints-only
changes `es`, applying the endpoints-only change `c` through the API leaves every http upstream with the same
server set as reloading with `c` would. -/
theorem plus_equals_reload_http (a0 : Api) (h0 : a0.Inv) (cR : Conf) (hR : cR.WF)
    (es : List Conf) (hes : ∀ e ∈ es, e.WF) (c : Conf) (hc : c.WF) (hsame : SameNames cR c) :
    let before := run a0 (.reload cR :: es.map .endpoints)
    ∀ u ∈ c.http,
      SetEq ((step before (.endpoints c)).http.servers u.name) ((step before (.reload c)).http.servers u.name) := by
  intro before u hu
  have hb := loaded_run_endpoints h0 cR es
  have hk : u.name ∈ before.http.keys := by
    rw [hb.http, mem_dedup, ← hsame.1]; exact List.mem_map.mpr ⟨u, hu, rfl⟩
  exact (endpoints_step_http hc hb.inv hu hk).trans (reload_step_http hc hb.inv hu).symm

/-- **plus_equals_reload (stream) — partial**: holds for the stream upstreams that exist in NGINX, i.e. those
that had endpoints at the last reload (`hpresent`). -/
theorem plus_equals_reload_stream_partial (a0 : Api) (h0 : a0.Inv) (cR : Conf) (hR : cR.WF)
    (es : List Conf) (hes : ∀ e ∈ es, e.WF) (c : Conf) (hc : c.WF) :
    let before := run a0 (.reload cR :: es.map .endpoints)
    ∀ u ∈ c.stream, (∃ uR ∈ cR.stream, uR.name = u.name ∧ uR.eps ≠ []) →
      SetEq ((step before (.endpoints c)).stream.servers u.name)
            ((step before (.reload c)).stream.servers u.name) := by
  intro before u hu hpresent
  have hb := loaded_run_endpoints h0 cR es
  have hk : u.name ∈ before.stream.keys := by
    obtain ⟨uR, huR, hn, hne⟩ := hpresent
    rw [hb.stream, mem_dedup, ← hn]
    exact (mem_nonempty_names hR.stream huR).mpr hne
  exact (endpoints_step_stream hc hb.inv hu hk).trans (reload_step_stream hc hb.inv hu).symm

/-- **The full-strength stream statement is FALSE for the current code** (known finding
`C13:plus_stream_upstream_absent`): a TLS backend without endpoints at the reload, then endpoints appear. -/
theorem plus_equals_reload_stream_false :
    let cR : Conf := ⟨[], [⟨"ns_svc_443", []⟩]⟩
    let c : Conf := ⟨[], [⟨"ns_svc_443", [⟨"10.0.1.1", 80, false⟩]⟩]⟩
    let before := run ⟨[], []⟩ [.reload cR]
    cR.WF ∧ c.WF ∧ SameNames cR c ∧
    (step before (.endpoints c)).stream.servers "ns_svc_443" = [] ∧
    (step before (.reload c)).stream.servers "ns_svc_443" = ["10.0.1.1:80"] := by
  exact ⟨⟨by decide +kernel, by decide +kernel⟩, ⟨by decide +kernel, by decide +kernel⟩, ⟨rfl, rfl⟩, by decide +kernel⟩

/-- **Repaired variant** (candidate repair of `C13:plus_stream_upstream_absent`, see notes/C13.md): if the
endpoints-only path reloads whenever a stream upstream with endpoints is unknown to NGINX, the stream clause holds
at full strength — for every state and every configuration, no side condition. -/
theorem plus_equals_reload_stream_repaired (a : Api) (ha : a.Inv) (c : Conf) (hc : c.WF) :
    ∀ u ∈ c.stream,
      SetEq ((stepB a (.endpoints c)).stream.servers u.name) ((step a (.reload c)).stream.servers u.name) :=
  fun _ hu => stepB_stream_eq_reload hc ha hu

/-- **"answers 503" is FALSE under NGINX Plus for the current code** (known finding `C13:plus_empty_no_503`):
for every http upstream without endpoints the reload path leaves NGINX with an EMPTY server set — the
placeholder is neither in the file (state file) nor pushed through the API. -/
theorem plus_empty_upstream_has_no_servers (a : Api) (ha : a.Inv) (c : Conf) (hc : c.WF)
    (u : Up) (hu : u ∈ c.http) (he : u.eps = []) :
    (step a (.reload c)).http.servers u.name = [] ∧
    configServers (createUpstream true u) = [] ∧
    judgeServers u.eps ((step a (.reload c)).http.servers u.name) = ["empty_no_503"] := by
  have h := reload_step_http hc ha hu
  rw [he] at h
  have h0 : (step a (.reload c)).http.servers u.name = [] := setEq_nil h
  refine ⟨h0, plus_config_has_no_servers u, ?_⟩
  simp [h0, he, judgeServers]

/-- **Repaired variant** (candidate repair of `C13:plus_empty_no_503`, see notes/C13.md): sending the placeholder
through the API gives "503 rather than old servers" under Plus on both paths, and changes nothing else. -/
theorem plus_empty_gives_503_repaired (a : Api) (c : Conf) (hc : c.WF) (u : Up) (hu : u ∈ c.http) :
    (u.eps = [] → (stepFixed a (.reload c)).http.servers u.name = [nginx503Server] ∧
      (u.name ∈ a.http.keys → (stepFixed a (.endpoints c)).http.servers u.name = [nginx503Server]) ∧
      judgeServers u.eps [nginx503Server] = []) ∧
    (u.eps ≠ [] → (stepFixed a (.endpoints c)).http.get u.name = (step a (.endpoints c)).http.get u.name ∧
      (stepFixed a (.reload c)).http.get u.name = (step a (.reload c)).http.get u.name) := by
  constructor
  · intro he
    refine ⟨?_, fun hk => fixed_empty_gives_503 hc hu he hk, by simp [he, judgeServers]⟩
    apply fixed_empty_gives_503 hc hu he
    show u.name ∈ (reloadTable _ _).keys
    rw [keys_reloadTable, mem_dedup]; exact List.mem_map.mpr ⟨u, hu, rfl⟩
  · intro he
    exact ⟨fixed_nonempty_unchanged hc hu he, fixed_nonempty_unchanged hc hu he⟩

/-- … while the server sets of upstreams WITH endpoints are right on both paths (the part of the Plus
clause that does hold): the judge accepts them. -/
theorem plus_nonempty_judge_accepts (a : Api) (ha : a.Inv) (c : Conf) (hc : c.WF) (u : Up) (hu : u ∈ c.http) :
    sameSet (convertEndpoints u.eps) ((step a (.reload c)).http.servers u.name) = true :=
  sameSet_iff.mpr (reload_step_http hc ha hu).symm

/-! non-vacuity of the Plus theorems: a non-trivial history -/
example :
    let c1 : Conf := ⟨[⟨"u", [⟨"10.0.0.1", 80, false⟩, ⟨"10.0.0.2", 80, false⟩]⟩], [⟨"s", [⟨"fd00::1", 443, true⟩]⟩]⟩
    let c2 : Conf := ⟨[⟨"u", [⟨"10.0.0.1", 80, false⟩, ⟨"10.0.0.3", 80, false⟩]⟩], [⟨"s", []⟩]⟩
    let a := run ⟨[], []⟩ [.reload c1, .endpoints c2]
    c1.WF ∧ c2.WF ∧ a.http = [("u", ["10.0.0.1:80", "10.0.0.3:80"])] ∧ a.stream = [("s", [])] := by
  exact ⟨⟨by decide +kernel, by decide +kernel⟩, ⟨by decide +kernel, by decide +kernel⟩, by decide +kernel⟩

example : Api.Inv ⟨[], []⟩ := ⟨fun _ _ h => by simp [Table.get] at h, fun _ _ h => by simp [Table.get] at h⟩

/-! ## 5. Tie to the source: facts regenerated by the translator on every run -/

/-- constants the model hard-codes are the constants of the source -/
theorem constants_as_modelled :
    Generated.Resolver.nginx503Server = nginx503Server ∧
    Generated.Resolver.stateDir = stateDir ∧
    Generated.Resolver.ossZoneSize = ossZoneSize ∧ Generated.Resolver.plusZoneSize = plusZoneSize ∧
    Generated.Resolver.ossZoneSizeStream = ossZoneSizeStream ∧
    Generated.Resolver.plusZoneSizeStream = plusZoneSizeStream ∧
    Generated.Resolver.serviceNameLabel = "kubernetes.io/service-name" ∧
    Generated.Resolver.serviceNameIndexField = "k8sServiceName" ∧
    Generated.Resolver.invalidBackendRef = "invalid-backend-ref" :=
  ⟨rfl, rfl, rfl, rfl, rfl, rfl, rfl, rfl, rfl⟩

/-- the statements of the resolver functions are the ones the model transcribes -/
theorem resolver_source_as_modelled :
    Generated.Resolver.endpointReadyBody =
      ["ready := endpoint.Conditions.Ready", "return ready != nil && *ready"] ∧
    Generated.Resolver.findPortBody =
      ["portName := svcPort.Name",
       "for _, p := range ports { if p.Port == nil { return getDefaultPort(svcPort) } if p.Name != nil && *p.Name == portName { return *p.Port } }",
       "return 0"] ∧
    Generated.Resolver.getDefaultPortBody =
      ["if svcPort.TargetPort.Type == intstr.Int && svcPort.TargetPort.IntVal != 0 { return svcPort.TargetPort.IntVal }",
       "return svcPort.Port"] ∧
    Generated.Resolver.ignoreEndpointSliceBody =
      ["if endpointSlice.AddressType == discoveryV1.AddressTypeFQDN { return true }",
       "if !slices.Contains(allowedAddressType, endpointSlice.AddressType) { return true }",
       "return findPort(endpointSlice.Ports, port) == 0"] ∧
    Generated.Resolver.filterEndpointSliceListBody =
      ["filtered := make([]discoveryV1.EndpointSlice, 0, len(endpointSliceList.Items))",
       "for _, endpointSlice := range endpointSliceList.Items { if !ignoreEndpointSlice(endpointSlice, port, allowedAddressType) { filtered = append(filtered, endpointSlice) } }",
       "return filtered"] ∧
    Generated.Resolver.resolveIfConds =
      ["svcPort.Port == 0 || svcNsName.Name == \"\" || svcNsName.Namespace == \"\"",
       "err != nil || len(endpointSliceList.Items) == 0"] ∧
    Generated.Resolver.resolveListArgs =
      ["ctx", "&endpointSliceList",
       "client.MatchingFields{index.KubernetesServiceNameIndexField: svcNsName.Name}",
       "client.InNamespace(svcNsName.Namespace)"] ∧
    Generated.Resolver.serviceNameIndexFuncBody =
      ["slice, ok := obj.(*discoveryV1.EndpointSlice)",
       "if !ok { panic(fmt.Sprintf(\"expected an EndpointSlice; got %T\", obj)) }",
       "name := GetServiceNameFromEndpointSlice(slice)",
       "if name == \"\" { return nil }",
       "return []string{name}"] ∧
    Generated.Resolver.getServiceNameBody =
      ["if slice.Labels == nil { return \"\" }", "return slice.Labels[KubernetesServiceNameLabel]"] ∧
    Generated.Resolver.resolveCalls =
      ["buildUpstreams: svcResolver.Resolve(ctx, br.SvcNsName, br.ServicePort, allowedAddressType)",
       "buildStreamUpstreams: serviceResolver.Resolve(ctx, br.SvcNsName, br.ServicePort, allowedAddressType)"] ∧
    Generated.Resolver.getAllowedAddressTypeBody =
      ["switch ipFamily { case IPv4: return []discoveryV1.AddressType{discoveryV1.AddressTypeIPv4} case IPv6: return []discoveryV1.AddressType{discoveryV1.AddressTypeIPv6} case Dual: return []discoveryV1.AddressType{discoveryV1.AddressTypeIPv4, discoveryV1.AddressTypeIPv6} default: return []discoveryV1.AddressType{} }"] := by
  exact ⟨rfl, rfl, rfl, rfl, rfl, rfl, rfl, rfl, rfl, rfl, rfl⟩

/-- `resolveEndpoints`: filter, then for every kept slice / ready endpoint / address insert into a set -/
theorem resolveEndpoints_source_as_modelled :
    Generated.Resolver.resolveEndpointsBody =
      ["filteredSlices := filterEndpointSliceList(endpointSliceList, svcPort, allowedAddressType)",
       "if len(filteredSlices) == 0 { return nil, fmt.Errorf(\"no valid endpoints found for Service %s and port %d\", svcNsName, svcPort.Port) }",
       "endpointSet := initEndpointsSet(filteredSlices)",
       "for _, eps := range filteredSlices { ipv6 := eps.AddressType == discoveryV1.AddressTypeIPv6 for _, endpoint := range eps.Endpoints { if !endpointReady(endpoint) { continue } endpointPort := findPort(eps.Ports, svcPort) for _, address := range endpoint.Addresses { ep := Endpoint{Address: address, Port: endpointPort, IPv6: ipv6} endpointSet[ep] = struct{}{} } } }",
       "endpoints := make([]Endpoint, 0, len(endpointSet))",
       "for ep := range endpointSet { endpoints = append(endpoints, ep) }",
       "return endpoints, nil"] := by
  exact rfl

/-- upstream generation and the template alternative `state` / `server` -/
theorem upstreams_source_as_modelled :
    Generated.Resolver.createStreamUpstreamsBody =
      ["ups := make([]stream.Upstream, 0, len(upstreams))",
       "for _, u := range upstreams { if len(u.Endpoints) != 0 { ups = append(ups, g.createStreamUpstream(u)) } }",
       "return ups"] ∧
    Generated.Resolver.createUpstreamBody.drop 2 =
      ["zoneSize := ossZoneSize",
       "if g.plus { zoneSize = plusZoneSize stateFile = fmt.Sprintf(\"%s/%s.conf\", stateDir, up.Name) }",
       "if upstreamPolicySettings.ZoneSize != \"\" { zoneSize = upstreamPolicySettings.ZoneSize }",
       "if len(up.Endpoints) == 0 { return http.Upstream{ Name: up.Name, ZoneSize: zoneSize, StateFile: stateFile, Servers: []http.UpstreamServer{ { Address: nginx503Server, }, }, } }",
       "upstreamServers := make([]http.UpstreamServer, len(up.Endpoints))",
       "for idx, ep := range up.Endpoints { format := \"%s:%d\" if ep.IPv6 { format = \"[%s]:%d\" } upstreamServers[idx] = http.UpstreamServer{ Address: fmt.Sprintf(format, ep.Address, ep.Port), } }",
       "return http.Upstream{ Name: up.Name, ZoneSize: zoneSize, StateFile: stateFile, Servers: upstreamServers, KeepAlive: upstreamPolicySettings.KeepAlive, }"] ∧
    Generated.Resolver.createStreamUpstreamBody =
      ["var stateFile string",
       "zoneSize := ossZoneSizeStream",
       "if g.plus { zoneSize = plusZoneSizeStream stateFile = fmt.Sprintf(\"%s/%s.conf\", stateDir, up.Name) }",
       "upstreamServers := make([]stream.UpstreamServer, len(up.Endpoints))",
       "for idx, ep := range up.Endpoints { format := \"%s:%d\" if ep.IPv6 { format = \"[%s]:%d\" } upstreamServers[idx] = stream.UpstreamServer{ Address: fmt.Sprintf(format, ep.Address, ep.Port), } }",
       "return stream.Upstream{ Name: up.Name, ZoneSize: zoneSize, StateFile: stateFile, Servers: upstreamServers, }"] ∧
    Generated.Resolver.upstreamsTemplateText =
      "\n{{ range $u := . }}\nupstream {{ $u.Name }} {\n    random two least_conn;\n    {{ if $u.ZoneSize -}}\n    zone {{ $u.Name }} {{ $u.ZoneSize }};\n    {{ end -}}\n\n    {{- if $u.StateFile }}\n    state {{ $u.StateFile }};\n    {{- else }}\n        {{ range $server := $u.Servers }}\n    server {{ $server.Address }};\n        {{- end }}\n    {{- end }}\n    {{ if $u.KeepAlive.Connections -}}\n    keepalive {{ $u.KeepAlive.Connections }};\n    {{- end }}\n    {{ if $u.KeepAlive.Requests -}}\n    keepalive_requests {{ $u.KeepAlive.Requests }};\n    {{- end }}\n    {{ if $u.KeepAlive.Time -}}\n    keepalive_time {{ $u.KeepAlive.Time }};\n    {{- end }}\n    {{ if $u.KeepAlive.Timeout -}}\n    keepalive_timeout {{ $u.KeepAlive.Timeout }};\n    {{- end }}\n}\n{{ end -}}\n" ∧
    Generated.Resolver.streamUpstreamsTemplateText =
      "\n{{ range $u := . }}\nupstream {{ $u.Name }} {\n    random two least_conn;\n    {{ if $u.ZoneSize -}}\n    zone {{ $u.Name }} {{ $u.ZoneSize }};\n    {{- end }}\n    {{- if $u.StateFile }}\n    state {{ $u.StateFile }};\n    {{- else }}\n        {{ range $server := $u.Servers }}\n    server {{ $server.Address }};\n        {{- end }}\n    {{- end }}\n}\n{{ end -}}\n" := by
  exact ⟨rfl, rfl, rfl, rfl, rfl⟩

/-- the handler: conversion, comparison, the two update loops, the reload path and the endpoints-only arm -/
theorem handler_source_as_modelled :
    Generated.Resolver.getPortAndIPFormatBody =
      ["var port string", "if ep.Port != 0 { port = fmt.Sprintf(\":%d\", ep.Port) }", "format := \"%s%s\"",
       "if ep.IPv6 { format = \"[%s]%s\" }", "return port, format"] ∧
    Generated.Resolver.serversEqualBody.head? = some "if len(newServers) != len(oldServers) { return false }" ∧
    Generated.Resolver.serversEqualBody.drop 2 =
      ["diff := make(map[string]struct{}, len(newServers))",
       "for _, s := range newServers { diff[getServerVal(s)] = struct{}{} }",
       "for _, s := range oldServers { if _, ok := diff[getServerVal(s)]; !ok { return false } }",
       "return true"] ∧
    Generated.Resolver.updateUpstreamServersBody =
      ["if !h.cfg.plus { return nil }",
       "prevUpstreams, prevStreamUpstreams, err := h.cfg.nginxRuntimeMgr.GetUpstreams()",
       "if err != nil { return fmt.Errorf(\"failed to get upstreams from API: %w\", err) }",
       "type upstream struct { name string servers []ngxclient.UpstreamServer }",
       "var upstreams []upstream",
       "for _, u := range conf.Upstreams { confUpstream := upstream{ name: u.Name, servers: ngxConfig.ConvertEndpoints(u.Endpoints), } if u, ok := prevUpstreams[confUpstream.name]; ok { if !serversEqual(confUpstream.servers, u.Peers) { upstreams = append(upstreams, confUpstream) } } }",
       "type streamUpstream struct { name string servers []ngxclient.StreamUpstreamServer }",
       "var streamUpstreams []streamUpstream",
       "for _, u := range conf.StreamUpstreams { confUpstream := streamUpstream{ name: u.Name, servers: ngxConfig.ConvertStreamEndpoints(u.Endpoints), } if u, ok := prevStreamUpstreams[confUpstream.name]; ok { if !serversEqual(confUpstream.servers, u.Peers) { streamUpstreams = append(streamUpstreams, confUpstream) } } }",
       "var updateErr error",
       "for _, upstream := range upstreams { if err := h.cfg.nginxRuntimeMgr.UpdateHTTPServers(upstream.name, upstream.servers); err != nil { updateErr = errors.Join(updateErr, fmt.Errorf( \"couldn't update upstream %q via the API: %w\", upstream.name, err)) } }",
       "for _, upstream := range streamUpstreams { if err := h.cfg.nginxRuntimeMgr.UpdateStreamServers(upstream.name, upstream.servers); err != nil { updateErr = errors.Join(updateErr, fmt.Errorf( \"couldn't update stream upstream %q via the API: %w\", upstream.name, err)) } }",
       "return updateErr"] ∧
    Generated.Resolver.updateNginxConfBody =
      ["files := h.cfg.generator.Generate(conf)",
       "if err := h.cfg.nginxFileMgr.ReplaceFiles(files); err != nil { return fmt.Errorf(\"failed to replace NGINX configuration files: %w\", err) }",
       "if err := h.cfg.nginxRuntimeMgr.Reload(ctx, conf.Version); err != nil { return fmt.Errorf(\"failed to reload NGINX: %w\", err) }",
       "if err := h.updateUpstreamServers(conf); err != nil { return fmt.Errorf(\"failed to update upstream servers: %w\", err) }",
       "return nil"] ∧
    Generated.Resolver.endpointsOnlyArm.getLast? =
      some "if h.cfg.plus && h.latestReloadResult.Error == nil { err = h.updateUpstreamServers(cfg) } else { err = h.updateNginxConf(ctx, cfg) }" ∧
    Generated.Resolver.endpointsOnlyArm.take 2 =
      ["h.version++", "cfg := dataplane.BuildConfiguration(ctx, gr, h.cfg.serviceResolver, h.version)"] := by
  exact ⟨rfl, rfl, rfl, rfl, rfl, rfl, rfl⟩

/-! ## 6. Under faults (model and theorems: `Props/C13Handler.lean`): the judge accepts what a quiet batch leaves -/

/-- OSS: after ANY history, on a batch the handler records no error for, the judge of the property (`judgeServers`,
run by the driver on the REAL views of the `faults` stream) accepts what NGINX holds for every http upstream of the
batch's configuration — so a `fail` of that judge on a real quiet batch is a divergence from the proved behaviour. -/
theorem quiet_batch_judge_accepts_oss (s0 : HState) (pre : List HOp) (o : HOp) (hc : o.conf.WF)
    (hq : quiet (stepH false (runH false s0 pre) o) = true) (u : Up) (hu : u ∈ o.conf.http)
    (hnd : (u.eps.map serverAddress).Nodup) :
    judgeServers u.eps ((stepH false (runH false s0 pre) o).1.ngx.api.http.servers u.name) = [] := by
  have hq' : (applyOp false (runH false s0 pre).lastErr o (runH false s0 pre).ngx).2 = false := by
    simpa [quiet, stepH] using hq
  show judgeServers u.eps ((applyOp false _ o _).1.api.http.servers u.name) = []
  rw [applyOp_oss_quiet hq', loadOss_http hc hu]
  have : heldHttpExpected false u = configServers (createUpstream false u) := by
    simp [configServers, createUpstream, heldHttpExpected]
  rw [this]
  exact oss_judge_accepts u hnd

example :
    let c : Conf := ⟨[⟨"ns_svc_80", [⟨"10.0.0.2", 8080, false⟩]⟩], []⟩
    let r := stepH false (runH false HState.init [⟨.cluster, c, ⟨false, true, false, [], []⟩⟩]) ⟨.endpoints, c, Faults.none⟩
    quiet r = true ∧ c.WF ∧ r.1.ngx.api.http.servers "ns_svc_80" = ["10.0.0.2:8080"] := by
  refine ⟨by decide +kernel, ⟨by decide +kernel, by decide +kernel⟩, by decide +kernel⟩

end NGF.Resolver

/-! ## 7. EndpointSlices INSIDE the pipeline model (`Model/PipelineEndpoints.lean`)

`ScenarioE` = the cluster of `PipelineRefs.ScenarioR` (C06: Gateways, HTTPRoutes with backendRefs as written, Services,
ReferenceGrants) + the Services' port entries + the EndpointSlices. `genR c.base = Pipeline.gen (resolve c.base)` is the
abstract server/location part of http.conf (C02/C06), `upstreamsOf c` the `Configuration.Upstreams` that `buildUpstreams`
builds from the SAME cluster with the resolver of §1, `httpUpstreams c` its `upstream` blocks. All statements are for ALL
clusters `c`. Helper lemmas: `NGF.Proofs.PipelineEndpoints`. -/

namespace NGF.PipelineEndpoints
open NGF.Pipeline NGF.PipelineRefs
open NGF.RefGrant (BackendRef)
open NGF.Resolver (Slice Up InSpec)

/-- **proxied_upstream_is_defined.** Every upstream name that a location of `gen (resolve c)` proxies to — directly or
with any split_clients share — other than `invalid-backend-ref` is the name of EXACTLY ONE element of `upstreamsOf c`
(so NGINX never sees a `proxy_pass` to an undefined upstream, nor a duplicate `upstream` block). -/
theorem proxied_upstream_is_defined (c : ScenarioE) (t : Str) (share : Nat)
    (ht : (t, share) ∈ confTargets (genR c.base)) (hne : t ≠ invalidBackendRef) :
    ∃ u ∈ upstreamsOf c, u.name.toList = t ∧ ∀ u' ∈ upstreamsOf c, u'.name.toList = t → u' = u := by
  obtain ⟨b, hb, hbt⟩ := target_has_backend ht hne
  obtain ⟨u, hu, hn⟩ := List.mem_map.mp (name_mem_upstreamsOf hb)
  refine ⟨u, hu, by rw [hn]; exact hbt, ?_⟩
  intro u' hu' hn'
  apply Resolver.unique_of_nodup_names (nodup_upstreamsOf c) hu' hu
  apply String.toList_inj.1
  rw [hn', hn]; exact hbt.symm

/-- the names of `upstreamsOf c` are pairwise different, and none is `invalid-backend-ref`: together with the appended
`invalid-backend-ref` block, `httpUpstreams c` defines every name once -/
theorem upstream_blocks_distinct (c : ScenarioE) :
    ((httpUpstreams c).map (·.name)).Nodup := by
  have hmap : (httpUpstreams c).map (·.name) = (upstreamsOf c).map (·.name) ++ ["invalid-backend-ref"] := by
    simp [httpUpstreams, invalidBackendRefUpstream, Resolver.createUpstream, List.map_map, Function.comp_def]
  rw [hmap]
  refine List.nodup_append.mpr ⟨nodup_upstreamsOf c, by simp, ?_⟩
  intro a ha b hb' hab
  simp only [List.mem_singleton] at hb'
  subst hb'
  obtain ⟨u, hu, hn⟩ := List.mem_map.mp ha
  obtain ⟨b, hb, rfl⟩ := mem_upstreamsOf hu
  have hv := (backends_provenance hb).1
  have h1 : (RefGrant.servicePortReference b).toList = upstreamOf b.svcNs b.svcName b.port :=
    servicePortReference_valid hv
  have : upstreamOf b.svcNs b.svcName b.port = invalidBackendRef := by
    rw [← h1]; show (toUp c b).name.toList = _; rw [hn, hab]; rfl
  exact upstreamOf_ne_invalid _ _ _ this

/-- **upstream_servers_eq_spec_gen.** For every upstream of `upstreamsOf c` there is a Service port `ns/name:port`,
referenced by a backendRef of a valid route attached to the served Gateway, whose `ServicePortReference` is the
upstream's name, and the `server` lines of its block are exactly the declarative set of `resolve_eq_spec` for that
Service and ServicePort (ready addresses of the Service's non-FQDN IPv4/IPv6 slices that publish the port, each with
the port the slice publishes) — or exactly the 503 placeholder when that set is empty. -/
theorem upstream_servers_eq_spec_gen (c : ScenarioE) (hwf : wfE c = true) (u : Up) (hu : u ∈ upstreamsOf c) :
    ∃ ns name port, Referenced c ns name ∧ u.name.toList = upstreamOf ns name port ∧
      (∃ svc ∈ c.base.services, svc.ns = ns ∧ svc.name = name ∧ port ∈ svc.ports) ∧
      let sp := servicePort c ns name port
      let servers := Resolver.configServers (Resolver.createUpstream false u)
      ((∀ e, ¬ InSpec c.slices ns name sp [.ipv4, .ipv6] e) → servers = [Resolver.nginx503Server]) ∧
      ((∃ e, InSpec c.slices ns name sp [.ipv4, .ipv6] e) →
        ∀ x, x ∈ servers ↔ ∃ e, InSpec c.slices ns name sp [.ipv4, .ipv6] e ∧ x = Resolver.serverAddress e) := by
  obtain ⟨b, hb, rfl⟩ := mem_upstreamsOf hu
  obtain ⟨hv, g, hw, r, hr, hatt, ru, hru, refs, hact, ref, href, hns, hname, _, hf⟩ := backends_provenance hb
  obtain ⟨_, svc, hsvc, hp⟩ := findPort_some hf
  obtain ⟨hmem, hsns, hsname⟩ := lookupSvc_some hsvc
  simp only [wfE, Bool.and_eq_true, List.all_eq_true, bne_iff_ne, ne_eq] at hwf
  have hport : b.port ≠ 0 := hwf.1 svc hmem b.port hp
  obtain ⟨hrns, hrules⟩ := hwf.2 r hr
  have hrefs := hrules ru hru
  rw [hact] at hrefs
  simp only [List.all_eq_true, Bool.and_eq_true, bne_iff_ne, ne_eq] at hrefs
  obtain ⟨hrname, hrefns⟩ := hrefs ref href
  have hnsne : b.svcNs ≠ "" := by
    rw [hns]; unfold RefGrant.refNs
    cases hn : ref.ns with
    | none => simpa using hrns
    | some n => simp only [Option.getD_some]; intro e; exact hrefns (by rw [hn, e])
  have hnamene : b.svcName ≠ "" := by rw [hname]; exact hrname
  refine ⟨b.svcNs, b.svcName, b.port, backends_referenced hb,
    servicePortReference_valid hv, ⟨svc, hmem, by rw [hsns, hns], by rw [hsname, hname], hp⟩, ?_⟩
  have hsp : (servicePort c b.svcNs b.svcName b.port).port ≠ 0 := by rw [servicePort_port]; exact hport
  exact Resolver.oss_upstream_eq_spec c.slices b.svcNs b.svcName (servicePort c b.svcNs b.svcName b.port) .dual
    (RefGrant.servicePortReference b) hsp hnamene hnsne

/-- **unreferenced_service_no_upstream.** A Service that no backendRef of a valid route attached to the served Gateway
names gets no upstream: no element of `upstreamsOf c` is built for it, and (names without `_`, DNS-1123) none carries
the name of one of its ports. -/
theorem unreferenced_service_no_upstream (c : ScenarioE) (ns name : String) (h : ¬ Referenced c ns name) :
    (∀ b ∈ backends c, ¬ (b.svcNs = ns ∧ b.svcName = name)) ∧
    (namesOK c.base = true → noUnderscore ns = true → noUnderscore name = true →
      ∀ u ∈ upstreamsOf c, ∀ port, u.name.toList ≠ upstreamOf ns name port) := by
  have key : ∀ b ∈ backends c, ¬ (b.svcNs = ns ∧ b.svcName = name) := by
    rintro b hb ⟨e1, e2⟩
    exact h (e1 ▸ e2 ▸ backends_referenced hb)
  refine ⟨key, ?_⟩
  intro hok h1 h2 u hu port heq
  obtain ⟨b, hb, rfl⟩ := mem_upstreamsOf hu
  obtain ⟨hv, g, hw, r, hr, hatt, ru, hru, refs, hact, ref, href, hns, hname, _, _⟩ := backends_provenance hb
  obtain ⟨hrns, hrules⟩ := namesOK_spec hok r hr
  obtain ⟨hnm, hrefns⟩ := hrules ru hru refs hact ref href
  have hnsok : noUnderscore b.svcNs = true := by
    rw [hns]
    cases hn : ref.ns with
    | none => simpa [RefGrant.refNs, hn] using hrns
    | some n => simpa [RefGrant.refNs, hn] using hrefns n hn
  have hnmok : noUnderscore b.svcName = true := by rw [hname]; exact hnm
  have : upstreamOf b.svcNs b.svcName b.port = upstreamOf ns name port := by
    rw [← servicePortReference_valid hv]; exact heq
  obtain ⟨e1, e2⟩ := upstreamOf_inj hnsok hnmok h1 h2 this
  exact key b hb ⟨e1, e2⟩

/-- **endpointslice_irrelevant_inert.** An EndpointSlice — wherever it is inserted into (read from right to left:
deleted from) the cluster — that does not carry, in the Service's namespace, the service-name label of a Service
referenced by an attached valid route does not change `upstreamsOf`: no upstream, no endpoint, no name. -/
theorem endpointslice_irrelevant_inert (c : ScenarioE) (l1 l2 : List Slice) (s : Slice) (hs : c.slices = l1 ++ l2)
    (h : ∀ ns name, Referenced c ns name → ¬ (s.ns = ns ∧ s.svcLabel = some name)) :
    upstreamsOf { c with slices := l1 ++ s :: l2 } = upstreamsOf c := by
  have hb : backends { c with slices := l1 ++ s :: l2 } = backends c := rfl
  unfold upstreamsOf
  rw [hb]
  apply dedupByName_congr
  intro b hbm
  have href' := backends_referenced hbm
  show (⟨_, _⟩ : Up) = ⟨_, _⟩
  congr 1
  show Resolver.upstreamEndpoints (l1 ++ s :: l2) _ _ _ _ = Resolver.upstreamEndpoints c.slices _ _ _ _
  rw [hs]
  exact upstreamEndpoints_insert _ _ (h _ _ href')

/-! non-vacuity and the converse witness: one Gateway, one attached route with two backendRefs (one to a Service in
another namespace WITHOUT a grant: its share goes to invalid-backend-ref and it gets no upstream), a third Service that
nothing references -/
def exRef (ns : Option String) (name : String) (port : Nat) : BackendRef := ⟨none, none, ns, name, some port, none, 0⟩

def exBase : ScenarioR :=
  { cls := "nginx".toList, ctlr := "ctl".toList, classes := [⟨"nginx".toList, "ctl".toList⟩],
    gateways := [⟨"default".toList, "gw".toList, "nginx".toList, 1, [⟨"http".toList, 80, [], true⟩]⟩],
    routes := [{ ns := "app", name := "hr", age := 2,
                 parents := [{ ns := "default".toList, name := "gw".toList, sectionName := none }],
                 hostnames := ["cafe.example.com".toList],
                 rules := [{ ms := [{ exact := false, path := "/".toList, method := [], headers := [], query := [] }],
                             action := .forward [exRef none "web" 80, exRef (some "backend") "svc" 80] }],
                 valid := true }],
    services := [⟨"app", "web", [80]⟩, ⟨"backend", "svc", [80]⟩, ⟨"app", "idle", [80]⟩], grants := [] }

def exSlice (ns svc : String) (addrs : List String) (ready : Option Bool) : Slice :=
  ⟨ns, some svc, .ipv4, [⟨some "http", some 8080⟩], [⟨addrs, ready⟩]⟩

def exE : ScenarioE :=
  { base := exBase, ports := [⟨"app", "web", ⟨"http", 80, .int 8080⟩⟩],
    slices := [exSlice "app" "web" ["10.0.0.1", "10.0.0.2"] (some true), exSlice "app" "web" ["10.0.0.3"] (some false),
               exSlice "app" "idle" ["10.0.9.9"] (some true)] }

#guard wfE exE && namesOK exE.base
#guard confTargets (genR exE.base) == [("app_web_80".toList, 5000), (invalidBackendRef, 5000)]
#guard upstreamsOf exE == [⟨"app_web_80", [⟨"10.0.0.1", 8080, false⟩, ⟨"10.0.0.2", 8080, false⟩]⟩]
#guard (httpUpstreams exE).map (fun n => (n.name, Resolver.configServers n)) ==
  [("app_web_80", ["10.0.0.1:8080", "10.0.0.2:8080"]),
   ("invalid-backend-ref", ["unix:/var/run/nginx/nginx-500-server.sock"])]
-- an irrelevant slice (Service `idle` is not referenced; `backend/svc` is referenced but the slice is in another namespace)
#guard upstreamsOf { exE with slices := exSlice "app" "idle" ["10.0.9.8"] (some true) :: exE.slices } == upstreamsOf exE
#guard upstreamsOf { exE with slices := exSlice "app" "svc" ["10.0.9.8"] (some true) :: exE.slices } == upstreamsOf exE
-- no ready endpoint left: the 503 placeholder
#guard (httpUpstreams { exE with slices := [exSlice "app" "web" ["10.0.0.3"] (some false)] }).map
    (fun n => (n.name, Resolver.configServers n)) ==
  [("app_web_80", [Resolver.nginx503Server]), ("invalid-backend-ref", ["unix:/var/run/nginx/nginx-500-server.sock"])]

/-- **Converse witness**: a slice of a Service that an attached route references DOES change `upstreamsOf`
(so the hypothesis of `endpointslice_irrelevant_inert` cannot be dropped). -/
theorem endpointslice_relevant_changes :
    upstreamsOf { exE with slices := exSlice "app" "web" ["10.0.0.4"] (some true) :: exE.slices } ≠ upstreamsOf exE ∧
    (upstreamsOf { exE with slices := exSlice "app" "web" ["10.0.0.4"] (some true) :: exE.slices }).map (·.eps.length) = [3] := by
  decide +kernel

end NGF.PipelineEndpoints
