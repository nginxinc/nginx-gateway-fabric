import NGF.Model.OwnershipLeader
import NGF.Model.OwnershipJudge
import NGF.Proofs.OwnershipLeader
import NGF.Props.C09
/-
C17 over leadership changes — the ownership model's status requests (`targets ∘ buildGraph`, the functions of
Model/Ownership) submitted batch after batch through the leader-aware updater (`NGF.Leader.run`, the functions of
Props/C09) exactly as `eventHandlerImpl.updateStatuses` does. Composes C09's `flush_is_latest_per_group` with
`targets_own` of Proofs/Ownership (through `batch_requests_own`).
-/
namespace NGF.Ownership
open NGF.Leader

/-- **No foreign write across a leadership change.** For ALL sequences of event batches (each with the store its
graph was built from and the requests `Prepare*Requests` derive from THAT graph), ALL enable points and ALL map
iteration orders of the flush:
 1. nothing is written before `Enable`;
 2. what `Enable` writes is, up to order, the requests of the LAST batch processed before it — every one of them
    addresses an object that is not foreign in the store of that last batch (an object that was ours in an
    earlier batch and is foreign now is NOT written);
 3. after `Enable` every batch writes exactly its own requests, each addressing an object that is not foreign in
    the store of that batch. -/
theorem no_foreign_write_across_leadership (cfg : Cfg) (tgt : Req → Target) (pre post : List Batch)
    (o : List Group) (hok : ∀ b ∈ pre ++ post, b.Ok cfg tgt) :
    let n := (opsOf pre).length
    let outs := run init (opsOf pre ++ .enable o :: opsOf post)
    outs.take n = (opsOf pre).map (fun _ => Out.writes []) ∧
    (∃ ws, outs[n]? = some (Out.writes ws) ∧ ws.Perm (lastWrites pre) ∧
      ∀ w ∈ ws, ∀ q ∈ w.2, ∃ bl, pre.getLast? = some bl ∧
        tgt q ∈ targets (buildGraph cfg bl.st) ∧ (tgt q).OwnIn cfg bl.st) ∧
    outs.drop (n + 1) = post.flatMap batchOuts ∧
    (∀ b ∈ post, ∀ q ∈ b.r0 ++ b.r1, tgt q ∈ targets (buildGraph cfg b.st) ∧ (tgt q).OwnIn cfg b.st) := by
  intro n outs
  have hne := noEnable_opsOf pre
  refine ⟨no_write_before_enable (opsOf pre) _ hne, ?_, ?_, ?_⟩
  · obtain ⟨ws, h1, h2⟩ := flush_is_latest_per_group (opsOf pre) o (opsOf post) hne
    rw [latest_opsOf] at h2
    refine ⟨ws, h1, h2, ?_⟩
    intro w hw q hq
    have hw' : w ∈ lastWrites pre := h2.mem_iff.mp hw
    unfold lastWrites at hw'
    cases hl : pre.getLast? with
    | none => simp [hl] at hw'
    | some bl =>
      simp only [hl] at hw'
      have hbl : bl ∈ pre ++ post := List.mem_append_left _ (List.mem_of_getLast? hl)
      exact ⟨bl, rfl, batch_requests_own cfg tgt bl (hok bl hbl) q (mem_batchWrites bl w hw' q hq)⟩
  · show (run init (opsOf pre ++ .enable o :: opsOf post)).drop ((opsOf pre).length + 1) = _
    rw [immediate_after_enable (opsOf pre) o (opsOf post) hne, map_after_opsOf]
  · intro b hb
    exact batch_requests_own cfg tgt b (hok b (List.mem_append_right _ hb))

/-- … hence, with unique object keys (Kubernetes), NO request written at `Enable` addresses an object that is
foreign in the cluster as of the last batch — whatever it was in earlier batches. -/
theorem no_then_foreign_object_written_at_enable (cfg : Cfg) (tgt : Req → Target) (pre post : List Batch)
    (o : List Group) (hok : ∀ b ∈ pre ++ post, b.Ok cfg tgt) (bl : Batch) (hl : pre.getLast? = some bl)
    (hu : KeysUnique bl.st) (ws : List Write)
    (hws : (run init (opsOf pre ++ .enable o :: opsOf post))[(opsOf pre).length]? = some (Out.writes ws)) :
    ∀ w ∈ ws, ∀ q ∈ w.2, tgt q ∉ foreignTargets cfg bl.st := by
  obtain ⟨_, ⟨ws', h1, _, h3⟩, _, _⟩ := no_foreign_write_across_leadership cfg tgt pre post o hok
  have : ws' = ws := by
    have := h1.symm.trans hws
    simpa using this
  subst this
  intro w hw q hq
  obtain ⟨bl', hl', _, hown⟩ := h3 w hw q hq
  have : bl' = bl := by simpa using hl'.symm.trans hl
  subst this
  exact ownIn_not_foreign cfg _ hu _ hown

/-- the list the judge (`judgeLead`, `judge`) intersects the real requests with is the image of `foreignTargets` -/
theorem foreignKeys_eq_foreignTargets (cfg : Cfg) (s : State) :
    foreignKeys cfg s = (foreignTargets cfg s).map Target.key := by
  simp [foreignKeys, foreignTargets, List.map_append, List.map_map, Function.comp_def]

/-- a replica that never becomes leader writes nothing, whatever the batches -/
theorem never_leader_no_write (bs : List Batch) : ∀ out ∈ run init (opsOf bs), out = Out.writes [] :=
  never_leader_never_writes (opsOf bs) (noEnable_opsOf bs)

/-! ### Non-vacuity and the refuted variant: a Gateway that is ours in batch 1 and foreign in batch 2 -/

/-- batch 1: gw0 and gw1 of class nginx, hr0 → gw0; batch 2: gw1 re-classed to `other` -/
def exLead1 : State :=
  { classes := [⟨"nginx", exCfg.ctlr⟩, ⟨"other", "example.com/other"⟩]
    gws := [⟨⟨"default", "gw0"⟩, "nginx", 5⟩, ⟨⟨"default", "gw1"⟩, "nginx", 7⟩]
    routes := [⟨.http, ⟨"default", "hr0"⟩, [⟨none, none, none, "gw0", none⟩], true, [], true, []⟩]
    policies := [], btps := [], snippets := [] }

def exLead2 : State :=
  { exLead1 with gws := [⟨⟨"default", "gw0"⟩, "nginx", 5⟩, ⟨⟨"default", "gw1"⟩, "other", 7⟩] }

def exBatches : List Batch := mkBatches exCfg 0 [exLead1, exLead2]
def exTgt : Req → Target := tgtOf (reqTable exCfg [exLead1, exLead2])

example : exBatches.map (fun b => (b.r0, b.r1)) = [([0, 3], [1, 2]), ([4, 6], [5])] := by decide +kernel
example : ∀ b ∈ exBatches, b.Ok exCfg exTgt := by decide +kernel
example : exTgt 2 = .gw ⟨"default", "gw1"⟩ ∧ Target.gw ⟨"default", "gw1"⟩ ∈ foreignTargets exCfg exLead2 ∧
    KeysUnique exLead2 := by
  unfold KeysUnique; decide +kernel
/-- the model writes the requests of batch 2 only: gw0 (tag 5), class and route (tags 4, 6) -/
example : run init (opsOf exBatches ++ [.enable []]) =
    [.writes [], .writes [], .writes [], .writes [], .writes [(1, [5]), (0, [4, 6])]] := by decide +kernel

/-- **Witness against the appended-not-replaced variant** (seeded change C17-r3m2): with `stepAppend` the request
for `gw1` prepared in batch 1 (tag 2) is written at `Enable` although `gw1` belongs to another class in the cluster
as of the last batch; `run` (the code) does not write it. -/
theorem appended_requests_write_foreign :
    (∃ ws, (runAppend init (opsOf exBatches ++ [.enable []]))[(opsOf exBatches).length]? = some (Out.writes ws) ∧
      ∃ w ∈ ws, ∃ q ∈ w.2, exTgt q ∈ foreignTargets exCfg exLead2) ∧
    (∀ ws, (run init (opsOf exBatches ++ [.enable []]))[(opsOf exBatches).length]? = some (Out.writes ws) →
      ∀ w ∈ ws, ∀ q ∈ w.2, exTgt q ∉ foreignTargets exCfg exLead2) := by
  -- one evaluation of both runs: the output of `Enable` under each, and whose targets are foreign
  have key :
      (runAppend init (opsOf exBatches ++ [.enable []]))[(opsOf exBatches).length]? =
        some (Out.writes [(1, [1, 2, 5]), (0, [0, 3, 4, 6])]) ∧
      exTgt 2 ∈ foreignTargets exCfg exLead2 ∧
      (run init (opsOf exBatches ++ [.enable []]))[(opsOf exBatches).length]? =
        some (Out.writes [(1, [5]), (0, [4, 6])]) ∧
      ∀ w ∈ [((1, [5]) : Write), (0, [4, 6])], ∀ q ∈ w.2, exTgt q ∉ foreignTargets exCfg exLead2 := by
    decide +kernel
  obtain ⟨ha, hf, hr, hn⟩ := key
  refine ⟨⟨_, ha, (1, [1, 2, 5]), by simp, 2, by simp, hf⟩, ?_⟩
  intro ws h
  rw [hr] at h
  cases h
  exact hn

end NGF.Ownership
