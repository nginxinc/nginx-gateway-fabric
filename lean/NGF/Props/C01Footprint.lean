/-
C01 — relevance and watch predicates of the dependent kinds: soundness THEOREMS for the footprint model
(`NGF.Model.Footprint`: what `BuildGraph` reads of Services, EndpointSlices, Namespaces, Secrets, ConfigMaps,
NginxProxies and NGF policies, and which objects `Graph.IsReferenced` / `IsNGFPolicyRelevant` declare referenced), instantiated into `converges_of_sound`.
The build is the most informative one that respects the reading discipline of the Go code (it exposes, per key,
exactly what is read); relevance is `isRef(new) || isRef(stored)` against the LATEST graph — no oracle bit.
-/
import NGF.Props.C01
import NGF.Proofs.Footprint
import NGF.Generated.StoreFacts

namespace NGF.Footprint
open NGF.Store

variable {Core ObjK View : Type}

abbrev Hist (Core ObjK : Type) := List (Step FK NN (Sum Core ObjK))

/-- Frame theorem: a kind that is read only where it is referenced, with a watch predicate that filters only
invisible updates, converges for every history. -/
theorem converges_of_frame (F : Frame Core ObjK View) (ok : FrameOK F (fun _ => true) (fun _ _ => true))
    (w₀ : Cl Core ObjK) (hist : Hist Core ObjK) :
    (run ops (build F) (rel F) (watch F) (start (build F) w₀) (hist ++ [.cut])).applied
      = fresh (build F) (finalWorld ops w₀ hist) :=
  converges_of_sound_partial ops (build F) (rel F) (watch F) (R F) _ (frame_sound F _ _ ok) w₀ hist
    (admissible_of_forall ops hist (fun e _ w => adm_true w e) w₀)

/-- `rel_sound_<Kind>` in its general form: if `IsReferenced` is false for the stored and for the new object, the
build of the store after the event equals the build before. -/
theorem rel_sound_of_frame (F : Frame Core ObjK View) (admCore admU) (ok : FrameOK F admCore admU)
    (s : Cl Core ObjK) (e : FEvent Core ObjK) (ha : adm admCore admU s e = true) (hw : watch F s e = true)
    (hv : verdict ops (rel F) (some (build F s)) s e = false) :
    build F (storeAfter ops s e) = build F s :=
  (frame_sound F admCore admU ok).rel_sound s s e (R_refl F s) ha hw hv

/-- Current code, `_partial`: convergence for every history that stays outside the two excluded regions
(`svcAdmCore`: every Service looked up by a route of the graph is in ReferencedServices, i.e. no valid route that
belongs only to an ignored Gateway names a Service of its own; `svcAdmU`: no update that the watch predicate
filters although it changes port names, port order or ipFamilies). -/
theorem converges_Service_partial (w₀ : Cl SvcCore Svc) (hist : Hist SvcCore Svc)
    (ha : Admissible ops (adm svcAdmCore svcAdmU) w₀ hist) :
    (run ops (build svcFrame) (rel svcFrame) (watch svcFrame) (start (build svcFrame) w₀) (hist ++ [.cut])).applied
      = fresh (build svcFrame) (finalWorld ops w₀ hist) :=
  converges_of_sound_partial ops _ _ _ (R svcFrame) _ (frame_sound svcFrame _ _ svc_ok) w₀ hist ha

/-- `rel_sound_Service` (current code): an event of a Service outside ReferencedServices of the latest graph does
not change the build, provided every Service the graph looks up is in ReferencedServices. -/
theorem rel_sound_Service (s : Cl SvcCore Svc) (e : FEvent SvcCore Svc)
    (ha : adm svcAdmCore svcAdmU s e = true) (hw : watch svcFrame s e = true)
    (hv : verdict ops (rel svcFrame) (some (build svcFrame s)) s e = false) :
    build svcFrame (storeAfter ops s e) = build svcFrame s :=
  rel_sound_of_frame svcFrame _ _ svc_ok s e ha hw hv

/-- Repaired variant (candidate diffs 2 and 3 of notes/C01.md): convergence for EVERY history. -/
theorem converges_Service_repaired (w₀ : Cl SvcCore Svc) (hist : Hist SvcCore Svc) :
    (run ops (build svcFrameR) (rel svcFrameR) (watch svcFrameR) (start (build svcFrameR) w₀) (hist ++ [.cut])).applied
      = fresh (build svcFrameR) (finalWorld ops w₀ hist) :=
  converges_of_frame svcFrameR svc_ok_repaired w₀ hist

def gwOld : NN := "default/gw-old"
def svc1 : NN := "default/svc1"
def aSvc : Svc := { ports := [⟨80, "p80", "8080"⟩], ipFamilies := ["IPv4"] }

/-- the graph of known finding `C01:service-dropped:route-of-ignored-gateway`: the winning Gateway has no route, a
valid route of the ignored Gateway gw0 names svc1 -/
def ignoredGwCore : SvcCore :=
  { winner := some gwOld, routes := [{ valid := true, parents := ["default/gw0"], backends := [svc1] }] }

/-- Witness 1 (current code): `createBackendRef` looks svc1 up, `buildReferencedServices` does not list it: its
creation is dropped, the long-lived controller keeps "not found", a fresh one sees the Service. -/
theorem service_of_ignored_gateway_route_diverges :
    let w₀ : Cl SvcCore Svc := { core := ignoredGwCore, objs := fun _ => none }
    let σ := run ops (build svcFrame) (rel svcFrame) (watch svcFrame) (start (build svcFrame) w₀)
      [.mutate ⟨.obj, svc1, some (.inr aSvc), false⟩, .cut]
    svcAdmCore ignoredGwCore = false ∧
    (σ.applied.map fun g => g.seen svc1) = some none ∧
    ((fresh (build svcFrame) σ.world).map fun g => g.seen svc1) = some (some aSvc) := by
  decide +kernel

def refCore : SvcCore :=
  { winner := some gwOld, routes := [{ valid := true, parents := [gwOld], backends := [svc1] }] }

/-- Witness 2 (current code): renaming a port keeps the (port,targetPort) set: filtered; the name is read. -/
theorem service_port_rename_diverges :
    let renamed : Svc := { aSvc with ports := [⟨80, "web", "8080"⟩] }
    let w₀ : Cl SvcCore Svc := { core := refCore, objs := upd (fun _ => none) svc1 (some aSvc) }
    let σ := run ops (build svcFrame) (rel svcFrame) (watch svcFrame) (start (build svcFrame) w₀)
      [.mutate ⟨.obj, svc1, some (.inr renamed), false⟩, .cut]
    watchSvc aSvc renamed = false ∧
    (σ.applied.map fun g => g.seen svc1) = some (some aSvc) ∧
    ((fresh (build svcFrame) σ.world).map fun g => g.seen svc1) = some (some renamed) := by
  decide +kernel

/-- Witness 3 (current code): ipFamilies. -/
theorem service_ipfamilies_diverges :
    let v6 : Svc := { aSvc with ipFamilies := ["IPv6"] }
    let w₀ : Cl SvcCore Svc := { core := refCore, objs := upd (fun _ => none) svc1 (some aSvc) }
    let σ := run ops (build svcFrame) (rel svcFrame) (watch svcFrame) (start (build svcFrame) w₀)
      [.mutate ⟨.obj, svc1, some (.inr v6), false⟩, .cut]
    watchSvc aSvc v6 = false ∧
    (σ.applied.map fun g => g.seen svc1) ≠ ((fresh (build svcFrame) σ.world).map fun g => g.seen svc1) := by
  decide +kernel

/-- Witness 4 (current code, and the set-based repair): two entries with the same port number (53/TCP, 53/UDP)
swap places — same pair set, but `getServicePort` now returns the other entry. -/
theorem service_port_order_diverges :
    let a : Svc := { ports := [⟨53, "dns-tcp", "8053"⟩, ⟨53, "dns-udp", "9053"⟩], ipFamilies := [] }
    let b : Svc := { ports := [⟨53, "dns-udp", "9053"⟩, ⟨53, "dns-tcp", "8053"⟩], ipFamilies := [] }
    watchSvc a b = false ∧ a.ports.head? ≠ b.ports.head? ∧ watchSvcR a b = true := by
  decide +kernel

/-- Non-vacuity of `converges_Service_partial`: an admissible history with a relevant, a dropped and a filtered
(invisible) mutation and a change of the core. -/
example :
    let w₀ : Cl SvcCore Svc := { core := refCore, objs := fun _ => none }
    let hist : Hist SvcCore Svc :=
      [.mutate ⟨.obj, svc1, some (.inr aSvc), false⟩,                      -- referenced: relevant
       .mutate ⟨.obj, "default/other", some (.inr aSvc), false⟩, .cut,      -- unreferenced: dropped
       .mutate ⟨.obj, svc1, some (.inr aSvc), false⟩,                      -- no-op update: filtered
       .mutate ⟨.core, "", some (.inl { refCore with routes := [] }), false⟩, .cut]
    Admissible ops (adm svcAdmCore svcAdmU) w₀ hist := by
  intro w₀ hist
  simp only [hist, Admissible]
  decide +kernel

/-- EndpointSlices (after ecaa5d2: judged by the stored and the new owner). -/
theorem converges_EndpointSlice (w₀ : Cl SvcCore SliceM) (hist : Hist SvcCore SliceM) :
    (run ops (build sliceFrame) (rel sliceFrame) (watch sliceFrame) (start (build sliceFrame) w₀) (hist ++ [.cut])).applied
      = fresh (build sliceFrame) (finalWorld ops w₀ hist) :=
  converges_of_frame sliceFrame slice_ok w₀ hist

theorem rel_sound_EndpointSlice (s : Cl SvcCore SliceM) (e : FEvent SvcCore SliceM)
    (hv : verdict ops (rel sliceFrame) (some (build sliceFrame s)) s e = false) :
    build sliceFrame (storeAfter ops s e) = build sliceFrame s :=
  rel_sound_of_frame sliceFrame _ _ slice_ok s e (adm_true s e) (watch_true sliceFrame (fun _ _ => rfl) s e) hv

/-- Namespaces: `isNamespaceReferenced` of the stored or the new labels (this subsumes the `existed` check). -/
theorem converges_Namespace (w₀ : Cl NsCore Labels) (hist : Hist NsCore Labels) :
    (run ops (build nsFrame) (rel nsFrame) (watch nsFrame) (start (build nsFrame) w₀) (hist ++ [.cut])).applied
      = fresh (build nsFrame) (finalWorld ops w₀ hist) :=
  converges_of_frame nsFrame ns_ok w₀ hist

/-- Secrets: referenced by the names the listeners' certificateRefs resolve. -/
theorem converges_Secret (w₀ : Cl SecCore Nat) (hist : Hist SecCore Nat) :
    (run ops (build secretFrame) (rel secretFrame) (watch secretFrame) (start (build secretFrame) w₀) (hist ++ [.cut])).applied
      = fresh (build secretFrame) (finalWorld ops w₀ hist) :=
  converges_of_frame secretFrame (byName_ok _) w₀ hist

/-- ConfigMaps: referenced by the CA certificate refs of the BackendTLSPolicies. -/
theorem converges_ConfigMap (w₀ : Cl CmCore Nat) (hist : Hist CmCore Nat) :
    (run ops (build configMapFrame) (rel configMapFrame) (watch configMapFrame) (start (build configMapFrame) w₀)
      (hist ++ [.cut])).applied
      = fresh (build configMapFrame) (finalWorld ops w₀ hist) :=
  converges_of_frame configMapFrame (byName_ok _) w₀ hist

/-- Non-vacuity for the slice instance: a slice moves from a referenced to an unreferenced Service (the pre-fix
witness): with the stored object judged too, the applied output follows. -/
example :
    let w₀ : Cl SvcCore SliceM := { core := refCore, objs := upd (fun _ => none) "default/s0" (some ⟨svc1, 55⟩) }
    let σ := run ops (build sliceFrame) (rel sliceFrame) (watch sliceFrame) (start (build sliceFrame) w₀)
      [.mutate ⟨.obj, "default/s0", some (.inr ⟨"default/svc9", 55⟩), false⟩, .cut,
       .mutate ⟨.obj, "default/s1", some (.inr ⟨svc1, 56⟩), false⟩, .cut,
       .mutate ⟨.obj, "default/s1", none, false⟩, .cut]
    (σ.applied.map fun g => (g.seen "default/s0", g.seen "default/s1")) = some (none, none) := by
  decide +kernel

/-- **Namespace** (`isNamespaceReferenced` over ALL listeners that have a selector — valid or not — `|| existed`): a
Namespace event judged irrelevant leaves the build unchanged. -/
theorem rel_sound_Namespace (s : Cl NsCore Labels) (e : FEvent NsCore Labels) (hw : watch nsFrame s e = true)
    (hv : verdict ops (rel nsFrame) (some (build nsFrame s)) s e = false) :
    build nsFrame (storeAfter ops s e) = build nsFrame s :=
  rel_sound_of_frame nsFrame _ _ ns_ok s e (adm_true s e) hw hv

/-- Weakened variant REFUTED (pre-image of seeded change C01-r3m1: `isNamespaceReferenced` skips invalid listeners):
the only selector listener is invalid but attachable; the Namespace loses the label: judged irrelevant, the applied
output keeps "selector matches", a fresh controller says it does not. The tree's predicate rebuilds. -/
theorem namespace_invalid_listener_diverges :
    let core : NsCore := { listeners := [{ valid := false, sel := [("team", "dev")] }] }
    let w₀ : Cl NsCore Labels := { core := core, objs := upd (fun _ => none) "team-a" (some [("team", "dev")]) }
    let hist : Hist NsCore Labels := [.mutate ⟨.obj, "team-a", some (.inr []), false⟩, .cut]
    let bad := run ops (build nsFrameValidOnly) (rel nsFrameValidOnly) (watch nsFrameValidOnly)
      (start (build nsFrameValidOnly) w₀) hist
    let good := run ops (build nsFrame) (rel nsFrame) (watch nsFrame) (start (build nsFrame) w₀) hist
    nsReferencedValidOnly core [("team", "dev")] = false ∧ nsReferenced core [("team", "dev")] = true ∧
    (bad.applied.map fun g => g.seen "team-a") = some (some [true]) ∧
    ((fresh (build nsFrameValidOnly) bad.world).map fun g => g.seen "team-a") = some none ∧
    (good.applied.map fun g => g.seen "team-a") = some none := by
  decide +kernel

/-- **Secret** (`ReferencedSecrets` = every name handed to `secretResolver.resolve`, found or not). -/
theorem rel_sound_Secret (s : Cl SecCore Nat) (e : FEvent SecCore Nat)
    (hv : verdict ops (rel secretFrame) (some (build secretFrame s)) s e = false) :
    build secretFrame (storeAfter ops s e) = build secretFrame s :=
  rel_sound_of_frame secretFrame _ _ (byName_ok _) s e (adm_true s e) (watch_true secretFrame (fun _ _ => rfl) s e) hv

/-- Weakened variant REFUTED (a resolver that records only the Secrets it found): the listener's Secret is missing when
the graph is built, then it is created: dropped, the listener stays without certificate. -/
theorem secret_missing_then_created_diverges :
    let core : SecCore := { listeners := [{ protocol := "HTTPS", certRef := "default/tls-a", allowed := true }] }
    let F := byNameForgetMissing secretCandidates
    let w₀ : Cl SecCore Nat := { core := core, objs := fun _ => none }
    let hist : Hist SecCore Nat := [.mutate ⟨.obj, "default/tls-a", some (.inr 1), false⟩, .cut]
    let bad := run ops (build F) (rel F) (watch F) (start (build F) w₀) hist
    let good := run ops (build secretFrame) (rel secretFrame) (watch secretFrame) (start (build secretFrame) w₀) hist
    (bad.applied.map fun g => g.seen "default/tls-a") = some none ∧
    ((fresh (build F) bad.world).map fun g => g.seen "default/tls-a") = some (some 1) ∧
    (good.applied.map fun g => g.seen "default/tls-a") = some (some 1) := by
  decide +kernel

/-- **ConfigMap** (`ReferencedCaCertConfigMaps` = every name handed to `configMapResolver.resolve`, found or not). -/
theorem rel_sound_ConfigMap (s : Cl CmCore Nat) (e : FEvent CmCore Nat)
    (hv : verdict ops (rel configMapFrame) (some (build configMapFrame s)) s e = false) :
    build configMapFrame (storeAfter ops s e) = build configMapFrame s :=
  rel_sound_of_frame configMapFrame _ _ (byName_ok _) s e (adm_true s e)
    (watch_true configMapFrame (fun _ _ => rfl) s e) hv

/-- Weakened variant REFUTED (pre-image of seeded change C01-r3m2: `resolve` returns before recording a missing
ConfigMap): the BackendTLSPolicy's CA ConfigMap is created after the graph was built without it: dropped. -/
theorem configmap_missing_then_created_diverges :
    let core : CmCore := { hasGateway := true, btps := [{ ns := "default", nrefs := 1, wellKnown := false,
                                                          kind := "ConfigMap", group := "", name := "ca" }] }
    let F := byNameForgetMissing referencedConfigMaps
    let w₀ : Cl CmCore Nat := { core := core, objs := fun _ => none }
    let hist : Hist CmCore Nat := [.mutate ⟨.obj, "default/ca", some (.inr 7), false⟩, .cut]
    let bad := run ops (build F) (rel F) (watch F) (start (build F) w₀) hist
    let good := run ops (build configMapFrame) (rel configMapFrame) (watch configMapFrame)
      (start (build configMapFrame) w₀) hist
    (bad.applied.map fun g => g.seen "default/ca") = some none ∧
    ((fresh (build F) bad.world).map fun g => g.seen "default/ca") = some (some 7) ∧
    (good.applied.map fun g => g.seen "default/ca") = some (some 7) := by
  decide +kernel

/-- **NginxProxy** (`isNginxProxyReferenced`: named by the parametersRef of the GatewayClass, group and kind checked). -/
theorem converges_NginxProxy (w₀ : Cl NpCore Nat) (hist : Hist NpCore Nat) :
    (run ops (build nginxProxyFrame) (rel nginxProxyFrame) (watch nginxProxyFrame) (start (build nginxProxyFrame) w₀)
      (hist ++ [.cut])).applied
      = fresh (build nginxProxyFrame) (finalWorld ops w₀ hist) :=
  converges_of_frame nginxProxyFrame np_ok w₀ hist

theorem rel_sound_NginxProxy (s : Cl NpCore Nat) (e : FEvent NpCore Nat) (hw : watch nginxProxyFrame s e = true)
    (hv : verdict ops (rel nginxProxyFrame) (some (build nginxProxyFrame s)) s e = false) :
    build nginxProxyFrame (storeAfter ops s e) = build nginxProxyFrame s :=
  rel_sound_of_frame nginxProxyFrame _ _ np_ok s e (adm_true s e) hw hv

/-- Weakened variant REFUTED (referenced only when `buildNginxProxy` found it, i.e. `g.NginxProxy != nil`): the
NginxProxy named by the class is created later: dropped, the class stays `InvalidParameters`/`RefNotFound`. -/
theorem nginxproxy_missing_then_created_diverges :
    let core : NpCore := { gatewayClass := some (some { group := ngfGroup, kind := "NginxProxy", name := "np" }) }
    let F := nginxProxyFrameForgetMissing
    let w₀ : Cl NpCore Nat := { core := core, objs := fun _ => none }
    let hist : Hist NpCore Nat := [.mutate ⟨.obj, "np", some (.inr 3), false⟩, .cut]
    let bad := run ops (build F) (rel F) (watch F) (start (build F) w₀) hist
    let good := run ops (build nginxProxyFrame) (rel nginxProxyFrame) (watch nginxProxyFrame)
      (start (build nginxProxyFrame) w₀) hist
    (bad.applied.map fun g => g.seen "np") = some none ∧
    ((fresh (build F) bad.world).map fun g => g.seen "np") = some (some 3) ∧
    (good.applied.map fun g => g.seen "np") = some (some 3) ∧
    -- a parametersRef of another group or kind references nothing
    npReferenced { gatewayClass := some (some { group := "example.com", kind := "NginxProxy", name := "np" }) } "np" = false := by
  decide +kernel

/-- **NGF policies** (`IsNGFPolicyRelevant`: in the graph OR any targetRef resolves; ALL targetRefs are considered;
`processPolicies` admits the policy under the same test, given a winning Gateway). -/
theorem converges_NGFPolicy (w₀ : Cl PolCore PolicyM) (hist : Hist PolCore PolicyM) :
    (run ops (build policyFrame) (rel policyFrame) (watch policyFrame) (start (build policyFrame) w₀)
      (hist ++ [.cut])).applied
      = fresh (build policyFrame) (finalWorld ops w₀ hist) :=
  converges_of_frame policyFrame policy_ok w₀ hist

theorem rel_sound_NGFPolicy (s : Cl PolCore PolicyM) (e : FEvent PolCore PolicyM) (hw : watch policyFrame s e = true)
    (hv : verdict ops (rel policyFrame) (some (build policyFrame s)) s e = false) :
    build policyFrame (storeAfter ops s e) = build policyFrame s :=
  rel_sound_of_frame policyFrame _ _ policy_ok s e (adm_true s e) hw hv

def polCore : PolCore :=
  { hasWinner := true, gateways := ["default/gw0"], routes := [("HTTPRoute", "default/hr0")], refSvcs := ["default/svc0"] }

def obsPolicy : PolicyM :=
  { ns := "default", payload := 1,
    refs := [{ group := gatewayGroup, kind := "HTTPRoute", name := "hr-absent" },
             { group := gatewayGroup, kind := "HTTPRoute", name := "hr0" }] }

/-- Weakened variant REFUTED (seeded change C01-m3: only the FIRST targetRef decides): a policy whose first target is
absent and whose second is a route of the graph is created: dropped, no status is ever written, a fresh controller
processes it. -/
theorem policy_first_targetref_only_diverges :
    let F := policyFrameFirstRef
    let w₀ : Cl PolCore PolicyM := { core := polCore, objs := fun _ => none }
    let hist : Hist PolCore PolicyM := [.mutate ⟨.obj, "ObservabilityPolicy/default/obs", some (.inr obsPolicy), false⟩, .cut]
    let bad := run ops (build F) (rel F) (watch F) (start (build F) w₀) hist
    let good := run ops (build policyFrame) (rel policyFrame) (watch policyFrame) (start (build policyFrame) w₀) hist
    policyRelevantFirst polCore obsPolicy = false ∧ policyRelevant polCore obsPolicy = true ∧
    (bad.applied.map fun g => g.seen "ObservabilityPolicy/default/obs") = some none ∧
    ((fresh (build F) bad.world).map fun g => g.seen "ObservabilityPolicy/default/obs") = some (some obsPolicy) ∧
    (good.applied.map fun g => g.seen "ObservabilityPolicy/default/obs") = some (some obsPolicy) := by
  decide +kernel

/-- Non-vacuity for the policy frame: relevant by a Service target (UpstreamSettingsPolicy shape), retargeted away
(judged by the STORED object / the in-graph clause: still relevant), deleted; a Gateway target without a winner
resolves to nothing. -/
example :
    let usp : PolicyM := { ns := "default", payload := 2, refs := [{ group := "", kind := "Service", name := "svc-absent" },
                                                                    { group := "core", kind := "Service", name := "svc0" }] }
    let away : PolicyM := { usp with refs := [{ group := "", kind := "Service", name := "svc-absent" }] }
    let w₀ : Cl PolCore PolicyM := { core := polCore, objs := fun _ => none }
    let σ := run ops (build policyFrame) (rel policyFrame) (watch policyFrame) (start (build policyFrame) w₀)
      [.mutate ⟨.obj, "usp", some (.inr usp), false⟩, .cut,
       .mutate ⟨.obj, "usp", some (.inr away), false⟩, .cut]
    (σ.applied.map fun g => g.seen "usp") = some none ∧ σ.proc.ct = .none ∧
    refResolves { polCore with hasWinner := false } "default" { group := gatewayGroup, kind := "Gateway", name := "gw0" } = false ∧
    refResolves polCore "default" { group := gatewayGroup, kind := "Gateway", name := "gw0" } = true := by
  decide +kernel

/-- The resolvers record a name whether or not the object exists; `isNginxProxyReferenced`, `IsNGFPolicyRelevant`,
`gatewayAPIResourceExist`, `gatewayExists` and the targetRef loop of `processPolicies` are the statements the frames follow. -/
theorem relevance_functions_as_modelled :
    Generated.Store.secretResolveBody =
      ["if s, resolved := r.resolvedSecrets[nsname]; resolved { return s.err }",
      "secret, exist := r.clusterSecrets[nsname]",
      "var validationErr error",
      "switch { case !exist: validationErr = errors.New(\"secret does not exist\") case secret.Type != apiv1.SecretTypeTLS: validationErr = fmt.Errorf(\"secret type must be %q not %q\", apiv1.SecretTypeTLS, secret.Type) default: _, err := tls.X509KeyPair(secret.Data[apiv1.TLSCertKey], secret.Data[apiv1.TLSPrivateKeyKey]) if err != nil { validationErr = fmt.Errorf(\"TLS secret is invalid: %w\", err) } }",
      "r.resolvedSecrets[nsname] = &secretEntry{ Secret: Secret{ Source: secret, }, err: validationErr, }",
      "return validationErr"] ∧
    Generated.Store.getResolvedSecretsBody =
      ["if len(r.resolvedSecrets) == 0 { return nil }",
      "resolved := make(map[types.NamespacedName]*Secret)",
      "for nsname, entry := range r.resolvedSecrets { secret := entry.Secret resolved[nsname] = &secret }",
      "return resolved"] ∧
    Generated.Store.configMapResolveBody =
      ["if s, resolved := r.resolvedCaCertConfigMaps[nsname]; resolved { return s.err }",
      "cm, exist := r.clusterConfigMaps[nsname]",
      "var validationErr error",
      "var caCert []byte",
      "if !exist { validationErr = errors.New(\"ConfigMap does not exist\") } else { if cm.Data != nil { if _, exists := cm.Data[CAKey]; exists { validationErr = validateCA([]byte(cm.Data[CAKey])) caCert = []byte(cm.Data[CAKey]) } } if cm.BinaryData != nil { if _, exists := cm.BinaryData[CAKey]; exists { validationErr = validateCA(cm.BinaryData[CAKey]) caCert = cm.BinaryData[CAKey] } } if len(caCert) == 0 { validationErr = fmt.Errorf(\"ConfigMap does not have the data or binaryData field %v\", CAKey) } }",
      "r.resolvedCaCertConfigMaps[nsname] = &caCertConfigMapEntry{ caCertConfigMap: CaCertConfigMap{ Source: cm, CACert: caCert, }, err: validationErr, }",
      "return validationErr"] ∧
    Generated.Store.getResolvedConfigMapsBody =
      ["if len(r.resolvedCaCertConfigMaps) == 0 { return nil }",
      "resolved := make(map[types.NamespacedName]*CaCertConfigMap)",
      "for nsname, entry := range r.resolvedCaCertConfigMaps { caCertConfigMap := entry.caCertConfigMap resolved[nsname] = &caCertConfigMap }",
      "return resolved"] ∧
    Generated.Store.isNginxProxyReferencedBody =
      ["return gc != nil && gcReferencesAnyNginxProxy(gc.Source) && gc.Source.Spec.ParametersRef.Name == npNSName.Name"] ∧
    Generated.Store.gcReferencesAnyNginxProxyBody =
      ["if gc != nil { ref := gc.Spec.ParametersRef return ref != nil && ref.Group == ngfAPI.GroupName && ref.Kind == v1.Kind(kinds.NginxProxy) }",
      "return false"] ∧
    Generated.Store.buildNginxProxyBody =
      ["if gcReferencesAnyNginxProxy(gc) { npCfg := nps[types.NamespacedName{Name: gc.Spec.ParametersRef.Name}] if npCfg != nil { errs := validateNginxProxy(validator, npCfg) return &NginxProxy{ Source: npCfg, Valid: len(errs) == 0, ErrMsgs: errs, } } }",
      "return nil"] ∧
    Generated.Store.isNGFPolicyRelevantGraphBody =
      ["key := PolicyKey{ NsName: nsname, GVK: gvk, }",
      "if _, exists := g.NGFPolicies[key]; exists { return true }",
      "if policy == nil { panic(\"policy cannot be nil\") }",
      "for _, ref := range policy.GetTargetRefs() { switch ref.Group { case gatewayv1.GroupName: if g.gatewayAPIResourceExist(ref, policy.GetNamespace()) { return true } case \"\", \"core\": if ref.Kind == kinds.Service { svcNsName := types.NamespacedName{Namespace: policy.GetNamespace(), Name: string(ref.Name)} if _, exists := g.ReferencedServices[svcNsName]; exists { return true } } } }",
      "return false"] ∧
    Generated.Store.gatewayAPIResourceExistBody =
      ["refNsName := types.NamespacedName{Name: string(ref.Name), Namespace: policyNs}",
      "switch kind := ref.Kind; kind { case kinds.Gateway: if g.Gateway == nil { return false } return gatewayExists(refNsName, g.Gateway.Source, g.IgnoredGateways) case kinds.HTTPRoute, kinds.GRPCRoute: _, exists := g.Routes[routeKeyForKind(kind, refNsName)] return exists default: return false }"] ∧
    Generated.Store.gatewayExistsBody =
      ["if winner == nil { return false }",
      "if client.ObjectKeyFromObject(winner) == gwNsName { return true }",
      "_, exists := ignored[gwNsName]",
      "return exists"] ∧
    Generated.Store.processPoliciesGuards =
      ["if len(pols) == 0 || gateways.Winner == nil { return nil }",
      "if len(targetRefs) == 0 { continue }"] ∧
    Generated.Store.processPoliciesRefLoop =
      ["refNsName := types.NamespacedName{Name: string(ref.Name), Namespace: policy.GetNamespace()}",
      "switch refGroupKind(ref.Group, ref.Kind) { case gatewayGroupKind: if !gatewayExists(refNsName, gateways.Winner, gateways.Ignored) { continue } case hrGroupKind, grpcGroupKind: if route, exists := routes[routeKeyForKind(ref.Kind, refNsName)]; !exists { continue } else { targetedRoutes[client.ObjectKeyFromObject(route.Source)] = route } case serviceGroupKind: if _, exists := services[refNsName]; !exists { continue } default: continue }",
      "targetRefs = append(targetRefs, PolicyTargetRef{ Kind: ref.Kind, Group: ref.Group, Nsname: refNsName, })"] ∧
    Generated.Store.refGroupKindBody =
      ["if group == \"\" { return fmt.Sprintf(\"core/%s\", kind) }",
      "return fmt.Sprintf(\"%s/%s\", group, kind)"] :=
  ⟨rfl, rfl, rfl, rfl, rfl, rfl, rfl, rfl, rfl, rfl, rfl, rfl, rfl⟩

/-- `Graph.IsReferenced`, `buildReferencedServices` (valid routes that belong to the winning Gateway),
`isNamespaceReferenced`/`buildReferencedNamespaces` are the statements the model follows. -/
theorem footprint_functions_as_modelled :
    Generated.Store.isReferencedCases =
      ["*v1.Secret", "*v1.ConfigMap", "*v1.Namespace", "*v1.Service", "*discoveryV1.EndpointSlice", "*ngfAPI.NginxProxy", "default"] ∧
    Generated.Store.isReferencedBodies =
      ["_, exists := g.ReferencedSecrets[nsname] ; _, plusSecretExists := g.PlusSecrets[nsname] ; return exists || plusSecretExists",
       "_, exists := g.ReferencedCaCertConfigMaps[nsname] ; return exists",
       "_, existed := g.ReferencedNamespaces[nsname] ; exists := isNamespaceReferenced(obj, g.Gateway) ; return existed || exists",
       "_, exists := g.ReferencedServices[nsname] ; return exists",
       "svcName := index.GetServiceNameFromEndpointSlice(obj) ; _, exists := g.ReferencedServices[types.NamespacedName{Namespace: nsname.Namespace, Name: svcName}] ; return exists",
       "return isNginxProxyReferenced(nsname, g.GatewayClass)",
       "return false"] ∧
    Generated.Store.belongsToWinningGwBody =
      ["for _, ref := range refs { if ref.Gateway == client.ObjectKeyFromObject(gw.Source) { return true } }", "return false"] ∧
    Generated.Store.referencedServicesLoops =
      ["l7routes: if !route.Valid { continue } ; if !belongsToWinningGw(route.ParentRefs) { continue } ; addServicesForL7Routes(route.Spec.Rules)",
       "l4Routes: if !route.Valid { continue } ; if !belongsToWinningGw(route.ParentRefs) { continue } ; addServicesForL4Routes(route)"] ∧
    Generated.Store.buildReferencedNamespacesBody =
      ["referencedNamespaces := make(map[types.NamespacedName]*v1.Namespace)",
       "for name, ns := range clusterNamespaces { if isNamespaceReferenced(ns, gw) { referencedNamespaces[name] = ns } }",
       "if len(referencedNamespaces) == 0 { return nil }", "return referencedNamespaces"] ∧
    Generated.Store.isNamespaceReferencedBody =
      ["if gw == nil || ns == nil { return false }", "nsLabels := labels.Set(ns.GetLabels())",
       "for _, listener := range gw.Listeners { if listener.AllowedRouteLabelSelector == nil { continue } if listener.AllowedRouteLabelSelector.Matches(nsLabels) { return true } }",
       "return false"] :=
  ⟨rfl, rfl, rfl, rfl, rfl, rfl⟩

end NGF.Footprint
