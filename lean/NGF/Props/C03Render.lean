/-
C03, stage 2 — what the generator RENDERS for the pipeline fragment is well formed.

Subject: `NGF.Render.render (genR s order)` / `matchKeysOf (genR s order)` of Model/Render.lean — the definitions the driver
executes (mode `render`) and RenderTie compares, directive by directive, with the real http.conf / matches.json of every
in-fragment scenario on every run. `s` ranges over ALL scenarios of the fragment (`Pipeline.inFragment`), `order` over all
iteration orders of the Go map of ports. `namesSafe s` is the decidable hypothesis that excludes the two known findings of
C03 that live inside the fragment (route name with a dot; `a--b/c` vs `a/b--c`); the witnesses at the end show that the
conclusions fail without it. Helper lemmas: Proofs/Render*.lean.
-/
import NGF.Proofs.RenderWF
import NGF.Generated.RenderFacts
import NGF.Proofs.RenderTls
import NGF.Proofs.RenderTlsWF
import NGF.Props.C16Pipeline

namespace NGF.Props.C03Render
open NGF.Pipeline NGF.Render NGF.Nginx

/-! ## 0. The enriched configuration is C02's configuration with more information -/

/-- projection: forgetting positions, sources and backends of `genR s order` gives exactly `Pipeline.gen s` -/
theorem genR_projects_to_gen (s : Scenario) (order : List Nat) : (genR s order).forget = gen s :=
  forget_genR s order

/-- no Gateway of our class: nothing but the fixed part of the template is rendered -/
theorem render_no_gateway (s : Scenario) (order : List Nat) (h : winner s = none) :
    render (genR s order) = preload :: tailServers := by
  simp [genR, h, render, serverDirs, splitDirs]

/-! ## 1. Server names -/

/-- per listen port no two servers share a server_name — for EVERY scenario (no hypothesis) -/
theorem gen_server_names_distinct (s : Scenario) : ((gen s).servers.map fun sv => (sv.port, sv.name)).Nodup := by
  unfold gen
  cases hw : winner s with
  | none => simp
  | some g =>
    simp only [List.map_map, Function.comp_def, serverOf]
    have : (hostsOf g s.routes).Nodup := by unfold hostsOf; exact nodup_eraseDups _
    simpa using this

/-- the same on the rendered directives: no (listen address, server_name) pair occurs twice among ALL server blocks
(default servers and the two unix-socket servers included), and no address has two `default_server`s -/
theorem render_server_names_distinct (s : Scenario) (order : List Nat) (hf : inFragment s = true) (hs : namesSafe s = true)
    (hp : portsOK s = true) :
    ((blocksNamed "server" (render (genR s order))).flatMap srvPairs).Nodup ∧
    ((blocksNamed "server" (render (genR s order))).flatMap defaultListens).Nodup := by
  have h := goodConf_genR order hf hs hp
  rw [servers_of_render]
  exact ⟨pairs_nodup h, defaults_nodup h⟩

/-! ## 2. Locations -/

/-- per server no two locations share (modifier, path) — external locations of all path rules, the internal locations
`/_ngf-internal-rule<i>-route<j>` of all match rules and the default root location -/
theorem gen_locations_distinct (s : Scenario) (order : List Nat) (hf : inFragment s = true) :
    ∀ sv ∈ (genR s order).servers, ((blocksNamed "location" (body (renderServer sv))).map locKeyL).Nodup := by
  intro sv hsv
  rw [locs_of_renderServer]
  exact serverKeys_nodup (goodServers_genR order hf sv hsv)

/-- … and hence in C02's abstract configuration: the (exact?, path) keys of a server's locations are distinct -/
theorem gen_external_locations_distinct (s : Scenario) (hf : inFragment s = true) :
    ∀ sv ∈ (gen s).servers, (sv.locs.map fun l => (l.exact, l.path)).Nodup := by
  rw [← forget_genR s []]
  intro sv hsv
  obtain ⟨rs, hrs, rfl⟩ := List.mem_map.mp hsv
  have hg := goodServers_genR [] hf rs hrs
  simp only [RServer.forget, List.map_append, List.map_flatMap, List.map_map, Function.comp_def]
  rw [List.nodup_append]
  refine ⟨?_, ?_, ?_⟩
  · have := hg.ext_nodup
    simpa using this
  · by_cases hr : rs.root404 = true <;> simp [hr]
  · intro x hx y hy e
    by_cases hr : rs.root404 = true
    · simp only [hr, ↓reduceIte, List.map_cons, List.map_nil, List.mem_singleton] at hy
      subst hy; subst e
      obtain ⟨r, hr', hx⟩ := List.mem_flatMap.mp hx
      simp only [List.map_id'] at hx
      exact hg.root_free hr r hr' (by simpa using hx)
    · simp [hr] at hy

/-! ## 3. References -/

/-- every reference made by the rendered configuration is defined, exactly once:
(1) a variable in a `proxy_pass` argument, as NGINX scans it, is built in or defined by exactly one `split_clients` block
    (and there is no malformed reference);
(2) the value of every `set $match_key` is the key of exactly one entry of the emitted matches map, and
(3) every redirect path of that entry is an `internal` location of the same server. -/
theorem render_refs_defined (s : Scenario) (order : List Nat) (hf : inFragment s = true) (hs : namesSafe s = true)
    (hp : portsOK s = true) :
    let c := genR s order
    let splitVars := (blocksNamed "split_clients" (render c)).map splitVar
    ∀ sv ∈ c.servers, ∀ l ∈ blocksNamed "location" (body (renderServer sv)),
      (∀ pp ∈ named "proxy_pass" (body l), ∀ ref ∈ NGF.WF.scriptVars (arg0 pp),
        ∃ n, ref = .name n ∧ (n.toList ∈ builtinL ∨ splitVars.count n.toList = 1)) ∧
      (∀ k ∈ (body l).filterMap keyOfDir,
        ((matchKeysOf c).map (·.1)).count k = 1 ∧
        ∃ paths, (k, paths) ∈ matchKeysOf c ∧
          ∀ p ∈ paths, ("P".toList, p) ∈ ((blocksNamed "location" (body (renderServer sv))).filter isInternal).map locKeyL) := by
  intro c splitVars sv hsv l hl
  have h : GoodConf c := goodConf_genR order hf hs hp
  have hsv' : splitVars = (splitDirs c).map splitVar := by simp only [splitVars, splits_of_render]
  rw [locs_of_renderServer] at hl ⊢
  refine ⟨?_, ?_⟩
  · intro pp hpp ref href
    have hnil := passIssues_server h hsv hl
    rw [List.flatMap_eq_nil_iff] at hnil
    have hpi := hnil pp hpp
    unfold passIssues at hpi
    rw [List.flatMap_eq_nil_iff] at hpi
    have hr := hpi ref href
    cases ref with
    | err why => simp [refIssue] at hr
    | name n =>
      refine ⟨n, rfl, ?_⟩
      simp only [refIssue] at hr
      split at hr
      · rename_i hc
        rw [Bool.or_eq_true] at hc
        rcases hc with hc | hc
        · right
          rw [hsv', (splitVars_nodup h).count, if_pos (List.contains_iff_mem.mp hc)]
        · exact Or.inl (List.contains_iff_mem.mp hc)
      · cases hr
  · intro k hk
    have hku : k ∈ keysUsed (serverLocs sv) := List.mem_flatMap.mpr ⟨l, hl, hk⟩
    obtain ⟨r, hr, ms, hact, hext, rfl⟩ := mem_keysUsed hku
    have hmem := mem_matchKeysOf hsv hr hact hext
    refine ⟨?_, _, hmem, ?_⟩
    · rw [(matchKeys_nodup h).count]
      have : matchKey sv.sid r.idx ∈ (matchKeysOf c).map (·.1) := List.mem_map.mpr ⟨_, hmem, rfl⟩
      simp [this]
    · intro p hp
      obtain ⟨jm, hjm, rfl⟩ := List.mem_map.mp hp
      exact internal_mem hr hact hjm

/-! ## 4. Percentages -/

/-- every `split_clients` block of the rendered configuration: each entry is `<percentage> <one value>;`, the percentage
is printed as `d+.dd%` of a positive number of hundredths (or is the literal `100%` of the all-weights-zero case), NGINX
(`ngx_atofp(…, 2)`) reads it as that positive number, and the shares of a block sum to exactly 100.00 — for EVERY scenario.
(On top of C15's `intCents_main` and `atofp2_chars`.) -/
theorem render_percentages_valid (s : Scenario) (order : List Nat) :
    ∀ sc ∈ blocksNamed "split_clients" (render (genR s order)),
      (∀ e ∈ body sc,
        (e.name = "100%".toList ∨ ∃ c, 0 < c ∧ e.name = pctName c) ∧
        (∃ c, pctOf e.name = some c ∧ 0 < c) ∧ e.args.length = 1 ∧ e.block = none) ∧
      ((body sc).map fun e => (pctOf e.name).getD 0).sum = 10000 := by
  intro sc hsc
  rw [splits_of_render] at hsc
  obtain ⟨g, _, rfl⟩ := List.mem_map.mp hsc
  obtain ⟨hok, hsum⟩ := splitEntries_valid g.2
  simp only [splitBlock, body_blk]
  exact ⟨fun e he => ⟨splitEntries_shape g.2 e he, hok e he⟩, hsum⟩

/-! ## 5. Well-formedness -/

/-- MAIN THEOREM: on what the generator renders for a scenario of the fragment with safe names and TCP listener ports,
the structural judge `wfDirs` (the clauses of Spec/WellFormedConf about duplicate (listen, server_name) pairs,
default_server, duplicate locations, `$match_key` keys and internal redirect targets, split_clients variable names,
duplicate definitions and percentages, the variables of `proxy_pass`, and the address and parameters of every `listen`)
finds NO issue. The same `wfDirs` is run on every real http.conf next to the big judge (evidence: `wfDirs_vs_big_judge_*`). -/
theorem render_wellformed_fragment (s : Scenario) (order : List Nat) (hf : inFragment s = true) (hs : namesSafe s = true)
    (hp : portsOK s = true) : wfDirs (render (genR s order)) (matchKeysOf (genR s order)) = [] :=
  wf_of_good (goodConf_genR order hf hs hp)

/-- every `listen` of every rendered server block has an address NGINX accepts (`port` / `[::]:port` with a port in
1..65535, or `unix:path`) and known parameters -/
theorem render_listen_valid (s : Scenario) (order : List Nat) (hf : inFragment s = true) (hs : namesSafe s = true)
    (hp : portsOK s = true) :
    ∀ sv ∈ blocksNamed "server" (render (genR s order)), ∀ l ∈ named "listen" (body sv),
      NGF.WF.listenWhy (l.args.map (·.1)) = none := by
  intro sv hsv l hl
  have h := listenIssues_servers (goodConf_genR order hf hs hp)
  rw [← servers_of_render, List.flatMap_eq_nil_iff] at h
  have := List.flatMap_eq_nil_iff.mp (h sv hsv) l hl
  unfold listenIssue at this
  cases hw : NGF.WF.listenWhy (l.args.map (·.1)) with
  | none => rfl
  | some why => rw [hw] at this; simp at this

/-! ## 6. Non-vacuity, and the hypotheses are needed -/

section examples

def S (x : String) : Str := x.toList

/-- two listeners on two ports, a route with a weighted rule carrying a conditional match, and a redirect rule -/
def sOK : Scenario :=
  ⟨S "nginx", S "ctl", [⟨S "nginx", S "ctl"⟩],
    [⟨S "default", S "gw", S "nginx", 1, [⟨S "l0", 80, [], true⟩, ⟨S "l1", 8080, S "cafe.example.com", true⟩]⟩],
    [⟨S "team-a", S "hr0", 2, [⟨S "default", S "gw", none⟩], [S "cafe.example.com"],
      [⟨[⟨false, S "/coffee", [], [], []⟩, ⟨false, S "/coffee", S "GET", [], []⟩],
          .forward [⟨S "team-a_svc0_80", 1, true⟩, ⟨S "team-a_svc1_80", 2, true⟩]⟩,
       ⟨[⟨true, S "/tea", [], [], []⟩], .redirect 301 (some (S "https")) none none⟩], true⟩]⟩

/-- the same with a route name that contains a dot (C03:variable-name-with-dot) -/
def sDot : Scenario :=
  { sOK with routes := sOK.routes.map fun r => { r with name := S "my.route" } }

/-- two routes `a--b/c` and `a/b--c` with weighted backends (C03:mangle-collision-double-hyphen) -/
def sCollide : Scenario :=
  { sOK with routes := [
      ⟨S "a--b", S "c", 2, [⟨S "default", S "gw", none⟩], [S "cafe.example.com"],
        [⟨[⟨false, S "/one", [], [], []⟩], .forward [⟨S "x_svc0_80", 1, true⟩, ⟨S "x_svc1_80", 1, true⟩]⟩], true⟩,
      ⟨S "a", S "b--c", 3, [⟨S "default", S "gw", none⟩], [S "cafe.example.com"],
        [⟨[⟨false, S "/two", [], [], []⟩], .forward [⟨S "y_svc0_80", 1, true⟩, ⟨S "y_svc1_80", 3, true⟩]⟩], true⟩] }

-- the hypotheses of the theorems are satisfiable by a non-trivial scenario …
#guard inFragment sOK && namesSafe sOK && portsOK sOK
#guard (render (genR sOK [8080, 80])).length == 8 && (matchKeysOf (genR sOK [8080, 80])).length == 2
#guard (wfDirs (render (genR sOK [8080, 80])) (matchKeysOf (genR sOK [8080, 80]))).isEmpty
-- … and each known finding is inside the fragment, violates `namesSafe`, and makes the judge fail
#guard inFragment sDot && !namesSafe sDot
#guard (wfDirs (render (genR sDot [])) (matchKeysOf (genR sDot []))).map (·.clause) ==
  ["variable-name-not-lexable", "unknown-variable", "unknown-variable", "unknown-variable", "unknown-variable"]
#guard inFragment sCollide && !namesSafe sCollide
#guard (wfDirs (render (genR sCollide [])) (matchKeysOf (genR sCollide []))).map (·.clause) == ["duplicate-variable-definition"]

/-- a listener port outside 1..65535 (not admitted by the CRD) -/
def sPort : Scenario :=
  { sOK with gateways := sOK.gateways.map fun g => { g with listeners := g.listeners.map fun l => { l with port := l.port + 70000 } } }
#guard inFragment sPort && namesSafe sPort && !portsOK sPort
#guard ((wfDirs (render (genR sPort [])) (matchKeysOf (genR sPort []))).map (·.clause)).eraseDups == ["bad-listen"]

end examples

def twoBackends : List Backend := [⟨"ns_svc0_80".toList, 1, true⟩, ⟨"ns_svc1_80".toList, 1, true⟩]

/-- WITNESS (C03:variable-name-with-dot): for a route named `my.route` the rendered `split_clients` block and the
`proxy_pass` that refers to it are NOT well formed — the variable name is not lexable and NGINX reads the reference as the
undefined `$group_ns__my`. `namesSafe` (no dot in route names) cannot be dropped from `render_wellformed_fragment`. -/
theorem render_wellformed_false_dot :
    let src : Src := ⟨"ns".toList, "my.route".toList, 0⟩
    wfDirs [blk "server" [] [blk "location" [wl "/".toList] (actDirs (.proxy src twoBackends))], splitBlock (src, twoBackends)] [] =
      [⟨"variable-name-not-lexable", "split_clients $group_ns__my.route_rule0"⟩,
       ⟨"unknown-variable", "proxy_pass http://$group_ns__my.route_rule0$request_uri: unknown \"group_ns__my\" variable"⟩] ∧
    ("my.route".toList.all nameChar) = false := by
  decide +kernel

/-- WITNESS (C03:mangle-collision-double-hyphen): the BackendGroups of `a--b/c` and `a/b--c` render two `split_clients`
blocks that define the SAME variable. `namesSafe` (no `--` in the namespace) cannot be dropped. -/
theorem render_wellformed_false_collision :
    wfDirs [splitBlock (⟨"a--b".toList, "c".toList, 0⟩, twoBackends), splitBlock (⟨"a".toList, "b--c".toList, 0⟩, twoBackends)] [] =
      [⟨"duplicate-variable-definition", "http $group_a__b__c_rule0"⟩] ∧
    noDoubleHyphen "a--b".toList = false := by
  decide +kernel

/-! ## 7. Facts regenerated from the source (translator/gen_render.go): the literals the model uses, and the statements of the
Go functions and the template lines that `render` / `genR` mirror. A change of any of them breaks these obligations even if no
generated scenario exercises it; the behavioural tie is RenderTie on every run. -/

open NGF.Generated in
/-- the model's literals are the ones in the source -/
theorem render_uses_source_literals :
    (baseHeaders.map fun h => h.1 ++ ": " ++ h.2) =
      RenderFacts.baseProxySetHeaders ++ RenderFacts.upgradeHeader ++ RenderFacts.connectionHeader ∧
    Pipeline.invalidBackendRef = RenderFacts.invalidBackendRef.toList ∧
    (tailServers.map fun d => ((body d).map arg0).headD []) =
      [RenderFacts.nginx503Server.toList, RenderFacts.nginx500Server.toList] ∧
    -- `sort.Slice` of the path rules compares PathType as a string: "exact" sorts before "prefix" (`ruleLt`)
    decide (RenderFacts.pathTypeExact < RenderFacts.pathTypePrefix) = true := by
  have hsock (sock code : String) : ((body (unixServer sock code)).map arg0).headD [] = sock.toList := rfl
  refine ⟨by decide +kernel, rfl, ?_, by decide +kernel⟩
  unfold tailServers RenderFacts.nginx503Server RenderFacts.nginx500Server
  rw [List.map_cons, List.map_cons, List.map_nil, hsock, hsock]

open NGF.Generated in
/-- the functions mirrored by `genR` / `render` read as they did when the model was written -/
theorem render_source_pins :
    RenderFacts.matchKeyExpr =
      ["serverID + \"_\" + strconv.Itoa(pathRuleIdx)"] ∧
    RenderFacts.serverIDExprs =
      ["fmt.Sprintf(\"%d\", idx)",
       "fmt.Sprintf(\"SSL_%d\", idx)"] ∧
    RenderFacts.createProxyPassBody =
      ["var requestURI string",
       "if !grpc { if filter == nil || filter.Path == nil { requestURI = \"$request_uri\" } }",
       "backendName := backendGroupName(backendGroup)",
       "if backendGroupNeedsSplit(backendGroup) { return protocol + \"://$\" + convertStringToSafeVariableName(backendName) + requestURI }",
       "return protocol + \"://\" + backendName + requestURI"] ∧
    RenderFacts.backendGroupNameBody =
      ["switch len(group.Backends) { case 0: return invalidBackendRef case 1: b := group.Backends[0] if b.Weight == 0 || !b.Valid { return invalidBackendRef } return b.UpstreamName default: return group.Name() }"] ∧
    RenderFacts.backendGroupNeedsSplitBody =
      ["return len(group.Backends) > 1"] ∧
    RenderFacts.needsInternalLocationsBody =
      ["if len(rule.MatchRules) > 1 { return true }",
       "return len(rule.MatchRules) == 1 && !isPathOnlyMatch(rule.MatchRules[0].Match)"] ∧
    RenderFacts.createDefaultRootLocationBody =
      ["return http.Location{ Path: \"/\", Return: &http.Return{Code: http.StatusNotFound}, }"] ∧
    RenderFacts.createMatchLocationBody =
      ["var rewrites []string",
       "if grpc { rewrites = []string{\"^ $request_uri break\"} }",
       "loc := http.Location{ Path: path, Rewrites: rewrites, Type: http.InternalLocationType, }",
       "return loc"] ∧
    RenderFacts.getIPFamilyBody =
      ["switch baseHTTPConfig.IPFamily { case dataplane.IPv4: return shared.IPFamily{IPv4: true} case dataplane.IPv6: return shared.IPFamily{IPv6: true} }",
       "return shared.IPFamily{IPv4: true, IPv6: true}"] ∧
    RenderFacts.buildServersSorts =
      ["if s.PathRules[i].Path != s.PathRules[j].Path { return s.PathRules[i].Path < s.PathRules[j].Path } ; return s.PathRules[i].PathType < s.PathRules[j].PathType",
       "return servers[i].Hostname < servers[j].Hostname"] ∧
    RenderFacts.newBackendGroupArgs =
      ["rule.BackendRefs",
       "routeNsName",
       "i"] ∧
    RenderFacts.redirectFilterBody =
      ["if filter == nil { return nil, nil }",
       "hostname := \"$host\"",
       "if filter.Hostname != nil { hostname = *filter.Hostname }",
       "code := http.StatusFound",
       "if filter.StatusCode != nil { code = http.StatusCode(*filter.StatusCode) }",
       "port := listenerPort",
       "if filter.Port != nil { port = *filter.Port }",
       "hostnamePort := fmt.Sprintf(\"%s:%d\", hostname, port)",
       "scheme := \"$scheme\"",
       "if filter.Scheme != nil { scheme = *filter.Scheme if (port == 80 && scheme == \"http\") || (port == 443 && scheme == \"https\") { hostnamePort = hostname } if filter.Port == nil { if scheme == \"http\" || scheme == \"https\" { hostnamePort = hostname } } }",
       "body := fmt.Sprintf(\"%s://%s$request_uri\", scheme, hostnamePort)",
       "rewrites := &rewriteConfig{}",
       "if filter.Path != nil { rewrites.MainRewrite = createMainRewriteForFilters(filter.Path, path) body = fmt.Sprintf(\"%s://%s$uri$is_args$args\", scheme, hostnamePort) }",
       "return &http.Return{ Code: code, Body: body, }, rewrites"] ∧
    RenderFacts.buildBackendGroupsBody =
      ["type key struct { nsname types.NamespacedName ruleIdx int }",
       "uniqueGroups := make(map[key]BackendGroup)",
       "for _, s := range servers { for _, pr := range s.PathRules { for _, mr := range pr.MatchRules { group := mr.BackendGroup k := key{ nsname: group.Source, ruleIdx: group.RuleIdx, } uniqueGroups[k] = group } } }",
       "numGroups := len(uniqueGroups)",
       "if len(uniqueGroups) == 0 { return nil }",
       "groups := make([]BackendGroup, 0, numGroups)",
       "for _, group := range uniqueGroups { groups = append(groups, group) }",
       "return groups"] ∧
    RenderFacts.createSplitClientsBody =
      ["numSplits := 0",
       "for _, group := range backendGroups { if backendGroupNeedsSplit(group) { numSplits++ } }",
       "if numSplits == 0 { return nil }",
       "splitClients := make([]http.SplitClient, 0, numSplits)",
       "for _, group := range backendGroups { distributions := createSplitClientDistributions(group) if distributions == nil { continue } splitClients = append(splitClients, http.SplitClient{ VariableName: convertStringToSafeVariableName(group.Name()), Distributions: distributions, }) }",
       "return splitClients"] :=
  ⟨rfl, rfl, rfl, rfl, rfl, rfl, rfl, rfl, rfl, rfl, rfl, rfl, rfl, rfl⟩

open NGF.Generated in
/-- the two templates, line by line (whitespace-normalised) -/
theorem render_templates_pinned :
    RenderFacts.splitClientsTemplate =
      ["{{ range $sc := . }}",
       "split_clients $request_id ${{ $sc.VariableName }} {",
       "{{- range $d := $sc.Distributions }}",
       "{{- if eq $d.Percent \"0.00\" }}",
       "# {{ $d.Percent }}% {{ $d.Value }};",
       "{{- else }}",
       "{{ $d.Percent }}% {{ $d.Value }};",
       "{{- end }}",
       "{{- end }}",
       "}",
       "{{ end }}"] ∧
    RenderFacts.serversTemplate =
      ["js_preload_object matches from /etc/nginx/conf.d/matches.json;",
       "{{- range $s := .Servers -}}",
       "{{ if $s.IsDefaultSSL -}}",
       "server {",
       "{{- if or ($.IPFamily.IPv4) ($s.IsSocket) }}",
       "listen {{ $s.Listen }} ssl default_server{{ $.RewriteClientIP.ProxyProtocol }};",
       "{{- end }}",
       "{{- if and ($.IPFamily.IPv6) (not $s.IsSocket) }}",
       "listen [::]:{{ $s.Listen }} ssl default_server{{ $.RewriteClientIP.ProxyProtocol }};",
       "{{- end }}",
       "ssl_reject_handshake on;",
       "{{- range $address := $.RewriteClientIP.RealIPFrom }}",
       "set_real_ip_from {{ $address }};",
       "{{- end}}",
       "{{- if $.RewriteClientIP.RealIPHeader}}",
       "real_ip_header {{ $.RewriteClientIP.RealIPHeader }};",
       "{{- end}}",
       "{{- if $.RewriteClientIP.Recursive}}",
       "real_ip_recursive on;",
       "{{- end }}",
       "}",
       "{{- else if $s.IsDefaultHTTP }}",
       "server {",
       "{{- if $.IPFamily.IPv4 }}",
       "listen {{ $s.Listen }} default_server{{ $.RewriteClientIP.ProxyProtocol }};",
       "{{- end }}",
       "{{- if $.IPFamily.IPv6 }}",
       "listen [::]:{{ $s.Listen }} default_server{{ $.RewriteClientIP.ProxyProtocol }};",
       "{{- end }}",
       "{{- range $address := $.RewriteClientIP.RealIPFrom }}",
       "set_real_ip_from {{ $address }};",
       "{{- end}}",
       "{{- if $.RewriteClientIP.RealIPHeader}}",
       "real_ip_header {{ $.RewriteClientIP.RealIPHeader }};",
       "{{- end}}",
       "{{- if $.RewriteClientIP.Recursive}}",
       "real_ip_recursive on;",
       "{{- end }}",
       "default_type text/html;",
       "return 404;",
       "}",
       "{{- else }}",
       "server {",
       "{{- if $s.SSL }}",
       "{{- if or ($.IPFamily.IPv4) ($s.IsSocket) }}",
       "listen {{ $s.Listen }} ssl{{ $.RewriteClientIP.ProxyProtocol }};",
       "{{- end }}",
       "{{- if and ($.IPFamily.IPv6) (not $s.IsSocket) }}",
       "listen [::]:{{ $s.Listen }} ssl{{ $.RewriteClientIP.ProxyProtocol }};",
       "{{- end }}",
       "ssl_certificate {{ $s.SSL.Certificate }};",
       "ssl_certificate_key {{ $s.SSL.CertificateKey }};",
       "if ($ssl_server_name != $host) {",
       "return 421;",
       "}",
       "{{- else }}",
       "{{- if $.IPFamily.IPv4 }}",
       "listen {{ $s.Listen }}{{ $.RewriteClientIP.ProxyProtocol }};",
       "{{- end }}",
       "{{- if $.IPFamily.IPv6 }}",
       "listen [::]:{{ $s.Listen }}{{ $.RewriteClientIP.ProxyProtocol }};",
       "{{- end }}",
       "{{- end }}",
       "server_name {{ $s.ServerName }};",
       "{{- if $.Plus }}",
       "status_zone {{ $s.ServerName }};",
       "{{- end }}",
       "{{- range $i := $s.Includes }}",
       "include {{ $i.Name }};",
       "{{- end }}",
       "{{- range $address := $.RewriteClientIP.RealIPFrom }}",
       "set_real_ip_from {{ $address }};",
       "{{- end}}",
       "{{- if $.RewriteClientIP.RealIPHeader}}",
       "real_ip_header {{ $.RewriteClientIP.RealIPHeader }};",
       "{{- end}}",
       "{{- if $.RewriteClientIP.Recursive}}",
       "real_ip_recursive on;",
       "{{- end }}",
       "{{ range $l := $s.Locations }}",
       "location {{ $l.Path }} {",
       "{{ if eq $l.Type \"internal\" -}}",
       "internal;",
       "{{ end }}",
       "{{- range $i := $l.Includes }}",
       "include {{ $i.Name }};",
       "{{- end -}}",
       "{{ range $r := $l.Rewrites }}",
       "rewrite {{ $r }};",
       "{{- end }}",
       "{{- if $l.Return }}",
       "return {{ $l.Return.Code }} \"{{ $l.Return.Body }}\";",
       "{{- end }}",
       "{{- if eq $l.Type \"redirect\" }}",
       "set $match_key {{ $l.HTTPMatchKey }};",
       "js_content httpmatches.redirect;",
       "{{- end }}",
       "{{ $proxyOrGRPC := \"proxy\" }}{{ if $l.GRPC }}{{ $proxyOrGRPC = \"grpc\" }}{{ end }}",
       "{{- if $l.GRPC }}",
       "include /etc/nginx/grpc-error-pages.conf;",
       "{{- end }}",
       "proxy_http_version 1.1;",
       "{{- if $l.ProxyPass -}}",
       "{{ range $h := $l.ProxySetHeaders }}",
       "{{ $proxyOrGRPC }}_set_header {{ $h.Name }} \"{{ $h.Value }}\";",
       "{{- end }}",
       "{{ $proxyOrGRPC }}_pass {{ $l.ProxyPass }};",
       "{{ range $h := $l.ResponseHeaders.Add }}",
       "add_header {{ $h.Name }} \"{{ $h.Value }}\" always;",
       "{{- end }}",
       "{{ range $h := $l.ResponseHeaders.Set }}",
       "proxy_hide_header {{ $h.Name }};",
       "add_header {{ $h.Name }} \"{{ $h.Value }}\" always;",
       "{{- end }}",
       "{{ range $h := $l.ResponseHeaders.Remove }}",
       "proxy_hide_header {{ $h }};",
       "{{- end }}",
       "{{- if $l.ProxySSLVerify }}",
       "{{ $proxyOrGRPC }}_ssl_server_name on;",
       "{{ $proxyOrGRPC }}_ssl_verify on;",
       "{{ $proxyOrGRPC }}_ssl_name {{ $l.ProxySSLVerify.Name }};",
       "{{ $proxyOrGRPC }}_ssl_trusted_certificate {{ $l.ProxySSLVerify.TrustedCertificate }};",
       "{{- end }}",
       "{{- end }}",
       "}",
       "{{- end }}",
       "{{- if $s.GRPC }}",
       "include /etc/nginx/grpc-error-locations.conf;",
       "{{- end }}",
       "}",
       "{{- end }}",
       "{{ end }}",
       "server {",
       "listen unix:/var/run/nginx/nginx-503-server.sock;",
       "access_log off;",
       "return 503;",
       "}",
       "server {",
       "listen unix:/var/run/nginx/nginx-500-server.sock;",
       "access_log off;",
       "return 500;",
       "}"] :=
  ⟨rfl, rfl⟩

/-- WITNESS: `portsOK` cannot be dropped (port 70080), and the listen clause rejects the address of the seeded change
C03-r3m3 (`[::]:` in front of a unix socket) while it accepts what the templates print for sockets and ports -/
theorem render_listen_witnesses :
    wfDirs [renderDefault 70080] [] =
      [⟨"bad-listen", "listen 70080 default_server: invalid address or port in \"70080\""⟩,
       ⟨"bad-listen", "listen [::]:70080 default_server: invalid address or port in \"[::]:70080\""⟩] ∧
    NGF.WF.listenWhy ["[::]:unix:/var/run/nginx/https443.sock".toList, "ssl".toList, "default_server".toList] =
      some "invalid address or port in \"[::]:unix:/var/run/nginx/https443.sock\"" ∧
    NGF.WF.listenWhy ["unix:/var/run/nginx/https443.sock".toList, "ssl".toList, "default_server".toList, "proxy_protocol".toList] = none ∧
    NGF.WF.listenWhy ["[::]:443".toList, "ssl".toList] = none := by
  decide_chars

/-! ## 8. SSL servers (Model/RenderTls: `renderT (genTR s order orderS)`, on top of C16's `PipelineTls.genT`) -/

section ssl
open NGF.PipelineTls NGF.RenderTls

/-- projection: the enriched SSL configuration is C16's `genT s` with more information (for all port orders) -/
theorem genTR_projects_to_genT (s : ScenarioT) (order orderS : List Nat) : (genTR s order orderS).forget = genT s :=
  forget_genTR s order orderS

/-- every certificate file that the rendered configuration references is defined by the same file set: each argument of
an `ssl_certificate` / `ssl_certificate_key` directive of `renderT (genTR s …)` is `secrets/<id>.pem` of a key pair that
`genT s` emits (C16's `ssl_server_cert_any_ns` gives the key pair) — for EVERY TLS scenario, no hypothesis -/
theorem ssl_cert_files_defined (s : ScenarioT) (order orderS : List Nat) :
    ∀ r ∈ certRefs (renderT (genTR s order orderS)), r ∈ certFiles (genTR s order orderS) := by
  intro r hr
  obtain ⟨sv, hsv, id, hk, rfl⟩ := certRefs_renderT _ hr
  have hf := forget_genTR s order orderS
  have hmem : (sv.forget.1, some id) ∈ (genT s).ssl := by
    rw [← hf]
    exact List.mem_map.mpr ⟨sv, hsv, by simp [SslR.forget, hk]⟩
  obtain ⟨_, _, _, _, _, _, _, _, c, _, _, hid, _, k, hkm, hkid, _⟩ := NGF.PipelineTls.ssl_server_cert_any_ns s _ _ hmem
  have hkp : (genTR s order orderS).keyPairs = (genT s).keyPairs := by rw [← hf]; rfl
  unfold certFiles
  rw [hkp]
  refine List.mem_map.mpr ⟨k, hkm, ?_⟩
  rw [hkid]
  simp only [Option.some.injEq] at hid
  rw [hid]

/-- no (listen address, server_name) pair occurs twice among the SSL server blocks, the SSL default servers included —
under `noDupSsl`, the explicit hypothesis that excludes the registered finding C03:duplicate-ssl-server-from-listener-404
(on no port two SSL servers — route servers and the 404 servers of listeners — have the same name; witness `sDupSsl` below) -/
theorem ssl_listen_server_name_distinct (s : ScenarioT) (order orderS : List Nat) (hf : inFragment (httpsPart s) = true)
    (hd : noDupSsl (genTR s order orderS) = true) :
    ((sslDirs (genTR s order orderS)).flatMap srvPairs).Nodup :=
  sslPairs_nodup (goodSslNames_genTR order orderS hf hd)

/-- clause `duplicate-listen-server-name` for the WHOLE of `renderT`: among all server blocks — HTTP servers, SSL servers,
default servers of both kinds, the two unix-socket servers — no (listen address, server_name) pair occurs twice. Uses that
an HTTP and an HTTPS listener never serve one port (`PipelineTls.conflicted`: `ports_disjoint`). -/
theorem renderT_listen_server_name_distinct (s : ScenarioT) (order orderS : List Nat)
    (hfH : inFragment (httpPart s) = true) (hsH : namesSafe (httpPart s) = true) (hpH : portsOK (httpPart s) = true)
    (hfS : inFragment (httpsPart s) = true) (hd : noDupSsl (genTR s order orderS) = true) :
    ((blocksNamed "server" (renderT (genTR s order orderS))).flatMap srvPairs).Nodup :=
  renderT_pairs_nodup order orderS (goodConf_genR order hfH hsH hpH) (goodSslNames_genTR order orderS hfS hd)

/-- `_partial` of `renderT_wellformed`, SSL half: every SSL server block of `renderT (genTR s …)` has pairwise distinct
location keys (external, internal, default root — clause `duplicate-location`) and only `listen` directives that NGINX
accepts (`<p> ssl`, `[::]:<p> ssl`, clause `bad-listen`); so have the SSL default servers (`… ssl default_server`) -/
theorem renderT_ssl_servers_wellformed_partial (s : ScenarioT) (order orderS : List Nat) (hf : inFragment (httpsPart s) = true)
    (hp : ∀ sv ∈ (genTR s order orderS).ssl, 1 ≤ sv.port ∧ sv.port ≤ 65535)
    (hp' : ∀ d ∈ (genTR s order orderS).sslDefaults, 1 ≤ d.1 ∧ d.1 ≤ 65535) :
    (∀ sv ∈ (genTR s order orderS).ssl,
      ((blocksNamed "location" (body (renderSsl sv))).map locKeyL).Nodup ∧
      (named "listen" (body (renderSsl sv))).flatMap listenIssue = []) ∧
    (∀ d ∈ (genTR s order orderS).sslDefaults, (named "listen" (body (renderSslDefault d.1))).flatMap listenIssue = []) := by
  refine ⟨fun sv hsv => ⟨?_, ?_⟩, fun d hd => ?_⟩
  · rw [locs_of_renderSsl]
    exact sslKeys_nodup (goodSslServers_genTR order orderS hf sv hsv)
  · exact listenIssues_renderSsl sv (hp sv hsv).1 (hp sv hsv).2
  · exact listenIssues_sslDefault d.1 (hp' d hd).1 (hp' d hd).2

/-
NOT PROVED (statement kept; executed on every scenario of the TLS render tie, evidence `render_tls_tie`):

  theorem renderT_wellformed (s : ScenarioT) (order orderS : List Nat) (hf : inFragmentT s = true)
      (hs : namesSafe (allPart s) = true) (hp : portsOKT s = true) (hd : noDupSsl (genTR s order orderS) = true) :
      wfDirs (renderT (genTR s order orderS)) (matchKeysOfT (genTR s order orderS)) = []

  Proved pieces: the HTTP half alone (`renderT_wellformed_partial`), and of the SSL half the clauses
  duplicate-listen-server-name (`ssl_listen_server_name_distinct`; for ALL servers of renderT:
  `renderT_listen_server_name_distinct`), duplicate-location and bad-listen
  (`renderT_ssl_servers_wellformed_partial`), certificate files (`ssl_cert_files_defined`).
  Missing: (a) the clauses with cross references for the SSL half — `keyIssues` with the keys `SSL_<i>_<j>` (needs
  `sidT` injective = `sidOf_inj` on the SSL names under `noDupSsl`, disjointness from the HTTP keys by the prefix, and the
  generalisation of `keyIssues_server` to a key map that CONTAINS the server's entries) and `passIssues` (generalisation
  of `passIssues_good` to the split variables of `dedupKey (cH.groups ++ cS.groups)`, which needs `src_determines_action`
  across the two projections); (b) of the cross-half facts (an HTTP and an HTTPS listener never share a port: `ports_disjoint`, proved) the
  consequence for the `default_server` addresses (the one for (listen, server_name) pairs is proved);
  (c) the assembly as in `wf_of_good`.
-/

/-- `_partial` of `renderT_wellformed`: the plain-HTTP half of `renderT` is `render (genR (httpPart s) order)` — the servers C16
proves unaffected by TLS objects — and the structural judge finds nothing in it -/
theorem renderT_wellformed_partial (s : ScenarioT) (order orderS : List Nat) (hf : inFragment (httpPart s) = true)
    (hs : namesSafe (httpPart s) = true) (hp : portsOK (httpPart s) = true) :
    (genTR s order orderS).http = genR (httpPart s) order ∧
    wfDirs (render (genTR s order orderS).http) (matchKeysOf (genTR s order orderS).http) = [] := by
  have e := genTR_http s order orderS
  exact ⟨e, e ▸ render_wellformed_fragment (httpPart s) order hf hs hp⟩

def secretOK : Tls.SecretObj := ⟨S "default", S "tls", true, true, S "CERT", S "KEY"⟩

/-- one HTTPS listener `cafe.example.com` with a resolvable Secret, one route -/
def sSsl : ScenarioT :=
  ⟨S "nginx", S "ctl", [⟨S "nginx", S "ctl"⟩],
    [⟨S "default", S "gw", S "nginx", 1, [⟨⟨S "https", 443, S "cafe.example.com", true⟩, true, some (S "default", S "tls")⟩,
                                          ⟨⟨S "http", 80, [], true⟩, false, none⟩]⟩],
    sOK.routes, [secretOK], []⟩

/-- the registered finding C03:duplicate-ssl-server-from-listener-404: an HTTPS listener WITHOUT hostname and a route
without hostnames: the route's server and the listener's 404 server are both `listen 443 ssl; server_name ~^;` -/
def sDupSsl : ScenarioT :=
  { sSsl with
    gateways := [⟨S "default", S "gw", S "nginx", 1, [⟨⟨S "https", 443, [], true⟩, true, some (S "default", S "tls")⟩]⟩],
    routes := sOK.routes.map fun r => { r with hostnames := [] } }

#guard inFragmentT sSsl && namesSafe (allPart sSsl) && portsOKT sSsl && noDupSsl (genTR sSsl [] [])
#guard (certRefs (renderT (genTR sSsl [80] [443]))).length == 2 && (certFiles (genTR sSsl [80] [443])).length == 1
#guard (wfDirs (renderT (genTR sSsl [80] [443])) (matchKeysOfT (genTR sSsl [80] [443]))).isEmpty
#guard inFragmentT sDupSsl && !noDupSsl (genTR sDupSsl [] [])
#guard ((wfDirs (renderT (genTR sDupSsl [] [])) (matchKeysOfT (genTR sDupSsl [] []))).map (·.clause)).eraseDups ==
  ["duplicate-listen-server-name"]

end ssl

end NGF.Props.C03Render
