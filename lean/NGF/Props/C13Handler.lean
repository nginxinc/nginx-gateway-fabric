/-
C13 — the event handler's application paths UNDER FAULTS (`NGF.Model.ResolverFaults`: `stepH`, `runH`, `traceH`
are the functions the driver runs on the `faults` stream and the correspondence compares with the real
`HandleEventBatch`; `inSync`/`outOfSyncHttp`/`outOfSyncStream` are what the judge evaluates on the REAL views).

Quantification: ALL handler states reached by ALL sequences of batches (change kind × configuration × fault
script: ReplaceFiles error, Reload error, GetUpstreams error, per-upstream API update errors), OSS and Plus.
Helper lemmas: `NGF.Proofs.ResolverFaults`.
-/
import NGF.Proofs.ResolverFaults
import NGF.Generated.ResolverFacts

namespace NGF.Resolver

/-! ## 1. One batch -/

/-- OSS: a batch either fails as a whole (ReplaceFiles / Reload error: NGINX keeps what it held, the error is
recorded) or NGINX holds exactly the servers of the files generated from the batch's configuration; in both
cases the handler remembers the batch's configuration as `latestConfiguration`. -/
theorem oss_batch_spec (s : HState) (o : HOp) :
    stepH false s o =
      if o.faults.noReload then (⟨s.ngx, some o.conf, true⟩, true)
      else (⟨{ s.ngx with api := loadOss o.conf }, some o.conf, false⟩, false) := by
  simp only [stepH, applyOp_oss]
  cases o.faults.noReload <;> rfl

/-- the handler's memory is the last GENERATED configuration — whether or not NGINX accepted it -/
theorem latest_is_last_generated (plus : Bool) (s : HState) (pre : List HOp) (o : HOp) :
    (stepH plus (runH plus s pre) o).1.latest = some o.conf := rfl

/-- … and after a failed batch it is NOT what NGINX holds (so it must not be used to decide "nothing to do") -/
theorem latest_not_held_after_failure :
    let cA : Conf := ⟨[⟨"ns_svc_80", [⟨"10.0.0.1", 80, false⟩]⟩], []⟩
    let cB : Conf := ⟨[⟨"ns_svc_80", [⟨"10.0.0.2", 80, false⟩]⟩], []⟩
    let s := runH false HState.init [⟨.cluster, cA, Faults.none⟩, ⟨.endpoints, cB, ⟨false, true, false, [], []⟩⟩]
    s.latest.map (·.http) = some cB.http ∧ s.lastErr = true ∧
    s.ngx.api.http = [("ns_svc_80", ["10.0.0.1:80"])] ∧ inSync false cB s.ngx.api = false := by
  decide +kernel

/-! ## 2. `held_equals_last_successful` -/

/-- **held_equals_last_successful (OSS, all sequences, all fault scripts).** NGINX holds exactly the servers of
the configuration of the LAST batch whose ReplaceFiles and Reload both succeeded (what it held at the start when
there is none); failed batches leave no trace. -/
theorem held_equals_last_successful : ∀ (ops : List HOp) (s : HState),
    (runH false s ops).ngx.api =
      match (ops.filter fun o => !o.faults.noReload).getLast? with
      | some o => loadOss o.conf
      | none => s.ngx.api
  | [], _ => rfl
  | o :: os, s => by
    simp only [runH]
    rw [held_equals_last_successful os, oss_batch_spec, List.filter_cons]
    by_cases hn : o.faults.noReload = true
    · simp only [hn, if_true, Bool.not_true, Bool.false_eq_true, if_false]
    · simp only [hn, Bool.false_eq_true, if_false, Bool.not_false, if_true, List.getLast?_cons]
      cases (os.filter fun o => !o.faults.noReload).getLast? <;> rfl

/-- **failed_whole_batch_changes_nothing (Plus).** A batch that fails as a whole — it had to write and reload and
ReplaceFiles or Reload failed, or it went through the API alone and `GetUpstreams` failed — leaves NGINX (servers and
state files) exactly as it was and records the error; the handler then remembers the failure, which sends the next
EndpointsOnlyChange through the files and a reload. -/
theorem failed_whole_batch_changes_nothing (s : HState) (o : HOp)
    (h : (viaReload s.lastErr o = true ∧ o.faults.noReload = true) ∨
         (viaReload s.lastErr o = false ∧ o.faults.get = true)) :
    (stepH true s o).1.ngx = s.ngx ∧ (stepH true s o).1.lastErr = true ∧ (stepH true s o).2 = true ∧
    ∀ o', viaReload (stepH true s o).1.lastErr o' = true := by
  have key : applyOp true s.lastErr o s.ngx = (s.ngx, true) := by
    rw [applyOp_plus]
    rcases h with ⟨hv, hn⟩ | ⟨hv, hg⟩
    · simp [hv, hn]
    · simp [hv, apiBeforeUpdate, updateUpstreamServersF, hg]
  refine ⟨by simp [stepH, key], by simp [stepH, key], by simp [stepH, key], ?_⟩
  intro o'; simp [stepH, key, viaReload]

/-! ## 3. `every_quiet_batch_is_in_sync` -/

/-- **every_quiet_batch_is_in_sync.** For ALL histories `pre` (any kinds, configurations, fault scripts) from any
start state and every further batch `o`: if the handler records no error for `o`, then
* OSS (either kind), Plus/ClusterStateChange, and Plus/EndpointsOnlyChange while the last apply is remembered as failed
  (it reloads, /repo c94173a): NGINX holds, for EVERY upstream of `o`'s configuration, exactly the servers of that
  configuration (`inSync`, the Bool the judge evaluates on the real views);
* Plus/EndpointsOnlyChange through the API: the same for every upstream NGINX knows at that moment.
Hence a failed application can never be followed by a quiet batch that leaves NGINX with the old servers: the
handler has to apply again. -/
theorem every_quiet_batch_is_in_sync (plus : Bool) (s0 : HState) (h0 : plus = true → s0.ngx.Inv)
    (pre : List HOp) (o : HOp) (hc : o.conf.WF)
    (hq : quiet (stepH plus (runH plus s0 pre) o) = true) :
    let before := (runH plus s0 pre).ngx.api
    let after := (stepH plus (runH plus s0 pre) o).1.ngx.api
    ((plus = false ∨ viaReload (runH plus s0 pre).lastErr o = true) → inSync plus o.conf after = true) ∧
    (∀ u ∈ o.conf.http, u.name ∈ before.http.keys →
      SetEq (after.http.servers u.name) (heldHttpExpected plus u)) ∧
    (∀ u ∈ o.conf.stream, u.name ∈ before.stream.keys →
      SetEq (after.stream.servers u.name) (heldStreamExpected plus u)) := by
  intro before after
  have hq' : (applyOp plus (runH plus s0 pre).lastErr o (runH plus s0 pre).ngx).2 = false := by
    simpa [quiet, stepH] using hq
  cases plus with
  | false =>
    have hafter : after = loadOss o.conf := applyOp_oss_quiet hq'
    rw [hafter]
    have hs := inSync_iff.mp (inSync_loadOss hc)
    exact ⟨fun _ => inSync_loadOss hc, fun u hu _ => hs.1 u hu, fun u hu _ => hs.2 u hu⟩
  | true =>
    have hinv : (runH true s0 pre).ngx.Inv := inv_runH_plus pre s0 (h0 rfl)
    have hafter : after = updateUpstreamServers o.conf
        (apiBeforeUpdate (runH true s0 pre).lastErr o (runH true s0 pre).ngx) := applyOp_plus_quiet hq'
    rw [hafter]
    rcases Bool.eq_false_or_eq_true (viaReload (runH true s0 pre).lastErr o) with hv | hv'
    · simp only [apiBeforeUpdate, hv, if_true]
      have hl := loaded_loadPlus o.conf hinv.state
      exact ⟨fun _ => inSync_iff.mpr ⟨fun u hu => hl.update_http hc hu, fun u hu => hl.update_stream hc hu⟩,
        fun u hu _ => hl.update_http hc hu, fun u hu _ => hl.update_stream hc hu⟩
    · simp only [apiBeforeUpdate, hv', Bool.false_eq_true, if_false]
      refine ⟨?_, fun u hu hk => endpoints_step_http hc hinv.api hu hk,
        fun u hu hk => endpoints_step_stream hc hinv.api hu hk⟩
      rintro (h | h)
      · cases h
      · cases h

/-- **every_quiet_batch_is_in_sync — NGINX Plus, every http upstream** (full strength since /repo c94173a). Along ANY
history in which an EndpointsOnlyChange keeps the http upstream names of the configuration generated just before it
(`Coherent`: what the change processor's classification means), with ANY fault scripts: a batch the handler records no
error for leaves EVERY http upstream of its configuration with exactly that configuration's endpoints — also right after
failed writes / reloads / API calls. For stream upstreams the only exclusion left is the one the registered finding
`C13:plus_stream_upstream_absent` forces: a stream upstream WITH endpoints that NGINX does not know on the API path.
(`C13:plus_empty_no_503` is about WHICH servers an empty upstream should hold — `heldHttpExpected true` = none — not
about synchronisation.) -/
theorem every_quiet_batch_is_in_sync_plus (s0 : HState) (h0 : s0.ngx.Inv) (hk0 : NamesKnown s0)
    (pre : List HOp) (hpre : Coherent s0 pre) (o : HOp) (hc : o.conf.WF)
    (ho : CoherentStep (runH true s0 pre) o)
    (hq : quiet (stepH true (runH true s0 pre) o) = true) :
    let before := (runH true s0 pre).ngx.api
    let after := (stepH true (runH true s0 pre) o).1.ngx.api
    (∀ u ∈ o.conf.http, SetEq (after.http.servers u.name) (heldHttpExpected true u)) ∧
    (∀ u ∈ o.conf.stream,
      (u.eps ≠ [] → viaReload (runH true s0 pre).lastErr o = true ∨ u.name ∈ before.stream.keys) →
      SetEq (after.stream.servers u.name) (heldStreamExpected true u)) := by
  intro before after
  have hbase := every_quiet_batch_is_in_sync true s0 (fun _ => h0) pre o hc hq
  have hknown := namesKnown_runH pre s0 hk0 hpre
  rcases Bool.eq_false_or_eq_true (viaReload (runH true s0 pre).lastErr o) with hv | hv'
  · have hs := inSync_iff.mp (hbase.1 (.inr hv))
    exact ⟨hs.1, fun u hu _ => hs.2 u hu⟩
  · obtain ⟨hkind, hle⟩ := viaReload_false hv'
    obtain ⟨c0, hc0, hsame⟩ := ho hkind
    constructor
    · intro u hu
      apply hbase.2.1 u hu
      have hin : u.name ∈ c0.http.map (·.name) := by rw [← hsame]; exact List.mem_map.mpr ⟨u, hu, rfl⟩
      obtain ⟨u0, hu0, hn0⟩ := List.mem_map.mp hin
      rw [← hn0]; exact hknown hle c0 hc0 u0 hu0
    · intro u hu hex
      by_cases hk : u.name ∈ (runH true s0 pre).ngx.api.stream.keys
      · exact hbase.2.2 u hu hk
      · have he : u.eps = [] := by
          cases h : u.eps with
          | nil => rfl
          | cons e t =>
            rcases hex (by rw [h]; simp) with h1 | h1
            · rw [hv'] at h1; cases h1
            · exact absurd h1 hk
        have hq' : (applyOp true (runH true s0 pre).lastErr o (runH true s0 pre).ngx).2 = false := by
          simpa [quiet, stepH] using hq
        have hafter : after = updateUpstreamServers o.conf (runH true s0 pre).ngx.api := by
          have := applyOp_plus_quiet hq'
          simp only [apiBeforeUpdate, hv', Bool.false_eq_true, if_false] at this
          exact this
        rw [hafter]
        show SetEq ((step _ (.endpoints o.conf)).stream.servers u.name) (convertEndpoints u.eps)
        rw [endpoints_step_absent hk, he]; exact SetEq.refl _

/-- the excluded stream region is not empty (`C13:plus_stream_upstream_absent`): a quiet API batch, stream upstream with
endpoints unknown to NGINX -/
theorem quiet_batch_stream_upstream_absent_out_of_sync :
    let cR : Conf := ⟨[], [⟨"ns_svc_443", []⟩]⟩
    let c : Conf := ⟨[], [⟨"ns_svc_443", [⟨"10.0.1.1", 80, false⟩]⟩]⟩
    let ops : List HOp := [⟨.cluster, cR, Faults.none⟩, ⟨.endpoints, c, Faults.none⟩]
    Coherent HState.init ops ∧
    (traceH true HState.init ops).map (fun r => (quiet r, outOfSyncStream true c r.1.ngx.api)) =
      [(true, ["ns_svc_443"]), (true, ["ns_svc_443"])] := by
  intro cR c ops
  refine ⟨?_, by decide +kernel⟩
  show CoherentStep _ _ ∧ (CoherentStep _ _ ∧ True)
  exact ⟨fun h => (by cases h), fun _ => ⟨_, rfl, rfl⟩, trivial⟩

/-- **The repaired sequence** (former known finding `C13:plus_quiet_after_failed_reload`, fixed by /repo c94173a): a
ClusterStateChange whose reload fails, then an EndpointSlice event. The code (`traceH`) sends the second batch through
the files and a reload: quiet AND in sync, like OSS. The PRE-FIX arm (`traceHPre`: `if h.cfg.plus { updateUpstreamServers
}`) only talked to the API, which does not know the upstream: no call, no error, `latestReloadResult.Error` cleared,
NGINX without the upstream — kept as a regression detector. -/
theorem quiet_endpoints_batch_after_failed_reload :
    let c : Conf := ⟨[⟨"ns_svc_80", [⟨"10.0.0.1", 80, false⟩]⟩], []⟩
    let ops : List HOp := [⟨.cluster, c, ⟨false, true, false, [], []⟩⟩, ⟨.endpoints, c, Faults.none⟩]
    c.WF ∧
    (traceH true HState.init ops).map (fun r => (quiet r, r.1.lastErr, outOfSyncHttp true c r.1.ngx.api)) =
      [(false, true, ["ns_svc_80"]), (true, false, [])] ∧
    (traceHPre true HState.init ops).map (fun r => (quiet r, r.1.lastErr, outOfSyncHttp true c r.1.ngx.api)) =
      [(false, true, ["ns_svc_80"]), (true, false, ["ns_svc_80"])] ∧
    (traceH false HState.init ops).map (fun r => (quiet r, r.1.lastErr, outOfSyncHttp false c r.1.ngx.api)) =
      [(false, true, ["ns_svc_80"]), (true, false, [])] := by
  exact ⟨⟨by decide +kernel, by decide +kernel⟩, by decide +kernel⟩

/-! ## 4. Retry: a batch the environment does not disturb repairs whatever earlier failures left -/

/-- **fault_free_batch_is_quiet_and_in_sync.** After ANY history of failures, a batch whose calls all succeed
records no error and (OSS, Plus/ClusterStateChange, Plus/EndpointsOnlyChange after a remembered failure: for every
upstream; Plus/EndpointsOnlyChange through the API: for every upstream NGINX knows) leaves NGINX with the servers of the
CURRENT configuration — even when that configuration equals the one a failed batch generated before. -/
theorem fault_free_batch_is_quiet_and_in_sync (plus : Bool) (s0 : HState) (h0 : plus = true → s0.ngx.Inv)
    (pre : List HOp) (o : HOp) (hc : o.conf.WF) (hf : o.faults = Faults.none) :
    let before := (runH plus s0 pre).ngx.api
    let r := stepH plus (runH plus s0 pre) o
    quiet r = true ∧ r.1.lastErr = false ∧
    ((plus = false ∨ viaReload (runH plus s0 pre).lastErr o = true) → inSync plus o.conf r.1.ngx.api = true) ∧
    (∀ u ∈ o.conf.http, u.name ∈ before.http.keys → SetEq (r.1.ngx.api.http.servers u.name) (heldHttpExpected plus u)) ∧
    (∀ u ∈ o.conf.stream, u.name ∈ before.stream.keys →
      SetEq (r.1.ngx.api.stream.servers u.name) (heldStreamExpected plus u)) := by
  intro before r
  have hq2 : (applyOp plus (runH plus s0 pre).lastErr o (runH plus s0 pre).ngx).2 = false :=
    applyOp_nofaults plus _ hf _
  have hq : quiet r = true := by
    simp only [r, quiet, stepH, hq2, Bool.not_false]
  exact ⟨hq, hq2, every_quiet_batch_is_in_sync plus s0 h0 pre o hc hq⟩

/-- **api_failure_is_local** (Plus). A failing `UpdateHTTPServers` / `UpdateStreamServers` call does not keep the OTHER
upstreams from being updated: in a batch whose only faults are per-upstream API errors, every upstream of the batch's
configuration that NGINX knows and whose own call the environment did not fail holds the batch's endpoints afterwards —
although the batch records an error. (The update loops go on after an error and join the errors.) -/
theorem api_failure_is_local (s0 : HState) (h0 : s0.ngx.Inv) (pre : List HOp) (o : HOp) (hc : o.conf.WF)
    (hf : o.faults.replace = false ∧ o.faults.reload = false ∧ o.faults.get = false) :
    let before := apiBeforeUpdate (runH true s0 pre).lastErr o (runH true s0 pre).ngx
    let after := (stepH true (runH true s0 pre) o).1.ngx.api
    (∀ u ∈ o.conf.http, u.name ∉ o.faults.http → u.name ∈ before.http.keys →
      SetEq (after.http.servers u.name) (heldHttpExpected true u)) ∧
    (∀ u ∈ o.conf.stream, u.name ∉ o.faults.stream → u.name ∈ before.stream.keys →
      SetEq (after.stream.servers u.name) (heldStreamExpected true u)) := by
  intro before after
  have hinv : (runH true s0 pre).ngx.Inv := inv_runH_plus pre s0 h0
  have hafter : after = (updateUpstreamServersF o.faults o.conf { (runH true s0 pre).ngx with api := before }).1.api := by
    show (applyOp true _ o (runH true s0 pre).ngx).1.api = _
    rw [applyOp_plus, if_neg (by simp [Faults.noReload, hf.1, hf.2.1])]
  rw [hafter]
  exact updateF_local (x := { (runH true s0 pre).ngx with api := before }) hc
    (inv_apiBeforeUpdate _ o hinv) hf.2.2

example :
    let c1 : Conf := ⟨[⟨"u", [⟨"10.0.0.1", 80, false⟩]⟩, ⟨"v", [⟨"10.0.0.9", 80, false⟩]⟩], []⟩
    let c2 : Conf := ⟨[⟨"u", [⟨"10.0.0.2", 80, false⟩]⟩, ⟨"v", [⟨"10.0.0.8", 80, false⟩]⟩], []⟩
    let r := stepH true (runH true HState.init [⟨.cluster, c1, Faults.none⟩]) ⟨.endpoints, c2, ⟨false, false, false, ["u"], []⟩⟩
    quiet r = false ∧ r.1.ngx.api.http = [("u", ["10.0.0.1:80"]), ("v", ["10.0.0.8:80"])] := by
  decide +kernel

/-! ## 5. The "skip when equal to the last generated configuration" variant is refuted -/

/-- **skip_when_equal_to_last_generated_refuted** (seeded change C13-r3m2). Endpoints change A → B, the application
of B fails (OSS: reload error; Plus: the API call of the upstream fails), a further EndpointSlice event resolves to
the same set B. The handler as written (`traceH`) applies B again: third batch quiet AND in sync. The variant that
compares with `latestConfiguration` (`traceSkip`) returns early: third batch quiet, NGINX keeps the servers of A —
`every_quiet_batch_is_in_sync` and `fault_free_batch_is_quiet_and_in_sync` do not hold for it. -/
theorem skip_when_equal_to_last_generated_refuted :
    let cA : Conf := ⟨[⟨"ns_svc_80", [⟨"10.0.0.1", 80, false⟩]⟩], []⟩
    let cB : Conf := ⟨[⟨"ns_svc_80", [⟨"10.0.0.2", 80, false⟩]⟩], []⟩
    let oss : List HOp := [⟨.cluster, cA, Faults.none⟩, ⟨.endpoints, cB, ⟨false, true, false, [], []⟩⟩,
      ⟨.endpoints, cB, Faults.none⟩]
    let pls : List HOp := [⟨.cluster, cA, Faults.none⟩, ⟨.endpoints, cB, ⟨false, false, false, ["ns_svc_80"], []⟩⟩,
      ⟨.endpoints, cB, Faults.none⟩]
    let obs := fun (plus : Bool) (r : HState × Bool) => (quiet r, inSync plus cB r.1.ngx.api, r.1.ngx.api.http.servers "ns_svc_80")
    (traceH false HState.init oss).map (obs false) =
      [(true, false, ["10.0.0.1:80"]), (false, false, ["10.0.0.1:80"]), (true, true, ["10.0.0.2:80"])] ∧
    (traceSkip false HState.init oss).map (obs false) =
      [(true, false, ["10.0.0.1:80"]), (false, false, ["10.0.0.1:80"]), (true, false, ["10.0.0.1:80"])] ∧
    (traceH true HState.init pls).map (obs true) =
      [(true, false, ["10.0.0.1:80"]), (false, false, ["10.0.0.1:80"]), (true, true, ["10.0.0.2:80"])] ∧
    (traceSkip true HState.init pls).map (obs true) =
      [(true, false, ["10.0.0.1:80"]), (false, false, ["10.0.0.1:80"]), (true, false, ["10.0.0.1:80"])] := by
  decide +kernel

/-- also for a Service that went to zero endpoints: the variant keeps the old servers instead of the 503 placeholder -/
theorem skip_variant_keeps_old_servers_instead_of_503 :
    let cA : Conf := ⟨[⟨"ns_svc_80", [⟨"10.0.0.1", 80, false⟩]⟩], []⟩
    let c0 : Conf := ⟨[⟨"ns_svc_80", []⟩], []⟩
    let ops : List HOp := [⟨.cluster, cA, Faults.none⟩, ⟨.endpoints, c0, ⟨true, false, false, [], []⟩⟩,
      ⟨.endpoints, c0, Faults.none⟩]
    ((traceH false HState.init ops).map fun r => r.1.ngx.api.http.servers "ns_svc_80") =
      [["10.0.0.1:80"], ["10.0.0.1:80"], [nginx503Server]] ∧
    ((traceSkip false HState.init ops).map fun r => r.1.ngx.api.http.servers "ns_svc_80") =
      [["10.0.0.1:80"], ["10.0.0.1:80"], ["10.0.0.1:80"]] := by
  decide +kernel

/-! non-vacuity: a history with every fault kind, partial API failure included; Plus -/
example :
    let c1 : Conf := ⟨[⟨"u", [⟨"10.0.0.1", 80, false⟩]⟩, ⟨"v", [⟨"10.0.0.9", 80, false⟩]⟩], [⟨"s", [⟨"fd00::1", 443, true⟩]⟩]⟩
    let c2 : Conf := ⟨[⟨"u", [⟨"10.0.0.2", 80, false⟩]⟩, ⟨"v", [⟨"10.0.0.8", 80, false⟩]⟩], [⟨"s", [⟨"fd00::2", 443, true⟩]⟩]⟩
    let ops : List HOp := [⟨.cluster, c1, Faults.none⟩, ⟨.endpoints, c2, ⟨false, false, false, ["u"], ["s"]⟩⟩,
      ⟨.endpoints, c2, ⟨false, false, true, [], []⟩⟩, ⟨.cluster, c2, ⟨true, false, false, [], []⟩⟩,
      ⟨.endpoints, c2, Faults.none⟩]
    c1.WF ∧ c2.WF ∧
    (traceH true HState.init ops).map (fun r => (quiet r, outOfSyncHttp true c2 r.1.ngx.api, outOfSyncStream true c2 r.1.ngx.api)) =
      [(true, ["u", "v"], ["s"]), (false, ["u"], ["s"]), (false, ["u"], ["s"]), (false, ["u"], ["s"]), (true, [], [])] ∧
    NamesKnown HState.init := by
  refine ⟨⟨by decide +kernel, by decide +kernel⟩, ⟨by decide +kernel, by decide +kernel⟩, by decide +kernel, ?_⟩
  intro _ c hc; cases hc

/-! ## 6. Tie to the source: the two arms, the error recording, the two application functions -/

/-- The `EndpointsOnlyChange` and `ClusterStateChange` arms of `HandleEventBatch` are, statement for statement, what
`stepH`/`applyOp` transcribe: build, `setLatestConfiguration(&cfg)` BEFORE the application, no comparison with the
previous configuration, Plus AND no remembered failure ⇒ `updateUpstreamServers` / else `updateNginxConf`; after the switch the error is
logged and stored in `latestReloadResult`. (`updateUpstreamServersBody` and `updateNginxConfBody` are tied to the source in
`handler_source_as_modelled` of `Props/C13.lean`.) -/
theorem handler_arms_source_as_modelled :
    Generated.Resolver.endpointsOnlyArm =
      ["h.version++",
       "cfg := dataplane.BuildConfiguration(ctx, gr, h.cfg.serviceResolver, h.version)",
       "depCtx, getErr := h.getDeploymentContext(ctx)",
       "if getErr != nil { logger.Error(getErr, \"error getting deployment context for usage reporting\") }",
       "cfg.DeploymentContext = depCtx",
       "h.setLatestConfiguration(&cfg)",
       "if h.cfg.plus && h.latestReloadResult.Error == nil { err = h.updateUpstreamServers(cfg) } else { err = h.updateNginxConf(ctx, cfg) }"] ∧
    Generated.Resolver.clusterStateArm =
      ["h.version++",
       "cfg := dataplane.BuildConfiguration(ctx, gr, h.cfg.serviceResolver, h.version)",
       "depCtx, getErr := h.getDeploymentContext(ctx)",
       "if getErr != nil { logger.Error(getErr, \"error getting deployment context for usage reporting\") }",
       "cfg.DeploymentContext = depCtx",
       "h.setLatestConfiguration(&cfg)",
       "err = h.updateNginxConf(ctx, cfg)"] ∧
    Generated.Resolver.handleEventBatchAfterSwitch =
      ["var nginxReloadRes status.NginxReloadResult",
       "if err != nil { logger.Error(err, \"Failed to update NGINX configuration\") nginxReloadRes.Error = err if !h.cfg.nginxConfiguredOnStartChecker.ready { h.cfg.nginxConfiguredOnStartChecker.firstBatchError = err } } else { logger.Info(\"NGINX configuration was successfully updated\") if !h.cfg.nginxConfiguredOnStartChecker.ready { h.cfg.nginxConfiguredOnStartChecker.setAsReady() } }",
       "h.latestReloadResult = nginxReloadRes",
       "h.updateStatuses(ctx, logger, gr)"] ∧
    Generated.Resolver.handleEventBatchSwitchCases =
      ["state.NoChange", "state.EndpointsOnlyChange", "state.ClusterStateChange"] ∧
    Generated.Resolver.latestConfigurationUses =
      ["GetLatestConfiguration: return h.latestConfiguration",
       "setLatestConfiguration: h.latestConfiguration = cfg"] := by
  exact ⟨rfl, rfl, rfl, rfl, rfl⟩

end NGF.Resolver
