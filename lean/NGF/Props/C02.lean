import NGF.Proofs.Hostname
import NGF.Proofs.Precedence
import NGF.Proofs.NginxEval
import NGF.Proofs.Locations
import NGF.Proofs.Pipeline
import NGF.Proofs.PipelineRefine
import NGF.Proofs.PipelineWinner
import NGF.Proofs.PipelineTlsCompose
import NGF.Generated.RoutingFacts
import NGF.Proofs.CharLits
/-
C02 — requests are routed exactly as the attached Routes prescribe: property theorems about the cores the
driver runs (Model/Hostname, Model/Precedence, Model/NginxEval), and — for the pipeline fragment of Model/Pipeline —
the end-to-end refinement `nginxEvalConf (gen s) q = routeF s q` for ALL scenarios and requests
(`route_refines_spec_fragment`). Outside the fragment the refinement is decided by the judge (Model/C02Judge) on the
real files.
-/
namespace NGF.Props.C02

/-! ### hostnames: `match`, `GetMoreSpecificHostname`, `findAcceptedHostnames` -/
section hostnames
open NGF.Hostname

/-- `match` is symmetric in listener and route hostname once both are present (an absent listener hostname
matches everything; that asymmetry is the only one). -/
theorem hostname_match_symmetric {l r : Host} (hl : l ≠ []) (hr : r ≠ []) : hmatch l r = hmatch r l :=
  hmatch_symm hl hr

/-- every accepted hostname is the more specific of the listener hostname and a route hostname it matches -/
theorem accepted_from_matching_pair {l : Host} {rs : List Host} {h : Host} (hne : rs ≠ [])
    (hh : h ∈ accepted l rs) : ∃ r ∈ rs, hmatch l r = true ∧ h = moreSpecific l r := by
  obtain ⟨r, hr, hm, e⟩ := (mem_accepted hne).mp hh
  exact ⟨r, hr, hm, e.symm⟩

/-- intersection: a request host an accepted hostname stands for is a host of the listener AND of a route hostname -/
theorem accepted_within_both {l : Host} {rs : List Host} {h : Host} (hne : rs ≠ [])
    (hh : h ∈ accepted l rs) (q : Host) (hq : covers h q = true) :
    covers l q = true ∧ ∃ r ∈ rs, covers r q = true := by
  obtain ⟨r, hr, hm, rfl⟩ := accepted_from_matching_pair hne hh
  exact ⟨(moreSpecific_covers hm q hq).1, r, hr, (moreSpecific_covers hm q hq).2⟩

/-- without route hostnames the listener hostname is accepted as it is (`~^` = all hosts for an absent one) -/
theorem accepted_no_route_hostnames (l : Host) :
    accepted l [] = [if l.isEmpty then wildcardHostname else l] := by
  unfold accepted; cases l.isEmpty <;> simp

/-- `GetMoreSpecificHostname` returns one of its arguments when they match … -/
theorem moreSpecific_is_one_of {a b : Host} (hm : hmatch a b = true) (ha : a ≠ []) :
    moreSpecific a b = a ∨ moreSpecific a b = b :=
  moreSpecific_mem hm

/-- … and prefers an exact hostname to a wildcard, and the wildcard with more labels -/
theorem moreSpecific_exact_over_wildcard {a b : Host} (ha : isWild a = false) (hb : isWild b = true) (hne : a ≠ []) :
    moreSpecific a b = a ∧ moreSpecific b a = a := by
  obtain ⟨t, rfl⟩ := isWild_eq hb
  exact ⟨moreSpecific_exact_wild hne ha t, moreSpecific_wild_exact t hne ha⟩

example : hmatch "*.example.com".toList "example.com".toList = false := by decide_chars
example : hmatch "*.example.com".toList "cafe.example.com".toList = true := by decide_chars
example : moreSpecific "*.example.com".toList "*.cafe.example.com".toList = "*.cafe.example.com".toList := by decide_chars
example : accepted "*.example.com".toList ["cafe.example.com".toList, "bar.org".toList, "*.cafe.example.com".toList]
    = ["cafe.example.com".toList, "*.cafe.example.com".toList] := by decide_chars

end hostnames

/-! ### NGINX `server_name` selection over the generated names -/
section servers
open NGF.NginxEval

/-- a concrete request host is not itself a pattern -/
def concrete (host : Str) : Prop := isWildName host = false ∧ host ≠ catchAll

/-- exact name first -/
theorem server_select_exact {names : List Str} {host : Str} (hc : concrete host) (hin : host ∈ names) :
    selectName names host = some host :=
  selectName_exact hc hin

/-- else the longest wildcard covering the host -/
theorem server_select_wildcard {names : List Str} {host n : Str} (hnot : host ∉ names)
    (h : selectName names host = some n) (hn : n ≠ catchAll) :
    n ∈ names ∧ wildCovers n host = true ∧ ∀ m ∈ names, wildCovers m host = true → m.length ≤ n.length := by
  rw [selectName_of_not_mem hnot] at h
  cases hb : bestWild host names with
  | some w => rw [hb, Option.some.injEq] at h; subst h; exact bestWild_some hb
  | none =>
    simp only [hb] at h
    split at h
    · exact absurd (Option.some.inj h).symm hn
    · cases h

/-- else the catch-all `~^` if it is there, else the default server -/
theorem server_select_default {names : List Str} {host : Str} (hnot : host ∉ names)
    (hw : ∀ m ∈ names, wildCovers m host = false) :
    selectName names host = if names.contains catchAll then some catchAll else none := by
  rw [selectName_of_not_mem hnot]
  cases hb : bestWild host names with
  | none => rfl
  | some w =>
    have := bestWild_some hb
    rw [hw w this.1] at this; exact absurd this.2.1 (by simp)

/-- the bridge between NGINX (longest wildcard) and `GetMoreSpecificHostname` (most labels): for two wildcard
hostnames that cover the same request host, longer means more labels. -/
theorem wildcard_longer_iff_more_labels {ta tb q : Str}
    (ha : ('.' :: ta) <:+ q) (hb : ('.' :: tb) <:+ q) (hlen : tb.length < ta.length) :
    NGF.Hostname.labels ('*' :: '.' :: tb) < NGF.Hostname.labels ('*' :: '.' :: ta) :=
  NGF.Hostname.wild_labels_lt ha hb hlen

example : selectName ["*.example.com".toList, "cafe.example.com".toList, "*.cafe.example.com".toList, catchAll]
    "a.cafe.example.com".toList = some "*.cafe.example.com".toList := by decide_chars
example : selectName ["*.example.com".toList, catchAll] "example.com".toList = some catchAll := by decide_chars

end servers

/-! ### precedence of match rules: `higherPriority`, `sortMatchRules`, the njs matcher -/
section precedence
open NGF.Precedence NGF.Sort

/-- `higherPriority` is a strict weak order (what Go's `sort` requires of `less`): asymmetric, and
incomparability is transitive. -/
theorem higherPriority_strict_weak_order : SWO higherPriority := higherPriority_swo

/-- it orders by method presence, then header count, then query count, then age, namespace, name -/
theorem higherPriority_chain (a b : MatchKey) : higherPriority a b = chain a b := higherPriority_eq_chain a b

/-- The stable sort by `higherPriority` is a permutation, puts no rule after one it has priority over, and keeps
the source order (route, rule, match order) of rules that tie. -/
theorem sort_is_precedence (l : List MatchKey) :
    (sortRules l).Perm l ∧
    (sortRules l).Pairwise (fun a b => higherPriority b a = false) ∧
    (∀ a b, higherPriority b a = false → [a, b].Sublist l → [a, b].Sublist (sortRules l)) ∧
    (∀ a, (sortRules l).filter (equivB le a) = l.filter (equivB le a)) := by
  refine ⟨List.mergeSort_perm l le, ?_, ?_, ?_⟩
  · have := List.pairwise_mergeSort le_trans' le_total' l
    exact this.imp (fun {a b} h => by simpa [le] using h)
  · intro a b hab hs
    exact List.pair_sublist_mergeSort le_trans' le_total' (by simpa [le] using hab) hs
  · intro a
    exact filter_mergeSort_class le_trans' le_total' l a

/-- The first element of the sorted list that satisfies a predicate is a satisfying element no other satisfying
element has priority over. -/
theorem first_satisfied_is_highest (l : List MatchKey) (sat : MatchKey → Bool) (m : MatchKey)
    (h : (sortRules l).find? sat = some m) :
    m ∈ l ∧ sat m = true ∧ ∀ m' ∈ l, sat m' = true → higherPriority m' m = false := by
  obtain ⟨hm, hsat, hmin, _⟩ := NGF.Sort.mergeSort_find_first le_trans' le_total' l sat h
  exact ⟨hm, hsat, fun m' hm' hs' => by simpa only [le, Bool.not_eq_true'] using hmin m' hm' hs'⟩

/-- njs: with the match list in sorted order, `findWinningMatch` returns the highest-precedence match the request
satisfies (the matches carry their precedence key; malformed entries aside). -/
theorem njs_first_match_correct (r : NGF.NginxEval.Njs.Req) (l : List (MatchKey × NGF.NginxEval.Njs.Match))
    (hwf : ∀ p ∈ l, NGF.NginxEval.Njs.testMatch r p.2 ≠ .throw) (m : NGF.NginxEval.Njs.Match)
    (h : NGF.NginxEval.Njs.findWinning r ((l.mergeSort fun x y => le x.1 y.1).map (·.2)) = .found m) :
    ∃ k, (k, m) ∈ l ∧ NGF.NginxEval.Njs.testMatch r m = .ok true ∧
      ∀ p ∈ l, NGF.NginxEval.Njs.testMatch r p.2 = .ok true → higherPriority p.1 k = false := by
  let le2 : (MatchKey × NGF.NginxEval.Njs.Match) → (MatchKey × NGF.NginxEval.Njs.Match) → Bool := fun x y => le x.1 y.1
  have hwf' : ∀ x ∈ (l.mergeSort le2).map (·.2), NGF.NginxEval.Njs.testMatch r x ≠ .throw := by
    intro x hx
    obtain ⟨p, hp, rfl⟩ := List.mem_map.mp hx
    exact hwf p ((List.mergeSort_perm l le2).mem_iff.mp hp)
  rw [NGF.NginxEval.Njs.findWinning_eq_find r _ hwf', List.find?_map] at h
  generalize hf : List.find? _ (l.mergeSort le2) = o at h
  cases o with
  | none => cases h
  | some p =>
    simp only [Option.map_some, NGF.NginxEval.Njs.Win.found.injEq] at h
    subst h
    obtain ⟨hm, hsat, hmin, _⟩ := NGF.Sort.mergeSort_find_first (le := le2)
      (fun a b c => le_trans' a.1 b.1 c.1) (fun a b => le_total' a.1 b.1) l _ hf
    refine ⟨p.1, hm, ?_, ?_⟩
    · simp only [Function.comp] at hsat
      split at hsat
      · assumption
      · cases hsat
    · intro q hq hqs
      have := hmin q hq (by simp only [Function.comp, hqs])
      simpa only [le2, le, Bool.not_eq_true'] using this

-- a method match beats two header matches; among equal matches the older route wins; same route: tie
example : higherPriority ⟨true, 0, 0, 2, [1], [1], 1⟩ ⟨false, 2, 0, 0, [1], [1], 2⟩ = true := by decide +kernel
example : higherPriority ⟨false, 2, 0, 0, [1], [1], 2⟩ ⟨false, 2, 0, 1, [1], [1], 0⟩ = true := by decide +kernel
example : higherPriority ⟨false, 1, 1, 0, [1], [1, 2], 0⟩ ⟨false, 1, 1, 0, [1], [1, 2], 1⟩ = false := by decide +kernel

end precedence

section grpc
open NGF.Precedence

/-- `ConvertGRPCMatches` as it is now is faithful: every converted match carries the path of its own match. -/
theorem grpc_convert_faithful (ms : List GRPCMatch) : convFaithful ms (convertGRPC ms) = true := by
  cases ms with
  | nil => rfl
  | cons m rest =>
    show convFaithfulAux (m :: rest) ((m :: rest).map convertOne) = true
    generalize (m :: rest) = l
    induction l with
    | nil => rfl
    | cons a as ih =>
      simp only [List.map, convFaithfulAux, convertOne]
      cases h : fullMethod a with
      | none => simp [ih]
      | some p => obtain ⟨s, me⟩ := p; simp [ih]

/-- the variant before the repair (shared path type, carried-over path value) is not: the witness of DESIGN §7 row 3 -/
theorem grpc_convert_shared_not_faithful :
    convFaithful [⟨false, none, none, 1⟩, ⟨true, some ['s'], some ['m'], 0⟩, ⟨false, none, none, 1⟩]
      (convertGRPCShared [⟨false, none, none, 1⟩, ⟨true, some ['s'], some ['m'], 0⟩, ⟨false, none, none, 1⟩]) = false := by
  decide

end grpc

/-! ### the location scheme against NGINX's location selection (`location_select_correct`) -/
section locations
open NGF.Precedence NGF.NginxEval NGF.Locations

/-- the exact location `= p`, once generated, is what NGINX selects for the request path `p` -/
theorem location_exact_selected {rules : List PathRule} {p : List Char} {i : Nat}
    (hg : (⟨true, p, i⟩ : GenLoc) ∈ genLocs rules) :
    ∃ l, selectLoc (locsOf rules) p = .loc l ∧ l.exact = true ∧ l.path = p := by
  have hmem : toLoc ⟨true, p, i⟩ ∈ locsOf rules := List.mem_map.mpr ⟨_, hg, rfl⟩
  cases hf : (locsOf rules).find? (fun l => l.exact && l.path == p) with
  | none =>
    have := List.find?_eq_none.mp hf _ hmem
    simp [toLoc] at this
  | some l =>
    have := List.find?_some hf
    simp only [Bool.and_eq_true, beq_iff_eq] at this
    exact ⟨l, select_exact_first hf, this.1, this.2⟩

/-- Exact over prefix: the request path of an Exact rule is served by an exact location. -/
theorem location_select_exact_rule {rules : List PathRule} {i : Nat} {p : List Char}
    (h : rules[i]? = some ⟨p, false⟩) : ∃ l, selectLoc (locsOf rules) p = .loc l ∧ l.exact = true ∧ l.path = p :=
  location_exact_selected (exact_rule_has_location h)

/-- A PathPrefix rule `/p` (no trailing slash) serves the request `/p` itself: NGINX selects `location = /p`, which
belongs to this rule unless an Exact rule for `/p` exists (then to that one: exact over prefix). -/
theorem location_select_prefix_rule_bare {rules : List PathRule} {i : Nat} {p : List Char}
    (h : rules[i]? = some ⟨p, true⟩) (hs : endsSlash p = false) :
    (∃ l, selectLoc (locsOf rules) p = .loc l ∧ l.exact = true ∧ l.path = p) ∧
    ((hasExact rules p = false ∧ (⟨true, p, i⟩ : GenLoc) ∈ genLocs rules) ∨
     (hasExact rules p = true ∧ ∃ j, rules[j]? = some ⟨p, false⟩ ∧ (⟨true, p, j⟩ : GenLoc) ∈ genLocs rules)) := by
  have hb := prefix_rule_bare_path h hs
  refine ⟨?_, hb⟩
  rcases hb with ⟨_, hg⟩ | ⟨_, j, _, hg⟩ <;> exact location_exact_selected hg

/-- … and its subtree `/p/…`: `location /p/` exists (owned by the rule, or by the `/p/` prefix rule if there is one),
and when NGINX falls through to prefix selection it takes the LONGEST generated prefix location that is a prefix of
the request — longer prefix first. -/
theorem location_select_prefix_rule_subtree {rules : List PathRule} {i : Nat} {p : List Char}
    (h : rules[i]? = some ⟨p, true⟩) (hs : endsSlash p = false) (q : List Char) (w : Loc)
    (hsel : selectLoc (locsOf rules) q = .loc w) (hne : w.exact = false) (hsub : (p ++ ['/']) <+: q) :
    (∃ j, (⟨false, p ++ ['/'], j⟩ : GenLoc) ∈ genLocs rules) ∧ w.path <+: q ∧
    (w.path = q ∨ (p ++ ['/']).length ≤ w.path.length) := by
  obtain ⟨j, hj, _⟩ := prefix_rule_subtree h hs
  have hsound := select_sound hsel
  rcases hsound.2 with ⟨he, _⟩ | ⟨_, hpre, hlong⟩
  · rw [he] at hne; cases hne
  refine ⟨⟨j, hj⟩, hpre, hlong.imp_right fun hmax => ?_⟩
  exact hmax _ (List.mem_map.mpr ⟨_, hj, rfl⟩) rfl hsub

/-- a prefix rule `/p` is not reached by `/px`: no location generated for a prefix rule is selected for a sibling
path, because every generated prefix location ends in `/` -/
theorem location_select_not_sibling {rules : List PathRule} {p rest : List Char} {c : Char} (hc : c ≠ '/')
    {l : Loc} (hsel : selectLoc (locsOf rules) (p ++ c :: rest) = .loc l) :
    ¬ (l.exact = true ∧ l.path = p) ∧ l.path ≠ p ++ ['/'] ∧ (l.exact = false → endsSlash l.path = true) := by
  have hs := select_sound hsel
  refine ⟨?_, ?_, ?_⟩
  · rintro ⟨he, hp⟩
    rcases hs.2 with ⟨_, h⟩ | ⟨h, _⟩
    · rw [hp] at h
      have := congrArg List.length h; simp at this
    · rw [he] at h; cases h
  · intro hp
    rcases hs.2 with ⟨_, h⟩ | ⟨_, h, _⟩
    · rw [hp] at h
      have := List.append_cancel_left h; simp at this; exact hc this.1.symm
    · rw [hp] at h; exact not_subtree_of_other_char p rest c hc h
  · intro hne
    obtain ⟨g, hg, rfl⟩ := List.mem_map.mp hs.1
    exact nonexact_ends_slash hg hne

/-- The excluded region of the full statement (known finding `C02:prefix-with-trailing-slash-misses-bare-path`): a
PathPrefix rule whose value ends in `/` is not reached by the bare path. Gateway API: `/coffee/` matches `/coffee`. -/
theorem location_trailing_slash_witness :
    (match selectLoc (locsOf [⟨"/coffee/".toList, true⟩]) "/coffee".toList with
     | .loc l => l.path != "/coffee/".toList
     | .autoRedirect _ => true       -- 301 to /coffee/ when the location proxies
     | .none => true) = true := by decide +kernel

example : (genLocs [⟨"/coffee".toList, true⟩, ⟨"/coffee".toList, false⟩, ⟨"/".toList, true⟩]).map (fun g => (g.exact, String.ofList g.path, g.rule))
    = [(false, "/coffee/", 0), (true, "/coffee", 1), (false, "/", 2)] := by decide_chars

end locations

/-! ### the pipeline model `Pipeline.gen` for the fragment (Model/Pipeline.lean)

`gen : Scenario → Conf` follows processGateways / bindRoutesToListeners / buildServers / createLocations for HTTP
listeners and HTTPRoutes; `nginxEvalConf` is the NGINX evaluator on the abstract `Conf`; `routeF` the Gateway API
specification restated for the fragment. The equality `abstract(real http.conf) = gen s` is validated on every run
(driver mode `pipeline`), as is `nginxEvalConf (gen s) q = routeF s q` on the probes of every in-fragment scenario
with `noShadow`. Proved here: the per-stage refinements, non-interference of `gen`, and the flagship statement
`route_refines_spec_fragment` for ALL scenarios of the fragment and ALL well-formed requests, composed from the server
stage (`server_is_most_specific_owner`), the location stage (`location_picks_best_path_rule`) and the rule stage
(`server_internal_pick`). Its hypotheses beyond `inFragment`/`noShadow` are the executable predicates of
Model/PipelineHyp.lean; each is necessary (witnesses below), and the driver evaluates the equation on exactly the
(scenario, request) pairs they allow. -/
section pipeline
open NGF.Pipeline

/-- Stage 1 (attachment): the accepted hostnames of `findAcceptedHostnames` stand, for a concrete request host,
exactly for the hosts both the listener hostname and some route hostname stand for: they are the intersection. -/
theorem attachment_is_intersection {l : Str} {rs : List Str} (hrs : rs ≠ []) (hne : ∀ r ∈ rs, r ≠ [])
    {q : Str} (hq : NGF.Hostname.isWild q = false) :
    (∃ h ∈ NGF.Hostname.accepted l rs, NGF.Hostname.covers h q = true) ↔
    (NGF.Hostname.covers l q = true ∧ ∃ r ∈ rs, NGF.Hostname.covers r q = true) :=
  accepted_iff_intersection hrs hne hq

/-- Stage 2 (servers): among the generated server names NGINX picks one that stands for the host and is the most
specific such name (exact, then longest wildcard, then the catch-all); the default server only when none does. -/
theorem server_select_most_specific {names : List Str} {q n : Str}
    (hq : NGF.NginxEval.isWildName q = false ∧ q ≠ NGF.NginxEval.catchAll) (hlen : q.length < 100000)
    (h : NGF.NginxEval.selectName names q = some n) :
    n ∈ names ∧ nameCovers n q = true ∧ ∀ m ∈ names, nameCovers m q = true → nameSpec m ≤ nameSpec n :=
  selectName_most_specific hq h

theorem server_default_only_if_uncovered {names : List Str} {q : Str}
    (hq : NGF.NginxEval.isWildName q = false ∧ q ≠ NGF.NginxEval.catchAll)
    (h : NGF.NginxEval.selectName names q = none) : ∀ m ∈ names, nameCovers m q = false :=
  selectName_none hq h

/-- Non-interference on the model: a route that is invalid or attaches to no listener of the served Gateway (its
parentRefs name another, an ignored or an unknown Gateway or an unknown section; its namespace is not allowed; its
hostnames are disjoint), inserted anywhere; a Gateway of another class inserted anywhere; a younger Gateway of our
class; another GatewayClass — none of them changes `gen s`. -/
theorem noninterference_foreign_fragment (s : Scenario) :
    (∀ a b x, s.routes = a ++ b → (∀ g, winner s = some g → inert g x) → gen { s with routes := a ++ x :: b } = gen s) ∧
    (∀ a b y, s.gateways = a ++ b → (y.cls == s.cls) = false → gen { s with gateways := a ++ y :: b } = gen s) ∧
    (∀ y g, winner s = some g → olderGw g y = true → gen { s with gateways := y :: s.gateways } = gen s) ∧
    (∀ c : GwClass, (c.name == s.cls) = false → gen { s with classes := c :: s.classes } = gen s) := by
  refine ⟨fun a b x hs hx => gen_insert_route_inert s a b x hs hx, ?_, ?_, ?_⟩
  · intro a b y hs hy
    exact gen_of_winner_eq rfl (winner_insert_foreign_gateway s a b y hs hy)
  · intro y g hw hy
    exact gen_of_winner_eq rfl ((winner_insert_younger_anywhere s [] s.gateways y g rfl hw hy).trans hw.symm)
  · intro c hc
    exact gen_of_winner_eq rfl (winner_insert_class s c hc)

/-- Non-interference of Gateways, any position: `olderGw` (creationTimestamp, namespace, name) is a strict weak order, the
served Gateway is one no other Gateway of the class is older than, and a Gateway of our class that the served one is
older than — inserted at ANY position of the list, not only at the head — changes neither the served Gateway nor `gen s`. -/
theorem winner_insert_gateway_anywhere (s : Scenario) (a b : List Gateway) (y g : Gateway)
    (hs : s.gateways = a ++ b) (hw : winner s = some g) (hy : olderGw g y = true) :
    NGF.Sort.SWO olderGw ∧ winner { s with gateways := a ++ y :: b } = some g ∧
    gen { s with gateways := a ++ y :: b } = gen s := by
  have h := winner_insert_younger_anywhere s a b y g hs hw hy
  exact ⟨olderGw_swo, h, gen_of_winner_eq rfl (h.trans hw.symm)⟩

/-- the served Gateway is a Gateway of the list that no other one of the list is older than -/
theorem winner_is_oldest {l : List Gateway} {m : Gateway} (h : oldest l = some m) :
    m ∈ l ∧ ∀ x ∈ l, olderGw x m = false := oldest_min h

/-- which routes are inert, syntactically -/
theorem inert_when_parent_elsewhere {g : Gateway} {x : Route}
    (h : ∀ p ∈ x.parents, (p.ns == g.ns && p.name == g.name) = false ∨
      ∃ sn, p.sectionName = some sn ∧ ∀ l ∈ g.listeners, (sn == l.name) = false) : inert g x :=
  inert_of_not_referring h

theorem inert_when_namespace_not_allowed {g : Gateway} {x : Route} (hns : (x.ns == g.ns) = false)
    (hsame : ∀ l ∈ g.listeners, l.fromAll = false) : inert g x :=
  inert_of_namespace hns hsame

/-- The flagship statement `nginxEvalConf (gen s) q = routeF s q`, proved on three regions: nothing is served; the
port is used by no listener (both refused); and nobody owns the request host on the port — no valid route attached to a
listener of the port has hostnames that meet the listener's at that host (`owned`) — where both sides answer 404. This
last region composes attachment (`attachment_is_intersection`), the generated server list (`hostsOf`) and NGINX's
server selection (`server_select_most_specific`). It is the statement for requests `reqOK` does not cover on these
regions; the region "a server is selected" is `route_refines_spec_fragment` below. -/
theorem route_refines_spec_fragment_partial (s : Scenario) (q : Req) :
    (winner s = none → nginxEvalConf (gen s) q = routeF s q) ∧
    (∀ g, winner s = some g → g.listeners.any (·.port == q.port) = false → nginxEvalConf (gen s) q = routeF s q) ∧
    (∀ g, winner s = some g → g.listeners.any (·.port == q.port) = true →
      (NGF.Hostname.isWild q.host = false ∧ q.host ≠ NGF.NginxEval.catchAll) → q.host.length < 100000 →
      (∀ r ∈ s.routes, ∀ rh ∈ r.hostnames, rh ≠ []) →
      ((∀ l ∈ g.listeners, l.host ≠ NGF.NginxEval.catchAll) ∧ ∀ r ∈ s.routes, ∀ rh ∈ r.hostnames, rh ≠ NGF.NginxEval.catchAll) →
      ¬ owned g s.routes q.port q.host →
      nginxEvalConf (gen s) q = routeF s q) :=
  ⟨refines_no_gateway s q, fun g h hp => refines_unused_port s q g h hp,
   fun g hw hport hq _ hne hcat hun => refines_unowned_host s q g hw hport hq hne hcat hun⟩

/-- Server stage, all inputs (glue (i)+(ii) of the notes): when `n` is the most specific generated server name of port `p`
that stands for the concrete request host — which is what NGINX selects, `server_select_most_specific` — the
specification's pool (covering candidates of maximal `candSpec`) is exactly the set of candidates behind the entries
of server `(p, n)`: an owned host selects the server of its most specific owner, and `specificity` of the
listener/route intersection equals `nameSpec` of the generated name. -/
theorem server_is_most_specific_owner {g : Gateway} {routes : List Route} (ok : ScenOK g routes) {p : Nat} {q n : Str}
    (hq : NGF.NginxEval.isWildName q = false ∧ q ≠ NGF.NginxEval.catchAll) (hn : (p, n) ∈ hostsOf g routes)
    (hcov : nameCovers n q = true)
    (hmax : ∀ m, (p, m) ∈ hostsOf g routes → nameCovers m q = true → nameSpec m ≤ nameSpec n) (c : Cand) :
    c ∈ ((specCands g routes p).filter (candCovers · q)).filter
        (fun c => candSpec c == ((specCands g routes p).filter (candCovers · q)).foldl (fun acc c => max acc (candSpec c)) 0) ↔
    (⟨p, n, c⟩ : XE) ∈ xentries g routes :=
  pool_iff_server_entries ok hq hn hcov hmax c

/-- … and the default server answers only when no candidate stands for the host. -/
theorem default_server_iff_no_candidate {g : Gateway} {routes : List Route} (ok : ScenOK g routes) {p : Nat} {q : Str}
    (hq : NGF.Hostname.isWild q = false) (hnone : ∀ m, (p, m) ∈ hostsOf g routes → nameCovers m q = false) :
    (specCands g routes p).filter (candCovers · q) = [] :=
  no_covering_of_unselected ok hq hnone

/-- Location stage, all inputs (first half of glue (iii)): over the external locations `createLocations` generates for
distinct path rules (`keys`: (exact, path); every path starts with `/`, no PathPrefix value but `/` ends in `/`), NGINX
ends — for every request path starting with `/` — in a location of a path rule that hits the path and that no other
hitting rule outranks (Exact before PathPrefix, then the longer value), or, when NO rule hits, in the default root
location / nowhere (404). Never the 301 auto-redirect. -/
theorem location_picks_best_path_rule {keys : List Key} (ok : KeysOK keys) {q : Str} (hq : q.head? = some '/')
    (tl : NGF.Precedence.GenLoc → NGF.NginxEval.Loc) (hte : ∀ gl, (tl gl).exact = gl.exact)
    (htp : ∀ gl, (tl gl).path = gl.path) :
    (∃ gl ∈ NGF.Precedence.genLocs (rulesOf keys),
      NGF.NginxEval.selectLoc ((NGF.Precedence.genLocs (rulesOf keys)).map tl) q = .loc (tl gl) ∧
      ((∃ k, keys[gl.rule]? = some k ∧ khit k q = true ∧
          ∀ k' ∈ keys, khit k' q = true → (k'.1 = true → k.1 = true) ∧ (k'.1 = k.1 → k'.2.length ≤ k.2.length)) ∨
       (gl.rule = keys.length ∧ ∀ k ∈ keys, khit k q = false))) ∨
    (NGF.NginxEval.selectLoc ((NGF.Precedence.genLocs (rulesOf keys)).map tl) q = .none ∧ ∀ k ∈ keys, khit k q = false) :=
  select_fragment ok hq tl hte htp

/-- a generated location (modifier, path) belongs to exactly one path rule -/
theorem location_determines_path_rule {keys : List Key} (ok : KeysOK keys) {a b : NGF.Precedence.GenLoc}
    (ha : a ∈ NGF.Precedence.genLocs (rulesOf keys)) (hb : b ∈ NGF.Precedence.genLocs (rulesOf keys))
    (he : a.exact = b.exact) (hp : a.path = b.path) : a.rule = b.rule :=
  genLocs_rule_unique ok ha hb he hp

/-- Rule stage, all inputs (second half of glue (iii)): the njs matcher on a generated match decides exactly the
specification's conditions … -/
theorem njs_decides_conditions {m : Pipeline.Match} (hm : matchOK m = true) {q : Req}
    (hq : ∀ h ∈ q.headers, h.2.contains ',' = false) :
    NGF.NginxEval.Njs.testMatch (njsReq q) (njsMatchOf m) = .ok (condsHit m q) :=
  testMatch_eq_condsHit hm hq

/-- … the specification's precedence is a strict weak order that is: path rank, then `higherPriority` of the dataplane
key (what `sortMatchRules` sorts by), then source position … -/
theorem beats_is_path_then_priority_then_position (a b : Cand) :
    NGF.Sort.SWO beats ∧
    beats a b = (if a.m.exact != b.m.exact then a.m.exact
       else if a.m.path.length != b.m.path.length then decide (a.m.path.length > b.m.path.length)
       else (HP a b || (!HP b a && idxLt a b))) :=
  ⟨beats_swo, beats_split a b⟩

/-- … and inside the server NGINX selected — through the `eraseDups` grouping of `serverOf`, the stable sort and the njs
list — NGINX answers 404 exactly when no entry's path hits, and otherwise performs the action of an entry whose path
and conditions hit and that NO other hitting entry of the server `beats`: location selection + njs = `best` of the hit
set within one server. -/
theorem server_internal_pick {g : Gateway} {routes : List Route} (ok : ScenOK g routes) (p : Nat) (n : Str) {q : Req}
    (hq : q.path.head? = some '/') (hqh : ∀ h ∈ q.headers, h.2.contains ',' = false)
    (hsh : (serverOf (entries g routes) p n).locs.all locShadowOK = true) :
    ((∀ y ∈ xmine g routes p n, pathHit y.c.m q.path = false) ∧
      locEval (serverOf (entries g routes) p n) q = .status 404) ∨
    (∃ x ∈ xmine g routes p n, pathHit x.c.m q.path = true ∧ condsHit x.c.m q = true ∧
      locEval (serverOf (entries g routes) p n) q = evalAct q (actOf p x.c.action) ∧
      ∀ y ∈ xmine g routes p n, pathHit y.c.m q.path = true → condsHit y.c.m q = true → beats y.c x.c = false) :=
  server_pick ok p n hq hqh hsh

/-- the stability of `sortMatchRules` is what implements "the first rule / match in the list wins": the first entry, in
the order `upsertRoute` appends them, that satisfies a provenance-blind predicate has the least (rule, match) index
among the entries of its route that satisfy it -/
theorem source_order_breaks_ties {g : Gateway} {routes : List Route}
    (ids : nodup (routes.map fun r => (r.ns, r.name)) = true) {P : XE → Bool} (hP : Blind P) {x y : XE}
    (hx : (xentries g routes).find? P = some x) (hy : y ∈ xentries g routes) (hPy : P y = true)
    (hport : y.port = x.port) (hhost : y.host = x.host) (hns : y.c.ns = x.c.ns) (hname : y.c.name = x.c.name) :
    idxLt y.c x.c = false :=
  first_has_least_index ids hP hx hy hPy hport hhost hns hname

/-- **The end-to-end refinement theorem of the pipeline fragment.** For EVERY scenario of the fragment and EVERY
well-formed request, what NGINX does under the generated configuration is what Gateway API prescribes:
`nginxEvalConf (gen s) q = routeF s q`. Hypotheses (all executable, Model/Pipeline.lean and Model/PipelineHyp.lean):
`inFragment s`; `noShadow (gen s)` (excludes known finding 1, no fallback to a less specific path); `namesPlain s` (no
hostname is literally `~^`; model-only: the real validation rejects it); `routesHaveRules s` (excludes the finding
`C02:route-without-configured-rule-captures-its-hostnames`); `reqOK q` (concrete Host shorter than 100000, path
starting with `/`, no header value with a comma — the last excludes the list-valued-header reading and the finding
`C02:header-match-value-with-comma-never-matches`). -/
theorem route_refines_spec_fragment (s : Scenario) (q : Req)
    (hf : inFragment s = true) (hn : noShadow (gen s) = true)
    (hp : namesPlain s = true) (hr : routesHaveRules s = true) (hq : reqOK q = true) :
    nginxEvalConf (gen s) q = routeF s q :=
  refines_fragment s q hf hn hp hr hq

/-! non-vacuity, by evaluation (`gen` sorts and de-duplicates by well-founded recursion, which `decide` cannot unfold) -/

def exGw : Gateway :=
  { ns := "default".toList, name := "gw".toList, cls := "nginx".toList, age := 1,
    listeners := [⟨"l0".toList, 80, "*.example.com".toList, true⟩, ⟨"l1".toList, 80, [], false⟩] }
def exMatch (p : String) (exact : Bool) (hdr : List (Str × Str)) : Pipeline.Match :=
  { exact := exact, path := p.toList, method := [], headers := hdr, query := [] }
def exRoute : Route :=
  { ns := "default".toList, name := "r".toList, age := 2, parents := [⟨"default".toList, "gw".toList, none⟩],
    hostnames := ["cafe.example.com".toList], valid := true,
    rules := [⟨[exMatch "/coffee" false [("version".toList, "v1".toList)], exMatch "/coffee" false []],
                .forward [⟨"default_svc0_80".toList, 1, true⟩]⟩,
              ⟨[exMatch "/" false []], .redirect 302 (some "https".toList) none none⟩] }
def exForeign : Route := { exRoute with name := "x".toList, parents := [⟨"default".toList, "other-gw".toList, none⟩] }
def exScenario : Scenario :=
  { cls := "nginx".toList, ctlr := "ctl".toList, classes := [⟨"nginx".toList, "ctl".toList⟩],
    gateways := [exGw], routes := [exRoute] }
def exReq (host path : String) (hdr : List (Str × Str)) : Req :=
  { port := 80, host := host.toList, path := path.toList, method := "GET".toList, headers := hdr, query := [] }

#guard inFragment exScenario && noShadow (gen exScenario)
#guard (gen exScenario).servers.length == 1
#guard nginxEvalConf (gen exScenario) (exReq "cafe.example.com" "/coffee/x" [("Version".toList, "v1".toList)])
        == .proxy [("default_svc0_80".toList, 10000)]
#guard nginxEvalConf (gen exScenario) (exReq "cafe.example.com" "/tea" []) == .redirect 302 "https".toList "cafe.example.com".toList 443
#guard [exReq "cafe.example.com" "/coffee" [], exReq "cafe.example.com" "/coffeex" [], exReq "x.example.com" "/" [],
        exReq "cafe.example.com" "/" [], exReq "bar.org" "/coffee" []].all
        fun q => nginxEvalConf (gen exScenario) q == routeF exScenario q
#guard (gen { exScenario with routes := [exForeign, exRoute] }).servers.length == 1

-- the unowned region is inhabited: nobody owns bar.org on port 80 of the example (both sides 404)
#guard nginxEvalConf (gen exScenario) (exReq "bar.org" "/coffee" []) == .status 404

-- the hypotheses of `route_refines_spec_fragment` are satisfiable by a non-trivial state, on every region
#guard refineOK exScenario &&
  [exReq "cafe.example.com" "/coffee/x" [("Version".toList, "v1".toList)], exReq "cafe.example.com" "/coffee" [],
   exReq "cafe.example.com" "/tea" [], exReq "x.example.com" "/" [], exReq "bar.org" "/coffee" []].all reqOK
example : reqOK (exReq "cafe.example.com" "/coffee" [("Version".toList, "v1".toList)]) = true := by
  unfold exReq; decide_chars

/-! Each extra hypothesis is NECESSARY: at the excluded point the two sides differ, with every other hypothesis true. -/

/-- `routesHaveRules`: a valid route WITHOUT rules still gets a server for `cafe.example.com`, which answers 404 where
the specification routes to the `*.example.com` route (reproduced on the real pipeline: corpus/C02/11-…; known finding
`C02:route-without-configured-rule-captures-its-hostnames`) -/
def exNoRules : Scenario :=
  { exScenario with routes :=
      [{ exRoute with name := "norules".toList, rules := [] },
       { exRoute with name := "wild".toList, hostnames := ["*.example.com".toList],
                      rules := [⟨[exMatch "/" false []], .forward [⟨"default_svc0_80".toList, 1, true⟩]⟩] }] }
#guard inFragment exNoRules && noShadow (gen exNoRules) && namesPlain exNoRules && !routesHaveRules exNoRules &&
  reqOK (exReq "cafe.example.com" "/" [])
#guard nginxEvalConf (gen exNoRules) (exReq "cafe.example.com" "/" []) == .status 404
#guard routeF exNoRules (exReq "cafe.example.com" "/" []) == .proxy [("default_svc0_80".toList, 10000)]

/-- `namesPlain`: NGINX reads the server name `~^` as the catch-all regex (model only: `hostOK` lets the name pass, the
real hostname validation does not — `toFragment` puts such a scenario outside the fragment) -/
def exTilde : Scenario :=
  { exScenario with
      gateways := [{ exGw with listeners := [⟨"l1".toList, 80, [], false⟩] }],
      routes := [{ exRoute with hostnames := ["~^".toList],
                                rules := [⟨[exMatch "/" false []], .forward [⟨"default_svc0_80".toList, 1, true⟩]⟩] }] }
#guard inFragment exTilde && noShadow (gen exTilde) && !namesPlain exTilde && routesHaveRules exTilde
#guard nginxEvalConf (gen exTilde) (exReq "foo.com" "/" []) == .proxy [("default_svc0_80".toList, 10000)]
#guard routeF exTilde (exReq "foo.com" "/" []) == .status 404

-- `reqOK` (comma): njs splits the request header value at `,` and matches a piece; `headerHit` compares the line
#guard refineOK exScenario && !reqOK (exReq "cafe.example.com" "/coffee" [("version".toList, "v1,v2".toList)])
#guard nginxEvalConf (gen exScenario) (exReq "cafe.example.com" "/coffee" [("version".toList, "v1,v2".toList)])
        == .proxy [("default_svc0_80".toList, 10000)]
#guard nginxEvalConf (gen exScenario) (exReq "cafe.example.com" "/coffee" [("version".toList, "v1,v2".toList)])
        == routeF exScenario (exReq "cafe.example.com" "/coffee" [("version".toList, "v1,v2".toList)])
-- (in `exScenario` both matches of rule 0 forward to the same backend; with different backends the sides differ:)
def exComma : Scenario :=
  { exScenario with routes :=
      [{ exRoute with rules :=
          [⟨[exMatch "/coffee" false [("version".toList, "v1".toList)]], .forward [⟨"default_a_80".toList, 1, true⟩]⟩,
           ⟨[exMatch "/coffee" false []], .forward [⟨"default_b_80".toList, 1, true⟩]⟩] }] }
#guard refineOK exComma
#guard nginxEvalConf (gen exComma) (exReq "cafe.example.com" "/coffee" [("version".toList, "v1,v2".toList)])
        == .proxy [("default_a_80".toList, 10000)]
#guard routeF exComma (exReq "cafe.example.com" "/coffee" [("version".toList, "v1,v2".toList)])
        == .proxy [("default_b_80".toList, 10000)]

-- `winner_insert_gateway_anywhere` is not vacuous: a younger Gateway of our class, inserted after the served one
def exYoung : Gateway := { exGw with name := "gw-young".toList, age := 7, listeners := [⟨"http".toList, 8080, [], true⟩] }
example : olderGw exGw exYoung = true := by decide +kernel
#guard winner exScenario == some exGw && winner { exScenario with gateways := [exGw] ++ exYoung :: [] } == some exGw
#guard (gen { exScenario with gateways := [exGw] ++ exYoung :: [] }).ports == (gen exScenario).ports

example : inert exGw exForeign := inert_when_parent_elsewhere (by decide +kernel)

end pipeline

/-! ### HTTPS listeners: the refinement theorem by projection (Model/PipelineTls.genT of the C16 builder, read-only;
Model/PipelineTlsEval.lean: `nginxEvalConfT`, `routeT`, `hostDNS`)

`genT s` projects the cluster state to its valid HTTP / valid HTTPS listeners and reuses `Pipeline.gen` for both; so the
HTTP theorem, applied to `httpsPart s`, does the routing, and what is proved here on top is the TLS front of
servers_template.go: the default SSL server rejects the handshake exactly when no valid HTTPS listener of the port
covers the SNI name, servers are chosen by SNI and by Host, and `if ($ssl_server_name != $host) return 421`. -/
section https
open NGF.Pipeline NGF.PipelineTls

/-- what `validateHostname` (graph/validation.go) accepts is never the regex server name `~^`; hence the fragment with
real hostnames (`inFragmentDNS`) needs no `namesPlain` -/
theorem hostDNS_never_catchAll {h : Str} (hd : hostDNS h = true) : h ≠ NGF.NginxEval.catchAll :=
  hostDNS_ne_catchAll hd

theorem namesPlain_from_hostDNS {s : Scenario} (h : hostsDNS s = true) : namesPlain s = true :=
  namesPlain_of_hostsDNS h

/-- **`route_refines_spec_fragment` without `namesPlain`**: hostnames as the real validator accepts them. -/
theorem route_refines_spec_fragment_dns (s : Scenario) (q : Req)
    (hf : inFragmentDNS s = true) (hn : noShadow (gen s) = true) (hr : routesHaveRules s = true)
    (hq : reqOK q = true) : nginxEvalConf (gen s) q = routeF s q := by
  simp only [inFragmentDNS, Bool.and_eq_true] at hf
  exact refines_fragment s q hf.1 hn (namesPlain_of_hostsDNS hf.2) hr hq

/-- the specification's valid listeners are the generator's: `routeT` is written without `validHttp`/`validHttps`/`genT` -/
theorem spec_valid_listeners_are_the_generators (s : ScenarioT) :
    specScenario true s = httpsPart s ∧ specScenario false s = httpPart s :=
  ⟨specScenario_true s, specScenario_false s⟩

/-- **The end-to-end refinement theorem on HTTP and HTTPS listeners.** For EVERY `ScenarioT` of the fragment and EVERY
well-formed request — plain HTTP, or over TLS with SNI = Host — `nginxEvalConfT (genT s) q = routeT s q`: refused /
400 on a port without valid listener of the protocol, handshake rejected when no valid HTTPS listener of the port covers
the SNI name, else exactly the routing Gateway API prescribes over the valid listeners of the protocol.
`refineOKT s` = `inFragmentT s`, hostnames pass `validateHostname`, `routesHaveRules`, `noShadow` of both projections;
`reqOKT s q` = `reqOK q.req` and, over TLS, `sniServed` (excludes the known finding
`C02:https-sni-covered-by-listener-but-no-server-closed`) and `noRoutelessShadow` (the Listener-Isolation SHOULD: the
404 server of a route-less HTTPS listener; the full oracle accepts both outcomes). -/
theorem route_refines_spec_https (s : ScenarioT) (q : ReqT) (hs : refineOKT s = true) (hq : reqOKT s q = true)
    (hsh : q.tls = true → q.sni = q.req.host) : nginxEvalConfT (genT s) q = routeT s q :=
  refines_https s q hs hq hsh

/-- plain-HTTP requests on `genT`: corollary (`http_part_unchanged` of C16 + the HTTP theorem) -/
theorem route_refines_spec_plain_on_genT (s : ScenarioT) (q : Req) (hs : refineOKT s = true) (hq : reqOK q = true) :
    nginxEvalConfT (genT s) ⟨false, [], q⟩ = routeT s ⟨false, [], q⟩ :=
  refines_https s ⟨false, [], q⟩ hs (by simp [reqOKT, hq]) (by intro h; cases h)

/-- **SNI ≠ Host.** When the SNI name and the Host header name different hosts that both have a generated server on the
port, NGINX answers 421 Misdirected Request — the request is never handed to the backend of the Host's routes (another
tenant's) over a connection authenticated for the SNI name — and the specification says 421 too. -/
theorem sni_host_mismatch_421 (s : ScenarioT) (q : ReqT) (hs : refineOKT s = true) (htls : q.tls = true)
    (hne : q.sni ≠ q.req.host)
    (hsni : NGF.NginxEval.isWildName q.sni = false ∧ q.sni ≠ NGF.NginxEval.catchAll) (hslen : q.sni.length < 100000)
    (hsne : q.sni ≠ [])
    (hhost : NGF.NginxEval.isWildName q.req.host = false ∧ q.req.host ≠ NGF.NginxEval.catchAll)
    (hc1 : ∃ n ∈ sslNames (genT s) q.req.port, nameCovers n q.sni = true)
    (hc2 : ∃ n ∈ sslNames (genT s) q.req.port, nameCovers n q.req.host = true) :
    nginxEvalConfT (genT s) q = .plain (.status 421) ∧ routeT s q = .plain (.status 421) :=
  mismatch_421 s q hs htls hne hsni hsne hhost hc1 hc2

/-- every SSL server of `genT s` presents a certificate, and its name belongs to a valid HTTPS listener covering every
concrete host the name stands for -/
theorem ssl_server_name_has_covering_listener {s : ScenarioT} {gT : GatewayT} (hw : winnerT s = some gT)
    (hs : refineOKT s = true) {p : Nat} {n q : Str} (hq : NGF.Hostname.isWild q = false)
    (hn : n ∈ sslNames (genT s) p) (hc : nameCovers n q = true) :
    ∃ l ∈ gT.listeners, validHttps s gT l = true ∧ l.base.port = p ∧ Pipeline.covers l.base.host q = true :=
  ssl_name_listener hw (scenOK_https hw (refineOKT_unpack hs)) (listeners_not_catchAll hw (refineOKT_unpack hs)) hq hn hc

/-! non-vacuity and necessity, by evaluation -/

def tS (x : String) : Str := x.toList
def tSecrets : List Tls.SecretObj := [⟨tS "default", tS "tls-a", true, true, tS "cert-a", tS "key-a"⟩, ⟨tS "default", tS "tls-b", true, true, tS "cert-b", tS "key-b"⟩]
def tL (name : String) (port : Nat) (host : String) (https : Bool) (cert : Option String) : ListenerT :=
  { base := ⟨tS name, port, tS host, true⟩, https := https, cert := cert.map fun c => (tS "default", tS c) }
def tRoute (name : String) (sect : Option String) (hosts : List String) (path backend : String) : Route :=
  { ns := tS "default", name := tS name, age := 3, parents := [⟨tS "default", tS "gw", sect.map tS⟩],
    hostnames := hosts.map tS, valid := true,
    rules := [⟨[exMatch path false []], .forward [⟨tS backend, 1, true⟩]⟩] }
def tScen (ls : List ListenerT) (rs : List Route) : ScenarioT :=
  { cls := tS "nginx", ctlr := tS "ctl", classes := [⟨tS "nginx", tS "ctl"⟩],
    gateways := [{ ns := tS "default", name := tS "gw", cls := tS "nginx", age := 2, listeners := ls }],
    routes := rs, secrets := tSecrets, grants := [] }
def tReq (tls : Bool) (port : Nat) (sni host path : String) : ReqT :=
  { tls := tls, sni := tS sni, req := { port := port, host := tS host, path := tS path, method := tS "GET", headers := [], query := [] } }

/-- an HTTPS wildcard listener and an HTTP listener, one route on both -/
def tEx : ScenarioT :=
  tScen [tL "https" 443 "*.example.com" true (some "tls-a"), tL "http" 80 "" false none]
    [tRoute "r" none ["cafe.example.com"] "/" "default_svc0_80"]

#guard refineOKT tEx
#guard [tReq true 443 "cafe.example.com" "cafe.example.com" "/x", tReq false 80 "" "cafe.example.com" "/x",
        tReq true 443 "" "cafe.example.com" "/", tReq true 80 "cafe.example.com" "cafe.example.com" "/",
        tReq false 443 "" "cafe.example.com" "/", tReq true 8443 "a.b" "a.b" "/"].all fun q =>
      reqOKT tEx q && nginxEvalConfT (genT tEx) q == routeT tEx q
#guard nginxEvalConfT (genT tEx) (tReq true 443 "cafe.example.com" "cafe.example.com" "/x")
        == .plain (.proxy [(tS "default_svc0_80", 10000)])
#guard nginxEvalConfT (genT tEx) (tReq true 443 "" "cafe.example.com" "/") == .closed
#guard nginxEvalConfT (genT tEx) (tReq true 80 "cafe.example.com" "cafe.example.com" "/") == .plain (.status 400)

-- `sniServed` is NECESSARY (known finding 7): the listener covers foo.example.com, no server does — handshake rejected
-- where the specification answers 404
#guard refineOKT tEx && !sniServed tEx (tReq true 443 "foo.example.com" "foo.example.com" "/")
#guard nginxEvalConfT (genT tEx) (tReq true 443 "foo.example.com" "foo.example.com" "/") == .closed
#guard routeT tEx (tReq true 443 "foo.example.com" "foo.example.com" "/") == .plain (.status 404)

/-- a route-less HTTPS listener `cafe.example.com` beside a routed wildcard listener -/
def tIso : ScenarioT :=
  tScen [tL "cafe" 443 "cafe.example.com" true (some "tls-b"), tL "wild" 443 "*.example.com" true (some "tls-a")]
    [tRoute "r" (some "wild") [] "/" "default_svc0_80"]

-- `noRoutelessShadow` is NECESSARY: NGF's 404 server of the route-less listener isolates its hostname (Listener
-- Isolation, a SHOULD), the non-isolated reading `routeT` routes through the wildcard listener
#guard refineOKT tIso && sniServed tIso (tReq true 443 "cafe.example.com" "cafe.example.com" "/") &&
  !noRoutelessShadow tIso (tReq true 443 "cafe.example.com" "cafe.example.com" "/")
#guard nginxEvalConfT (genT tIso) (tReq true 443 "cafe.example.com" "cafe.example.com" "/") == .plain (.status 404)
#guard routeT tIso (tReq true 443 "cafe.example.com" "cafe.example.com" "/") == .plain (.proxy [(tS "default_svc0_80", 10000)])
#guard reqOKT tIso (tReq true 443 "x.example.com" "x.example.com" "/") &&
  nginxEvalConfT (genT tIso) (tReq true 443 "x.example.com" "x.example.com" "/") == routeT tIso (tReq true 443 "x.example.com" "x.example.com" "/")

-- `sni_host_mismatch_421` is not vacuous: two tenants on one port
def tTwo : ScenarioT :=
  tScen [tL "a" 443 "a.example.com" true (some "tls-a"), tL "b" 443 "b.example.com" true (some "tls-b")]
    [tRoute "ra" (some "a") [] "/" "default_a_80", tRoute "rb" (some "b") [] "/" "default_b_80"]
#guard refineOKT tTwo
#guard nginxEvalConfT (genT tTwo) (tReq true 443 "a.example.com" "b.example.com" "/") == .plain (.status 421)
#guard routeT tTwo (tReq true 443 "a.example.com" "b.example.com" "/") == .plain (.status 421)
#guard nginxEvalConfT (genT tTwo) (tReq true 443 "b.example.com" "b.example.com" "/") == .plain (.proxy [(tS "default_b_80", 10000)])

example : hostDNS "*.example.com".toList = true ∧ hostDNS "cafe.example.com".toList = true ∧ hostDNS "~^".toList = false ∧
    hostDNS "-x.example.com".toList = false ∧ hostDNS "UPPER.example.com".toList = false := by decide_chars

end https

/-! ### regenerated facts: the source text the models mirror (NGF/Generated/RoutingFacts.lean, rewritten from the
current /repo on every run). A changed statement breaks the expectation lemma next to the model it pins. -/
section facts
open NGF.Generated.Routing

/-- `higherPriority` is the chain Model/Precedence.higherPriority mirrors -/
theorem facts_higherPriority : higherPriorityStmts =
  ["if rule1.Match.Method != nil && rule2.Match.Method == nil { return true }",
   "if rule2.Match.Method != nil && rule1.Match.Method == nil { return false }",
   "l1 := len(rule1.Match.Headers)",
   "l2 := len(rule2.Match.Headers)",
   "if l1 != l2 { return l1 > l2 }",
   "l1 = len(rule1.Match.QueryParams)",
   "l2 = len(rule2.Match.QueryParams)",
   "if l1 != l2 { return l1 > l2 }",
   "return ngfsort.LessObjectMeta(rule1.Source, rule2.Source)"] := rfl

/-- `sortMatchRules` uses the STABLE sort (`sort_is_precedence` models a stable sort) -/
theorem facts_sort_is_stable : sortMatchRulesSortFn = "sort.SliceStable" := rfl

theorem facts_lessObjectMeta : lessObjectMetaStmts =
  ["if meta1.CreationTimestamp.Equal(&meta2.CreationTimestamp) { if meta1.Namespace == meta2.Namespace { return meta1.Name < meta2.Name } return meta1.Namespace < meta2.Namespace }",
   "return meta1.CreationTimestamp.Before(&meta2.CreationTimestamp)"] := rfl

/-- `match` (Model/Hostname.hmatch, wildcardMatch) -/
theorem facts_match : matchStmts =
  ["if listenerHost == \"\" { return true }",
   "if routeHost == listenerHost { return true }",
   "wildcardMatch := func(host1, host2 string) bool { return strings.HasPrefix(host1, \"*.\") && strings.HasSuffix(host2, strings.TrimPrefix(host1, \"*\")) }",
   "if wildcardMatch(listenerHost, routeHost) { return true }",
   "return wildcardMatch(routeHost, listenerHost)"] := rfl

/-- `GetMoreSpecificHostname` (Model/Hostname.moreSpecific) -/
theorem facts_getMoreSpecificHostname : getMoreSpecificHostnameStmts =
  ["if hostname1 == hostname2 { return hostname1 }",
   "if hostname1 == \"\" { return hostname2 }",
   "if hostname2 == \"\" { return hostname1 }",
   "if strings.HasPrefix(hostname1, \"*.\") { if strings.HasPrefix(hostname2, \"*.\") { subdomains1 := strings.Split(hostname1, \".\") subdomains2 := strings.Split(hostname2, \".\") if len(subdomains1) > len(subdomains2) { return hostname1 } return hostname2 } return hostname2 }",
   "if strings.HasPrefix(hostname2, \"*.\") { return hostname1 }",
   "return \"\""] := rfl

/-- `findAcceptedHostnames` (Model/Hostname.accepted) -/
theorem facts_findAcceptedHostnames : findAcceptedHostnamesStmts =
  ["hostname := getHostname(listenerHostname)",
   "if len(routeHostnames) == 0 { if hostname == \"\" { return []string{wildcardHostname} } return []string{hostname} }",
   "var result []string",
   "for _, h := range routeHostnames { routeHost := string(h) if match(hostname, routeHost) { result = append(result, GetMoreSpecificHostname(hostname, routeHost)) } }",
   "return result"] := rfl

/-- `validateHostname` (graph/validation.go), what `PipelineTls.hostDNS` mirrors: non-empty; `*.`-prefixed names through
IsWildcardDNS1123Subdomain, all others through IsDNS1123Subdomain; and it is what both the listener hostname and every
route hostname go through -/
theorem facts_validateHostname :
    validateHostnameStmts =
      ["if hostname == \"\" { return errors.New(\"cannot be empty string\") }",
       "if strings.HasPrefix(hostname, \"*.\") { msgs := validation.IsWildcardDNS1123Subdomain(hostname) if len(msgs) > 0 { combined := strings.Join(msgs, \",\") return errors.New(combined) } return nil }",
       "msgs := validation.IsDNS1123Subdomain(hostname)",
       "if len(msgs) > 0 { combined := strings.Join(msgs, \",\") return errors.New(combined) }",
       "return nil"] ∧
    validateHostnamesStmts[1]? = some "for i := range hostnames { if err := validateHostname(string(hostnames[i])); err != nil { allErrs = append(allErrs, field.Invalid(path.Index(i), hostnames[i], err.Error())) continue } }" ∧
    validateListenerHostnameStmts.take 4 =
      ["if listener.Hostname == nil { return nil, true }", "h := string(*listener.Hostname)",
       "if h == \"\" { return nil, true }",
       "if err := validateHostname(h); err != nil { path := field.NewPath(\"hostname\") valErr := field.Invalid(path, listener.Hostname, err.Error()) return staticConds.NewListenerUnsupportedValue(valErr.Error()), false }"] := by
  refine ⟨rfl, rfl, rfl⟩

/-- the catch-all server name is the one the models use -/
theorem facts_wildcardHostname :
    graphWildcardHostname = String.ofList NGF.Hostname.wildcardHostname ∧
    dataplaneWildcardHostname = String.ofList NGF.NginxEval.catchAll := by decide +kernel

/-- attachment reads the parentRef's sectionName and the listener's allowedRoutes.namespaces; a route whose Namespace
object is unknown is not allowed by a Selector listener (commit d734bd5; the oracle's `nsAllowed` says the same) -/
theorem facts_attachment :
    validateParentRefSectionArg = "getSectionName(ref.SectionName)" ∧
    isRouteNamespaceAllowedStmts =
      ["if listener.Source.AllowedRoutes != nil && listener.Source.AllowedRoutes.Namespaces != nil { switch *listener.Source.AllowedRoutes.Namespaces.From { case v1.NamespacesFromAll: return true case v1.NamespacesFromSame: return routeNS == gwNS case v1.NamespacesFromSelector: if listener.AllowedRouteLabelSelector == nil { return false } ns, exists := namespaces[types.NamespacedName{Name: routeNS}] if !exists { return false } return listener.AllowedRouteLabelSelector.Matches(labels.Set(ns.Labels)) } }",
       "return true"] ∧
    findAttachableListenersStmts =
      ["if sectionName != \"\" { for _, l := range listeners { if l.Name == sectionName { if l.Attachable { return []*Listener{l}, true } return nil, true } } return nil, false }",
       "attachableListeners := make([]*Listener, 0, len(listeners))",
       "for _, l := range listeners { if !l.Attachable { continue } attachableListeners = append(attachableListeners, l) }",
       "return attachableListeners, true"] :=
  ⟨rfl, rfl, rfl⟩

/-- `ConvertGRPCMatches` keeps the path value and type per match (the repair of DESIGN §7 row 3) -/
theorem facts_grpc_convert_per_iteration : grpcPathVarsPerIteration = true := rfl

/-- the location scheme Model/Precedence.genLocs mirrors -/
theorem facts_location_scheme :
    exactPathFmt = "= %s" ∧ internalLocationFmt = "%s-rule%d-route%d" ∧ internalRoutePathPrefix = "/_ngf-internal" ∧
    isNonSlashedPrefixPathStmts = ["return pathType == dataplane.PathTypePrefix && !strings.HasSuffix(path, \"/\")"] ∧
    createPathStmts = ["switch rule.PathType { case dataplane.PathTypeExact: return exactPath(rule.Path) default: return rule.Path }"] :=
  ⟨rfl, rfl, rfl, rfl, rfl⟩

theorem facts_initializeExternalLocations : initializeExternalLocationsStmts =
  ["extLocations := make([]http.Location, 0, 2)",
   "locType := getLocationTypeForPathRule(rule)",
   "externalLocPath := createPath(rule)",
   "if isNonSlashedPrefixPath(rule.PathType, externalLocPath) { _, exactPathExists := pathsAndTypes[rule.Path][dataplane.PathTypeExact] var trailingSlashPrefixPathExists bool if pathTypes, exists := pathsAndTypes[rule.Path+\"/\"]; exists { _, trailingSlashPrefixPathExists = pathTypes[dataplane.PathTypePrefix] } if exactPathExists && trailingSlashPrefixPathExists { return []http.Location{} } if !trailingSlashPrefixPathExists { externalLocTrailing := http.Location{ Path: externalLocPath + \"/\", Type: locType, } extLocations = append(extLocations, externalLocTrailing) } if !exactPathExists { externalLocExact := http.Location{ Path: exactPath(externalLocPath), Type: locType, } extLocations = append(extLocations, externalLocExact) } } else { externalLoc := http.Location{ Path: externalLocPath, Type: locType, } extLocations = []http.Location{externalLoc} }",
   "return extLocations"] := rfl

/-- when a path rule goes through the njs matcher, and which upstream a backend group names -/
theorem facts_internal_locations_and_groups :
    needsInternalLocationsStmts = ["if len(rule.MatchRules) > 1 { return true }",
      "return len(rule.MatchRules) == 1 && !isPathOnlyMatch(rule.MatchRules[0].Match)"] ∧
    isPathOnlyMatchStmts = ["return match.Method == nil && len(match.Headers) == 0 && len(match.QueryParams) == 0"] ∧
    backendGroupNameStmts = ["switch len(group.Backends) { case 0: return invalidBackendRef case 1: b := group.Backends[0] if b.Weight == 0 || !b.Valid { return invalidBackendRef } return b.UpstreamName default: return group.Name() }"] ∧
    invalidBackendRef = "invalid-backend-ref" ∧ backendGroupNameFmt = "group_%s__%s_rule%d" ∧
    servicePortReferenceFmt = "%s_%s_%d" ∧ headerMatchSeparator = ":" :=
  ⟨rfl, rfl, rfl, rfl, rfl, rfl, rfl⟩

/-- the gRPC flag handed to internal locations: the server-accumulated `grpc` (known finding, DESIGN §7 row 22) or,
once repaired, the rule's own flag -/
theorem facts_internal_location_grpc_arg :
    initializeInternalLocationArgs.length = 4 ∧
    (initializeInternalLocationArgs.getLast? = some "grpc" ∨ initializeInternalLocationArgs.getLast? = some "rule.GRPC") := by
  decide +kernel

/-- httpmatches.js: the first satisfied match of the list wins; any, then method, headers, params; header values are
compared against the comma-separated request values; the first value of a repeated query parameter counts -/
theorem facts_njs :
    njsTestMatchOrder = ["match.any", "match.method", "match.headers", "match.params"] ∧
    njsFindWinningIsFirstMatch = true ∧ njsHeaderSplitColon = true ∧ njsHeaderValuesSplitComma = true ∧
    njsParamsFirstValue = true ∧ njsParamsFirstEquals = true :=
  ⟨rfl, rfl, rfl, rfl, rfl, rfl⟩

end facts

end NGF.Props.C02
