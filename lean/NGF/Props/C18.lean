/-
C18 — property theorems for the provisioner model (`NGF.Model.Provisioner`): exactly one NGF
Deployment per Gateway of the configured class.

Every theorem quantifies over ALL histories `hist : List (batch × order)`: any sequence of
upsert/delete events of Gateways (with any gatewayClassName, so class changes are included) and
GatewayClasses, cut into batches in any way, and any order in which Go ranges over its maps.
Because `hist` is arbitrary, a statement about `run cfg init hist` is a statement about the state
after every batch of every history.

`run` is the code in the tree (removal loop of commit bb91ad6); `runPreFix` is the code before
that commit, kept with its witness and `_partial` theorems as the regression detector: the check
compares the real handler with both and reports a tree that behaves like `runPreFix`.

`crashed = none` is the explicit precondition "the configured GatewayClass was in the store after
every batch so far" (`panic_iff_gc_absent`); without it the real handler panics (`panic_reachable`).
-/
import NGF.Proofs.ProvisionerRun
import NGF.Proofs.CharLits
import NGF.Generated.ProvisionerFacts

namespace NGF.Prov

def kA : Key := ⟨['n','s','1'], ['g','w','-','a']⟩
def kB : Key := ⟨['n','s','2'], ['g','w','-','a']⟩
def kC : Key := ⟨['n','s','2'], ['g','w','-','c']⟩
def cN : Str := ['n','g','i','n','x']
def cO : Str := ['o','t','h','e','r']
def cfg0 : Cfg := ⟨cN, [['s','t','a','t','i','c','-','m','o','d','e'], lockFlag ++ ['x']]⟩
/-- create class + two Gateways; re-point one away; delete the other and re-create it; a conflicting class -/
def hist0 : Hist :=
  [([.upsertGC cN, .upsertGw kA cN, .upsertGw kB cN, .crd], [kB, kA]),
   ([.upsertGw kA cO, .upsertGC cO], []),
   ([.deleteGw kB, .upsertGw kB cN, .upsertGw kC cN], [kC])]
/-- a history without a class change -/
def hist1 : Hist :=
  [([.upsertGC cN, .upsertGw kA cN, .upsertGw kB cO], []),
   ([.deleteGw kA, .upsertGC cO], []),
   ([.upsertGw kA cN, .upsertGw kC cN], [kC, kA])]

/-! ### Deployments = Gateways of the configured class (the code in the tree, commit bb91ad6) -/

/-- `provisions_match`, FULL STRENGTH: after every batch of every history (any batching, any map
order) that has not panicked, a Gateway has a Deployment exactly when it is stored with the
configured class. -/
theorem provisions_match (cfg : Cfg) (hist : Hist) (hc : (run cfg init hist).crashed = none) (k : Key) :
    hasKey (run cfg init hist).prov k = true ↔ get? (run cfg init hist).gws k = some cfg.gcName :=
  run_exact cfg hist hc k

/-- Every stored Gateway of the configured class has a Deployment. -/
theorem every_class_gateway_has_deployment (cfg : Cfg) (hist : Hist)
    (hc : (run cfg init hist).crashed = none) (k : Key)
    (hk : get? (run cfg init hist).gws k = some cfg.gcName) : hasKey (run cfg init hist).prov k = true :=
  (provisions_match cfg hist hc k).mpr hk

/-- Every Deployment belongs to a Gateway that is still stored — and still of the configured class. -/
theorem every_deployment_has_gateway (cfg : Cfg) (hist : Hist)
    (hc : (run cfg init hist).crashed = none) (k : Key)
    (hk : hasKey (run cfg init hist).prov k = true) :
    hasKey (run cfg init hist).gws k = true ∧ get? (run cfg init hist).gws k = some cfg.gcName :=
  ⟨hasKey_of_get?_some ((provisions_match cfg hist hc k).mp hk), (provisions_match cfg hist hc k).mp hk⟩

example : (run cfg0 init hist0).crashed = none ∧ hasKey (run cfg0 init hist0).prov kA = false ∧
    hasKey (run cfg0 init hist0).prov kB = true ∧ (run cfg0 init hist0).cluster.length = 2 := by decide +kernel

/-- The Deployments held by the API server are exactly the values of `provisions`, one per key:
`provisions` has no duplicate Gateway and the cluster lists the same Deployments in the same order. -/
theorem cluster_is_provisions (cfg : Cfg) (hist : Hist) :
    (run cfg init hist).cluster = (run cfg init hist).prov.map (·.2) ∧
    ((run cfg init hist).prov.map (·.1)).Nodup :=
  ⟨(run_wf cfg hist).cluster_eq, (run_wf cfg hist).provKeys⟩

/-- A Gateway that stays in the store with the configured class keeps the Deployment it has (no
re-creation, no renaming). -/
theorem deployment_retained (cfg : Cfg) (hist : Hist) (b : List Ev) (o : List Key) (k : Key)
    (hc : (run cfg init (hist ++ [(b, o)])).crashed = none)
    (hk : hasKey (run cfg init hist).prov k = true)
    (hg : get? (run cfg init (hist ++ [(b, o)])).gws k = some cfg.gcName) :
    get? (run cfg init (hist ++ [(b, o)])).prov k = get? (run cfg init hist).prov k := by
  obtain ⟨hc0, hgc⟩ := runWith_snoc_ok removedGwsWithDeps (wf_init cfg) hc
  rw [run_snoc] at hg ⊢
  exact step_retained (run_wf cfg hist) hc0 hgc o k hk hg

/-- Deployment names are pairwise distinct (the counter only grows and `%d` is injective). -/
theorem names_unique (cfg : Cfg) (hist : Hist) : ((run cfg init hist).cluster.map (·.name)).Nodup := by
  have h := run_wf cfg hist
  rw [h.cluster_eq, List.map_map]
  exact h.names

/-- Every Deployment is `prepareDeployment` of an id below the counter and of its own Gateway. -/
theorem deployment_is_prepared (cfg : Cfg) (hist : Hist) (p : Key × Dep) (hp : p ∈ (run cfg init hist).prov) :
    ∃ i, i < (run cfg init hist).nextID ∧ p.2 = prepare cfg.tmpl i p.1 :=
  (run_wf cfg hist).prepared p hp

/-- `app` selectors are pairwise distinct and equal the pod template label. -/
theorem selectors_unique (cfg : Cfg) (hist : Hist) :
    ((run cfg init hist).cluster.map (·.selApp)).Nodup ∧
    ∀ d ∈ (run cfg init hist).cluster, d.selApp = d.podApp ∧ d.selApp = d.name := by
  have hsel : ∀ d ∈ (run cfg init hist).cluster, d.selApp = d.podApp ∧ d.selApp = d.name := fun d hd => by
    obtain ⟨k, i, _, rfl⟩ := (run_wf cfg hist).cluster_prepared hd
    exact ⟨rfl, rfl⟩
  refine ⟨?_, hsel⟩
  rw [List.map_congr_left fun d hd => (hsel d hd).2]
  exact names_unique cfg hist

/-- Names are never re-used: a name in use is `nginx-gateway-<i>` for an `i` below the counter, and
the next name handed out is different from all of them. -/
theorem next_name_fresh (cfg : Cfg) (hist : Hist) :
    ∀ d ∈ (run cfg init hist).cluster, d.name ≠ idName (run cfg init hist).nextID :=
  fun _ hd => (run_wf cfg hist).fresh hd

example : (run cfg0 init hist0).cluster.map (·.name) = [idName 1, idName 3] ∧
    (run cfg0 init hist0).nextID = 4 := by decide +kernel

/-! ### configured for precisely its Gateway -/

/-- Each Deployment carries `--gateway=<ns>/<name>` of its own Gateway and
`--update-gatewayclass-status=false`; if the manifest has no `--gateway=` arg of its own
(`TmplOK`, proved below for the manifest in the tree) it carries no other `--gateway=` arg. -/
theorem configured_for_its_gateway (cfg : Cfg) (hist : Hist) (p : Key × Dep) (hp : p ∈ (run cfg init hist).prov) :
    gwFlag ++ gwString p.1 ∈ p.2.args ∧ updFlag ∈ p.2.args ∧
    (TmplOK cfg.tmpl → ∀ a ∈ p.2.args, gwFlag.isPrefixOf a = true → a = gwFlag ++ gwString p.1) := by
  obtain ⟨i, _, e⟩ := deployment_is_prepared cfg hist p hp
  rw [e]
  refine ⟨by simp, by simp, fun ht a ha hpre => List.mem_singleton.mp ?_⟩
  rw [← filter_gwFlag_prepareArgs ht p.1 (idName i)]
  exact List.mem_filter.mpr ⟨ha, hpre⟩

/-- … and nothing of another Gateway: the `--gateway=` flag of a different Gateway (namespaces are
DNS labels, so contain no '/') does not occur among its args. -/
theorem not_configured_for_another_gateway (cfg : Cfg) (hist : Hist) (ht : TmplOK cfg.tmpl) (p q : Key × Dep)
    (hp : p ∈ (run cfg init hist).prov) (hne : p.1 ≠ q.1) (h1 : '/' ∉ p.1.ns) (h2 : '/' ∉ q.1.ns) :
    gwFlag ++ gwString q.1 ∉ p.2.args := by
  intro hmem
  have := (configured_for_its_gateway cfg hist p hp).2.2 ht _ hmem
    (isPrefixOf_append_self _ _)
  exact hne (gwString_inj h2 h1 (List.append_cancel_left this)).symm

/-- The leader-election lock is named after the Gateway (its name only — two Gateways with one
name in different namespaces share it, see `lock_name_shared_across_namespaces`). -/
theorem lock_name_of_its_gateway (cfg : Cfg) (hist : Hist) (p : Key × Dep) (hp : p ∈ (run cfg init hist).prov)
    (a : Str) (ha : a ∈ cfg.tmpl) (hl : isInfix lockNeedle a = true) : lockFlag ++ p.1.name ∈ p.2.args := by
  obtain ⟨i, _, e⟩ := deployment_is_prepared cfg hist p hp
  rw [e]
  simp only [prepare_args, List.mem_cons, List.mem_map]
  exact Or.inr (Or.inr ⟨a, ha, rewriteArg_pos _ hl⟩)

/-- OBSERVATION (outside the letter of C18): Gateways `ns1/gw-a` and `ns2/gw-a` get Deployments with
the same `--leader-election-lock-name`. -/
theorem lock_name_shared_across_namespaces :
    let s := run cfg0 init [([.upsertGC cN, .upsertGw kA cN, .upsertGw kB cN], [])]
    s.cluster.length = 2 ∧ ∀ d ∈ s.cluster, lockFlag ++ kA.name ∈ d.args := by decide +kernel

/-! ### argument rewriting of `prepareDeployment`: `prepareArgs` (the function `prepare` — hence `run` — uses)

For ALL Gateway keys (in particular all DNS-1123 namespace/name pairs, however hostile: a namespace or name may
contain `leader-election-lock-name`, `gateway`, `--`, …) and all template arg lists of the shape of the manifest
in the tree (`manifestShape`, which `manifest_shape_ok` establishes for that manifest). -/

/-- namespace `leader-election-lock-name`, name `gw`: a legal Gateway key that contains the needle -/
def kH1 : Key := ⟨lockNeedle, ['g','w']⟩
/-- the needle inside a label of the (subdomain) name -/
def kH2 : Key := ⟨['n','s','1'], ['x','-'] ++ lockNeedle ++ ['.','a']⟩
def tmpl0 : List Str := [['s','t','a','t','i','c','-','m','o','d','e'], lockFlag ++ ['x'], ['-','-','y']]

/-- the loop of `prepareDeployment` in closed form: the two fresh args, then the template args with every arg
that CONTAINS the needle replaced -/
theorem prepareArgs_closed_form (tmpl : List Str) (k : Key) (id : Str) :
    prepareArgs tmpl k id = (gwFlag ++ gwString k) :: updFlag :: tmpl.map (rewriteArg k) :=
  prepareArgs_eq tmpl k id

/-- `args_exactly_one_gateway`, FULL STRENGTH: for every key and every template without a `--gateway=` arg of its
own the prepared args carry exactly one `--gateway=` arg, it is `--gateway=<ns>/<name>` of the key, and for a
DNS-1123 key its value decodes (exactly two '/'-separated parts) to that key and to no other. -/
theorem args_exactly_one_gateway (tmpl : List Str) (ht : TmplOK tmpl) (k : Key) (id : Str) :
    (prepareArgs tmpl k id).filter (fun a => gwFlag.isPrefixOf a) = [gwFlag ++ gwString k] ∧
    (dnsKey k = true → parseGwValue (gwString k) = some k) :=
  ⟨filter_gwFlag_prepareArgs ht k id, parseGwValue_of_dnsKey⟩

example : dnsKey kH1 = true ∧ dnsKey kH2 = true ∧ dnsKey kA = true ∧ TmplOK tmpl0 ∧
    isInfix lockNeedle (gwFlag ++ gwString kH1) = true ∧ isInfix lockNeedle (gwFlag ++ gwString kH2) = true ∧
    (prepareArgs tmpl0 kH1 (idName 1)).filter (fun a => gwFlag.isPrefixOf a) = [gwFlag ++ gwString kH1] := by
  decide +kernel

/-- `args_exactly_one_lock_name`: for a template of the manifest's shape there is exactly one
`--leader-election-lock-name=` arg and its value is the NAME of the Deployment's Gateway. -/
theorem args_exactly_one_lock_name (tmpl : List Str) (hs : manifestShape tmpl = true) (k : Key) (id : Str) :
    (prepareArgs tmpl k id).filter (fun a => lockFlag.isPrefixOf a) = [lockFlag ++ k.name] := by
  obtain ⟨a, ha⟩ := List.length_eq_one_iff.mp (manifestShape_one hs)
  rw [prepareArgs_eq]
  simp only [List.filter_cons, lockFlag_not_prefix_gw, lockFlag_not_prefix_upd, Bool.false_eq_true, if_false]
  rw [filter_lockFlag_rewritten, ha]
  rfl

/-- `args_other_preserved`, FULL STRENGTH (every template, every key): the prepared list is two args longer than the
template; position `j+2` holds template arg `j` unchanged unless it contains the needle (then the lock-name arg);
the template args that do not contain the needle survive unchanged, all of them, in their order, and nothing
else without the needle follows the two fresh args. -/
theorem args_other_preserved (tmpl : List Str) (k : Key) (id : Str) :
    (prepareArgs tmpl k id).length = tmpl.length + 2 ∧
    (∀ j (h : j < tmpl.length), (prepareArgs tmpl k id)[j + 2]? =
      some (if isInfix lockNeedle tmpl[j] then lockFlag ++ k.name else tmpl[j])) ∧
    ((prepareArgs tmpl k id).drop 2).filter (fun a => !isInfix lockNeedle a) =
      tmpl.filter (fun a => !isInfix lockNeedle a) := by
  rw [prepareArgs_eq]
  refine ⟨by simp, ?_, ?_⟩
  · intro j h
    simp [rewriteArg, h]
  · simp only [List.drop_succ_cons, List.drop_zero]
    exact filter_noNeedle_rewritten k tmpl

/-- … and for a template of the manifest's shape, explicitly: the one lock-name arg is replaced in place. -/
theorem args_manifest_form (tmpl : List Str) (hs : manifestShape tmpl = true) (k : Key) (id : Str) :
    ∃ pre x post, tmpl = pre ++ x :: post ∧ lockFlag.isPrefixOf x = true ∧
      prepareArgs tmpl k id = (gwFlag ++ gwString k) :: updFlag :: (pre ++ (lockFlag ++ k.name) :: post) := by
  obtain ⟨pre, x, post, e, hx, hpre, hpost⟩ := split_of_filter_length_one _ tmpl (manifestShape_one hs)
  refine ⟨pre, x, post, e, ?_, ?_⟩
  · rw [← manifestShape_sub_eq_prefix hs x (by rw [e]; simp)]; exact hx
  · rw [prepareArgs_eq, e]
    simp [map_rewriteArg_of_none k pre hpre, map_rewriteArg_of_none k post hpost, rewriteArg, hx]

example : manifestShape tmpl0 = true ∧
    prepareArgs tmpl0 kH2 (idName 7) = [gwFlag ++ gwString kH2, updFlag, tmpl0[0], lockFlag ++ kH2.name, tmpl0[2]] := by
  decide +kernel

/-- exactly one `--update-gatewayclass-status=` arg, with value `false` -/
theorem args_exactly_one_update_status (tmpl : List Str) (hs : manifestShape tmpl = true) (k : Key) (id : Str) :
    (prepareArgs tmpl k id).filter (fun a => updPrefix.isPrefixOf a) = [updFlag] := by
  rw [prepareArgs_eq]
  simp only [List.filter_cons, updPrefix_not_prefix_gw, updPrefix_prefix_upd, if_true, Bool.false_eq_true, if_false]
  rw [filter_rewritten_nil k updPrefix_not_prefix_lock (manifestShape_noUpd hs)]

/-- the `id` parameter of `prepareDeployment` does not reach the args -/
theorem args_do_not_read_id (tmpl : List Str) (k : Key) (id id' : Str) :
    prepareArgs tmpl k id = prepareArgs tmpl k id' := rfl

/-- `args_lock_name_unique` (distinct Deployments carry distinct lock names) is FALSE for the code in the tree: the
lock name is the Gateway's NAME only. WITNESS (known finding C18:lock-name-shared-across-namespaces): Gateways
`ns1/gw-a` and `ns2/gw-a`, both DNS-1123, get the same `--leader-election-lock-name=gw-a`. -/
theorem args_lock_name_unique_false :
    ¬ ∀ (tmpl : List Str) (k k' : Key) (id id' : Str), manifestShape tmpl = true → dnsKey k = true → dnsKey k' = true →
        k ≠ k' → id ≠ id' →
        (prepareArgs tmpl k id).filter (fun a => lockFlag.isPrefixOf a) ≠
        (prepareArgs tmpl k' id').filter (fun a => lockFlag.isPrefixOf a) := by
  intro h
  have hs : manifestShape tmpl0 = true := by decide +kernel
  exact h tmpl0 kA kB (idName 1) (idName 2) hs (by decide +kernel) (by decide +kernel) (by decide +kernel)
    (by decide +kernel) ((args_exactly_one_lock_name tmpl0 hs kA _).trans (args_exactly_one_lock_name tmpl0 hs kB _).symm)

/-- `args_lock_name_unique`, PARTIAL (what the code does guarantee): the lock-name arg determines the Gateway's
name, so Deployments of Gateways with different NAMES never share a lock (the namespace is not looked at). -/
theorem args_lock_name_unique_partial (tmpl : List Str) (hs : manifestShape tmpl = true) (k k' : Key) (id id' : Str)
    (hn : k.name ≠ k'.name) :
    (prepareArgs tmpl k id).filter (fun a => lockFlag.isPrefixOf a) ≠
    (prepareArgs tmpl k' id').filter (fun a => lockFlag.isPrefixOf a) := by
  rw [args_exactly_one_lock_name tmpl hs, args_exactly_one_lock_name tmpl hs]
  intro e
  exact hn (List.append_cancel_left (List.cons.inj e).1)

example : manifestShape tmpl0 = true ∧ kA.name ≠ kC.name ∧ kA.name = kB.name ∧ kA ≠ kB := by decide +kernel

/-- the seeded refactoring (scan the whole list, `prepareArgsScanAll`) is NOT what the code does: for the DNS-1123
key `leader-election-lock-name/gw` it yields a Deployment without any `--gateway=` arg (and two lock-name args),
while the code in the tree keeps the flag. -/
theorem scan_all_variant_loses_gateway_flag :
    dnsKey kH1 = true ∧ manifestShape tmpl0 = true ∧
    (prepareArgsScanAll tmpl0 kH1 (idName 1)).filter (fun a => gwFlag.isPrefixOf a) = [] ∧
    ((prepareArgsScanAll tmpl0 kH1 (idName 1)).filter (fun a => lockFlag.isPrefixOf a)).length = 2 ∧
    (prepareArgs tmpl0 kH1 (idName 1)).filter (fun a => gwFlag.isPrefixOf a) = [gwFlag ++ gwString kH1] := by
  decide +kernel

/-- the two variants differ exactly on the keys whose `--gateway=` arg contains the needle: the hostile-name
family of the harness is the set of inputs that tells them apart. -/
theorem scan_all_variant_differs_iff (tmpl : List Str) (k : Key) (id : Str) :
    prepareArgsScanAll tmpl k id ≠ prepareArgs tmpl k id ↔ isInfix lockNeedle (gwFlag ++ gwString k) = true := by
  rw [prepareArgs_eq, prepareArgsScanAll, List.map_cons, List.map_cons, rewriteArg_neg k needle_not_in_upd]
  cases hc : isInfix lockNeedle (gwFlag ++ gwString k)
  · rw [rewriteArg_neg k hc]
    exact iff_of_false (fun h => h rfl) Bool.false_ne_true
  · rw [rewriteArg_pos k hc]
    refine iff_of_true (fun e => ?_) rfl
    have h2 := gwFlag_not_prefix_lock k.name
    rw [(List.cons.inj e).1, isPrefixOf_append_self] at h2
    cases h2

/-! ### … lifted to every Deployment of every history (multi-Gateway batches included) -/

/-- the args of a Deployment are `prepareArgs` of the template, of ITS Gateway and of its own name -/
theorem deployment_args_exact (cfg : Cfg) (hist : Hist) (p : Key × Dep) (hp : p ∈ (run cfg init hist).prov) :
    p.2.args = prepareArgs cfg.tmpl p.1 p.2.name := by
  obtain ⟨i, _, e⟩ := deployment_is_prepared cfg hist p hp
  rw [e]; rfl

/-- `args_independent_across_deployments`: the args of a Deployment are a function of its own Gateway (and the
template) only — whatever else was provisioned before it or in the same batch, in whatever map order, in whichever
history: the same Gateway gets the same args in any two runs, and with the same id the same Deployment. -/
theorem args_independent_across_deployments (cfg : Cfg) (hist hist' : Hist) (p q : Key × Dep)
    (hp : p ∈ (run cfg init hist).prov) (hq : q ∈ (run cfg init hist').prov) (hk : p.1 = q.1) :
    p.2.args = q.2.args ∧ (p.2.name = q.2.name → p.2 = q.2) := by
  obtain ⟨i, _, e⟩ := deployment_is_prepared cfg hist p hp
  obtain ⟨j, _, e'⟩ := deployment_is_prepared cfg hist' q hq
  rw [e, e', hk]
  refine ⟨rfl, fun hn => ?_⟩
  have : i = j := idName_inj hn
  rw [this]

/-- two Gateways created in ONE batch (the situation of seeded change C18-r3m1, template aliasing) -/
example : let s := run cfg0 init [([.upsertGC cN, .upsertGw kA cN, .upsertGw kH1 cN, .upsertGw kC cN], [kH1, kC, kA])]
    s.cluster.map (·.args) = [prepareArgs cfg0.tmpl kH1 [], prepareArgs cfg0.tmpl kC [], prepareArgs cfg0.tmpl kA []] ∧
    s.cluster.map (·.name) = [idName 1, idName 2, idName 3] := by decide +kernel

/-- every Deployment of every history: exactly one `--gateway=` arg, the one of its own Gateway (which decodes to
that Gateway for DNS-1123 keys); exactly one lock-name arg, named after its Gateway; exactly one
`--update-gatewayclass-status=false`; all other manifest args unchanged and in order. -/
theorem every_deployment_args (cfg : Cfg) (hs : manifestShape cfg.tmpl = true) (hist : Hist) (p : Key × Dep)
    (hp : p ∈ (run cfg init hist).prov) :
    p.2.args.filter (fun a => gwFlag.isPrefixOf a) = [gwFlag ++ gwString p.1] ∧
    (dnsKey p.1 = true → parseGwValue (gwString p.1) = some p.1) ∧
    p.2.args.filter (fun a => lockFlag.isPrefixOf a) = [lockFlag ++ p.1.name] ∧
    p.2.args.filter (fun a => updPrefix.isPrefixOf a) = [updFlag] ∧
    (p.2.args.drop 2).filter (fun a => !isInfix lockNeedle a) = cfg.tmpl.filter (fun a => !isInfix lockNeedle a) := by
  rw [deployment_args_exact cfg hist p hp]
  exact ⟨(args_exactly_one_gateway _ (manifestShape_tmplOK hs) _ _).1,
    (args_exactly_one_gateway _ (manifestShape_tmplOK hs) _ []).2,
    args_exactly_one_lock_name _ hs _ _, args_exactly_one_update_status _ hs _ _,
    (args_other_preserved _ _ _).2.2⟩

/-- WITNESS on the batch model (known finding C18:lock-name-shared-across-namespaces) together with what a lock
name taken from the Deployment id would give: ids — hence such lock names — are pairwise distinct in every history. -/
theorem lock_name_from_id_would_be_unique (cfg : Cfg) (hist : Hist) :
    ((run cfg init hist).cluster.map (fun d => lockFlag ++ d.name)).Nodup := by
  have h := nodup_map_of_inj (f := (lockFlag ++ ·)) (names_unique cfg hist)
    (fun _ _ _ _ e => List.append_cancel_left e)
  rw [List.map_map] at h
  exact h

def acceptedConds (cs : List Cond) : List Cond := cs.filter (fun c => c.type == tAccepted)

/-- After every non-panicking batch: every stored GatewayClass got a status, the configured class
is among them with the single condition Accepted=True, every other one has the single Accepted
condition False/GatewayClassConflict. -/
theorem gc_status_exact (cfg : Cfg) (hist : Hist) (b : List Ev) (o : List Key)
    (hc : (run cfg init (hist ++ [(b, o)])).crashed = none) :
    let s := run cfg init (hist ++ [(b, o)])
    s.statuses.map (·.1) = s.gcs ∧ cfg.gcName ∈ s.gcs ∧
    ∀ p ∈ s.statuses,
      (p.1 = cfg.gcName → acceptedConds p.2 = [⟨tAccepted, true, tAccepted⟩]) ∧
      (p.1 ≠ cfg.gcName → acceptedConds p.2 = [conflictCond]) := by
  obtain ⟨hc0, hgc⟩ := runWith_snoc_ok removedGwsWithDeps (wf_init cfg) hc
  obtain ⟨g, st⟩ := stepWith_statuses removedGwsWithDeps hc0 hgc o
  rw [run_snoc]
  dsimp only
  rw [st, g]
  refine ⟨(List.map_map ..).trans (List.map_id _), hgc, fun p hp => ?_⟩
  obtain ⟨n, _, rfl⟩ := List.mem_map.mp hp
  constructor
  · intro e; rw [gcConds_eq, if_pos e]; rfl
  · intro e; rw [gcConds_eq, if_neg e]; rfl

example : (run cfg0 init hist0).statuses.map (·.1) = [cN, cO] := by decide +kernel

/-- The only panic any history can cause is "GatewayClass must exist": creating a Deployment never
collides with an existing name and deleting one never misses (every history, every order). -/
theorem panic_only_gc_absent (cfg : Cfg) (hist : Hist) :
    (run cfg init hist).crashed = none ∨ (run cfg init hist).crashed = some .gcAbsent :=
  (run_wf cfg hist).crash

/-- The handler panics on a batch exactly when the configured GatewayClass is not in the store
after the batch's `store.update`. -/
theorem panic_iff_gc_absent (cfg : Cfg) (hist : Hist) (b : List Ev) (o : List Key)
    (hc : (run cfg init hist).crashed = none) :
    (run cfg init (hist ++ [(b, o)])).crashed = none ↔ cfg.gcName ∈ (storeUpdate (run cfg init hist) b).gcs := by
  rw [run_snoc]
  exact (stepWith_ok_iff removedGwsWithDeps (run_wf cfg hist) b o).trans (and_iff_right hc)

/-- WITNESS (known finding C18:panic-configured-gatewayclass-deleted): an admissible history —
the configured class exists at start-up and is deleted later — panics the handler. -/
theorem panic_reachable :
    (run cfg0 init [([.upsertGC cN, .upsertGw kA cN], []), ([.deleteGC cN], [])]).crashed = some .gcAbsent := by
  decide +kernel

/-- Start-up without the configured class (precondition violated) panics on the first batch. -/
theorem panic_at_startup_without_class :
    (run cfg0 init [([.upsertGw kA cN, .crd], [])]).crashed = some .gcAbsent := by decide +kernel

/-! ### regression detector: the removal loop before commit bb91ad6 (`runPreFix`)
A tree whose handler matches `runPreFix` but not `run` is reported by the check as
`C18:deployment-kept-after-class-change` with the concrete history. -/

/-- For the pre-fix code `provisions_match` is FALSE. WITNESS: after a Gateway of the class is
re-pointed to another class its Deployment is still there. -/
theorem prefix_provisions_match_false :
    ¬ ∀ (cfg : Cfg) (hist : Hist), (runPreFix cfg init hist).crashed = none →
      ∀ k, hasKey (runPreFix cfg init hist).prov k = true ↔
        get? (runPreFix cfg init hist).gws k = some cfg.gcName := by
  intro h
  have := h cfg0 [([.upsertGC cN, .upsertGw kA cN], []), ([.upsertGw kA cO], [])] (by decide +kernel) kA
  revert this
  decide +kernel

/-- the two variants differ on that history and the current code gets it right -/
theorem prefix_differs_on_class_change :
    let hist : Hist := [([.upsertGC cN, .upsertGw kA cN], []), ([.upsertGw kA cO], [])]
    hasKey (runPreFix cfg0 init hist).prov kA = true ∧ (runPreFix cfg0 init hist).cluster.length = 1 ∧
    hasKey (run cfg0 init hist).prov kA = false ∧ (run cfg0 init hist).cluster = [] := by decide +kernel

/-- what the pre-fix code did maintain, for every history: both inclusions except "of the class" -/
theorem prefix_inclusions (cfg : Cfg) (hist : Hist) (hc : (runPreFix cfg init hist).crashed = none) (k : Key) :
    (get? (runPreFix cfg init hist).gws k = some cfg.gcName → hasKey (runPreFix cfg init hist).prov k = true) ∧
    (hasKey (runPreFix cfg init hist).prov k = true → hasKey (runPreFix cfg init hist).gws k = true) :=
  ⟨(runPreFix_sem cfg hist hc).class_has_dep k, (runPreFix_sem cfg hist hc).dep_has_gateway k⟩

/-- pre-fix `provisions_match`, partial: on histories in which no Gateway that has a Deployment is
re-stored with another class (`noAwayHist`, decidable, evaluated along the run). -/
theorem prefix_provisions_match_partial (cfg : Cfg) (hist : Hist) (hna : noAwayHist cfg init hist = true)
    (hc : (runPreFix cfg init hist).crashed = none) (k : Key) :
    hasKey (runPreFix cfg init hist).prov k = true ↔ get? (runPreFix cfg init hist).gws k = some cfg.gcName :=
  ⟨runPreFix_match cfg hist init (wf_init cfg) (by intro k hk; simp [init] at hk) hna hc k,
   (prefix_inclusions cfg hist hc k).1⟩

/-- pre-fix `provisions_match`, partial, syntactic hypothesis: no Gateway is ever upserted with two
different class names (`ClassStable`; deletes, re-creations and any batching allowed). -/
theorem prefix_provisions_match_partial_class_stable (cfg : Cfg) (hist : Hist) (hs : ClassStable hist)
    (hc : (runPreFix cfg init hist).crashed = none) (k : Key) :
    hasKey (runPreFix cfg init hist).prov k = true ↔ get? (runPreFix cfg init hist).gws k = some cfg.gcName :=
  prefix_provisions_match_partial cfg hist (noAwayHist_of_classStable cfg hist hs) hc k

example : ClassStable hist1 := by
  have : ∀ p ∈ upserts hist1, ∀ q ∈ upserts hist1, p.1 = q.1 → p.2 = q.2 := by decide +kernel
  intro k c c' h1 h2
  exact this _ h1 _ h2 rfl

example : noAwayHist cfg0 init hist1 = true ∧ (runPreFix cfg0 init hist1).crashed = none ∧
    (runPreFix cfg0 init hist1).prov.length = 2 ∧ noAwayHist cfg0 init hist0 = false := by decide +kernel

/-! ### Go's map order: every order is covered by the `order` parameter -/

/-- Whatever permutation of the Gateways without Deployments Go's `range` produces, passing that
permutation as `order` makes the model create the Deployments in exactly that order. -/
theorem every_map_order_is_modelled (cfg : Cfg) (s : State) (perm : List Key) (hp : perm.Nodup)
    (hm : ∀ k, k ∈ perm ↔ k ∈ gwsWithoutDeps cfg s) (hg : (s.gws.map (·.1)).Nodup) :
    arrange perm (gwsWithoutDeps cfg s) = perm :=
  arrange_self perm _ hp hm (nodup_gwsWithoutDeps hg)

/-! ### tie to the source: facts regenerated by the translator on every run -/

/-- the handler runs store.update, setGatewayClassStatuses, ensureDeploymentsMatchGateways in this
order; the four loops of `ensureDeploymentsMatchGateways` with their conditions; the panic guard -/
theorem handler_structure_as_modelled :
    Generated.Provisioner.handleEventBatchBody =
      ["h.store.update(batch)", "h.setGatewayClassStatuses(ctx)", "h.ensureDeploymentsMatchGateways(ctx, logger)"] ∧
    Generated.Provisioner.ensureLoopHeads =
      ["for nsname, gw := range h.store.gateways", "for nsname := range h.provisions",
       "for _, nsname := range gwsWithoutDeps", "for _, nsname := range removedGwsWithDeps"] ∧
    Generated.Provisioner.ensureLoopBody0 =
      ["if string(gw.Spec.GatewayClassName) != h.gcName { continue }",
       "if _, exist := h.provisions[nsname]; exist { continue }",
       "gwsWithoutDeps = append(gwsWithoutDeps, nsname)"] ∧
    Generated.Provisioner.ensureLoopBody1 =
      ["if gw, exist := h.store.gateways[nsname]; exist && string(gw.Spec.GatewayClassName) == h.gcName { continue }",
       "removedGwsWithDeps = append(removedGwsWithDeps, nsname)"] ∧
    Generated.Provisioner.ensureLoopBody2 =
      ["deployment, err := prepareDeployment(h.staticModeDeploymentYAML, h.generateDeploymentID(), nsname)",
       "if err != nil { panic(fmt.Errorf(\"failed to prepare deployment: %w\", err)) }",
       "if err = h.k8sClient.Create(ctx, deployment); err != nil { panic(fmt.Errorf(\"failed to create deployment: %w\", err)) }",
       "h.provisions[nsname] = deployment"] ∧
    Generated.Provisioner.ensureLoopBody3 =
      ["deployment := h.provisions[nsname]",
       "if err := h.k8sClient.Delete(ctx, deployment); err != nil { panic(fmt.Errorf(\"failed to delete deployment: %w\", err)) }",
       "delete(h.provisions, nsname)"] ∧
    Generated.Provisioner.gcExistsStatements =
      ["if gc.Name == h.gcName { gcExists = true } else { conds = append(conds, conditions.NewGatewayClassConflict()) }",
       "if !gcExists { panic(fmt.Errorf(\"GatewayClass %s must exist\", h.gcName)) }"] ∧
    Generated.Provisioner.setStatusesLastStatement = "h.statusUpdater.Update(ctx, reqs...)" ∧
    Generated.Provisioner.condsInit = "conds := conditions.NewDefaultGatewayClassConditions()" :=
  ⟨rfl, rfl, rfl, rfl, rfl, rfl, rfl, rfl, rfl⟩

/-- the id counter starts at 1, is post-incremented, and is rendered with `nginx-gateway-%d` -/
theorem id_generation_as_modelled :
    Generated.Provisioner.gatewayNextIDInit = init.nextID ∧
    Generated.Provisioner.deploymentIDFormat = String.ofList idPrefix ++ "%d" ∧
    Generated.Provisioner.generateDeploymentIDBody =
      ["id := h.gatewayNextID", "h.gatewayNextID++", "return fmt.Sprintf(\"nginx-gateway-%d\", id)"] :=
  ⟨rfl, by decide +kernel, rfl⟩

/-- `prepareDeployment` sets name, selector label and pod label to the id, prepends the two flags and
rewrites the lock-name arg, exactly as `prepare` does -/
theorem prepare_as_modelled :
    Generated.Provisioner.prepareAssignments =
      ["dep.ObjectMeta.Name = id", "dep.Spec.Selector.MatchLabels[\"app\"] = id",
       "dep.Spec.Template.ObjectMeta.Labels[\"app\"] = id",
       "dep.Spec.Template.Spec.Containers[0].Args = finalArgs"] ∧
    Generated.Provisioner.finalArgsInit =
      ["\"--gateway=\" + gwNsName.String()", "\"--update-gatewayclass-status=false\""] ∧
    Generated.Provisioner.argRewriteLoop =
      ["for _, arg := range dep.Spec.Template.Spec.Containers[0].Args",
       "if strings.Contains(arg, \"leader-election-lock-name\") { lockNameArg := \"--leader-election-lock-name=\" + gwNsName.Name finalArgs = append(finalArgs, lockNameArg) } else { finalArgs = append(finalArgs, arg) }"] ∧
    String.ofList gwFlag = "--gateway=" ∧ String.ofList updFlag = "--update-gatewayclass-status=false" ∧
    String.ofList lockNeedle = "leader-election-lock-name" ∧ String.ofList lockFlag = "--leader-election-lock-name=" :=
  ⟨rfl, rfl, rfl, rfl, rfl, rfl, rfl⟩

/-- the store accepts exactly GatewayClass, Gateway and CRD metadata, keyed by namespaced name -/
theorem store_kinds_as_modelled :
    Generated.Provisioner.storeUpsertKinds = ["*v1.GatewayClass", "*v1.Gateway", "*metav1.PartialObjectMetadata"] ∧
    Generated.Provisioner.storeDeleteKinds = ["*v1.GatewayClass", "*v1.Gateway", "*metav1.PartialObjectMetadata"] ∧
    Generated.Provisioner.storeActions =
      ["s.gatewayClasses[client.ObjectKeyFromObject(obj)] = obj", "s.gateways[client.ObjectKeyFromObject(obj)] = obj",
       "s.crdMetadata[client.ObjectKeyFromObject(obj)] = obj", "delete(s.gatewayClasses, e.NamespacedName)",
       "delete(s.gateways, e.NamespacedName)", "delete(s.crdMetadata, e.NamespacedName)"] :=
  ⟨rfl, rfl, rfl⟩

/-- the static-mode manifest in the tree has the shape the arg theorems assume (`manifestShape`): no `--gateway=` /
`--update-gatewayclass-status=` arg of its own, substring match = prefix match `--leader-election-lock-name=` on
its args, exactly one such arg -/
theorem manifest_shape_ok :
    manifestShape (Generated.Provisioner.templateArgs.map String.toList) = true := by
  simp only [Generated.Provisioner.templateArgs, List.map_cons, List.map_nil]
  decide_chars

/-- what `configured_for_its_gateway` and `lock_name_of_its_gateway` ask of the manifest in the tree: no `--gateway=` arg
of its own, and an arg that contains the needle -/
theorem manifest_args_ok :
    TmplOK (Generated.Provisioner.templateArgs.map String.toList) ∧
    (Generated.Provisioner.templateArgs.map String.toList).any (isInfix lockNeedle) = true :=
  ⟨manifestShape_tmplOK manifest_shape_ok, manifestShape_any manifest_shape_ok⟩

end NGF.Prov
