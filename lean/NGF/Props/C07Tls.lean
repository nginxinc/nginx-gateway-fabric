/-
C07 over the TLS layer of the pipeline model (`NGF.Model.PipelineStatusTls`): listener status truth against `PipelineTls.genT` from ONE
`ScenarioT`. Tied to the code by the TLS stream of `props/c07.py` (`PipelineStatusTlsTie.compareT` on C16-style scenarios); `genT` is tied
to the real files by C16's translation validation (`PipelineTlsTie`).
-/
import NGF.Props.C07Fragment
import NGF.Proofs.PipelineTls

namespace NGF.PipelineStatusTls
open NGF.Pipeline NGF.PipelineTls NGF.PipelineStatus
open NGF.StatusPrep (condsFalse Cond)

/-- `Listener.Conditions` is empty exactly for valid listeners (`valid := len(conds) == 0`, and every resolver that invalidates appends) -/
theorem listenerConds_nil_iff (s : ScenarioT) (g : GatewayT) (l : ListenerT) :
    listenerConds s g l = [] ↔ validL s g l = true := by
  cases hf : l.fieldsOK with
  | false =>
    have hnv : validL s g l = false := by
      cases hv : validL s g l with
      | false => rfl
      | true =>
        simp only [validL, Bool.or_eq_true] at hv
        rcases hv with h | h
        · simp only [validHttp, Bool.and_eq_true, Bool.not_eq_true'] at h
          simp [ListenerT.fieldsOK, h.1] at hf
        · obtain ⟨c, hc, _⟩ := valid_cert h
          simp [ListenerT.fieldsOK, hc] at hf
    simp [listenerConds, hf, hnv, invalidCertificateRef]
  | true =>
    simp only [listenerConds, hf, Bool.not_true, Bool.false_eq_true, if_false]
    cases hh : l.https <;> cases hcf : conflicted g l <;>
      simp [validL, validHttp, validHttps, hh, hcf, protocolConflict] <;>
      (cases hr : resolution s g l <;> simp [secretConds, invalidCertificateRef, refNotPermitted])

/-- what `StatusPrep.Listener.wf` asks of the conditions of an invalid listener; kept by `++` -/
def NegProgrammed (cs : List Cond) : Prop :=
  cs = [] ∨ (cs.any (fun c => decide (c.type = "Programmed")) = true ∧ condsFalse "Programmed" cs = true)

theorem NegProgrammed.append {a b : List Cond} (ha : NegProgrammed a) (hb : NegProgrammed b) : NegProgrammed (a ++ b) := by
  rcases ha with rfl | ⟨ha1, ha2⟩
  · exact hb
  · rcases hb with rfl | ⟨hb1, hb2⟩
    · rw [List.append_nil]; exact .inr ⟨ha1, ha2⟩
    · exact .inr ⟨by rw [List.any_append, ha1]; rfl, by rw [NGF.StatusPrep.condsFalse_append, ha2, hb2]; rfl⟩

/-- `Listener.Conditions` is put together from the three constructors, each of which carries Programmed=False only -/
theorem negProgrammed_listenerConds (s : ScenarioT) (g : GatewayT) (l : ListenerT) : NegProgrammed (listenerConds s g l) := by
  have hcert : NegProgrammed invalidCertificateRef := .inr (by decide +kernel)
  have hperm : NegProgrammed refNotPermitted := .inr (by decide +kernel)
  have hconf : NegProgrammed protocolConflict := .inr (by decide +kernel)
  unfold listenerConds
  split
  · exact hcert
  · refine .append ?_ ?_
    · split
      · exact hconf
      · exact .inl rfl
    · split
      · unfold secretConds
        split
        · exact .inl rfl
        · exact hperm
        · exact hcert
      · exact .inl rfl

/-- every condition of an invalid listener is negative: Accepted=False, Programmed=False, ResolvedRefs=False, Conflicted=True; and
Programmed=False is always among them (`StatusPrep.Listener.wf`) -/
theorem toPrepListener_wf (s : ScenarioT) (g : GatewayT) (l : ListenerT) : (toPrepListener s g l).wf = true := by
  simp only [NGF.StatusPrep.Listener.wf, toPrepListener]
  cases hv : validL s g l with
  | true => rfl
  | false =>
    rcases negProgrammed_listenerConds s g l with h | ⟨h1, h2⟩
    · rw [(listenerConds_nil_iff s g l).mp h] at hv; cases hv
    · rw [h1, h2]; rfl

/-- a listener is reported Programmed=True (reload ok) ⇔ it is valid in the model -/
theorem listener_programmed_iff_valid_T (s : ScenarioT) (g : GatewayT) (n : Int) (l : ListenerT) :
    programmedTrue (listenerStatusT s g false n l) = true ↔ validL s g l = true := by
  unfold programmedTrue listenerStatusT
  rw [NGF.StatusPrep.listener_programmed_iff n _ (toPrepListener_wf s g l)]
  rfl

/-- after a failed reload no listener is Programmed=True, valid or not -/
theorem listener_not_programmed_after_failed_reload_T (s : ScenarioT) (g : GatewayT) (n : Int) (l : ListenerT) :
    programmedTrue (listenerStatusT s g true n l) = false :=
  NGF.StatusPrep.listener_not_programmed n _

/-- the listener statuses of the served Gateway are those of its listeners, in order -/
theorem listenerStatuses_T (s : ScenarioT) (g : GatewayT) (e : Bool) (n : Int) (hc : classState (allPart s) = .ours)
    (hw : winnerT s = some g) :
    (gatewayStatusT s e n).map (·.listeners) = some (g.listeners.map (listenerStatusT s g e n)) := by
  simp [gatewayStatusT, hc, hw, NGF.StatusPrep.prepareGateway, toPrepGatewayT, listenerStatusT, Function.comp_def]

theorem conflicted_congr {g : GatewayT} {l l' : ListenerT} (hp : l'.base.port = l.base.port) (hh : l'.https = l.https) :
    conflicted g l' = conflicted g l := by
  simp [conflicted, hp, hh]

/-- HTTP: valid ⇔ its port is among the HTTP ports of `genT s` (a port shared with an HTTPS listener is closed for ALL its HTTP listeners) -/
theorem http_listener_valid_iff_port_T (s : ScenarioT) (g : GatewayT) (l : ListenerT) (hw : winnerT s = some g)
    (hl : l ∈ g.listeners) (hh : l.https = false) :
    validL s g l = true ↔ l.base.port ∈ (genT s).http.ports := by
  rw [genT_http, gen_httpPart hw]
  simp only [List.mem_eraseDups, List.mem_map]
  have hv : validL s g l = validHttp g l := by simp [validL, validHttps, hh]
  rw [hv]
  constructor
  · intro h
    refine ⟨l.base, ?_, rfl⟩
    simp only [projGw, List.mem_map, List.mem_filter]
    exact ⟨l, ⟨hl, h⟩, rfl⟩
  · rintro ⟨b, hb, hp⟩
    obtain ⟨l', _, hv', rfl⟩ := mem_projGw_listeners hb
    simp only [validHttp, Bool.and_eq_true, Bool.not_eq_true'] at hv' ⊢
    exact ⟨hh, by rw [← conflicted_congr hp (hv'.1.trans hh.symm)]; exact hv'.2⟩

/-- HTTPS: valid ⇔ the key pair of its certificate reference is among `keyPairs (genT s)` and its port is an open SSL port -/
theorem https_listener_valid_iff_keypair_and_port_T (s : ScenarioT) (g : GatewayT) (l : ListenerT) (hw : winnerT s = some g)
    (hf : inFragmentT s = true) (hl : l ∈ g.listeners) (hh : l.https = true) :
    validL s g l = true ↔
      (∃ c, l.cert = some c ∧ ∃ k ∈ (genT s).keyPairs, k.id = Tls.keyPairId c) ∧ l.base.port ∈ (genT s).sslPorts := by
  have hv : validL s g l = validHttps s g l := by simp [validL, validHttp, hh]
  rw [hv, ssl_port_iff hw]
  have hplain : ∀ x ∈ g.listeners, ∀ c, x.cert = some c → '_' ∉ c.1 := by
    intro x hx c hc
    simp only [inFragmentT, hw, Bool.and_eq_true, List.all_eq_true] at hf
    have := (hf.2 x hx).2
    simpa [hc, nsPlain] using this
  constructor
  · intro h
    have hm : l ∈ sslListeners s g := mem_sslListeners.mpr ⟨hl, h⟩
    obtain ⟨c, sec, hc, _, hs, k, hk, hid, _⟩ := valid_listener_keypair hm
    refine ⟨⟨c, hc, k, ?_, hid⟩, l, hl, h, rfl⟩
    rw [genT_some hw]; exact hk
  · rintro ⟨⟨c, hc, k, hk, hid⟩, l', hl', hv', hp⟩
    rw [genT_some hw] at hk
    obtain ⟨h1, h2, _⟩ := validHttps_iff.mp hv'
    have hcf : conflicted g l = false := by rw [← conflicted_congr hp (h1.trans hh.symm)]; exact h2
    rcases keyPairsFrom_sound s.secrets _ [] k hk with h0 | ⟨l'', hl'', c'', sec'', hc'', _, e⟩
    · simp at h0
    · obtain ⟨hl''g, hv''⟩ := mem_sslListeners.mp hl''
      have hidc : Tls.keyPairId c'' = Tls.keyPairId c := by rw [← hid, e]
      have hcc : c'' = c := Tls.keyPairId_inj (hplain l'' hl''g c'' hc'') (hplain l hl c hc) hidc
      have hres : resolution s g l = resolution s g l'' := by
        simp [resolution, certRefOf, hc, hc'', hcc]
      exact validHttps_iff.mpr ⟨hh, hcf, hres.trans (validHttps_iff.mp hv'').2.2⟩

/-- a listener of the served Gateway is reported Programmed=True (reload ok) ⇔ `genT s` serves it: HTTP — its port is among the
HTTP ports; HTTPS — the key pair of its certificate reference is among `keyPairs` and its port among the SSL ports -/
theorem listener_programmed_iff_served_T (s : ScenarioT) (g : GatewayT) (n : Int) (l : ListenerT) (hw : winnerT s = some g)
    (hf : inFragmentT s = true) (hl : l ∈ g.listeners) :
    programmedTrue (listenerStatusT s g false n l) = true ↔
      if l.https then
        (∃ c, l.cert = some c ∧ ∃ k ∈ (genT s).keyPairs, k.id = Tls.keyPairId c) ∧ l.base.port ∈ (genT s).sslPorts
      else l.base.port ∈ (genT s).http.ports := by
  rw [listener_programmed_iff_valid_T]
  cases hh : l.https with
  | true => simpa using https_listener_valid_iff_keypair_and_port_T s g l hw hf hl hh
  | false => simpa using http_listener_valid_iff_port_T s g l hw hl hh

theorem base_mem_gAll {g : GatewayT} {l : ListenerT} (hl : l ∈ g.listeners) : l.base ∈ (gAll g).listeners := by
  simp only [gAll, projGw, List.mem_map, List.mem_filter]
  exact ⟨l, ⟨hl, by simp⟩, rfl⟩

/-- `attached_count_T`: attachedRoutes(l) = number of routes with `acceptedAt (all listeners) l r ≠ []` — whatever the validity of the
listener (routes attach to invalid listeners for counting, cf. seeded change C07-m3) and of the route -/
theorem attached_count_T (s : ScenarioT) (g : GatewayT) (e : Bool) (n : Int) (l : ListenerT)
    (hw : winnerT s = some g) (hg : gatewayOK (gAll g) = true) (hs : statusOK (allPart s) = true) (hl : l ∈ g.listeners) :
    (listenerStatusT s g e n l).attachedRoutes = (s.routes.filter fun r => !(acceptedAt (gAll g) l.base r).isEmpty).length := by
  have hwa : winner (allPart s) = some (gAll g) := by
    unfold allPart; rw [winner_proj, hw]; rfl
  have := listenerRoutes_eq (allPart s) (gAll g) l.base hwa hg hs (base_mem_gAll hl)
  unfold listenerStatusT NGF.StatusPrep.prepareListener toPrepListener
  simp only [List.length_map, List.length_nil, Nat.add_zero]
  rw [this]; rfl

theorem routeCondsT_condsFalse (t : String) (s : ScenarioT) (g : GatewayT) (r : Route) :
    condsFalse t (routeCondsT s g r) = true := by
  have hleak : ∀ ps : List Parent, condsFalse t (ps.map fun _ => invalidListener) = true := fun ps =>
    NGF.StatusPrep.condsFalse_iff.mpr fun c hc _ => by obtain ⟨_, _, rfl⟩ := List.mem_map.mp hc; rfl
  unfold routeCondsT
  split <;> simp only [NGF.StatusPrep.condsFalse_append, hleak, routeConds_condsFalse, Bool.and_self]

theorem leak_mem (s : ScenarioT) (g : GatewayT) (r : Route) (p : Parent)
    (hp : p ∈ r.parents.filter (namesOurs (allPart s))) (hoi : onlyInvalid s g r p = true) :
    invalidListener ∈ routeCondsT s g r := by
  have : invalidListener ∈ ((r.parents.filter (namesOurs (allPart s))).filter (onlyInvalid s g r)).map fun _ => invalidListener :=
    List.mem_map.mpr ⟨p, List.mem_filter.mpr ⟨hp, hoi⟩, rfl⟩
  unfold routeCondsT
  dsimp only
  cases hv : r.valid with
  | false => simp only [Bool.false_eq_true, if_false, List.mem_append]; exact Or.inr this
  | true => simp only [if_true, List.mem_append]; exact Or.inl this

/-- decision core over the TLS layer: Accepted=True ⇔ reload ok ∧ this parentRef attached ∧ the route carries no route-wide Accepted
condition (it is valid, and NO parentRef of it attached to invalid listeners only) -/
theorem parent_accepted_iff_T (s : ScenarioT) (g : GatewayT) (e : Bool) (n : Int) (r : Route) (p : Parent) :
    acceptedTrue (parentStatusT s g e n r p) = true ↔
      e = false ∧ (attachment (gAll g) true r p).attached = true ∧ ∀ c ∈ routeCondsT s g r, c.type ≠ "Accepted" := by
  unfold acceptedTrue parentStatusT
  rw [NGF.StatusPrep.acceptedTrue_any,
    NGF.StatusPrep.accepted_iff_attached _ _ _ (routeCondsT_condsFalse "Accepted" s g r) (toPrepRef_wf (gAll g) true r p)]
  simp [toPrepRef]

/-- `invalid_listener_routes_not_accepted_T`: a parentRef all of whose bound listeners are invalid (or that binds none) has no
Accepted=True entry -/
theorem invalid_listener_routes_not_accepted_T (s : ScenarioT) (g : GatewayT) (e : Bool) (n : Int) (r : Route) (p : Parent)
    (hp : p ∈ r.parents.filter (namesOurs (allPart s)))
    (hall : ∀ b ∈ boundListeners (gAll g) true r p, validBase s g b = false) :
    acceptedTrue (parentStatusT s g e n r p) = false := by
  rw [Bool.eq_false_iff]
  intro ha
  obtain ⟨_, hatt, hno⟩ := (parent_accepted_iff_T s g e n r p).mp ha
  have hne := boundListeners_ne_nil.mpr hatt
  have hoi : onlyInvalid s g r p = true := by
    simp only [onlyInvalid, Bool.and_eq_true, Bool.not_eq_true', List.all_eq_true]
    refine ⟨?_, fun b hb => by simp [hall b hb]⟩
    cases hb : boundListeners (gAll g) true r p with
    | nil => exact absurd hb hne
    | cons _ _ => rfl
  have hm : invalidListener ∈ routeCondsT s g r := leak_mem s g r p hp hoi
  exact hno _ hm rfl

/-- … and the known finding `C07:accepted:false-but-served:InvalidListener-from-other-parent` lives INSIDE this model: the
InvalidListener condition is route-wide, so such a parentRef makes EVERY entry of the route Accepted=False, also the entry of a
parentRef that attached to a valid listener (whose locations `genT` serves) -/
theorem invalid_listener_leaks_to_every_parent_T (s : ScenarioT) (g : GatewayT) (e : Bool) (n : Int) (r : Route) (p q : Parent)
    (hp : p ∈ r.parents.filter (namesOurs (allPart s))) (hoi : onlyInvalid s g r p = true) :
    acceptedTrue (parentStatusT s g e n r q) = false := by
  rw [Bool.eq_false_iff]
  intro ha
  obtain ⟨_, _, hno⟩ := (parent_accepted_iff_T s g e n r q).mp ha
  have hm : invalidListener ∈ routeCondsT s g r := leak_mem s g r p hp hoi
  exact hno _ hm rfl

/-- full strength where the finding is excluded: no parentRef of the route attached to invalid listeners only ⇒ the entry of `p` of a valid
route says Accepted=True (reload ok) ⇔ `p` attached (to at least one VALID listener, since it attached and not only to invalid ones) -/
theorem accepted_iff_attached_partial_T (s : ScenarioT) (g : GatewayT) (n : Int) (r : Route) (p : Parent) (hv : r.valid = true)
    (hnoleak : ∀ q ∈ r.parents.filter (namesOurs (allPart s)), onlyInvalid s g r q = false) :
    acceptedTrue (parentStatusT s g false n r p) = true ↔ (attachment (gAll g) true r p).attached = true := by
  rw [parent_accepted_iff_T]
  have hno : ∀ c ∈ routeCondsT s g r, c.type ≠ "Accepted" := by
    intro c hc
    have hleak : ((r.parents.filter (namesOurs (allPart s))).filter (onlyInvalid s g r)) = [] := by
      rw [List.filter_eq_nil_iff]; intro q hq; simp [hnoleak q hq]
    simp only [routeCondsT, hv, if_true, hleak, List.map_nil, List.nil_append] at hc
    exact routeConds_no_accepted.mpr hv c hc
  exact ⟨fun h => h.2.1, fun h => ⟨rfl, h, hno⟩⟩

/-- a route all of whose bound listeners are invalid contributes nothing to `genT`: `genT` builds its servers from `acceptedAt` at the VALID
listeners only (`httpPart` / `httpsPart`), and there the route accepts no hostname -/
theorem invalid_listeners_contribute_nothing_T (s : ScenarioT) (g : GatewayT) (r : Route)
    (hg : gatewayOK (gAll g) = true) (hpo : parentsOK r = true)
    (hall : ∀ p ∈ r.parents, ∀ b ∈ boundListeners (gAll g) true r p, validBase s g b = false)
    (keep : GatewayT → ListenerT → Bool) (l : ListenerT) (hl : l ∈ g.listeners) (hv : validL s g l = true) :
    acceptedAt (projGw keep g) l.base r = [] := by
  rw [acceptedAt_projGw keep (fun _ _ => true)]
  cases hacc : acceptedAt (projGw (fun _ _ => true) g) l.base r with
  | nil => rfl
  | cons h hs =>
    exfalso
    have hne : acceptedAt (gAll g) l.base r ≠ [] := by unfold gAll; rw [hacc]; simp
    obtain ⟨⟨p, hp, hn, hsel⟩, _, _⟩ := acceptedAt_ne_nil.mp hne
    have hb := (bound_iff_acceptedAt (parentsOK_spec hpo hp) (listener_names_unique hg) hp).mpr ⟨base_mem_gAll hl, hn, hsel, hne⟩
    have := hall p hp _ hb
    have hvb : validBase s g l.base = true := List.any_eq_true.mpr ⟨l, hl, by simp [hv]⟩
    rw [hvb] at this; cases this

/-! ## non-vacuity and the finding, on a concrete scenario: HTTP :80 valid, HTTPS :443 whose Secret is missing -/

def demoT : ScenarioT :=
  { cls := ['n'], ctlr := ['c'], classes := [⟨['n'], ['c']⟩],
    gateways := [⟨['d'], ['g'], ['n'], 0,
      [⟨⟨['h'], 80, [], true⟩, false, none⟩, ⟨⟨['s'], 443, [], true⟩, true, some (['d'], ['x'])⟩]⟩],
    routes := [{ ns := ['d'], name := ['r'], age := 1, parents := [⟨['d'], ['g'], some ['h']⟩, ⟨['d'], ['g'], some ['s']⟩],
                 hostnames := [], rules := [⟨[⟨false, ['/', 'a'], [], [], []⟩], .forward []⟩], valid := true }],
    secrets := [], grants := [] }

def demoGT : GatewayT := ⟨['d'], ['g'], ['n'], 0, [⟨⟨['h'], 80, [], true⟩, false, none⟩, ⟨⟨['s'], 443, [], true⟩, true, some (['d'], ['x'])⟩]⟩

example : winnerT demoT = some demoGT ∧ inFragmentT demoT = true ∧ gatewayOK (gAll demoGT) = true ∧ statusOK (allPart demoT) = true ∧
    demoGT.listeners.map (validL demoT demoGT) = [true, false] := by
  refine ⟨by decide +kernel, by decide +kernel, by decide +kernel, by decide +kernel, by decide +kernel⟩

/-- listener `h`: Programmed=True, 1 route; listener `s` (Secret missing): Accepted/ResolvedRefs/Programmed=False, yet attachedRoutes = 1;
the finding: the entry of parentRef `h` says Accepted=False/InvalidListener although `genT` serves the route on port 80 -/
example :
    (demoGT.listeners.map fun l => ((listenerStatusT demoT demoGT false 1 l).attachedRoutes,
        (listenerStatusT demoT demoGT false 1 l).conds.map fun c => c.type ++ "=" ++ c.status)) =
      [(1, ["Accepted=True", "Programmed=True", "ResolvedRefs=True", "Conflicted=False"]),
       (1, ["Accepted=False", "ResolvedRefs=False", "Programmed=False"])] ∧
    (demoT.routes.map fun r => (routeParentStatusesT demoT false 1 r).map fun es => es.map fun x => (acceptedTrue x, x.conds.map (·.reason))) =
      [some [(false, ["ResolvedRefs", "InvalidListener"]), (false, ["ResolvedRefs", "InvalidListener"])]] ∧
    ((genT demoT).http.servers.map fun sv => (sv.port, sv.locs.map (·.path))) = [(80, [['/', 'a', '/'], ['/', 'a'], ['/']])] := by
  refine ⟨by decide +kernel, by decide +kernel, by decide +kernel⟩

/-- the listener condition constructors the validators / resolvers use are the ones the model writes -/
theorem facts_listener_conditions :
    NGF.StatusPrep.lookup "NewListenerInvalidCertificateRef" = some invalidCertificateRef ∧
    NGF.StatusPrep.lookup "NewListenerRefNotPermitted" = some refNotPermitted ∧
    NGF.StatusPrep.lookup "NewListenerProtocolConflict" = some protocolConflict ∧
    NGF.StatusPrep.lookup "NewRouteInvalidListener" = some [invalidListener] :=
  have ⟨_, _, hcert, hperm, hconflict, _⟩ := NGF.StatusPrep.listener_constructors
  have ⟨_, _, _, _, _, _, _, hroute, _⟩ := NGF.StatusPrep.route_policy_constructors
  ⟨hcert, hperm, hconflict, hroute⟩

end NGF.PipelineStatusTls
