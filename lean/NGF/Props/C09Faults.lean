/-
C09 — API failures limited to some resources do not keep the newest statuses of the OTHER resources from being
written when the replica becomes leader (nor afterwards).

`attempt fails` models `Updater.Update`: every request is attempted, a request that cannot be written does not stop
those after it (loop body tied to the source below).  `outcome fails` applies it to the `Updater.Update` calls the state machine
of `Model/Leader.lean` makes.  Theorems for ALL operation lists and ALL failure sets `fails`.
-/
import NGF.Model.LeaderFaults
import NGF.Proofs.LeaderFaults
import NGF.Generated.LeaderFacts

namespace NGF.Leader

/-- Restricting a history to the healthy resources commutes with running the updater under failures: what
observably reaches the API server (`visible ∘ outcome fails`) is what the updater observably does on the restricted
history.  This is why the judges may evaluate the unchanged property on the restricted history. -/
theorem restriction_commutes_with_run (fails : Req → Bool) (ops : List Op) :
    (run init ops).map (fun o => visible (outcome fails o)) =
      (run init (restrictOps fails ops)).map visible :=
  run_restrict_of_fsim ops (fsim_init fails)

/-- At `Enable`: every request of a group's LAST non-empty submission whose resource does not fail is written,
whatever happens to the failing ones of the same or of other groups. -/
theorem healthy_requests_written_at_enable (fails : Req → Bool) (pre : List Op) (o : List Group)
    (post : List Op) (h : NoEnable pre) (g : Group) (r : List Req) (hl : (g, r) ∈ latest pre)
    (t : Req) (ht : t ∈ r) (hok : fails t = false) :
    ∃ ws, ((run init (pre ++ .enable o :: post)).map (outcome fails))[pre.length]? = some (Out.writes ws) ∧
      ∃ w ∈ ws, w.1 = g ∧ t ∈ w.2 := by
  refine ⟨(flush o (exec init pre).saved).map fun w => (w.1, attempt fails w.2), ?_, ?_⟩
  · rw [run_decompose pre o post h]
    simp [outcome]
  · refine ⟨(g, attempt fails r),
      List.mem_map.2 ⟨(g, r), (flush_perm_latest pre o h).mem_iff.2 hl, rfl⟩, rfl, ?_⟩
    simp [attempt, ht, hok]

/-- … and only requests of that last submission: failures never make an older status appear. -/
theorem nothing_older_written_despite_failures (fails : Req → Bool) (pre : List Op) (o : List Group)
    (h : NoEnable pre) (g : Group) (r' : List Req)
    (hm : (g, r') ∈ (flush o (exec init pre).saved).map fun w => (w.1, attempt fails w.2)) :
    ∃ r, (g, r) ∈ latest pre ∧ r' = attempt fails r := by
  obtain ⟨w, hw, e⟩ := List.mem_map.1 hm
  simp only [Prod.mk.injEq] at e
  refine ⟨w.2, ?_, e.2.symm⟩
  rw [← e.1]
  exact (flush_perm_latest pre o h).mem_iff.1 hw

/-- After `Enable`: every healthy request of a submission is written at once. -/
theorem healthy_requests_written_immediately (fails : Req → Bool) (g : Group) (r : List Req)
    (t : Req) (ht : t ∈ r) (hok : fails t = false) :
    outcome fails (after (.update g r)) = Out.writes [(g, attempt fails r)] ∧ t ∈ attempt fails r := by
  simp [outcome, after, attempt, ht, hok]

/-- Failures never cause a write before `Enable`. -/
theorem no_write_before_enable_despite_failures (fails : Req → Bool) (pre rest : List Op) (h : NoEnable pre) :
    ((run init (pre ++ rest)).map (outcome fails)).take pre.length = pre.map (fun _ => Out.writes []) := by
  rw [run_append, run_of_noEnable pre h, List.map_append, List.take_left' (by simp)]
  simp [outcome]

/-- The early-return variant ("stop the call at the first request that could not be written") is refuted: the
status of the healthy resource 3, submitted after the failing resource 2, is never written at `Enable`. -/
theorem update_stops_at_failure_false :
    (run init [.update 0 [1, 2, 3], .update 1 [4], .enable [0, 1]]).map (outcomeStop (· == 2)) =
      [.writes [], .writes [], .writes [(0, [1]), (1, [4])]] ∧
    (run init [.update 0 [1, 2, 3], .update 1 [4], .enable [0, 1]]).map (outcome (· == 2)) =
      [.writes [], .writes [], .writes [(0, [1, 3]), (1, [4])]] ∧
    (0, [1, 2, 3]) ∈ latest [.update 0 [1, 2, 3], .update 1 [4]] := by
  decide +kernel

/-- a history in which resource 6 keeps failing: accepted — the healthy 5 and 7 are written -/
example : judgeF [6] { elected := some 10,
                       ops := [⟨false, 1, [5, 6, 7], 1, 3, false⟩, ⟨true, 0, [], 11, 20, false⟩],
                       writes := [⟨1, 5, 12⟩, ⟨1, 7, 13⟩] } = none := by decide +kernel

/-- the early return: 7 is missing -/
example : judgeF [6] { elected := some 10,
                       ops := [⟨false, 1, [5, 6, 7], 1, 3, false⟩, ⟨true, 0, [], 11, 20, false⟩],
                       writes := [⟨1, 5, 12⟩] } = some "flush_not_latest" := by decide +kernel

example : judgeWF [(2, 1, 7)]
    [⟨false, [0, 1], some [[⟨0, 0, 0, 1⟩, ⟨2, 1, 7, 3⟩, ⟨3, 1, 7, 5⟩], [⟨1, 1, 7, 2⟩], []], []⟩,
     ⟨true, [], none, [⟨0, 0, 0, 1⟩, ⟨3, 1, 7, 5⟩, ⟨1, 1, 7, 2⟩]⟩] = none := by decide +kernel

example : judgeWF [(2, 1, 7)]
    [⟨false, [0, 1], some [[⟨0, 0, 0, 1⟩, ⟨2, 1, 7, 3⟩, ⟨3, 1, 7, 5⟩], [⟨1, 1, 7, 2⟩], []], []⟩,
     ⟨true, [], none, [⟨0, 0, 0, 1⟩, ⟨1, 1, 7, 2⟩]⟩] = some "flush_wrong_requests" := by decide +kernel

example : NoEnable [.update 0 [1, 2, 3], .update 1 [4]] ∧ (0, [1, 2, 3]) ∈ latest [.update 0 [1, 2, 3], .update 1 [4]] ∧
    (3 : Req) ∈ [1, 2, 3] ∧ ((· == 2) : Req → Bool) 3 = false := by decide +kernel

example : restrictOps (· == 2) [.update 0 [1, 2, 3], .update 1 [2], .enable [0, 1]] =
    [.update 0 [1, 3], .update 1 [], .enable [0, 1]] := by decide +kernel

/-- `Updater.Update` is one loop over the requests whose body — after the cancelled-context test — calls
`writeStatuses` and looks at nothing it returns (`writeStatuses` has no result): no outcome of one request can end the
loop.  `writeStatuses` retries 4 times with the backoff literal the harness relies on and only logs. -/
theorem updater_update_attempts_every_request :
    Generated.Leader.updaterUpdateBody =
      ["for _, r := range reqs { select { case <-ctx.Done(): return default: } u.logger.V(1).Info( \"Updating status for resource\", \"namespace\", r.NsName.Namespace, \"name\", r.NsName.Name, \"kind\", r.ResourceType.GetObjectKind().GroupVersionKind().Kind, ) u.writeStatuses(ctx, r.NsName, r.ResourceType, r.Setter) }"] ∧
    Generated.Leader.writeStatusesResults = "-" ∧
    Generated.Leader.writeStatusesBody[3]? =
      some "err := wait.ExponentialBackoffWithContext( ctx, wait.Backoff{ Duration: time.Millisecond * 200, Factor: 2, Jitter: 0.5, Steps: 4, Cap: time.Millisecond * 3000, }, NewRetryUpdateFunc(u.client, u.client.Status(), nsname, obj, u.logger, statusSetter), )" ∧
    Generated.Leader.writeStatusesBody.length = 5 :=
  ⟨rfl, rfl, rfl, rfl⟩

end NGF.Leader
