/-
C16 at pipeline level — certificate binding as theorems over the GENERATED CONFIGURATION `PipelineTls.genT s`, for ALL
scenarios `s : ScenarioT` (Pipeline scenario + protocol / certificate reference per listener + Secrets + ReferenceGrants).
`genT` is the function the driver runs (`ngfdriver_C16 pipeline`) and the correspondence compares with the real
http.conf and the real secret files (Model/PipelineTlsTie.lean). Helper lemmas: NGF/Proofs/PipelineTls.lean.
-/
import NGF.Model.PipelineTls
import NGF.Proofs.PipelineTls
import NGF.Generated.TlsFacts
import NGF.Proofs.CharLits

namespace NGF.PipelineTls
open NGF.Pipeline

/-! ### facts regenerated from the source: the Go statements the pipeline-level model mirrors -/

/-- `configure`: a listener whose validators failed returns before any resolver runs; the port conflict resolver runs
BEFORE the Secret is resolved (`ListenerT.fieldsOK`, `conflicted`, `resolution`) -/
theorem fact_listener_validity_order : Generated.Tls.configureBody.drop 8 =
    ["if !l.Valid { return l }", "for _, resolver := range c.conflictResolvers { resolver(l) }",
     "for _, resolver := range c.externalReferenceResolvers { resolver(l) }", "return l"] ∧
    Generated.Tls.configureBody[3]? = some "valid := len(conds) == 0" := ⟨rfl, rfl⟩

/-- createPortConflictResolver: HTTP is one protocol group, HTTPS (and TLS) the other; a port owned by one group that
sees the other becomes conflicted, together with every listener seen before (`conflicted`) -/
theorem fact_port_conflict :
    Generated.Tls.portConflictGroups =
      "protocolGroups := map[v1.ProtocolType]int{ v1.TLSProtocolType: secureProtocolGroup, v1.HTTPProtocolType: insecureProtocolGroup, v1.HTTPSProtocolType: secureProtocolGroup, }" ∧
    Generated.Tls.portConflictConditions =
      ["conflictedPorts[port]", "!ok", "protocolGroup != protocolGroups[l.Source.Protocol]",
       "listener.Source.Protocol != l.Source.Protocol && haveOverlap(l.Source.Hostname, listener.Source.Hostname)",
       "foundConflict"] := ⟨rfl, rfl⟩

/-- createHTTPSListenerValidator: which certificate references are well-formed (`ListenerT.cert = some _`) -/
theorem fact_https_validator_refs : Generated.Tls.httpsValidatorConditions =
    ["err != nil", "listener.TLS == nil", "*listener.TLS.Mode != v1.TLSModeTerminate", "len(listener.TLS.Options) > 0",
     "len(listener.TLS.CertificateRefs) == 0", "certRef.Kind != nil && *certRef.Kind != \"Secret\"",
     "certRef.Group != nil && *certRef.Group != \"\"", "l > 1"] := rfl

/-- createExternalReferencesForTLSSecretsResolver: namespace defaulting, ReferenceGrant only for a foreign namespace,
then `secretResolver.resolve`; `ResolvedSecret` is set only on success (`resolution`, `kpOf`) -/
theorem fact_tls_secret_resolver : Generated.Tls.tlsSecretsResolverBody =
    ["certRef := l.Source.TLS.CertificateRefs[0]", "certRefNs := gwNs",
     "if certRef.Namespace != nil { certRefNs = string(*certRef.Namespace) }",
     "certRefNsName := types.NamespacedName{ Namespace: certRefNs, Name: string(certRef.Name), }",
     "if certRefNs != gwNs { if !refGrantResolver.refAllowed(toSecret(certRefNsName), fromGateway(gwNs)) { msg := fmt.Sprintf(\"Certificate ref to secret %s not permitted by any ReferenceGrant\", certRefNsName) l.Conditions = append(l.Conditions, staticConds.NewListenerRefNotPermitted(msg)...) l.Valid = false return } }",
     "if err := secretResolver.resolve(certRefNsName); err != nil { path := field.NewPath(\"tls\", \"certificateRefs\").Index(0) valErr := field.Invalid(path, certRefNsName, err.Error()) l.Conditions = append(l.Conditions, staticConds.NewListenerInvalidCertificateRef(valErr.Error())...) l.Valid = false } else { l.ResolvedSecret = &certRefNsName }"] := rfl

/-- dataplane.buildServers: one `hostPathRules` per (protocol, port), fed only with VALID listeners (`httpPart`,
`httpsPart`); upsertListener: every valid listener makes the port's default server exist, HTTPS listeners are kept for
their own servers, only valid routes are upserted (`genT.sslPorts`, `listenerOnly`, `accHosts`) -/
theorem fact_protocol_halves :
    Generated.Tls.buildServersDistribution =
      ["for _, l := range g.Gateway.Listeners", "if l.Source.Protocol == v1.TLSProtocolType { continue }",
       "if l.Valid { rules := rulesForProtocol[l.Source.Protocol][l.Source.Port] if rules == nil { rules = newHostPathRules() rulesForProtocol[l.Source.Protocol][l.Source.Port] = rules } rules.upsertListener(l) }"] ∧
    Generated.Tls.upsertListenerBody =
      ["hpr.listenersExist = true", "hpr.port = int32(l.Source.Port)",
       "if l.Source.Protocol == v1.HTTPSProtocolType { hpr.httpsListeners = append(hpr.httpsListeners, l) }",
       "for _, r := range l.Routes { if !r.Valid { continue } hpr.upsertRoute(r, l) }"] := ⟨rfl, rfl⟩

/-- createSSLServer: the default server carries nothing; a named server's certificate and key are the PEM file of
its key pair id (compared as `Tls.pemFileName` in the tie) -/
theorem fact_ssl_server : Generated.Tls.createSSLServerBody.take 4 =
    ["listen := fmt.Sprint(virtualServer.Port)",
     "if virtualServer.IsDefault { return http.Server{ IsDefaultSSL: true, Listen: listen, }, nil }",
     "locs, matchPairs, grpc := createLocations(&virtualServer, serverID, generator, keepAliveCheck)",
     "server := http.Server{ ServerName: virtualServer.Hostname, SSL: &http.SSL{ Certificate: generatePEMFileName(virtualServer.SSL.KeyPairID), CertificateKey: generatePEMFileName(virtualServer.SSL.KeyPairID), }, Locations: locs, GRPC: grpc, Listen: listen, }"] := rfl

def exSecrets : List Tls.SecretObj :=
  [⟨"default".toList, "tls-a".toList, true, true, "CERT-A".toList, "KEY-A".toList⟩,
   ⟨"default".toList, "tls-b".toList, true, true, "CERT-B".toList, "KEY-B".toList⟩,
   ⟨"default".toList, "tls-opaque".toList, false, true, "CERT-O".toList, "KEY-O".toList⟩,
   ⟨"team-b".toList, "tls-x".toList, true, true, "CERT-X".toList, "KEY-X".toList⟩]

def exGrant : Tls.Grant :=
  { ns := "team-b".toList, froms := [⟨Tls.gatewayGroup, Tls.kGateway, "default".toList⟩],
    tos := [⟨[], Tls.kSecret, "tls-x".toList⟩] }

def exRule : Rule :=
  { ms := [{ exact := false, path := "/".toList, method := [], headers := [], query := [] }],
    action := .forward [{ target := "default_svc0_80".toList, weight := 1, valid := true }] }

def mkL (name : String) (port : Nat) (host : String) (https : Bool) (cert : Option (String × String)) : ListenerT :=
  { base := { name := name.toList, port := port, host := host.toList, fromAll := true }, https := https,
    cert := cert.map fun c => (c.1.toList, c.2.toList) }

def mkRoute (name : String) (section_ : Option String) (hosts : List String) : Route :=
  { ns := "default".toList, name := name.toList, age := 3,
    parents := [{ ns := "default".toList, name := "gw".toList, sectionName := section_.map String.toList }],
    hostnames := hosts.map String.toList, rules := [exRule], valid := true }

def mkScen (ls : List ListenerT) (routes : List Route) (grants : List Tls.Grant) : ScenarioT :=
  { cls := "nginx".toList, ctlr := "ctl".toList, classes := [⟨"nginx".toList, "ctl".toList⟩],
    gateways := [{ ns := "default".toList, name := "gw".toList, cls := "nginx".toList, age := 2, listeners := ls }],
    routes := routes, secrets := exSecrets, grants := grants }

def exWild : ListenerT := mkL "wild" 443 "*.example.com" true (some ("default", "tls-a"))
def exFoo : ListenerT := mkL "foo" 443 "foo.example.com" true (some ("default", "tls-b"))

/-- wildcard + specific listener on 443 with distinct Secrets; a listener whose Secret has the wrong type; a listener
on 8443 with a Secret of another namespace (granted); an HTTP listener on 80 and an HTTP listener sharing port 8080
with an HTTPS listener whose Secret is missing (both out); one route on the whole Gateway -/
def exListeners : List ListenerT :=
  [exWild, exFoo, mkL "bad" 443 "bar.org" true (some ("default", "tls-opaque")),
   mkL "cross" 8443 "" true (some ("team-b", "tls-x")), mkL "http" 80 "" false none,
   mkL "h8080" 8080 "" false none, mkL "s8080" 8080 "cafe.example.com" true (some ("default", "tls-missing"))]

def exScen : ScenarioT := mkScen exListeners [mkRoute "hr0" none ["foo.example.com", "cafe.example.com"]] [exGrant]

/-- the same cluster without the ReferenceGrant -/
def exScenNoGrant : ScenarioT := mkScen exListeners [mkRoute "hr0" none ["foo.example.com", "cafe.example.com"]] []

/-- the known finding: the route is attached to the wildcard listener only -/
def witScen : ScenarioT := mkScen [exWild, exFoo] [mkRoute "hr0" (some "wild") ["foo.example.com"]] []

/-- (port, server name, key pair id) of the SSL servers -/
def view (c : ConfT) : List (Nat × String × Option String) :=
  c.ssl.map fun p => (p.1.port, String.ofList p.1.name, p.2.map String.ofList)

example : view (genT exScen) =
    [(443, "foo.example.com", some "ssl_keypair_default_tls-b"), (443, "cafe.example.com", some "ssl_keypair_default_tls-a"),
     (8443, "foo.example.com", some "ssl_keypair_team-b_tls-x"), (8443, "cafe.example.com", some "ssl_keypair_team-b_tls-x"),
     (8443, "~^", some "ssl_keypair_team-b_tls-x")] ∧
    (genT exScen).sslPorts = [443, 8443] ∧ (genT exScen).http.ports = [80] ∧
    (genT exScen).keyPairs.map (fun k => (String.ofList k.id, String.ofList k.cert, String.ofList k.key)) =
      [("ssl_keypair_team-b_tls-x", "CERT-X", "KEY-X"), ("ssl_keypair_default_tls-b", "CERT-B", "KEY-B"),
       ("ssl_keypair_default_tls-a", "CERT-A", "KEY-A")] := by decide +kernel

/-- what binds the server name `h` to listener `l`: a valid route attached to `l` accepted `h` there, or it is the
server generated for the listener itself (no routes attached, or no hostname) -/
def Binds (s : ScenarioT) (gT : GatewayT) (l : ListenerT) (h : Str) : Prop :=
  (∃ r ∈ s.routes, r.valid = true ∧ h ∈ acceptedAt (projGw (validHttps s) gT) l.base r) ∨
  (h = serverName l.base.host ∧
    (nroutes (projGw (validHttps s) gT) s.routes l.base = 0 ∨ serverName l.base.host = Hostname.wildcardHostname))

/-- `ssl_server_cert_is_attaching_listeners_secret`, without any hypothesis on namespaces: every SSL server of `genT s`
(name `sv.name`, port `sv.port`) carries the key pair id of a VALID HTTPS listener `l` of the served Gateway on that
port, whose hostname covers the server name and to which the name is bound (a valid attached route accepted it there,
or it is the listener's own server); that key pair is among the emitted files, with the bytes of a Secret of the same
id referenced by a valid listener. -/
theorem ssl_server_cert_any_ns (s : ScenarioT) (sv : CServer) (kp : Option (List Char)) (h : (sv, kp) ∈ (genT s).ssl) :
    ∃ gT, winnerT s = some gT ∧ ∃ l ∈ gT.listeners, validHttps s gT l = true ∧ l.base.port = sv.port ∧
      Tls.covers l.base.host sv.name = true ∧ Binds s gT l sv.name ∧
      ∃ c sec, l.cert = some c ∧ kp = some (Tls.keyPairId c) ∧ Tls.findSecret s.secrets c.1 c.2 = some sec ∧
        ∃ k ∈ (genT s).keyPairs, k.id = Tls.keyPairId c ∧
          ∃ l' ∈ sslListeners s gT, ∃ c' sec', l'.cert = some c' ∧ Tls.findSecret s.secrets c'.1 c'.2 = some sec' ∧
            Tls.keyPairId c' = Tls.keyPairId c ∧ k.cert = sec'.cert ∧ k.key = sec'.key := by
  cases hw : winnerT s with
  | none => rw [genT_none hw] at h; cases h
  | some gT =>
    rw [genT_keyPairs hw]
    rcases mem_ssl_cases hw h with ⟨w, hwl, hwv, hwp, hwc, hkp, _⟩ | ⟨l, hl, hv, hp, hn, hkp, hc⟩
    · obtain ⟨c, sec, hc, hk, rest⟩ := valid_listener_keypair (mem_sslListeners.mpr ⟨hwl, hwv⟩)
      exact ⟨gT, rfl, w, hwl, hwv, hwp, carries_covers hwc, Or.inl (carries_iff.mp hwc), c, sec, hc, hkp.trans hk, rest⟩
    · obtain ⟨c, sec, hcc, hk, rest⟩ := valid_listener_keypair (mem_sslListeners.mpr ⟨hl, hv⟩)
      exact ⟨gT, rfl, l, hl, hv, hp, hn ▸ covers_serverName _, Or.inr ⟨hn, hc⟩, c, sec, hcc, hkp.trans hk, rest⟩

/-- certificate namespaces are DNS labels (no `_`): makes `generateSSLKeyPairID` injective (`keypair_id_injective`) -/
def CertNsPlain (s : ScenarioT) : Prop := ∀ g ∈ s.gateways, ∀ l ∈ g.listeners, ∀ c, l.cert = some c → '_' ∉ c.1

/-- `ssl_server_cert_is_attaching_listeners_secret`: every SSL server of `genT s` for hostname `sv.name` on port `sv.port`
carries the key pair of a VALID HTTPS listener of the served Gateway on that port, covering the name, to which the name
is bound (a valid attached route accepted it there, or it is the listener's own server); and the emitted key-pair file
of that id holds the bytes of THAT listener's Secret. -/
theorem ssl_server_cert_is_attaching_listeners_secret (s : ScenarioT) (hns : CertNsPlain s)
    (sv : CServer) (kp : Option (List Char)) (h : (sv, kp) ∈ (genT s).ssl) :
    ∃ gT, winnerT s = some gT ∧ ∃ l ∈ gT.listeners, validHttps s gT l = true ∧ l.base.port = sv.port ∧
      Tls.covers l.base.host sv.name = true ∧ Binds s gT l sv.name ∧
      ∃ c sec, l.cert = some c ∧ kp = some (Tls.keyPairId c) ∧ Tls.findSecret s.secrets c.1 c.2 = some sec ∧
        sec.isTLS = true ∧ sec.pairOK = true ∧
        ∃ k ∈ (genT s).keyPairs, k.id = Tls.keyPairId c ∧ k.cert = sec.cert ∧ k.key = sec.key := by
  obtain ⟨gT, hw, l, hl, hv, hp, hcov, hb, c, sec, hc, hkp, hs, k, hk, hid, l', hl', c', sec', hc', hs', hidc, hkc, hkk⟩ :=
    ssl_server_cert_any_ns s sv kp h
  have hg := winnerT_mem hw
  have hcc : c' = c :=
    Tls.keyPairId_inj (hns gT hg l' (mem_sslListeners.mp hl').1 c' hc') (hns gT hg l hl c hc) hidc
  subst hcc
  rw [hs] at hs'; cases hs'
  obtain ⟨c2, hc2, _, sec2, hs2, ht, hpo⟩ := valid_cert hv
  rw [hc] at hc2; cases hc2
  rw [hs] at hs2; cases hs2
  exact ⟨gT, hw, l, hl, hv, hp, hcov, hb, c', sec, hc, hkp, hs, ht, hpo, k, hk, hid, hkc, hkk⟩

/-- the owner of server name `h` on port `p` as the property reads it: a valid HTTPS listener of the port covering `h`
such that no other one is more specific -/
def IsOwner (s : ScenarioT) (gT : GatewayT) (p : Nat) (h : Str) (o : ListenerT) : Prop :=
  o ∈ gT.listeners ∧ validHttps s gT o = true ∧ o.base.port = p ∧ Tls.covers o.base.host h = true ∧
  ∀ l' ∈ gT.listeners, validHttps s gT l' = true → l'.base.port = p → Tls.covers l'.base.host h = true →
    Tls.rank l'.base.host ≤ Tls.rank o.base.host

/-- a Gateway does not repeat a (port, hostname) pair (API server CEL rule; part of `Pipeline.gatewayOK`) -/
def PortHostInj (gT : GatewayT) : Prop :=
  ∀ a ∈ gT.listeners, ∀ b ∈ gT.listeners, a.base.port = b.base.port → a.base.host = b.base.host → a = b

/-- `owner_listener_cert_partial`: under the hypothesis that excludes the known finding
`C16:hostname-of-more-specific-listener-served-with-less-specific-listeners-cert` — a valid route attached to the OWNER
itself carries the server name (always so when routes attach to the whole Gateway and the owner admits them) — every
SSL server presents the key pair of the MOST SPECIFIC valid HTTPS listener of its port covering its name. -/
theorem owner_listener_cert_partial (s : ScenarioT) (gT : GatewayT) (hw : winnerT s = some gT) (hinj : PortHostInj gT)
    (sv : CServer) (kp : Option (List Char)) (h : (sv, kp) ∈ (genT s).ssl)
    (o : ListenerT) (ho : IsOwner s gT sv.port sv.name o)
    (hacc : ∃ r ∈ s.routes, r.valid = true ∧ sv.name ∈ acceptedAt (projGw (validHttps s) gT) o.base r)
    (hwf : o.base.host ≠ Hostname.wildcardHostname) :
    kp = kpOf o := by
  obtain ⟨hom, hov, hop, hoc, homax⟩ := ho
  -- the listener whose key pair is presented is as specific as the owner, hence (no repeated port/hostname) the owner
  suffices hw : ∃ w ∈ gT.listeners, w.base.port = sv.port ∧ Tls.covers w.base.host sv.name = true ∧ kp = kpOf w ∧
      Tls.rank w.base.host = Tls.rank o.base.host by
    obtain ⟨w, hwl, hwp, hwc, hkp, hr⟩ := hw
    rw [hkp, hinj w hwl o hom (hwp.trans hop.symm) (Tls.host_eq_of_rank_eq hwc hoc hr)]
  rcases mem_ssl_cases hw h with ⟨w, hwl, hwv, hwp, hwc, hkp, hmax⟩ | ⟨l, hl, hv, hp, hn, hkp, _⟩
  · have h1 := hmax o hom hov hop (carries_iff.mpr hacc)
    have h2 := homax w hwl hwv hwp (carries_covers hwc)
    exact ⟨w, hwl, hwp, carries_covers hwc, hkp, by omega⟩
  · -- the server generated for listener `l` itself
    have hlc : Tls.covers l.base.host sv.name = true := hn ▸ covers_serverName _
    have h2 := homax l hl hv hp hlc
    have h1 : Tls.rank o.base.host ≤ Tls.rank l.base.host :=
      Tls.rank_le_of_covers_serverName (serverName_eq _ ▸ hn ▸ hoc) hwf
    exact ⟨l, hl, hp, hlc, hkp, by omega⟩

/-- non-vacuity of `ssl_server_cert_is_attaching_listeners_secret`: the example has five SSL servers and plain namespaces -/
example : CertNsPlain exScen ∧ (genT exScen).ssl.length = 5 := by
  -- `l.cert = some c` is `c ∈ l.cert`: a bounded quantifier
  show (∀ g ∈ exScen.gateways, ∀ l ∈ g.listeners, ∀ c ∈ l.cert, '_' ∉ c.1) ∧ _
  decide +kernel

/-- FULL STRENGTH IS FALSE on the current code (known finding
`C16:hostname-of-more-specific-listener-served-with-less-specific-listeners-cert`), ON THE GENERATED
CONFIGURATION: with the route attached to the wildcard listener only, `genT` emits a server `foo.example.com:443`
presenting tls-a (the wildcard listener's Secret) — and NGINX presents it for SNI `foo.example.com` — although listener
`foo` (tls-b) is the valid HTTPS listener of port 443 with the most specific hostname covering that name. -/
theorem owner_listener_cert_false :
    view (genT witScen) = [(443, "foo.example.com", some "ssl_keypair_default_tls-a"),
                           (443, "foo.example.com", some "ssl_keypair_default_tls-b")] ∧
    presented (genT witScen) 443 "foo.example.com".toList = some (some "ssl_keypair_default_tls-a".toList) ∧
    winnerT witScen = some ⟨"default".toList, "gw".toList, "nginx".toList, 2, [exWild, exFoo]⟩ ∧
    validHttps witScen ⟨"default".toList, "gw".toList, "nginx".toList, 2, [exWild, exFoo]⟩ exFoo = true ∧
    Tls.covers exFoo.base.host "foo.example.com".toList = true ∧
    Tls.rank exWild.base.host < Tls.rank exFoo.base.host ∧
    kpOf exFoo = some "ssl_keypair_default_tls-b".toList := by
  decide_chars

/-- non-vacuity of `owner_listener_cert_partial`: in `exScen` (route on the whole Gateway) listener `foo` is the owner of
`foo.example.com` on 443, has the name accepted, and the server presents its key pair -/
example : ∃ gT, winnerT exScen = some gT ∧ PortHostInj gT ∧ IsOwner exScen gT 443 "foo.example.com".toList exFoo ∧
    (∃ r ∈ exScen.routes, r.valid = true ∧ "foo.example.com".toList ∈ acceptedAt (projGw (validHttps exScen) gT) exFoo.base r) ∧
    exFoo.base.host ≠ Hostname.wildcardHostname := by
  refine ⟨⟨"default".toList, "gw".toList, "nginx".toList, 2, exListeners⟩, ?_⟩
  unfold PortHostInj IsOwner
  decide +kernel

/-- `port_conflict_resolver_exact`: the stateful resolver of the Go code (`pcRun`: conflictedPorts / portProtocolOwner /
listenersByPort, called in listener order) invalidates EXACTLY the listeners `conflicted` names: a listener whose
validators passed is set invalid by createPortConflictResolver iff a validator-passing listener of the other protocol
group shares its port — whatever the order of the listeners -/
theorem port_conflict_resolver_exact (g : GatewayT) (l : ListenerT) (hl : l ∈ g.listeners) (hf : l.fieldsOK = true) :
    l ∈ (pcRun g.listeners).invalid ↔ conflicted g l = true := by
  have hi := pcInv_run g.listeners
  have hld : l ∈ g.listeners.filter (·.fieldsOK) := List.mem_filter.mpr ⟨hl, hf⟩
  rw [hi.invalid l, hi.conf]
  simp only [conflicted, List.any_eq_true, Bool.and_eq_true, beq_iff_eq, bne_iff_ne, ne_eq, List.mem_filter]
  constructor
  · rintro ⟨_, a, ⟨ha, haf⟩, b, ⟨hb, hbf⟩, h1, h2, h3⟩
    by_cases e : a.https = l.https
    · exact ⟨b, hb, ⟨hbf, h2⟩, fun x => h3 (e.trans x.symm)⟩
    · exact ⟨a, ha, ⟨haf, h1⟩, e⟩
  · rintro ⟨o, ho, ⟨hof, hp⟩, hne⟩
    exact ⟨⟨hl, hf⟩, o, ⟨ho, hof⟩, l, ⟨hl, hf⟩, hp, rfl, hne⟩

/-- in the example Gateway the resolver marks exactly the HTTP and the HTTPS listener sharing port 8080 — although the
HTTPS one refers to a missing Secret -/
example : (pcRun exListeners).invalid.map (fun l => String.ofList l.base.name) = ["s8080", "h8080"] ∧
    (pcRun exListeners).conflictedPorts = [8080] := by decide +kernel

/-! ### a listener whose Secret is missing / invalid / not permitted contributes nothing -/

/-- each way the certificate reference of an HTTPS listener can fail makes the listener invalid: malformed reference
(none / several / not a Secret), Secret of another namespace without a ReferenceGrant, missing Secret, Secret of the
wrong type or with an unloadable pair -/
theorem resolution_failures_T (s : ScenarioT) (g : GatewayT) (l : ListenerT) :
    (l.cert = none → validHttps s g l = false) ∧
    (∀ c, l.cert = some c → c.1 ≠ g.ns → Tls.secretRefAllowed s.grants g.ns c.1 c.2 = false → validHttps s g l = false) ∧
    (∀ c, l.cert = some c → Tls.findSecret s.secrets c.1 c.2 = none → validHttps s g l = false) ∧
    (∀ c sec, l.cert = some c → Tls.findSecret s.secrets c.1 c.2 = some sec → (sec.isTLS = false ∨ sec.pairOK = false) →
      validHttps s g l = false) := by
  -- a valid listener has a well-formed, permitted reference to an existing loadable TLS Secret (`valid_cert`)
  refine ⟨fun hc => Bool.eq_false_iff.mpr fun hv => ?_, fun c hc h1 h2 => Bool.eq_false_iff.mpr fun hv => ?_,
    fun c hc h2 => Bool.eq_false_iff.mpr fun hv => ?_, fun c sec hc hs h2 => Bool.eq_false_iff.mpr fun hv => ?_⟩ <;>
    obtain ⟨c', hc', hp, sec', hs', h3, h4⟩ := valid_cert hv <;> rw [hc] at hc' <;> cases hc'
  · exact hp.elim h1 fun e => by rw [h2] at e; cases e
  · rw [h2] at hs'; cases hs'
  · rw [hs] at hs'; cases hs'
    exact h2.elim (fun e => by rw [e] at h3; cases h3) fun e => by rw [e] at h4; cases h4

example : (exListeners.map fun l => resolution exScenNoGrant ⟨"default".toList, "gw".toList, "nginx".toList, 2, exListeners⟩ l) =
    [.ok, .ok, .wrongType, .notPermitted, .badRef, .badRef, .missing] := by decide +kernel

/-- `invalid_secret_no_ssl_server`, removal form: the HTTPS listeners whose Secret did not resolve contribute NOTHING
to the SSL part — removing all of them leaves the SSL servers, the SSL default ports and the key-pair files unchanged. -/
theorem unresolved_listeners_contribute_nothing (s : ScenarioT) :
    (genT (dropUnresolved s)).ssl = (genT s).ssl ∧ (genT (dropUnresolved s)).sslPorts = (genT s).sslPorts ∧
    (genT (dropUnresolved s)).keyPairs = (genT s).keyPairs := by
  apply ssl_part_filter_invariant s (keepResolved s)
  · intro g l _ hv
    have := (validHttps_iff.mp hv).2.2
    simp [keepResolved, this]
  · intro g l o _ _ hh _ hc
    simp only [clash, Bool.and_eq_true, bne_iff_ne, ne_eq] at hc
    have : o.https = false := by
      cases ho : o.https
      · rfl
      · exact absurd (by rw [ho, hh]) hc.2
    simp [keepResolved, this]

example : ((dropUnresolved exScenNoGrant).gateways.map fun g => g.listeners.map fun l => String.ofList l.base.name) =
    [["wild", "foo", "http", "h8080"]] := by decide +kernel

/-- `invalid_secret_no_ssl_server`, port form: when every HTTPS listener of port `p` fails to resolve its Secret, the
port has no SSL server and not even a default server — nothing listens with TLS there, and NGINX presents no
certificate whatever the SNI. (In the Go code an invalid listener is never upserted, so no `hostPathRules` exists.) -/
theorem invalid_secret_no_ssl_server (s : ScenarioT) (gT : GatewayT) (hw : winnerT s = some gT) (p : Nat)
    (hall : ∀ l ∈ gT.listeners, l.https = true → l.base.port = p → resolution s gT l ≠ .ok) :
    p ∉ (genT s).sslPorts ∧ (∀ sv kp, (sv, kp) ∈ (genT s).ssl → sv.port ≠ p) ∧
    ∀ sni, presented (genT s) p sni = none := by
  have hp : p ∉ (genT s).sslPorts := by
    intro hin
    obtain ⟨l, hl, hv, hpl⟩ := (ssl_port_iff hw p).mp hin
    have h3 := validHttps_iff.mp hv
    exact hall l hl h3.1 hpl h3.2.2
  refine ⟨hp, ?_, ?_⟩
  · intro sv kp hm hsp
    obtain ⟨gT', hw', l, hl, hv, hpl, _⟩ := ssl_server_cert_any_ns s sv kp hm
    rw [hw] at hw'; cases hw'
    have h3 := validHttps_iff.mp hv
    exact hall l hl h3.1 (hpl.trans hsp) h3.2.2
  · intro sni
    unfold presented
    have : (genT s).sslPorts.contains p = false := by simpa using hp
    simp only [this, Bool.not_false, ↓reduceIte]

/-- in `exScenNoGrant` the only HTTPS listener of 8443 refers to a Secret of another namespace without a grant -/
example : presented (genT exScenNoGrant) 8443 "foo.example.com".toList = none ∧
    presented (genT exScen) 8443 "foo.example.com".toList = some (some "ssl_keypair_team-b_tls-x".toList) := by
  decide_chars

/-- `http_part_unchanged`: the plain-HTTP configuration is `Pipeline.gen` of the HTTP projection -/
theorem http_part_unchanged (s : ScenarioT) : (genT s).http = gen (httpPart s) := genT_http s

/-- TLS OBJECTS never influence the plain-HTTP configuration: two cluster states that differ only in their Secrets,
their ReferenceGrants and in WHICH Secret each (well-formed) certificate reference names generate the same plain-HTTP
servers. (What does matter, as in the Go code: an HTTPS listener with a well-formed reference on the port of an HTTP
listener makes the port conflicted — whether or not its Secret exists.) -/
theorem http_part_ignores_tls_objects (s s' : ScenarioT) (h : eraseTls s = eraseTls s') :
    (genT s).http = (genT s').http := by
  rw [← genT_http_eraseTls s, ← genT_http_eraseTls s', h]

example : eraseTls exScen = eraseTls exScenNoGrant ∧ exScen.grants ≠ exScenNoGrant.grants := by
  refine ⟨rfl, ?_⟩
  simp [exScen, exScenNoGrant, mkScen]

/-- symmetrically: HTTP listeners that share no port with an HTTPS listener (with a well-formed reference) never
influence the SSL servers, the SSL default ports or the key-pair files -/
theorem ssl_part_ignores_free_http_listeners (s : ScenarioT) :
    (genT (dropFreeHttp s)).ssl = (genT s).ssl ∧ (genT (dropFreeHttp s)).sslPorts = (genT s).sslPorts ∧
    (genT (dropFreeHttp s)).keyPairs = (genT s).keyPairs := by
  apply ssl_part_filter_invariant s (fun g => keepTied g)
  · intro g l _ hv
    simp [keepTied, (validHttps_iff.mp hv).1]
  · intro g l o hl _ hh hr hc
    simp only [clash, Bool.and_eq_true, beq_iff_eq] at hc
    have hf : l.fieldsOK = true := by
      unfold resolution at hr
      have := (Tls.resolveRef_ok_iff.1 hr).1
      cases hcert : l.cert with
      | none => simp [certRefOf, hcert] at this
      | some c => simp [ListenerT.fieldsOK, hcert]
    unfold keepTied
    simp only [Bool.or_eq_true, List.any_eq_true, Bool.and_eq_true, beq_iff_eq]
    exact Or.inr ⟨l, hl, ⟨hh, hf⟩, hc.1.2.symm⟩

example : ((dropFreeHttp exScen).gateways.map fun g => g.listeners.map fun l => String.ofList l.base.name) =
    [["wild", "foo", "bad", "cross", "h8080", "s8080"]] := by decide +kernel

/-- `keypairs_exact`: the emitted key-pair files are EXACTLY those of the valid HTTPS listeners of the served Gateway —
id of the listener's Secret, its certificate and key bytes; no key material of unused, invalid or foreign listeners. -/
theorem keypairs_exact (s : ScenarioT) (hns : CertNsPlain s) (gT : GatewayT) (hw : winnerT s = some gT) (k : Tls.KeyPair) :
    k ∈ (genT s).keyPairs ↔
      ∃ l ∈ gT.listeners, validHttps s gT l = true ∧ ∃ c sec, l.cert = some c ∧
        Tls.findSecret s.secrets c.1 c.2 = some sec ∧ k = ⟨Tls.keyPairId c, sec.cert, sec.key⟩ := by
  rw [genT_keyPairs hw]
  constructor
  · intro hk
    rcases keyPairsFrom_sound s.secrets _ [] k hk with h0 | ⟨l, hl, c, sec, hc, hs, e⟩
    · simp at h0
    · have := mem_sslListeners.mp hl
      exact ⟨l, this.1, this.2, c, sec, hc, hs, e⟩
  · rintro ⟨l, hl, hv, c, sec, hc, hs, rfl⟩
    have hl' : l ∈ sslListeners s gT := mem_sslListeners.mpr ⟨hl, hv⟩
    obtain ⟨x, hx, hid⟩ := keyPairsFrom_complete s.secrets _ [] l hl' c sec hc hs
    rcases keyPairsFrom_sound s.secrets _ [] x hx with h0 | ⟨l2, hl2, c2, sec2, hc2, hs2, e⟩
    · simp at h0
    · have hg := winnerT_mem hw
      have hid' : Tls.keyPairId c2 = Tls.keyPairId c := by rw [← hid, e]
      have hcc : c2 = c :=
        Tls.keyPairId_inj (hns gT hg l2 (mem_sslListeners.mp hl2).1 c2 hc2) (hns gT hg l hl c hc) hid'
      subst hcc
      rw [hs] at hs2; cases hs2
      rw [← e]; exact hx

/-- without a served Gateway no key material is written; and no two key-pair files share an id -/
theorem keypair_ids_nodup (s : ScenarioT) :
    ((genT s).keyPairs.map (·.id)).Nodup ∧ (winnerT s = none → (genT s).keyPairs = []) := by
  constructor
  · cases hw : winnerT s with
    | none => rw [genT_none hw]; simp
    | some gT =>
      rw [genT_some hw]
      exact keyPairsFrom_nodup s.secrets _ [] (by simp [idsNodup])
  · intro hw; rw [genT_none hw]

/-- no listener hostname is literally `~^` (it is not a DNS name; `validateListenerHostname` rejects it) -/
def HostsNotCatchAll (s : ScenarioT) : Prop :=
  ∀ g ∈ s.gateways, ∀ l ∈ g.listeners, l.base.host ≠ Hostname.wildcardHostname

/-- `ssl_server_for_sni`: ANY SSL server of `genT s` on port `p` whose server name stands for the SNI name `sni` (NGINX's
`server_name` matching: exact, `*.suffix`, the catch-all `~^`) — so whichever of several equally named servers NGINX
keeps — carries the key pair of a VALID HTTPS listener of the served Gateway on `p` whose hostname COVERS `sni`, and
the key-pair file of that id holds that listener's Secret. -/
theorem ssl_server_for_sni (s : ScenarioT) (hns : CertNsPlain s) (hnc : HostsNotCatchAll s) (sni : Str) (hne : sni ≠ [])
    (sv : CServer) (kp : Option (List Char)) (hm : (sv, kp) ∈ (genT s).ssl) (hcov : nameCovers sv.name sni = true) :
    ∃ gT, winnerT s = some gT ∧ ∃ l ∈ gT.listeners, validHttps s gT l = true ∧ l.base.port = sv.port ∧
      Tls.covers l.base.host sni = true ∧
      ∃ c sec, l.cert = some c ∧ kp = some (Tls.keyPairId c) ∧ Tls.findSecret s.secrets c.1 c.2 = some sec ∧
        ∃ k ∈ (genT s).keyPairs, k.id = Tls.keyPairId c ∧ k.cert = sec.cert ∧ k.key = sec.key := by
  obtain ⟨gT, hw, l, hl, hv, hpl, hlc, _, c, sec, hc, hkp, hs, _, _, k, hk, hid, hkc, hkk⟩ :=
    ssl_server_cert_is_attaching_listeners_secret s hns sv kp hm
  refine ⟨gT, hw, l, hl, hv, hpl, ?_, c, sec, hc, hkp, hs, k, hk, hid, hkc, hkk⟩
  -- the listener hostname covers the server name, the server name covers the SNI name
  by_cases hca : sv.name = NGF.NginxEval.catchAll
  · -- the catch-all server: only a listener without hostname covers `~^`
    rw [hca] at hlc
    rcases Tls.covers_wildcardHostname hlc with e | e
    · rw [e]; exact Tls.covers_nil _
    · exact absurd e (hnc gT (winnerT_mem hw) l hl)
  · have hnn : sv.name ≠ [] := by
      intro e
      rw [e] at hcov
      simp only [nameCovers, Bool.or_eq_true, beq_iff_eq] at hcov
      rcases hcov with (e1 | e1) | e1
      · exact absurd e1.symm (by decide)
      · exact hne e1.symm
      · simp [NGF.NginxEval.wildCovers, NGF.NginxEval.isWildName] at e1
    exact Tls.covers_trans hnn hlc (nameCovers_covers hca hcov)

/-- `presented_cert_covers_sni`: the certificate NGINX presents for the SNI name `sni` on port `p` under `genT s` is the
key pair of a VALID HTTPS listener of the served Gateway on port `p` whose hostname COVERS `sni`, and the key-pair
file of that id holds that listener's Secret. -/
theorem presented_cert_covers_sni (s : ScenarioT) (hns : CertNsPlain s) (hnc : HostsNotCatchAll s) (p : Nat) (sni : Str)
    (hne : sni ≠ []) (hq : NGF.NginxEval.isWildName sni = false ∧ sni ≠ NGF.NginxEval.catchAll) (hlen : sni.length < 100000)
    (kp : List Char) (h : presented (genT s) p sni = some (some kp)) :
    ∃ gT, winnerT s = some gT ∧ ∃ l ∈ gT.listeners, validHttps s gT l = true ∧ l.base.port = p ∧
      Tls.covers l.base.host sni = true ∧
      ∃ c sec, l.cert = some c ∧ kp = Tls.keyPairId c ∧ Tls.findSecret s.secrets c.1 c.2 = some sec ∧
        ∃ k ∈ (genT s).keyPairs, k.id = kp ∧ k.cert = sec.cert ∧ k.key = sec.key := by
  obtain ⟨_, sv, hm, hport, hcov⟩ := presented_some hq h (by simp)
  obtain ⟨gT, hw, l, hl, hv, hpl, hlc, c, sec, hc, hkp, hs, k, hk, hid, hkc, hkk⟩ :=
    ssl_server_for_sni s hns hnc sni hne sv (some kp) hm hcov
  have hkp' : kp = Tls.keyPairId c := by simpa using hkp
  exact ⟨gT, hw, l, hl, hv, hpl.trans hport, hlc, c, sec, hc, hkp', hs, k, hk, by rw [hid, hkp'], hkc, hkk⟩

/-- `uncovered_sni_rejected`: an SNI name that no valid HTTPS listener of the port covers — in particular a name that
only a listener with a missing / invalid / not permitted Secret covers — gets no certificate: nothing listens, or the
default server rejects the handshake. -/
theorem uncovered_sni_rejected (s : ScenarioT) (hns : CertNsPlain s) (hnc : HostsNotCatchAll s) (gT : GatewayT)
    (hw : winnerT s = some gT) (p : Nat) (sni : Str)
    (hne : sni ≠ []) (hq : NGF.NginxEval.isWildName sni = false ∧ sni ≠ NGF.NginxEval.catchAll) (hlen : sni.length < 100000)
    (hnone : ∀ l ∈ gT.listeners, validHttps s gT l = true → l.base.port = p → Tls.covers l.base.host sni = false) :
    presented (genT s) p sni = none ∨ presented (genT s) p sni = some none := by
  cases h : presented (genT s) p sni with
  | none => exact Or.inl rfl
  | some x =>
    cases x with
    | none => exact Or.inr rfl
    | some kp =>
      exfalso
      obtain ⟨gT', hw', l, hl, hv, hpl, hc, _⟩ := presented_cert_covers_sni s hns hnc p sni hne hq hlen kp h
      rw [hw] at hw'; cases hw'
      rw [hnone l hl hv hpl] at hc; cases hc

/-- non-vacuity of the hypotheses of the three SNI theorems on the example -/
example : HostsNotCatchAll exScen ∧ "foo.example.com".toList ≠ [] ∧
    (NGF.NginxEval.isWildName "foo.example.com".toList = false ∧ "foo.example.com".toList ≠ NGF.NginxEval.catchAll) := by
  unfold HostsNotCatchAll
  decide +kernel

/-- `bar.org` on 443 is covered only by listener `bad` (Secret of the wrong type): the default server rejects the
handshake; `foo.example.com` gets listener foo's certificate -/
example : presented (genT exScen) 443 "bar.org".toList = some none ∧
    presented (genT exScen) 443 "foo.example.com".toList = some (some "ssl_keypair_default_tls-b".toList) ∧
    presented (genT exScen) 443 "x.example.com".toList = some none ∧
    presented (genT exScen) 443 "cafe.example.com".toList = some (some "ssl_keypair_default_tls-a".toList) := by
  decide_chars

end NGF.PipelineTls
