/-
C01 over the CONCRETE pipeline model — the grand composition.

`NGF.Model.StorePipeline` instantiates the store/handler machine (`Model/Store`, `Model/StoreHandler`: the change-tracking
updater, `Process`, the handler's capture step) with
  * the cluster  = GatewayClasses, Gateways, HTTPRoutes (backendRefs as written), Services, ReferenceGrants, EndpointSlices;
  * ONE rebuild  = `Pipeline.gen (PipelineRefs.resolve c)` (C02/C06: servers, locations, proxy_pass targets),
                   `PipelineEndpoints.upstreamsOf c` (C13: upstream blocks), the statuses of `PipelineStatus` (C07), and the
                   graph's `ReferencedServices`;
  * the relevance predicates AS THEY ARE IN THE TREE (`predicate: nil` / `funcPredicate{isReferenced}` for Service and
    EndpointSlice, judged against the LATEST graph, store-then-predicate, delete judges the stored object) — no oracle bit.

For the configuration the convergence theorem holds at full strength; with the statuses in the output it holds outside ONE
explicit decidable region (`svcCovered`), the registered known finding `C01:service-dropped:route-of-ignored-gateway`.
-/
import NGF.Props.C01Handler
import NGF.Proofs.StorePipeline
import NGF.Props.C14Pipeline

namespace NGF.StorePipeline
open NGF.Store
open NGF.PipelineRefs (resolve)

/-- **pipeline_rel_sound.** For the full output (configuration, upstreams, statuses): an admissible event — any
well-formed event; a Service event only while `svcCovered` — that the predicates of the tree judge irrelevant against the
graph built from the store leaves the rebuild from the store after the event unchanged. -/
theorem pipeline_rel_sound (s : PCl) (e : PEvent) (ha : pAdm true s e = true)
    (hv : verdict pOps pRel (some (pBuild true s)) s e = false) :
    pBuild true (storeAfter pOps s e) = pBuild true s :=
  (pSound true).rel_sound s s e rfl ha rfl hv

/-- … and for configuration + upstreams (+ `ReferencedServices`) it holds for EVERY well-formed event: no exclusion. -/
theorem pipeline_rel_sound_config (s : PCl) (e : PEvent) (hw : wfEvent e = true)
    (hv : verdict pOps pRel (some (pBuild false s)) s e = false) :
    pBuild false (storeAfter pOps s e) = pBuild false s :=
  (pSound false).rel_sound s s e rfl (by simp [pAdm, hw]) rfl hv

theorem wfEvent_event (m : PMut) : wfEvent m.event = true := by
  cases m <;> simp [wfEvent, PMut.event]

theorem admissible_config (hist : List PStep) (w : PCl) : Admissible pOps (pAdm false) w (steps hist) :=
  admissible_of_forall pOps _ (fun e he _ => by
    obtain ⟨st, _, hst⟩ := List.mem_map.1 he
    cases st
    · cases hst; simp [pAdm, wfEvent_event]
    · cases hst
    · cases hst) w

theorem admissible_of_covered : ∀ (hist : List PStep) (w : PCl), CoveredAlong w hist = true →
    Admissible pOps (pAdm true) w (steps hist)
  | [], _, _ => trivial
  | .mut m :: hist, w, h => by
      simp only [CoveredAlong, Bool.and_eq_true] at h
      refine ⟨?_, admissible_of_covered hist _ h.2⟩
      simp only [pAdm, wfEvent_event, Bool.true_and]
      simpa using h.1
  | .cut :: hist, w, h => admissible_of_covered hist w h
  | .restart :: hist, w, h => admissible_of_covered hist w h

theorem pHandler_all_capture (front : Key) (k : PKind) (key : Key) (f : Filter)
    (hf : (pHandler front).filters k key = some f) : f.captureChangeInGraph = true :=
  capture_of_single rfl hf

theorem pHandler_swallowOK (front : Key) (st : Bool) : SwallowOK (pHandler front) pOps (pBuild st) Eq (pAdm st) :=
  swallowOK_of_all_capture _ _ _ _ _ rfl (pHandler_all_capture front)

theorem pipeline_converges_of_admissible (st : Bool) (front : Key) (w₀ : PCl) (hist : List PStep)
    (ha : Admissible pOps (pAdm st) w₀ (steps hist)) :
    (runH (pHandler front) pOps (pBuild st) pRel pWatch (start (pBuild st) w₀) (steps hist ++ [.cut])).applied
      = fresh (pBuild st) (finalWorld pOps w₀ (steps hist)) :=
  converges_through_handler_partial (pHandler front) pOps (pBuild st) pRel pWatch Eq (pAdm st) (pSound st)
    (pHandler_swallowOK front st) w₀ (steps hist) ha

/-- **pipeline_config_converges.** For EVERY initial cluster and EVERY finite history of upserts and deletes of
GatewayClasses, Gateways, HTTPRoutes, Services, ReferenceGrants and EndpointSlices — any batching, any restart points —
running through the handler's capture layer (the front Service of NGF matching an object filter): once the queue is
drained, the configuration (`gen (resolve c)`), the upstreams (`upstreamsOf c`) and `ReferencedServices` last applied are
those a freshly started controller derives from the final cluster. No oracle, no exclusion. -/
theorem pipeline_config_converges (front : Key) (w₀ : PCl) (hist : List PStep) :
    (runH (pHandler front) pOps (pBuild false) pRel pWatch (start (pBuild false) w₀) (steps hist ++ [.cut])).applied
      = fresh (pBuild false) (finalWorld pOps w₀ (steps hist)) :=
  pipeline_converges_of_admissible false front w₀ hist (admissible_config hist w₀)

/-- **pipeline_converges.** The same with the statuses (`routeParentStatuses` of every HTTPRoute, `gatewayStatus`, the
ignored Gateways) in the output, for every history that stays outside the excluded region `CoveredAlong`. -/
theorem pipeline_converges (front : Key) (w₀ : PCl) (hist : List PStep) (hc : CoveredAlong w₀ hist = true) :
    (runH (pHandler front) pOps (pBuild true) pRel pWatch (start (pBuild true) w₀) (steps hist ++ [.cut])).applied
      = fresh (pBuild true) (finalWorld pOps w₀ (steps hist)) :=
  pipeline_converges_of_admissible true front w₀ hist (admissible_of_covered hist w₀ hc)

/-- … at every instant at which nothing is pending, not only at the end. -/
theorem pipeline_drained_is_fresh (w₀ : PCl) (hist : List PStep) (hc : CoveredAlong w₀ hist = true) :
    let σ := run pOps (pBuild true) pRel pWatch (start (pBuild true) w₀) (steps hist)
    σ.proc.ct = .none → σ.applied = fresh (pBuild true) σ.world :=
  (inv_reachable pOps (pSound true) w₀ (steps hist) (admissible_of_covered hist w₀ hc)).drained

/-- **pipeline_irrelevant_inert.** The processor holds an up-to-date graph. An admissible event that the handler
forwards and the predicates judge irrelevant leaves the pending change type as it is (no rebuild will be triggered by it)
and a rebuild from the store after the event would derive the configuration, the upstreams AND the statuses already
applied. -/
theorem pipeline_irrelevant_inert (front : Key) (p : Proc PCl PBuilt) (hsync : p.latest = some (pBuild true p.store))
    (e : PEvent) (ha : pAdm true p.store e = true) (hirr : verdict pOps pRel p.latest p.store e = false) :
    let p' := (parseAndCapture (pHandler front) pOps pRel p e).1
    p'.ct = p.ct ∧ (pBuild true p'.store).conf = (pBuild true p.store).conf ∧
    (pBuild true p'.store).ups = (pBuild true p.store).ups ∧
    (pBuild true p'.store).routeSt = (pBuild true p.store).routeSt ∧
    (pBuild true p'.store).gwSt = (pBuild true p.store).gwSt := by
  intro p'
  have hp' : p' = capture pOps pRel p e :=
    capture_forwards_all (pHandler front) rfl pOps pRel p e fun f hf => pHandler_all_capture front _ _ f hf
  have hb : pBuild true p'.store = pBuild true p.store := by
    rw [hp']
    exact pipeline_rel_sound p.store e ha (by rw [← hsync]; exact hirr)
  refine ⟨?_, by rw [hb], by rw [hb], by rw [hb], by rw [hb]⟩
  rw [hp']
  exact irrelevant_event_inert pOps pRel p e hirr

def yGw : Pipeline.Gateway :=
  { ns := "default".toList, name := "gw".toList, cls := "nginx".toList, age := 1,
    listeners := [{ name := "http".toList, port := 80, host := [], fromAll := true }] }

def yRoute (svc : String) : PipelineRefs.RouteR :=
  { ns := "app", name := "hr", age := 2, parents := [{ ns := "default".toList, name := "gw".toList, sectionName := none }],
    hostnames := [],
    rules := [{ ms := [{ exact := false, path := "/".toList, method := [], headers := [], query := [] }],
                action := .forward [⟨none, none, none, svc, some 80, none, 0⟩] }],
    valid := true }

def ySvc (name : String) (target : Nat) : SvcObj := { ns := "app", name := name, ports := [⟨"http", 80, .int target⟩] }

def ySlice (obj svc addr : String) : SliceObj :=
  { name := obj, slice := { ns := "app", svcLabel := some svc, addrType := .ipv4, ports := [⟨some "http", some 8080⟩],
                             endpoints := [⟨[addr], some true⟩] } }

/-- class, Gateway, HTTPRoute app/hr → app/web:80; Services web and idle; one slice of each -/
def yCluster : PCl :=
  { cls := "nginx".toList, ctlr := "ctl".toList, classes := [⟨"nginx".toList, "ctl".toList⟩], gateways := [yGw],
    routes := [yRoute "web"], svcs := [ySvc "web" 8080, ySvc "idle" 8080], grants := [],
    slices := [ySlice "web-1" "web" "10.0.0.1", ySlice "idle-1" "idle" "10.0.0.9"] }

def yHist : List PStep :=
  [.mut (.upsert (.slice (ySlice "idle-2" "idle" "10.0.0.8"))),     -- slice of an unreferenced Service: irrelevant
   .mut (.upsert (.svc (ySvc "idle" 9090))), .cut,                   -- unreferenced Service: irrelevant ⇒ NoChange batch
   .mut (.upsert (.slice (ySlice "web-2" "web" "10.0.0.2"))), .cut,  -- slice of the referenced Service: EndpointsOnly
   .restart,
   .mut (.delete .endpointSlice ("app", "web-1")),                    -- judged by the STORED object's owner: relevant
   .mut (.upsert (.route (yRoute "idle"))),                           -- nil predicate: rebuild; now idle is referenced
   .mut (.delete .service ("app", "web"))]                            -- judged against the STALE graph: still "referenced"

/-- the hypothesis of `pipeline_converges` holds on this history, the judged verdicts are as annotated, and the output
really moves: in the end the route resolves `app/idle`, whose upstream holds the two idle endpoints -/
example :
    CoveredAlong yCluster yHist = true ∧
    let σ := runH (pHandler ("nginx-gateway", "ngf-svc")) pOps (pBuild true) pRel pWatch (start (pBuild true) yCluster)
    (σ (steps (yHist.take 3))).proc.ct = .none ∧ (σ (steps (yHist.take 4))).proc.ct = .endpoints ∧
    (σ (steps yHist)).proc.ct = .cluster ∧
    ((σ (steps yHist ++ [.cut])).applied.map fun b => (b.referenced, b.ups.map fun u => (u.name, u.eps.map (·.address)))) =
      some ([("app", "idle")], [("app_idle_80", ["10.0.0.8", "10.0.0.9"])]) ∧
    ((σ (steps yHist ++ [.cut])).applied.map fun b =>
        b.routeSt.map fun x => x.2.map fun ps => ps.map fun e => (PipelineStatus.acceptedTrue e, PipelineStatus.resolvedFalse e)) =
      some [some [(true, false)]] := by
  decide +kernel

open NGF.Props.C14Pipeline in
/-- **pipeline_conf_listing_independent.** Two listings of the same cluster — GatewayClasses, Gateways and HTTPRoutes in
another order (arrival order of the long-lived controller vs. the start-up listing of a fresh one) — give the same
configuration up to the order of default-server ports, servers and locations (`Conf.equiv`: what the judge's
order-normalisation identifies). `KeyInj`, `RouteKeysNodup` (decidable): Gateways / routes have distinct keys. -/
theorem pipeline_conf_listing_independent (st : Bool) (c c' : PCl) (hcls : c'.cls = c.cls) (hctlr : c'.ctlr = c.ctlr)
    (h1 : c.classes.Perm c'.classes) (h2 : c.gateways.Perm c'.gateways) (h3 : c.routes.Perm c'.routes)
    (hs : c'.svcs = c.svcs) (hg : c'.grants = c.grants)
    (hk : Pipeline.KeyInj c.gateways) (hn : Pipeline.RouteKeysNodup (resolve c.toR).routes) :
    Pipeline.Conf.equiv (pBuild st c).conf (pBuild st c').conf := by
  apply gen_perm_equiv (resolve c.toR) (resolve c'.toR) _ hk hn
  refine ⟨hcls, hctlr, h1, h2, ?_⟩
  show (c.routes.map _).Perm (c'.routes.map _)
  simp only [PCl.toR, hs, hg]
  exact h3.map _

def xGw (name : String) (age : Int) : Pipeline.Gateway :=
  { ns := "default".toList, name := name.toList, cls := "nginx".toList, age := age,
    listeners := [{ name := "http".toList, port := 80, host := [], fromAll := true }] }

def xRoute (name gw svc : String) : PipelineRefs.RouteR :=
  { ns := "default", name := name, age := 3, parents := [{ ns := "default".toList, name := gw.toList, sectionName := none }],
    hostnames := [],
    rules := [{ ms := [{ exact := false, path := "/".toList, method := [], headers := [], query := [] }],
                action := .forward [⟨none, none, none, svc, some 80, none, 0⟩] }],
    valid := true }

/-- Gateways gw-old (older: wins) and gw0 (ignored); HTTPRoute hr-ign → gw0 with backend svc1; no Service yet -/
def xIgnored : PCl :=
  { cls := "nginx".toList, ctlr := "ctl".toList, classes := [⟨"nginx".toList, "ctl".toList⟩],
    gateways := [xGw "gw-old" 1, xGw "gw0" 2], routes := [xRoute "hr-ign" "gw0" "svc1"], svcs := [], grants := [], slices := [] }

def xSvc1 : SvcObj := { ns := "default", name := "svc1", ports := [⟨"p80", 80, .int 8080⟩] }

/-- **Witness (known finding `C01:service-dropped:route-of-ignored-gateway`).** The route is attached only to a Gateway
that lost the election: `createBackendRef` resolves its backendRef (the status carries ResolvedRefs=False while the
Service is missing) but `buildReferencedServices` skips the route, so the creation of Service svc1 is judged irrelevant:
the long-lived controller keeps ResolvedRefs=False, a fresh one has no such condition. `svcCovered` is false exactly
here, and the configuration part is unaffected (`pipeline_config_converges`). -/
theorem pipeline_service_of_ignored_gateway_diverges :
    let hist : List PStep := [.mut (.upsert (.svc xSvc1)), .cut]
    let σ := runH (pHandler ("nginx-gateway", "ngf-svc")) pOps (pBuild true) pRel pWatch (start (pBuild true) xIgnored) (steps hist)
    svcCovered xIgnored = false ∧ CoveredAlong xIgnored hist = false ∧
    referencedSvcs xIgnored.toR = [] ∧
    (σ.applied.map fun b => b.routeSt.map fun x => x.2.map fun ps => ps.map fun e => PipelineStatus.resolvedFalse e)
      = some [some [true]] ∧
    ((fresh (pBuild true) σ.world).map fun b => b.routeSt.map fun x => x.2.map fun ps => ps.map fun e => PipelineStatus.resolvedFalse e)
      = some [some [false]] := by
  decide +kernel

end NGF.StorePipeline
