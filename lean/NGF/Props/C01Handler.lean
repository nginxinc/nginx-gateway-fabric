/-
C01 — the handler's capture step (`eventHandlerImpl.parseAndCaptureEvent` with the `objectFilters` table of
`newEventHandlerImpl`) between the event loop and the change processor.

`NGF.Model.StoreHandler` models the step branch by branch, separately for upserts and deletes; the variants in which one
branch returns after the callback whatever the flag says (pre-image of seeded change C01-r3m3) are refuted by witness
histories.
-/
import NGF.Props.C01
import NGF.Proofs.StoreHandler
import NGF.Generated.StoreFacts

namespace NGF.Store

variable {K Key Obj C G : Type}

/-- **capture_forwards_all.** With the branches as they are in the tree, an event that matches no filter, or a
filter with `captureChangeInGraph = true`, is handed to the change processor — whichever branch (upsert or delete)
it takes; the processor state after `parseAndCaptureEvent` is the state after `Capture…Change`. -/
theorem capture_forwards_all (H : Handler K Key) (hb : H.branches = treeBranches) (O : Ops K Key Obj C)
    (rel : Option G → Option Obj → Event K Key Obj → Bool) (p : Proc C G) (e : Event K Key Obj)
    (h : ∀ f, H.filterOf e = some f → f.captureChangeInGraph = true) :
    (parseAndCapture H O rel p e).1 = capture O rel p e := by
  rw [parseAndCapture_fst, forwards_of_capture H hb e h, if_pos rfl]

/-- … and an event whose filter does NOT say `captureChangeInGraph` leaves the processor untouched. -/
theorem capture_keeps_noncapturing (H : Handler K Key) (hb : H.branches = treeBranches) (O : Ops K Key Obj C)
    (rel : Option G → Option Obj → Event K Key Obj → Bool) (p : Proc C G) (e : Event K Key Obj)
    (f : Filter) (hf : H.filterOf e = some f) (hc : f.captureChangeInGraph = false) :
    (parseAndCapture H O rel p e).1 = p := by
  have : H.forwards e = false := by rw [forwards_tree H hb, hf]; exact hc
  rw [parseAndCapture_fst, this, if_neg Bool.false_ne_true]

/-- The callback runs exactly for the events that match a filter: the upsert callback in the upsert branch, the
delete callback in the delete branch, whatever `captureChangeInGraph` says. -/
theorem callback_iff_filter (H : Handler K Key) (O : Ops K Key Obj C)
    (rel : Option G → Option Obj → Event K Key Obj → Bool) (p : Proc C G) (e : Event K Key Obj) :
    (parseAndCapture H O rel p e).2 =
      (H.filterOf e).map fun f => if e.obj.isSome then Callback.upsert f.name else Callback.delete f.name := by
  rw [parseAndCapture_snd]
  simp only [Handler.callback]
  cases H.filterOf e with
  | none => rfl
  | some f => cases e.obj <;> rfl

/-- The handler of the tree keeps an event to itself iff it is an event of the NginxGateway object with the
configured name (`controlConfigNSName`) — create, update or delete. -/
theorem tree_swallows_iff (e : TEvent) :
    treeHandler.forwards e = false ↔ (e.kind = "NginxGateway" ∧ e.key = specialKey) := by
  rw [forwards_tree treeHandler rfl]
  show (match treeFilters e.kind e.key with | none => true | some f => f.captureChangeInGraph) = false ↔ _
  unfold treeFilters
  by_cases hk : e.key = specialKey
  · by_cases hn : e.kind = "NginxGateway"
    · simp [hk, hn]
    · by_cases hs : e.kind = "Service" <;> simp [hk, hn, hs]
  · simp [hk]

/-- What the handler keeps to itself is of a kind the change processor has no table entry for (no store, no
predicate: `assertSupportedGVK` would panic) — so nothing the graph is built from is withheld. -/
theorem tree_swallows_only_unregistered (e : TEvent) (h : treeHandler.forwards e = false) :
    allKinds.contains e.kind = false ∧ handlerOnlyKinds.contains e.kind = true := by
  rw [(tree_swallows_iff e).1 h |>.1]
  decide +kernel

/-- **Every event of a registered kind is captured** — in particular upserts AND deletes of the Service that
fronts NGF (`Service`, key `specialKey`), which matches a filter. -/
theorem tree_forwards_every_registered (rel : Option Unit → Option Unit → TEvent → Bool) (p : TProc) (e : TEvent)
    (hk : allKinds.contains e.kind = true) :
    (parseAndCapture treeHandler traceOps rel p e).1 = capture traceOps rel p e := by
  rw [parseAndCapture_fst]
  cases hf : treeHandler.forwards e with
  | true => rfl
  | false => rw [(tree_swallows_only_unregistered e hf).1] at hk; cases hk

/-- The special Service is forwarded in both branches, and its callbacks run (non-vacuity of the theorem above on the
filtered key): delete of the front Service while present in the store ⇒ the store loses it and a rebuild is pending. -/
example :
    let p : TProc := { store := [("Service", 0)], latest := some (), ct := .none }
    let del : TEvent := { kind := "Service", key := 0, obj := none, oracle := true }
    let ups : TEvent := { kind := "Service", key := 0, obj := some (), oracle := false }
    treeHandler.filterOf del = some { name := "nginxGatewayService", captureChangeInGraph := true, needsGraph := true } ∧
    ((parseAndCapture treeHandler traceOps traceRel p del).1.store, (parseAndCapture treeHandler traceOps traceRel p del).1.ct)
      = ([], ChangeType.cluster) ∧
    (parseAndCapture treeHandler traceOps traceRel p del).2 = some (.delete "nginxGatewayService") ∧
    (parseAndCapture treeHandler traceOps traceRel p ups).2 = some (.upsert "nginxGatewayService") ∧
    (parseAndCapture treeHandler traceOps traceRel p ups).1.store = (capture traceOps traceRel p ups).store := by
  decide +kernel

theorem converges_through_handler_partial (H : Handler K Key) (O : Ops K Key Obj C) (build : C → G)
    (rel : Option G → Option Obj → Event K Key Obj → Bool) (watch : C → Event K Key Obj → Bool)
    (R : C → C → Prop) (adm : C → Event K Key Obj → Bool) (hs : Sound O build rel watch R adm)
    (hw : SwallowOK H O build R adm)
    (w₀ : C) (hist : List (Step K Key Obj)) (ha : Admissible O adm w₀ hist) :
    (runH H O build rel watch (start build w₀) (hist ++ [.cut])).applied
      = fresh build (finalWorld O w₀ hist) := by
  rw [runH_eq_run]
  exact converges_of_sound_partial O build rel (watchH H watch) R adm
    (sound_through_handler H O build rel watch R adm hs hw) w₀ hist ha

/-- **converges_through_handler.** `converges_of_sound` for histories that pass through `parseAndCaptureEvent`:
if the watch and relevance predicates are sound (`Sound`, every mutation admissible) and what the handler keeps to
itself is invisible to the build (`SwallowOK`), then for every initial cluster and every history the output applied
after the queue is drained is what a fresh controller derives from the final cluster. -/
theorem converges_through_handler (H : Handler K Key) (O : Ops K Key Obj C) (build : C → G)
    (rel : Option G → Option Obj → Event K Key Obj → Bool) (watch : C → Event K Key Obj → Bool)
    (R : C → C → Prop) (hs : Sound O build rel watch R (fun _ _ => true))
    (hw : SwallowOK H O build R (fun _ _ => true))
    (w₀ : C) (hist : List (Step K Key Obj)) :
    (runH H O build rel watch (start build w₀) (hist ++ [.cut])).applied
      = fresh build (finalWorld O w₀ hist) :=
  converges_through_handler_partial H O build rel watch R _ hs hw w₀ hist (admissible_true O w₀ hist)

/-- **The shape of the tree's handler**: what it keeps to itself is of kinds the cluster state has no component for
(`store`/`cache` do nothing for them — NginxGateway has no entry in `NewChangeProcessorImpl` and `BuildGraph` never sees
it). Then `Sound` for the store machine alone gives convergence through the handler, for every history. -/
theorem converges_through_handler_untracked (H : Handler K Key) (O : Ops K Key Obj C) (build : C → G)
    (rel : Option G → Option Obj → Event K Key Obj → Bool) (watch : C → Event K Key Obj → Bool)
    (R : C → C → Prop) (hs : Sound O build rel watch R (fun _ _ => true))
    (hu : ∀ (e : Event K Key Obj) (c : C), H.forwards e = false → O.store e c = c ∧ O.cache e c = c)
    (w₀ : C) (hist : List (Step K Key Obj)) :
    (runH H O build rel watch (start build w₀) (hist ++ [.cut])).applied
      = fresh build (finalWorld O w₀ hist) :=
  converges_through_handler H O build rel watch R hs (swallowOK_of_untracked H O build R _ hu) w₀ hist

/-- Non-vacuity of `hu`: a cluster state that tracks kind `true` only, a handler that keeps kind `false` (key 0) to itself. -/
example :
    let H : Handler Bool Nat := { filters := fun k key => if k = false ∧ key = 0 then some ⟨"control", false, false⟩ else none }
    let O : Ops Bool Nat Nat Nat := { persisted := id, hasPred := fun _ => false, isEndpoints := fun _ => false,
                                      get := fun c k _ => if k then some c else none,
                                      store := fun e c => if e.kind then e.obj.getD 0 else c, cache := fun _ c => c }
    (∀ (e : Event Bool Nat Nat) (c : Nat), H.forwards e = false → O.store e c = c ∧ O.cache e c = c) ∧
    H.forwards (⟨false, 0, some 5, false⟩ : Event Bool Nat Nat) = false ∧
    H.forwards (⟨true, 0, some 5, false⟩ : Event Bool Nat Nat) = true := by
  refine ⟨?_, by decide +kernel, by decide +kernel⟩
  intro e c hf
  obtain ⟨kind, key, obj, orc⟩ := e
  cases kind
  · exact ⟨rfl, rfl⟩
  · simp [Handler.forwards, Handler.filterOf] at hf

/-- the front Service of the mini instance is Service 7 — the one the route points to -/
def miniHandler (B : Branches) : Handler Mini.Kind Nat where
  filters k key := if k = .svc ∧ key = 7 then
      some { name := "nginxGatewayService", captureChangeInGraph := true, needsGraph := true } else none
  branches := B

open Mini in
/-- The code in the tree: convergence for EVERY history through the handler, the filtered Service taking part in
the ordinary role of a Route backend. -/
theorem mini_converges_through_handler (w₀ : Cl) (hist : List (Step Mini.Kind Nat Mini.Obj)) :
    (runH (miniHandler treeBranches) opsR build relR watchAll (start build w₀) (hist ++ [.cut])).applied
      = fresh build (finalWorld opsR w₀ hist) :=
  converges_through_handler _ opsR build relR watchAll Eq sound_repaired
    (swallowOK_of_all_capture _ _ _ _ _ rfl fun _ _ _ hf => capture_of_single rfl hf) w₀ hist

open Mini in
/-- **Pre-image of seeded change C01-r3m3 refuted**: with a DeleteEvent branch that returns after the callback, deleting
the front Service while a route uses it as backend never reaches the processor: the applied output keeps the resolved
backend and the endpoint, a fresh controller has neither. The tree's branches converge on the same history. -/
theorem handler_swallowing_delete_diverges :
    let w₀ : Cl := { routes := [(0, 7)], svcs := upd (fun _ => none) 7 (some 80),
                     slices := upd (fun _ => none) 3 (some (7, 55)) }
    let hist : List (Step Mini.Kind Nat Mini.Obj) := [.mutate ⟨.svc, 7, none, false⟩, .cut]
    let bad := runH (miniHandler swallowingDelete) opsR build relR watchAll (start build w₀) hist
    let good := runH (miniHandler treeBranches) opsR build relR watchAll (start build w₀) hist
    (miniHandler swallowingDelete).forwards (⟨.svc, 7, none, false⟩ : Mini.Ev) = false ∧
    (bad.applied.map fun g => g.rv 0) = some (some (7, some 80)) ∧
    ((fresh build bad.world).map fun g => g.rv 0) = some (some (7, none)) ∧
    (good.applied.map fun g => g.rv 0) = some (some (7, none)) := by
  decide +kernel

open Mini in
/-- … and it is not healed by a later re-creation with another port when that upsert is judged on the stale store:
here the re-created Service is captured (upsert branch intact), so only the window between delete and re-creation
diverges — the witness above is the whole defect. The mirror variant (upsert branch swallowing) loses updates: -/
theorem handler_swallowing_upsert_diverges :
    let w₀ : Cl := { routes := [(0, 7)], svcs := upd (fun _ => none) 7 (some 80), slices := fun _ => none }
    let hist : List (Step Mini.Kind Nat Mini.Obj) := [.mutate ⟨.svc, 7, some ⟨0, 81⟩, false⟩, .cut]
    let bad := runH (miniHandler swallowingUpsert) opsR build relR watchAll (start build w₀) hist
    (bad.applied.map fun g => g.rv 0) = some (some (7, some 80)) ∧
    ((fresh build bad.world).map fun g => g.rv 0) = some (some (7, some 81)) := by
  decide +kernel

open Mini in
/-- Non-vacuity of `mini_converges_through_handler`: the front Service is deleted, re-created with another port, a
slice of it changes — several batches and a restart; the applied output follows. -/
example :
    let w₀ : Cl := { routes := [(0, 7)], svcs := upd (fun _ => none) 7 (some 80),
                     slices := upd (fun _ => none) 3 (some (7, 55)) }
    let hist : List (Step Mini.Kind Nat Mini.Obj) :=
      [.mutate ⟨.svc, 7, none, false⟩, .cut,
       .mutate ⟨.svc, 7, some ⟨0, 81⟩, false⟩, .mutate ⟨.slice, 3, some ⟨7, 56⟩, false⟩, .cut, .restart,
       .mutate ⟨.svc, 8, some ⟨0, 1⟩, false⟩]
    ((runH (miniHandler treeBranches) opsR build relR watchAll (start build w₀) (hist ++ [.cut])).applied.map
        fun g => (g.rv 0, g.ep 0 3)) = some (some (7, some 81), some 56) ∧
    callbacksOf (miniHandler treeBranches) opsR watchAll w₀ hist
      = [.delete "nginxGatewayService", .upsert "nginxGatewayService"] := by
  decide +kernel

/-- The `objectFilters` table of `newEventHandlerImpl` is the one the model's `treeFilters` encodes: two filters —
the NginxGateway object named `controlConfigNSName` (no `captureChangeInGraph`: zero value false) and the Service
named `gatewayPodConfig.Namespace/ServiceName` (`captureChangeInGraph: true`); keys are `%T_namespace_name`. -/
theorem handler_filters_as_modelled :
    Generated.Store.filterTypes = ["&ngfAPI.NginxGateway{}", "&v1.Service{}"] ∧
    Generated.Store.filterNames =
      ["handler.cfg.controlConfigNSName",
       "types.NamespacedName{ Name: handler.cfg.gatewayPodConfig.ServiceName, Namespace: handler.cfg.gatewayPodConfig.Namespace, }"] ∧
    Generated.Store.filterUpserts = ["handler.nginxGatewayCRDUpsert", "handler.nginxGatewayServiceUpsert"] ∧
    Generated.Store.filterDeletes = ["handler.nginxGatewayCRDDelete", "handler.nginxGatewayServiceDelete"] ∧
    Generated.Store.filterCapture = ["false", "true"] ∧
    Generated.Store.filterOtherFields = ["", ""] ∧
    Generated.Store.objectFilterFields =
      ["upsert func(context.Context, logr.Logger, client.Object)",
       "delete func(context.Context, logr.Logger, types.NamespacedName)",
       "captureChangeInGraph bool"] ∧
    Generated.Store.objectFilterKeyBody =
      ["return filterKey(fmt.Sprintf(\"%T_%s_%s\", obj, nsName.Namespace, nsName.Name))"] ∧
    -- the model's table says the same
    (treeFilters "NginxGateway" specialKey).map (·.captureChangeInGraph) = some false ∧
    (treeFilters "Service" specialKey).map (·.captureChangeInGraph) = some true :=
  ⟨rfl, rfl, rfl, rfl, rfl, rfl, rfl, rfl, by decide +kernel, by decide +kernel⟩

/-- Both branches of `parseAndCaptureEvent` are the statements `parseAndCapture` follows: look the filter up by
(type, name); if found run the branch's callback and return unless `captureChangeInGraph`; then capture. -/
theorem parse_and_capture_as_modelled :
    Generated.Store.parseAndCaptureSwitch = "e := event.(type)" ∧
    Generated.Store.parseAndCaptureTopLevelStmts = 1 ∧
    Generated.Store.parseAndCaptureCases = ["*events.UpsertEvent", "*events.DeleteEvent", "default"] ∧
    Generated.Store.parseAndCaptureBodies =
      ["upFilterKey := objectFilterKey(e.Resource, client.ObjectKeyFromObject(e.Resource)) ; if filter, ok := h.objectFilters[upFilterKey]; ok { filter.upsert(ctx, logger, e.Resource) if !filter.captureChangeInGraph { return } } ; h.cfg.processor.CaptureUpsertChange(e.Resource)",
       "delFilterKey := objectFilterKey(e.Type, e.NamespacedName) ; if filter, ok := h.objectFilters[delFilterKey]; ok { filter.delete(ctx, logger, e.NamespacedName) if !filter.captureChangeInGraph { return } } ; h.cfg.processor.CaptureDeleteChange(e.Type, e.NamespacedName)",
       "panic(fmt.Errorf(\"unknown event type %T\", e))"] :=
  ⟨rfl, rfl, rfl, rfl⟩

/-- The callbacks: the NginxGateway pair always issues the control-plane status group; the Service pair issues the
Gateway statuses from the LATEST graph and returns before that when there is none (`needsGraph`). -/
theorem callbacks_as_modelled :
    Generated.Store.callback_nginxGatewayCRDUpsert.getLast? = some "h.updateControlPlaneAndSetStatus(ctx, logger, cfg)" ∧
    Generated.Store.callback_nginxGatewayCRDDelete = ["h.updateControlPlaneAndSetStatus(ctx, logger, nil)"] ∧
    Generated.Store.callback_nginxGatewayServiceUpsert.drop 2 =
      ["gwAddresses, err := getGatewayAddresses(ctx, h.cfg.k8sClient, svc, h.cfg.gatewayPodConfig)",
       "if err != nil { logger.Error(err, \"Setting GatewayStatusAddress to Pod IP Address\") }",
       "gr := h.cfg.processor.GetLatestGraph()",
       "if gr == nil { return }",
       "transitionTime := metav1.Now()",
       "gatewayStatuses := status.PrepareGatewayRequests( gr.Gateway, gr.IgnoredGateways, transitionTime, gwAddresses, h.latestReloadResult, )",
       "h.cfg.statusUpdater.UpdateGroup(ctx, groupGateways, gatewayStatuses...)"] ∧
    Generated.Store.callback_nginxGatewayServiceDelete =
      ["gwAddresses, err := getGatewayAddresses(ctx, h.cfg.k8sClient, nil, h.cfg.gatewayPodConfig)",
       "if err != nil { logger.Error(err, \"Setting GatewayStatusAddress to Pod IP Address\") }",
       "gr := h.cfg.processor.GetLatestGraph()",
       "if gr == nil { return }",
       "transitionTime := metav1.Now()",
       "gatewayStatuses := status.PrepareGatewayRequests( gr.Gateway, gr.IgnoredGateways, transitionTime, gwAddresses, h.latestReloadResult, )",
       "h.cfg.statusUpdater.UpdateGroup(ctx, groupGateways, gatewayStatuses...)"] ∧
    (treeFilters "NginxGateway" specialKey).map (·.needsGraph) = some false ∧
    (treeFilters "Service" specialKey).map (·.needsGraph) = some true :=
  ⟨rfl, rfl, rfl, rfl, by decide +kernel, by decide +kernel⟩

end NGF.Store
