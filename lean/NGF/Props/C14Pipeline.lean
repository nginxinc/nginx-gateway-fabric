import NGF.Model.Pipeline
import NGF.Proofs.PipelinePerm
/-
C14 on the pipeline fragment model `gen : Scenario → Conf` (Model/Pipeline.lean, tied to the real graph → dataplane →
NGINX configuration pipeline by translation validation in C02 and, per arrival order, in C14's `pipeline` stream):

  the generated configuration — and therefore what NGINX does with every request — does not depend on the order in which
  GatewayClasses, Gateways and HTTPRoutes arrive / are iterated over (Go maps = lists, arrival order = list order;
  every theorem quantifies over ALL permutations `List.Perm`).

All statements are about the same `winner`, `gen`, `nginxEvalConf` that `ngfdriver_C14 pipeline` / `ngfdriver_C02 pipeline`
execute. Helper lemmas: NGF/Proofs/PipelinePerm.lean, NGF/Proofs/ListPerm.lean, NGF/Proofs/Sort.lean.
-/
namespace NGF.Props.C14Pipeline
open NGF.Pipeline NGF.ListPerm

/-- `s'` is `s` with the GatewayClasses, the Gateways and the HTTPRoutes in another order -/
structure Reordered (s s' : Scenario) : Prop where
  cls : s'.cls = s.cls
  ctlr : s'.ctlr = s.ctlr
  classes : s.classes.Perm s'.classes
  gateways : s.gateways.Perm s'.gateways
  routes : s.routes.Perm s'.routes

/-- `LessClientObject` on Gateways is a strict weak order (what `sort.Slice` needs), and total on distinct
(namespace, name) -/
theorem olderGw_strict_total :
    NGF.Sort.SWO olderGw ∧
    (∀ a b : Gateway, olderGw a b = true ∨ (a.age = b.age ∧ a.ns = b.ns ∧ a.name = b.name) ∨ olderGw b a = true) :=
  ⟨olderGw_swo, olderGw_tri⟩

/-- the executable form of the Gateway-key hypothesis (`nodup`, as in `inFragment`; what the driver evaluates) gives `KeyInj` -/
theorem keyInj_of_nodup (l : List Gateway) (h : nodup (l.map fun g => (g.ns, g.name)) = true) : KeyInj l := by
  have hn := nodup_of_eraseDups_length (beq_iff_eq.mp h)
  exact fun a ha b hb e1 e2 => inj_of_nodup_map hn a ha b hb (by rw [e1, e2])

/-- `winner_perm`: the served Gateway does not depend on the order of the Gateway map nor of the GatewayClass map.
`KeyInj` (decidable): Gateways have distinct (namespace, name). -/
theorem winner_perm (s s' : Scenario) (h : Reordered s s') (hk : KeyInj s.gateways) : winner s' = winner s := by
  unfold winner
  rw [classOurs_perm h.cls h.ctlr h.classes, h.cls]
  split
  · exact oldest_perm (h.gateways.filter _) (hk.filter _)
  · rfl

/-- `winner_is_min` on the fragment: the served Gateway belongs to the configured class, which names our controller, and
every other Gateway of the class comes strictly later in (creationTimestamp, namespace, name). -/
theorem pipeline_winner_is_min (s : Scenario) (hk : KeyInj s.gateways) (w : Gateway) (h : winner s = some w) :
    classOurs s = true ∧ w ∈ s.gateways ∧ w.cls = s.cls ∧
    ∀ g ∈ s.gateways, g.cls = s.cls → g = w ∨ (olderGw w g = true ∧ olderGw g w = false) := by
  unfold winner at h
  split at h
  · next hc =>
    obtain ⟨hm, hmin⟩ := oldest_spec (hk.filter _) h
    have hw := List.mem_filter.mp hm
    refine ⟨hc, hw.1, beq_iff_eq.mp hw.2, fun g hg hcl => ?_⟩
    exact (hmin g (List.mem_filter.mpr ⟨hg, beq_iff_eq.mpr hcl⟩)).imp_right fun e => ⟨e, olderGw_swo.asymm _ _ e⟩
  · cases h

/-- nothing is served iff the class is not ours or has no Gateway -/
theorem pipeline_no_winner_iff (s : Scenario) :
    winner s = none ↔ (classOurs s = false ∨ ∀ g ∈ s.gateways, g.cls ≠ s.cls) := by
  unfold winner
  split
  · next hc =>
    rw [oldest_none, List.filter_eq_nil_iff, hc]
    exact ⟨fun h => Or.inr fun g hg e => h g hg (beq_iff_eq.mpr e),
      fun h g hg e => h.elim (fun h => by cases h) (fun h => h g hg (beq_iff_eq.mp e))⟩
  · next hc => exact ⟨fun _ => Or.inl (Bool.eq_false_iff.mpr hc), fun _ => rfl⟩

/-- two match rules tie in `higherPriority` only if they come from objects with the same
(creationTimestamp, namespace, name) — with distinct route keys: from ONE route -/
theorem ties_only_within_one_source (a b : NGF.Precedence.MatchKey) (h1 : NGF.Precedence.le a b = true)
    (h2 : NGF.Precedence.le b a = true) : a.age = b.age ∧ a.ns = b.ns ∧ a.name = b.name :=
  key_equiv_same_source h1 h2

/-- under a permutation of the routes the match rules handed to `sortMatchRules` are permuted, but the rules of each
equivalence class (= of one route) keep their relative order — the hypothesis of `stable_sort_perm_invariant` -/
theorem entries_same_up_to_ties (g : Gateway) (routes routes' : List Route) (hp : routes.Perm routes')
    (hn : RouteKeysNodup routes) : SameUpToTies (entries g routes) (entries g routes') :=
  ⟨entries_perm g hp, entries_class g hp hn⟩

/-- … hence every (port, host, path) rule gets the same sorted match list, whatever the order of the routes -/
theorem sorted_rules_perm_invariant (g : Gateway) (routes routes' : List Route) (hp : routes.Perm routes')
    (hn : RouteKeysNodup routes) (port : Nat) (host : Str) (k : Bool × Str) :
    sortEntries ((mineOf (entries g routes) port host).filter fun e => pathKey e == k) =
    sortEntries ((mineOf (entries g routes') port host).filter fun e => pathKey e == k) :=
  sortEntries_rule_eq (entries_same_up_to_ties g routes routes' hp hn) port host k

/-- `gen s'` and `gen s` are equal up to a permutation of the default-server ports, of the servers, and of the locations
of each server (`Conf.equiv`) -/
theorem gen_perm_equiv (s s' : Scenario) (h : Reordered s s') (hk : KeyInj s.gateways)
    (hn : RouteKeysNodup s.routes) : Conf.equiv (gen s) (gen s') :=
  by
  unfold gen
  rw [winner_perm s s' h hk]
  cases winner s with
  | none => exact ⟨List.Perm.refl _, [], List.Perm.refl _, .nil⟩
  | some g =>
    exact ⟨List.Perm.refl _, PermRel.of_map (hostsOf_perm g h.routes)
      (fun ph _ => serverOf_equiv (entries_same_up_to_ties g _ _ h.routes hn) ph.1 ph.2)⟩

/-- server names are distinct per port -/
theorem gen_servers_distinct (s : Scenario) : ((gen s).servers.map fun sv => (sv.port, sv.name)).Nodup :=
  gen_servers_nodup s

/-- (modifier, path) of the locations of each server are distinct, provided no match has an empty path (`matchOK`
demands a leading `/`) -/
theorem gen_locs_distinct (s : Scenario) (hp : PathsOK s.routes) :
    ∀ sv ∈ (gen s).servers, (sv.locs.map fun l => (l.exact, l.path)).Nodup :=
  (gen_wf s hp).locs

/-- the same for scenarios inside the fragment -/
theorem gen_wf_fragment (s : Scenario) (hf : inFragment s = true) : (gen s).WF := gen_wf s (pathsOK_of_fragment hf)

/-- NGINX (`nginxEvalConf`) cannot tell two equivalent well-formed configurations apart -/
theorem equiv_same_meaning (c c' : Conf) (he : Conf.equiv c c') (hw : c.WF) :
    ∀ q, nginxEvalConf c q = nginxEvalConf c' q := equiv_meaning he hw

/-- the empty-path hypothesis of `gen_locs_distinct` cannot be dropped: a PathPrefix "" rule yields `location /` twice
(its own `<path>/` and the default root) -/
theorem locs_distinct_needs_nonempty_path :
    ((NGF.Precedence.genLocs [⟨[], true⟩]).map fun g => (g.exact, g.path)) = [(false, ['/']), (true, []), (false, ['/'])] := by
  decide +kernel

/-- `gen_perm_meaning`: for `s'` obtained from `s` by ANY permutation of routes, Gateways and GatewayClasses, NGINX
answers every request the same way under `gen s'` and under `gen s`. -/
theorem gen_perm_meaning (s s' : Scenario) (h : Reordered s s') (hk : KeyInj s.gateways) (hf : inFragment s = true) :
    ∀ q, nginxEvalConf (gen s') q = nginxEvalConf (gen s) q := by
  intro q
  exact (equiv_meaning (gen_perm_equiv s s' h hk (routeKeys_of_fragment hf)) (gen_wf_fragment s hf) q).symm

/-- the same from the two hypotheses it really needs (distinct route keys, non-empty paths) -/
theorem gen_perm_meaning' (s s' : Scenario) (h : Reordered s s') (hk : KeyInj s.gateways)
    (hn : RouteKeysNodup s.routes) (hp : PathsOK s.routes) :
    ∀ q, nginxEvalConf (gen s') q = nginxEvalConf (gen s) q := by
  intro q
  exact (equiv_meaning (gen_perm_equiv s s' h hk hn) (gen_wf s hp) q).symm

/-- without distinct Gateway keys the served Gateway DOES depend on the order: two Gateways default/gw with one age -/
def dupA : Gateway := ⟨['d'], ['g'], ['c'], 1, []⟩
def dupB : Gateway := ⟨['d'], ['g'], ['c'], 1, [⟨['l'], 80, [], true⟩]⟩
theorem winner_order_dependent_without_distinct_keys : oldest [dupA, dupB] ≠ oldest [dupB, dupA] := by decide +kernel

/-! ### non-vacuity: a scenario with competition, inside the fragment, and a reordering that changes `gen` textually -/

private def cOurs : GwClass := ⟨"nginx".toList, "ctl".toList⟩
private def cOther : GwClass := ⟨"other".toList, "x".toList⟩
private def lisA : Listener := ⟨"l0".toList, 80, [], true⟩
private def lisB : Listener := ⟨"l1".toList, 80, "*.example.com".toList, true⟩
private def gwOld : Gateway := ⟨"default".toList, "gw".toList, "nginx".toList, 5, [lisA, lisB]⟩
/-- same age: the name decides -/
private def gwLater : Gateway := ⟨"default".toList, "gw2".toList, "nginx".toList, 5, [lisA]⟩
private def gwForeign : Gateway := ⟨"default".toList, "fg".toList, "other".toList, 1, []⟩
private def par : Parent := ⟨"default".toList, "gw".toList, none⟩
private def mP (p : String) : Match := ⟨false, p.toList, [], [], []⟩
private def mH (p : String) : Match := ⟨false, p.toList, [], [("version".toList, "v1".toList)], []⟩
private def be (t : String) : Backend := ⟨t.toList, 1, true⟩
private def r1 : Route := ⟨"default".toList, "r1".toList, 7, [par], ["cafe.example.com".toList],
  [⟨[mP "/coffee", mH "/tea", mP "/tea"], .forward [be "default_svc0_80"]⟩], true⟩
/-- same age as r1, two rules tying on /tea -/
private def r2 : Route := ⟨"default".toList, "r2".toList, 7, [par], [],
  [⟨[mP "/tea"], .redirect 302 none none none⟩, ⟨[mP "/tea", mP "/"], .forward [be "default_svc1_80"]⟩], true⟩
private def r3 : Route := ⟨"team-a".toList, "r3".toList, 3, [par], ["cafe.example.com".toList, "bar.org".toList],
  [⟨[mH "/tea", mP "/x"], .forward [be "team-a_svc2_80", be "team-a_svc0_80"]⟩], true⟩
private def sA : Scenario := ⟨"nginx".toList, "ctl".toList, [cOurs, cOther], [gwLater, gwOld, gwForeign], [r1, r2, r3]⟩
private def sB : Scenario :=
  { sA with classes := sA.classes.reverse, gateways := sA.gateways.reverse, routes := sA.routes.reverse }

example : Reordered sA sB :=
  ⟨rfl, rfl, (List.reverse_perm _).symm, (List.reverse_perm _).symm, (List.reverse_perm _).symm⟩
example : KeyInj sA.gateways := keyInj_of_nodup _ (by decide +kernel)
private def rq (host path : String) (hdr : List (Str × Str)) : Req :=
  { port := 80, host := host.toList, path := path.toList, method := "GET".toList, headers := hdr, query := [] }

example : RouteKeysNodup sA.routes := by unfold RouteKeysNodup; decide +kernel
example : PathsOK sA.routes := by unfold PathsOK; decide +kernel
example : Conf.equiv (gen sA) (gen sB) :=
  gen_perm_equiv sA sB ⟨rfl, rfl, (List.reverse_perm _).symm, (List.reverse_perm _).symm, (List.reverse_perm _).symm⟩
    (keyInj_of_nodup _ (by decide +kernel)) (by unfold RouteKeysNodup; decide +kernel)
example : (gen sA).WF := gen_wf sA (by unfold PathsOK; decide +kernel)

#guard inFragment sA
#guard winner sA == some gwOld && winner sB == some gwOld
-- the two configurations differ as lists (server order) …
#guard (gen sA).servers.map (·.name) != (gen sB).servers.map (·.name)
#guard (gen sA).servers.length == 4
-- … but not in meaning; the outcomes are not trivial
#guard [rq "cafe.example.com" "/tea" [("version".toList, "v1".toList)], rq "cafe.example.com" "/tea" [],
        rq "cafe.example.com" "/coffee/x" [], rq "x.example.com" "/tea" [], rq "bar.org" "/x" [], rq "bar.org" "/" [],
        rq "nobody.net" "/" []].all fun q => nginxEvalConf (gen sA) q == nginxEvalConf (gen sB) q
#guard nginxEvalConf (gen sA) (rq "cafe.example.com" "/tea" [("version".toList, "v1".toList)])
        == .proxy [("team-a_svc2_80".toList, 5000), ("team-a_svc0_80".toList, 5000)]
#guard nginxEvalConf (gen sA) (rq "x.example.com" "/tea" []) == .redirect 302 "http".toList "x.example.com".toList 80

end NGF.Props.C14Pipeline
