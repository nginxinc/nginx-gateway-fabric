/-
C06 — cross-namespace references take effect only when a ReferenceGrant permits them.

Property theorems about `NGF.Model.RefGrant` (the functions the driver runs and the correspondence compares
with the real resolver, validators, generator functions and change processor), about the spec the judge
uses (`NGF.Model.RefGrantJudge`), and expectation lemmas that pin the regenerated source facts
(`NGF.Generated.RefGrantFacts`) to what the model says.  All quantifiers are over ALL grant lists,
references and event histories; Go's map iteration order is covered by `refAllowed_congr`.
§8 (namespace `NGF.PipelineRefs`) states the same gating for the generated configuration `genR c = gen (resolve c)` of
the pipeline model (Model/PipelineRefs.lean): which upstreams a location can proxy to, revocation, monotonicity.
-/
import NGF.Model.RefGrant
import NGF.Model.RefGrantJudge
import NGF.Proofs.RefGrant
import NGF.Generated.RefGrantFacts
import NGF.Model.PipelineRefs
import NGF.Proofs.PipelineRefs

namespace NGF.RefGrant

/-! ## 1. The resolver answers exactly what the declarative spec says -/

/-- MAIN (`refAllowed_iff_spec`): for all grant sets and all references to a core-group object, the
resolver answers true iff some ReferenceGrant in the TARGET's namespace has a `from` equal to the
referrer's (group, kind, namespace) and a `to` of the core group (`""` or `"core"`) with the target's kind
and no name (nil or empty) or exactly the target's name. -/
theorem refAllowed_iff_spec (gs : List Grant) (to : ToRes) (frm : FromRes) (hg : to.group = "") :
    refAllowed (newResolver gs) to frm = true ↔ Permitted gs to.kind to.ns to.name frm := by
  simp only [refAllowed_iff_opens, Opens, Permitted, opens_to_iff_covers hg]

/-- The only `to` values the pipeline ever builds are of the core group. -/
theorem constructors_core_group (ns name : String) :
    (toService ns name).group = "" ∧ (toSecret ns name).group = "" ∧
    (toService ns name).kind = "Service" ∧ (toSecret ns name).kind = "Secret" := ⟨rfl, rfl, rfl, rfl⟩

/-- Backends: what every route kind asks the resolver is the spec for (Service, that namespace, that name). -/
theorem service_ref_allowed_iff (gs : List Grant) (k : RouteKind) (routeNs ns name : String) :
    refAllowedFrom (newResolver gs) (fromRoute k routeNs) (toService ns name) = true ↔
      Permitted gs "Service" ns name (fromRoute k routeNs) :=
  refAllowed_iff_spec gs (toService ns name) _ rfl

/-- Certificates: what a Gateway listener asks the resolver is the spec for (Secret, that namespace, that name). -/
theorem secret_ref_allowed_iff (gs : List Grant) (gwNs ns name : String) :
    refAllowed (newResolver gs) (toSecret ns name) (fromGateway gwNs) = true ↔
      Permitted gs "Secret" ns name (fromGateway gwNs) :=
  refAllowed_iff_spec gs (toSecret ns name) _ rfl

/-- the judge's executable spec is the spec -/
theorem permittedB_iff_spec (gs : List Grant) (kind ns name : String) (frm : FromRes) :
    permittedB gs kind ns name frm = true ↔ Permitted gs kind ns name frm := permittedB_iff gs kind ns name frm

/-- non-vacuity: a grant that permits, one that does not (wrong from-namespace) -/
example :
    let g : Grant := ⟨"b", "g", [⟨gatewayGroup, "HTTPRoute", "a"⟩], [⟨"core", "Service", some "svc"⟩]⟩
    refAllowed (newResolver [g]) (toService "b" "svc") (fromHTTPRoute "a") = true ∧
    refAllowed (newResolver [g]) (toService "b" "svc") (fromHTTPRoute "c") = false ∧
    refAllowed (newResolver [g]) (toService "b" "other") (fromHTTPRoute "a") = false := by decide +kernel

/-! ## 2. Monotonicity and irrelevance -/

/-- The answer depends only on WHICH grants exist: not on their order (Go ranges over a map), not on duplicates. -/
theorem refAllowed_congr (gs gs' : List Grant) (h : ∀ g, g ∈ gs ↔ g ∈ gs') (to : ToRes) (frm : FromRes) :
    refAllowed (newResolver gs) to frm = refAllowed (newResolver gs') to frm :=
  refAllowed_congr_opens (exists_congr fun g => and_congr_left fun _ => h g)

/-- Grants in other namespaces than the target's are irrelevant (in particular: a grant placed in the
referrer's namespace permits nothing there). -/
theorem other_namespace_irrelevant (gs : List Grant) (to : ToRes) (frm : FromRes) :
    refAllowed (newResolver gs) to frm = refAllowed (newResolver (gs.filter fun g => g.ns = to.ns)) to frm :=
  refAllowed_filter gs _ fun _ ho => decide_eq_true ho.1

/-- `from` entries that do not name the referrer (other kind, other namespace, other group) are irrelevant. -/
theorem other_from_irrelevant (gs : List Grant) (to : ToRes) (frm : FromRes) :
    refAllowed (newResolver gs) to frm =
      refAllowed (newResolver (gs.map fun g => { g with froms := g.froms.filter fun f => fromNames f frm })) to frm :=
  refAllowed_map gs _ fun g => and_congr_right fun _ => and_congr_left fun _ => by
    simp only [List.mem_filter, decide_eq_true_eq]
    exact ⟨fun ⟨f, hf, h⟩ => ⟨f, hf.1, h⟩, fun ⟨f, hf, h⟩ => ⟨f, ⟨hf, h⟩, h⟩⟩

/-- `to` entries of another kind are irrelevant (a Secret grant opens no Service). -/
theorem other_to_kind_irrelevant (gs : List Grant) (to : ToRes) (frm : FromRes) :
    refAllowed (newResolver gs) to frm =
      refAllowed (newResolver (gs.map fun g => { g with tos := g.tos.filter fun t => t.kind = to.kind })) to frm :=
  refAllowed_map gs _ fun g => and_congr_right fun _ => and_congr_right fun _ => by
    simp only [List.mem_filter, decide_eq_true_eq]
    exact ⟨fun ⟨t, ht, h⟩ => ⟨t, ht.1, h⟩, fun ⟨t, ht, h⟩ => ⟨t, ⟨ht, h.1⟩, h⟩⟩

/-- Group handling exactly as the code does it: in a grant's `to`, `"core"` and `""` are the same … -/
theorem to_group_core_is_empty (gs : List Grant) (to : ToRes) (frm : FromRes) :
    refAllowed (newResolver gs) to frm =
      refAllowed (newResolver (gs.map fun g =>
        { g with tos := g.tos.map fun t => { t with group := normGroup t.group } })) to frm :=
  refAllowed_map gs _ fun g => and_congr_right fun _ => and_congr_right fun _ => by
    simp only [List.mem_map]
    exact ⟨fun ⟨_, ⟨t, ht, e⟩, h⟩ => ⟨t, ht, by subst e; simpa only [normGroup_idem, toName] using h⟩,
      fun ⟨t, ht, h⟩ => ⟨_, ⟨t, ht, rfl⟩, by simpa only [normGroup_idem, toName] using h⟩⟩

/-- … any other `to` group opens nothing for Services and Secrets, and the `from` group is compared
verbatim: `""`, `"core"` or a versioned group in a grant's `from` do not name a Gateway API referrer. -/
theorem group_near_misses :
    let svc := toService "b" "svc"
    let frm := fromHTTPRoute "a"
    let grant (fg tg : String) : Grant := ⟨"b", "g", [⟨fg, "HTTPRoute", "a"⟩], [⟨tg, "Service", none⟩]⟩
    refAllowed (newResolver [grant gatewayGroup ""]) svc frm = true ∧
    refAllowed (newResolver [grant gatewayGroup "core"]) svc frm = true ∧
    refAllowed (newResolver [grant gatewayGroup "apps"]) svc frm = false ∧
    refAllowed (newResolver [grant gatewayGroup gatewayGroup]) svc frm = false ∧
    refAllowed (newResolver [grant "" ""]) svc frm = false ∧
    refAllowed (newResolver [grant "core" ""]) svc frm = false ∧
    refAllowed (newResolver [grant "gateway.networking.k8s.io/v1" ""]) svc frm = false := by decide +kernel

/-- A grant whose `from` and `to` sit in two different grants permits nothing (no mixing across grants),
while several entries inside ONE grant combine as a cross product. -/
theorem entries_combine_within_a_grant_only :
    let f1 : GrantFrom := ⟨gatewayGroup, "HTTPRoute", "a"⟩
    let f2 : GrantFrom := ⟨gatewayGroup, "GRPCRoute", "c"⟩
    let t1 : GrantTo := ⟨"", "Service", some "svc"⟩
    let t2 : GrantTo := ⟨"", "Secret", none⟩
    refAllowed (newResolver [⟨"b", "g1", [f1], [t2]⟩, ⟨"b", "g2", [f2], [t1]⟩]) (toService "b" "svc") (fromHTTPRoute "a") = false ∧
    refAllowed (newResolver [⟨"b", "g", [f2, f1], [t2, t1]⟩]) (toService "b" "svc") (fromHTTPRoute "a") = true ∧
    refAllowed (newResolver [⟨"b", "g", [f2, f1], [t2, t1]⟩]) (toSecret "b" "any") (fromGRPCRoute "c") = true := by decide +kernel

/-- Quirk of `refAllowed` kept in the model: for a `to` of a NON-core group the second lookup drops the
group, so a core all-names grant answers true. Unreachable: `constructors_core_group`. -/
theorem noncore_to_group_quirk :
    refAllowed (newResolver [⟨"b", "g", [⟨gatewayGroup, "HTTPRoute", "a"⟩], [⟨"", "Widget", none⟩]⟩])
      ⟨"apps", "Widget", "w", "b"⟩ (fromHTTPRoute "a") = true := by decide +kernel

/-! ## 3. Backends: a cross-namespace backendRef is valid only with a grant; otherwise 500 -/

/-- `crossns_backend_needs_grant`: whenever the validators accept a backendRef of a route (any kind) that
names another namespace, the spec grants it. -/
theorem crossns_backend_needs_grant (gs : List Grant) (k : RouteKind) (routeNs : String) (ref : BackendRef)
    (n : String) (hn : ref.ns = some n) (hne : n ≠ routeNs)
    (hv : routeRefVerdict gs k routeNs ref = .ok) :
    Permitted gs "Service" n ref.name (fromRoute k routeNs) :=
  (service_ref_allowed_iff gs k routeNs n ref.name).1 (validateBackendRef_ok_crossns (routeRefVerdict_ok hv) hn hne)

theorem accepted_ref_local_or_granted {gs : List Grant} {k : RouteKind} {routeNs : String} {ref : BackendRef}
    (hv : routeRefVerdict gs k routeNs ref = .ok) :
    refNs ref routeNs = routeNs ∨ Permitted gs "Service" (refNs ref routeNs) ref.name (fromRoute k routeNs) := by
  unfold refNs
  cases hns : ref.ns with
  | none => exact .inl rfl
  | some n =>
    by_cases hnn : n = routeNs
    · exact .inl hnn
    · exact .inr (crossns_backend_needs_grant gs k routeNs ref n hns hnn hv)

theorem routeRefVerdict_refused {gs : List Grant} {k : RouteKind} {routeNs : String} {ref : BackendRef} {n : String}
    (hg : ref.group = none ∨ ref.group = some "" ∨ ref.group = some "core")
    (hk : ref.kind = none ∨ ref.kind = some "Service") (hf : k = .tls ∨ ref.nfilters = 0)
    (hn : ref.ns = some n) (hne : n ≠ routeNs) (hp : ¬ Permitted gs "Service" n ref.name (fromRoute k routeNs)) :
    routeRefVerdict gs k routeNs ref = .refNotPermitted := by
  rw [routeRefVerdict_eq, if_neg fun ⟨h1, h2⟩ => hf.elim h1 fun h0 => by rw [h0] at h2; exact Nat.lt_irrefl 0 h2]
  exact validateBackendRef_refused hg hk hn hne
    (Bool.eq_false_iff.2 fun h => hp ((service_ref_allowed_iff gs k routeNs n ref.name).1 h))

/-- … and a well-formed cross-namespace Service reference that the spec does NOT grant is refused with
RefNotPermitted, by every route kind (the check is skipped for none of them). -/
theorem unpermitted_backend_refused (gs : List Grant) (k : RouteKind) (routeNs : String) (ref : BackendRef)
    (hg : ref.group = none ∨ ref.group = some "" ∨ ref.group = some "core")
    (hk : ref.kind = none ∨ ref.kind = some "Service") (hf : ref.nfilters = 0)
    (n : String) (hn : ref.ns = some n) (hne : n ≠ routeNs)
    (hp : ¬ Permitted gs "Service" n ref.name (fromRoute k routeNs)) :
    routeRefVerdict gs k routeNs ref = .refNotPermitted ∧
      (routeRefVerdict gs k routeNs ref).reason = "RefNotPermitted" := by
  have := routeRefVerdict_refused hg hk (.inr hf) hn hne hp
  exact ⟨this, by rw [this]; rfl⟩

/-- A backendRef that stays in the route's namespace never depends on any grant. -/
theorem same_namespace_needs_no_grant (gs gs' : List Grant) (k : RouteKind) (routeNs : String) (ref : BackendRef)
    (h : ref.ns = none ∨ ref.ns = some routeNs) :
    routeRefVerdict gs k routeNs ref = routeRefVerdict gs' k routeNs ref := by
  rw [routeRefVerdict_eq, routeRefVerdict_eq, validateBackendRef_same_ns _ _ h]

/-- `unpermitted_backend_gets_500`: the graph backend made from a refused reference is invalid and carries no
Service; alone in its rule it makes the location pass to the `invalid-backend-ref` upstream (the 500 server);
in a weighted group its split_clients value is `invalid-backend-ref`. -/
theorem unpermitted_backend_gets_500 (gs : List Grant) (k : RouteKind) (routeNs : String) (ref : BackendRef)
    (later : Bool) (port : Nat) (w : Int) (gname : String)
    (hv : routeRefVerdict gs k routeNs ref = .refNotPermitted) :
    let b := createBackendRef gs k routeNs ref later port w
    b.valid = false ∧ servicePortReference b = "" ∧
    backendGroupName gname [toBackend b] = invalidBackendRef ∧
    splitClientValue (toBackend b) = invalidBackendRef := by
  simp [createBackendRef, hv, servicePortReference, backendGroupName, toBackend, splitClientValue]

/-- For ANY rule: every real upstream its locations can pass traffic to is the Service of a VALID graph
backend of that rule — an invalid backend never contributes an upstream, whatever its position or weight. -/
theorem group_targets_only_valid_backends (gname : String) (rs : List GBackendRef) :
    ∀ t ∈ groupTargets gname (rs.map toBackend),
      t = invalidBackendRef ∨ ∃ r ∈ rs, r.valid = true ∧ t = servicePortReference r :=
  groupTargets_sound gname rs

/-- End to end on the model: a real cross-namespace upstream in a rule's targets implies a spec grant.
(`refs` are the rule's backendRefs with the outcome of the later stages of `createBackendRef`.) -/
theorem crossns_upstream_needs_grant (gs : List Grant) (k : RouteKind) (routeNs gname : String)
    (refs : List (BackendRef × Bool × Nat × Int)) (t : String)
    (ht : t ∈ groupTargets gname
      ((refs.map fun x => createBackendRef gs k routeNs x.1 x.2.1 x.2.2.1 x.2.2.2).map toBackend))
    (hne : t ≠ invalidBackendRef) :
    ∃ x ∈ refs, t = s!"{refNs x.1 routeNs}_{x.1.name}_{x.2.2.1}" ∧
      (refNs x.1 routeNs = routeNs ∨ Permitted gs "Service" (refNs x.1 routeNs) x.1.name (fromRoute k routeNs)) := by
  rcases groupTargets_sound gname _ t ht with h | ⟨r, hr, hv, e⟩
  · exact absurd h hne
  · obtain ⟨x, hx, rfl⟩ := List.mem_map.1 hr
    obtain ⟨hok, _, heq⟩ := createBackendRef_valid hv
    exact ⟨x, hx, by rw [e, heq]; rfl, accepted_ref_local_or_granted hok⟩

/-- non-vacuity of the three theorems above: one rule, a granted and a refused cross-namespace backend -/
example :
    let g : Grant := ⟨"b", "g", [⟨gatewayGroup, "GRPCRoute", "a"⟩], [⟨"", "Service", some "ok"⟩]⟩
    let ref (name : String) : BackendRef := ⟨none, none, some "b", name, some 80, none, 0⟩
    routeRefVerdict [g] .grpc "a" (ref "ok") = .ok ∧ routeRefVerdict [g] .grpc "a" (ref "no") = .refNotPermitted ∧
    routeRefVerdict [g] .http "a" (ref "ok") = .refNotPermitted ∧ routeRefVerdict [g] .tls "a" (ref "ok") = .refNotPermitted ∧
    groupTargets "grp" ([createBackendRef [g] .grpc "a" (ref "ok") true 80 1,
                         createBackendRef [g] .grpc "a" (ref "no") true 80 1].map toBackend)
      = ["b_ok_80", "invalid-backend-ref"] := by decide +kernel

/-! ## 4. Certificates: a cross-namespace Secret is served only with a grant; otherwise the listener is not programmed -/

/-- `crossns_cert_needs_grant`: the secret resolver is only ever asked for a Secret in the Gateway's own
namespace or one the spec grants; an unpermitted reference ends in RefNotPermitted before any lookup. -/
theorem crossns_cert_needs_grant (gs : List Grant) (gwNs : String) (c : CertRef) :
    (∀ ns name, certRefVerdict gs gwNs c = .resolve ns name →
        ns = c.ns.getD gwNs ∧ name = c.name ∧ (ns = gwNs ∨ Permitted gs "Secret" ns name (fromGateway gwNs))) ∧
    (c.ns.getD gwNs ≠ gwNs → ¬ Permitted gs "Secret" (c.ns.getD gwNs) c.name (fromGateway gwNs) →
        certRefVerdict gs gwNs c = .refNotPermitted) := by
  constructor
  · intro ns name h
    unfold certRefVerdict at h
    simp only at h
    split at h
    · cases h
    · rename_i hc
      cases h
      refine ⟨rfl, rfl, ?_⟩
      by_cases hne : c.ns.getD gwNs = gwNs
      · exact .inl hne
      · right
        apply (secret_ref_allowed_iff gs gwNs _ _).1
        simpa [hne] using hc
  · intro hne hp
    have ha : refAllowed (newResolver gs) (toSecret (c.ns.getD gwNs) c.name) (fromGateway gwNs) = false :=
      Bool.eq_false_iff.2 fun h => hp ((secret_ref_allowed_iff gs gwNs _ _).1 h)
    simp [certRefVerdict, hne, ha]

/-- `served_cert_needs_grant`: every key pair `buildSSLKeyPairs` hands to the data plane comes from a listener
whose certificateRef stays in the Gateway's namespace or is granted — whatever the other validators,
conflict resolvers and the secret resolver decide (`x.2`), and for any number of listeners. -/
theorem served_cert_needs_grant (gs : List Grant) (gwNs : String) (ls : List (CertRef × Bool × Bool))
    (ns name : String)
    (h : (ns, name) ∈ sslKeyPairs (ls.map fun x => resolveListener gs gwNs x.1 x.2.1 x.2.2)) :
    ∃ x ∈ ls, x.1.ns.getD gwNs = ns ∧ x.1.name = name ∧
      (ns = gwNs ∨ Permitted gs "Secret" ns name (fromGateway gwNs)) := by
  obtain ⟨l, hl, hv, hs⟩ := mem_sslKeyPairs.1 h
  obtain ⟨x, hx, rfl⟩ := List.mem_map.1 hl
  refine ⟨x, hx, ?_⟩
  unfold resolveListener at hv hs
  split at hs
  · simp at hs
  · rename_i sns sname hres
    split at hs
    · simp only [Option.some.injEq, Prod.mk.injEq] at hs
      obtain ⟨rfl, rfl⟩ := hs
      obtain ⟨h1, h2, h3⟩ := (crossns_cert_needs_grant gs gwNs x.1).1 _ _ hres
      exact ⟨h1.symm, h2.symm, h3⟩
    · simp at hs

/-- `unpermitted_cert_not_programmed`: the listener of an unpermitted cross-namespace certificateRef is
invalid, resolves no Secret, and contributes no key pair. -/
theorem unpermitted_cert_not_programmed (gs : List Grant) (gwNs : String) (c : CertRef) (ov sok : Bool)
    (hne : c.ns.getD gwNs ≠ gwNs) (hp : ¬ Permitted gs "Secret" (c.ns.getD gwNs) c.name (fromGateway gwNs)) :
    resolveListener gs gwNs c ov sok = { valid := false, secret := none } ∧
    sslKeyPairs [resolveListener gs gwNs c ov sok] = [] := by
  have := (crossns_cert_needs_grant gs gwNs c).2 hne hp
  simp [resolveListener, this, sslKeyPairs]

example :
    let g : Grant := ⟨"certs", "g", [⟨gatewayGroup, "Gateway", "gw"⟩], [⟨"", "Secret", some "tls"⟩]⟩
    certRefVerdict [g] "gw" ⟨some "certs", "tls"⟩ = .resolve "certs" "tls" ∧
    certRefVerdict [g] "gw" ⟨some "certs", "other"⟩ = .refNotPermitted ∧
    certRefVerdict [g] "gw2" ⟨some "certs", "tls"⟩ = .refNotPermitted ∧
    certRefVerdict [] "gw" ⟨none, "tls"⟩ = .resolve "gw" "tls" := by decide +kernel

/-! ## 5. Revocation is effective at the next reconciliation -/

/-- After ANY history of events (grant upserts/deletes interleaved with arbitrary other events and earlier
reconciliations), the graph produced by the next `Process` answers with a resolver built from exactly the
grants the store holds at that moment: no ReferenceGrant event is ever filtered, nothing is cached. -/
theorem served_resolver_is_current (evs : List Ev) (to : ToRes) (frm : FromRes) :
    let s := runStore Store.init (evs ++ [.process])
    graphAllows s to frm = refAllowed (newResolver s.grants) to frm := by
  intro s
  have hs : Synced s := synced_run _ _ synced_init
  have hc : s.changeType = .noChange := by
    show (runStore Store.init (evs ++ [.process])).changeType = _
    rw [runStore_append]; exact process_changeType _
  rcases hs hc with h | ⟨h1, h2⟩
  · simp [graphAllows, h]
  · simp [graphAllows, h1, h2, newResolver, refAllowed]

/-- what the store holds: a delete removes the grant, nothing but an upsert of the same key brings it back -/
theorem deleted_grant_absent (s : Store) (ns name : String) (rest : List Ev)
    (hrest : ∀ e ∈ rest, ∀ g, e = .upsertGrant g → ¬ (g.ns = ns ∧ g.name = name)) :
    ∀ g ∈ (runStore (stepStore s (.deleteGrant ns name)) rest).grants, ¬ (g.ns = ns ∧ g.name = name) := by
  refine runStore_induction (P := fun s => ∀ g ∈ s.grants, ¬ (g.ns = ns ∧ g.name = name)) rest _
    (fun e he s h g hg => (mem_grants_stepStore hg).elim (h g) (hrest e he g)) ?_
  intro g hg
  simp only [stepStore] at hg
  split at hg
  · have := (List.mem_filter.1 hg).2
    intro ⟨h1, h2⟩
    simp [sameKey, h1, h2] at this
  · rename_i hnone
    intro ⟨h1, h2⟩
    exact hnone (List.any_eq_true.2 ⟨g, hg, by simp [sameKey, h1, h2]⟩)

/-- `revocation_effective`: revoke a grant at any point of any history; after the next reconciliation the
served graph permits a reference iff the REMAINING grants permit it by the spec — in particular the
revoked grant (absent from the store) can justify nothing any more. -/
theorem revocation_effective (pre rest : List Ev) (ns name : String)
    (hrest : ∀ e ∈ rest, ∀ g, e = .upsertGrant g → ¬ (g.ns = ns ∧ g.name = name))
    (to : ToRes) (frm : FromRes) (hg : to.group = "") :
    let s := runStore Store.init (pre ++ .deleteGrant ns name :: rest ++ [.process])
    (∀ g ∈ s.grants, ¬ (g.ns = ns ∧ g.name = name)) ∧
    (graphAllows s to frm = true ↔ Permitted s.grants to.kind to.ns to.name frm) := by
  intro s
  constructor
  · have : s.grants = (runStore (stepStore (runStore Store.init pre) (.deleteGrant ns name)) rest).grants := by
      show (runStore Store.init (pre ++ .deleteGrant ns name :: rest ++ [.process])).grants = _
      rw [List.append_assoc, runStore_append, List.cons_append, runStore, runStore_append]
      simp only [runStore]
      exact process_grants _
    rw [this]
    exact deleted_grant_absent _ ns name rest hrest
  · have := served_resolver_is_current (pre ++ .deleteGrant ns name :: rest) to frm
    simp only at this
    rw [show s = runStore Store.init ((pre ++ .deleteGrant ns name :: rest) ++ [.process]) from rfl, this]
    exact refAllowed_iff_spec _ to frm hg

/-- Every ReferenceGrant upsert, and every delete of a grant that exists, forces the next `Process` to
rebuild — whatever state the tracker was in. -/
theorem grant_event_always_rebuilds (s : Store) (g : Grant) :
    (stepStore (stepStore s (.upsertGrant g)) .process).graphGrants = some (stepStore s (.upsertGrant g)).grants ∧
    (s.grants.any (sameKey g.ns g.name) = true →
      (stepStore (stepStore s (.deleteGrant g.ns g.name)) .process).graphGrants =
        some (s.grants.filter fun x => !sameKey g.ns g.name x)) := by
  constructor
  · simp [stepStore, setChangeType_true_false]
  · intro h
    simp [stepStore, h, setChangeType_true_false]

/-- non-vacuity: grant, reconcile, revoke (with an irrelevant event in between), reconcile -/
example :
    let g : Grant := ⟨"b", "g", [⟨gatewayGroup, "HTTPRoute", "a"⟩], [⟨"", "Service", none⟩]⟩
    graphAllows (runStore Store.init [.upsertGrant g, .process]) (toService "b" "svc") (fromHTTPRoute "a") = true ∧
    graphAllows (runStore Store.init [.upsertGrant g, .process, .deleteGrant "b" "g", .other false false, .process])
      (toService "b" "svc") (fromHTTPRoute "a") = false ∧
    graphAllows (runStore Store.init [.upsertGrant g, .process, .deleteGrant "b" "g"])
      (toService "b" "svc") (fromHTTPRoute "a") = true := by decide +kernel

/-! ## 6. The judge's notions are the spec's -/

theorem coreServiceRef_iff (ref : BackendRef) : coreServiceRef ref = true ↔
    (ref.group = none ∨ ref.group = some "" ∨ ref.group = some "core") ∧
      (ref.kind = none ∨ ref.kind = some "Service") := by
  unfold coreServiceRef
  cases ref.group <;> cases ref.kind <;> simp

/-- `refJustified` (what the judge accepts as a justified backend) unfolded to the spec -/
theorem refJustified_iff (gs : List Grant) (r : Route) (ref : BackendRef) :
    refJustified gs r ref = true ↔
      coreServiceRef ref = true ∧
        (ref.ns.getD r.ns = r.ns ∨ Permitted gs "Service" (ref.ns.getD r.ns) ref.name (fromRoute r.kind r.ns)) := by
  simp [refJustified, permittedB_iff]

/-- what the judge demands a refusal for is never something the validators accept, and vice versa:
on a reference the judge calls unpermitted the model's verdict is RefNotPermitted. -/
theorem refUnpermitted_model_verdict (gs : List Grant) (r : Route) (ref : BackendRef)
    (h : refUnpermitted gs r ref = true) :
    routeRefVerdict gs r.kind r.ns ref = .refNotPermitted := by
  unfold refUnpermitted at h
  simp only [Bool.and_eq_true, coreServiceRef_iff] at h
  obtain ⟨⟨⟨hg, hk⟩, hf⟩, hn⟩ := h
  cases hns : ref.ns with
  | none => simp [hns] at hn
  | some n =>
    simp only [hns, Bool.and_eq_true, bne_iff_ne, ne_eq, Bool.not_eq_true'] at hn
    exact routeRefVerdict_refused hg hk (by simpa using hf) hns hn.1 fun hc => by
      rw [(permittedB_iff _ _ _ _ _).2 hc] at hn; exact absurd hn.2 (by decide)

/-! ## 7. Regenerated source facts agree with the model -/

open NGF.Generated in
/-- the constants the `to*`/`from*` constructors use (group of `v1.GroupName`, the `kinds.*` strings, which
fields are set — `toSecret`/`toService` leave `group` at its zero value) -/
theorem constructors_as_modelled :
    RefGrant.gatewayGroupName = gatewayGroup ∧
    RefGrant.toSecretFields = ["kind=Secret", "name@nsname.Name", "namespace@nsname.Namespace"] ∧
    RefGrant.toServiceFields = ["kind=Service", "name@nsname.Name", "namespace@nsname.Namespace"] ∧
    RefGrant.fromGatewayFields = ["group=" ++ gatewayGroup, "kind=" ++ (fromGateway "").kind, "namespace@namespace"] ∧
    RefGrant.fromHTTPRouteFields = ["group=" ++ gatewayGroup, "kind=" ++ (fromHTTPRoute "").kind, "namespace@namespace"] ∧
    RefGrant.fromGRPCRouteFields = ["group=" ++ gatewayGroup, "kind=" ++ (fromGRPCRoute "").kind, "namespace@namespace"] ∧
    RefGrant.fromTLSRouteFields = ["group=" ++ gatewayGroup, "kind=" ++ (fromTLSRoute "").kind, "namespace@namespace"] ∧
    RefGrant.toResourceStruct = ["group string", "kind string", "name string", "namespace string"] ∧
    RefGrant.fromResourceStruct = ["group string", "kind string", "namespace string"] ∧
    RefGrant.allowedReferenceStruct = ["from fromResource", "to toResource"] := by
  repeat' constructor

open NGF.Generated in
/-- the statements of the resolver are the ones the model transcribes -/
theorem resolver_as_modelled :
    RefGrant.newResolverBody =
      ["allowed := make(map[allowedReference]struct{})",
       "for nsname, grant := range refGrants { for _, to := range grant.Spec.To { for _, from := range grant.Spec.From { toName := \"\" if to.Name != nil { toName = string(*to.Name) } toGroup := string(to.Group) if toGroup == \"core\" { toGroup = \"\" } ar := allowedReference{ to: toResource{ group: toGroup, kind: string(to.Kind), name: toName, namespace: nsname.Namespace, }, from: fromResource{ group: string(from.Group), kind: string(from.Kind), namespace: string(from.Namespace), }, } allowed[ar] = struct{}{} } } }",
       "return &referenceGrantResolver{allowed: allowed}"] ∧
    RefGrant.refAllowedBody =
      ["specificKey := allowedReference{ to: to, from: from, }",
       "allInNamespaceKey := allowedReference{ to: toResource{ kind: to.kind, namespace: to.namespace, }, from: from, }",
       "for _, key := range []allowedReference{specificKey, allInNamespaceKey} { if _, ok := r.allowed[key]; ok { return true } }",
       "return false"] ∧
    RefGrant.refAllowedFromBody = ["return func(to toResource) bool { return r.refAllowed(to, from) }"] := by
  repeat' constructor

open NGF.Generated in
/-- WHO consults the resolver: exactly the HTTP/GRPC backendRef loop (with the route-type switch), the
TLSRoute builder and the listener's certificateRef resolver; it is created once per `BuildGraph`, from the
state's grants, and never stored in a package variable. -/
theorem call_sites_as_modelled :
    RefGrant.resolverCallSites =
      ["backend_refs.go:addBackendRefsToRules: refGrantResolver.refAllowedFrom(getRefGrantFromResourceForRoute(route.RouteType, routeNs))",
       "gateway_listener.go:createExternalReferencesForTLSSecretsResolver: refGrantResolver.refAllowed(toSecret(certRefNsName), fromGateway(gwNs))",
       "reference_grant.go:refAllowedFrom: r.refAllowed(to, from)",
       "route_common.go:buildL4RoutesForGateways: resolver.refAllowedFrom(fromTLSRoute(route.Namespace))"] ∧
    RefGrant.resolverCreations = ["graph.go:BuildGraph: newReferenceGrantResolver(state.ReferenceGrants)"] ∧
    RefGrant.resolverPackageVars = [] ∧
    RefGrant.getRefGrantFromResourceForRouteBody =
      ["switch routeType { case RouteTypeHTTP: return fromHTTPRoute(routeNs) case RouteTypeGRPC: return fromGRPCRoute(routeNs) default: panic(fmt.Errorf(\"unknown route type %s\", routeType)) }"] := by
  repeat' constructor

open NGF.Generated in
/-- the validators: order of the checks of `validateBackendRef`, the refusal branch, the filter check of
`validateRouteBackendRef`, the invalid branch of `createBackendRef`, the certificateRef resolver -/
theorem validators_as_modelled :
    RefGrant.validateBackendRefConds =
      ["ref.Group != nil && !(*ref.Group == \"core\" || *ref.Group == \"\")",
       "ref.Kind != nil && *ref.Kind != \"Service\"",
       "ref.Namespace != nil && string(*ref.Namespace) != routeNs",
       "ref.Port == nil",
       "ref.Weight != nil"] ∧
    RefGrant.validateBackendRefGrantCond = "!refGrantResolver(toService(refNsName))" ∧
    RefGrant.validateBackendRefGrantBody =
      ["msg := fmt.Sprintf(\"Backend ref to Service %s not permitted by any ReferenceGrant\", refNsName)",
       "return false, staticConds.NewRouteBackendRefRefNotPermitted(msg)"] ∧
    RefGrant.validateRouteBackendRefBody =
      ["if len(ref.Filters) > 0 { valErr := field.TooMany(path.Child(\"filters\"), len(ref.Filters), 0) return false, staticConds.NewRouteBackendRefUnsupportedValue(valErr.Error()) }",
       "return validateBackendRef(ref.BackendRef, routeNs, refGrantResolver, path)"] ∧
    RefGrant.createBackendRefInvalidBranch =
      ["backendRef = BackendRef{ Weight: weight, Valid: false, }", "return backendRef, &cond"] ∧
    RefGrant.certResolverBody =
      ["certRef := l.Source.TLS.CertificateRefs[0]",
       "certRefNs := gwNs",
       "if certRef.Namespace != nil { certRefNs = string(*certRef.Namespace) }",
       "certRefNsName := types.NamespacedName{ Namespace: certRefNs, Name: string(certRef.Name), }",
       "if certRefNs != gwNs { if !refGrantResolver.refAllowed(toSecret(certRefNsName), fromGateway(gwNs)) { msg := fmt.Sprintf(\"Certificate ref to secret %s not permitted by any ReferenceGrant\", certRefNsName) l.Conditions = append(l.Conditions, staticConds.NewListenerRefNotPermitted(msg)...) l.Valid = false return } }",
       "if err := secretResolver.resolve(certRefNsName); err != nil { path := field.NewPath(\"tls\", \"certificateRefs\").Index(0) valErr := field.Invalid(path, certRefNsName, err.Error()) l.Conditions = append(l.Conditions, staticConds.NewListenerInvalidCertificateRef(valErr.Error())...) l.Valid = false } else { l.ResolvedSecret = &certRefNsName }"] := by
  repeat' constructor

open NGF.Generated in
/-- downstream: the 500 upstream's name, how a group picks its target, which listeners hand over a key pair -/
theorem downstream_as_modelled :
    RefGrant.invalidBackendRef = invalidBackendRef ∧
    RefGrant.backendGroupNameBody =
      ["switch len(group.Backends) { case 0: return invalidBackendRef case 1: b := group.Backends[0] if b.Weight == 0 || !b.Valid { return invalidBackendRef } return b.UpstreamName default: return group.Name() }"] ∧
    RefGrant.getSplitClientValueBody = ["if b.Valid { return b.UpstreamName }", "return invalidBackendRef"] ∧
    RefGrant.servicePortReferenceBody =
      ["if !b.Valid { return \"\" }",
       "return fmt.Sprintf(\"%s_%s_%d\", b.SvcNsName.Namespace, b.SvcNsName.Name, b.ServicePort.Port)"] ∧
    RefGrant.buildSSLKeyPairsCond = "l.Valid && l.ResolvedSecret != nil" := by
  repeat' constructor

open NGF.Generated in
/-- the change tracker: ReferenceGrants are persisted and have NO relevance predicate (`stepStore`'s
`upsertGrant`/`deleteGrant` arms), and `Process` rebuilds the graph whenever anything changed. The watch
itself only drops UPDATE events that leave `metadata.generation` unchanged (the API server bumps it on every
spec change), never a create or delete. -/
theorem store_as_modelled :
    RefGrant.refGrantStore = "newObjectStoreMapAdapter(clusterStore.ReferenceGrants)" ∧
    RefGrant.refGrantPredicate = "nil" ∧
    RefGrant.refGrantWatchOptions =
      "[]controller.Option{ controller.WithK8sPredicate(k8spredicate.GenerationChangedPredicate{}), }" ∧
    -- a cfg entry with a nil predicate is absent from the predicate map, one with a store is persisted …
    RefGrant.trackerCfgIfs =
      ["if cfg.predicate != nil { stateChangedPredicates[cfg.gvk] = cfg.predicate }",
       "if cfg.store != nil { persistedGVKs = append(persistedGVKs, cfg.gvk) stores[cfg.gvk] = cfg.store }"] ∧
    -- … upsert: write to the store, then "no predicate ⇒ changed" (`stepStore … (.upsertGrant g)`) …
    RefGrant.trackerUpsertShape = ["store", "lookup", "nopred", "return"] ∧
    RefGrant.trackerUpsertStore =
      ["if s.store.persists(objTypeGVK)", "oldObj = s.store.get(obj, client.ObjectKeyFromObject(obj))", "s.store.upsert(obj)"] ∧
    RefGrant.trackerUpsertNoPredicate =
      ["stateChanged, ok := s.stateChangedPredicates[objTypeGVK]", "if !ok { return true }"] ∧
    -- … delete: absent ⇒ unchanged, else remove, then "no predicate ⇒ changed" (`stepStore … (.deleteGrant ns name)`).
    -- Which object a predicate judges (kinds WITH a predicate) is not part of this property and not pinned.
    RefGrant.trackerDeleteShape = ["store", "lookup", "nopred", "return"] ∧
    RefGrant.trackerDeleteStore =
      ["if s.store.persists(objTypeGVK)", "old := s.store.get(objType, nsname)", "if old == nil { return false }",
       "s.store.delete(objType, nsname)"] ∧
    RefGrant.trackerDeleteNoPredicate =
      ["stateChanged, ok := s.stateChangedPredicates[objTypeGVK]", "if !ok { return true }"] ∧
    RefGrant.setChangeTypeBody =
      ["if changed && s.changeType != ClusterStateChange { if _, ok := obj.(*discoveryV1.EndpointSlice); ok { s.changeType = EndpointsOnlyChange } else { s.changeType = ClusterStateChange } }"] ∧
    RefGrant.processBody =
      ["changeType := c.getAndResetClusterStateChanged()", "if changeType == NoChange { return NoChange, nil }",
       "c.latestGraph = graph.BuildGraph( c.clusterState, c.cfg.GatewayCtlrName, c.cfg.GatewayClassName, c.cfg.PlusSecrets, c.cfg.Validators, c.cfg.ProtectedPorts, )",
       "return changeType, c.latestGraph"] := by
  repeat' constructor

open NGF.Generated in
/-- backend reference resolution as `Model/PipelineRefs.resolveRef` transcribes it: `createBackendRef` up to and including
the Service/port lookup (weight defaulting and clamping to 0, the reference check first, namespace defaulting, the
BackendNotFound branch keeping `SvcNsName` with a zero `ServicePort`) and its final literal — the statements between
(`verifyIPFamily`, `findBackendTLSPolicyForService`) are outside the model and not pinned —, the lookup functions, the
weight range, the rule loop of `addBackendRefsToRules` and `newBackendGroup` (`toPBackend`). -/
theorem resolution_as_modelled :
    RefGrant.createBackendRefBody.take 10 =
      ["weight := int32(1)",
       "if ref.Weight != nil { if validateWeight(*ref.Weight) != nil { weight = 0 } else { weight = *ref.Weight } }",
       "var backendRef BackendRef",
       "valid, cond := validateRouteBackendRef(ref, sourceNamespace, refGrantResolver, refPath)",
       "if !valid { backendRef = BackendRef{ Weight: weight, Valid: false, } return backendRef, &cond }",
       "ns := sourceNamespace",
       "if ref.BackendRef.Namespace != nil { ns = string(*ref.Namespace) }",
       "svcNsName := types.NamespacedName{Name: string(ref.BackendRef.Name), Namespace: ns}",
       "svcIPFamily, svcPort, err := getIPFamilyAndPortFromRef(ref.BackendRef, svcNsName, services, refPath)",
       "if err != nil { backendRef = BackendRef{ Weight: weight, Valid: false, SvcNsName: svcNsName, ServicePort: v1.ServicePort{}, } cond := staticConds.NewRouteBackendRefRefBackendNotFound(err.Error()) return backendRef, &cond }"] ∧
    RefGrant.createBackendRefBody.drop (RefGrant.createBackendRefBody.length - 2) =
      ["backendRef = BackendRef{ SvcNsName: svcNsName, BackendTLSPolicy: backendTLSPolicy, ServicePort: svcPort, Valid: true, Weight: weight, }",
       "return backendRef, nil"] ∧
    RefGrant.getIPFamilyAndPortFromRefBody =
      ["svc, ok := services[svcNsName]",
       "if !ok { return []v1.IPFamily{}, v1.ServicePort{}, field.NotFound(refPath.Child(\"name\"), ref.Name) }",
       "svcPort, err := getServicePort(svc, int32(*ref.Port))",
       "if err != nil { return []v1.IPFamily{}, v1.ServicePort{}, err }",
       "return svc.Spec.IPFamilies, svcPort, nil"] ∧
    RefGrant.getServicePortBody =
      ["for _, p := range svc.Spec.Ports { if p.Port == port { return p, nil } }",
       "return v1.ServicePort{}, fmt.Errorf(\"no matching port for Service %s and port %d\", svc.Name, port)"] ∧
    RefGrant.validateWeightBody =
      ["const ( minWeight = 0 maxWeight = 1_000_000 )",
       "if weight < minWeight || weight > maxWeight { return fmt.Errorf(\"must be in the range [%d, %d]\", minWeight, maxWeight) }",
       "return nil"] ∧
    RefGrant.addBackendRefsToRulesBody =
      ["if !route.Valid { return }",
       "for idx, rule := range route.Spec.Rules { if !rule.ValidMatches { continue } if !rule.Filters.Valid { continue } if len(rule.RouteBackendRefs) == 0 { continue } backendRefs := make([]BackendRef, 0, len(rule.RouteBackendRefs)) for refIdx, ref := range rule.RouteBackendRefs { refPath := field.NewPath(\"spec\").Child(\"rules\").Index(idx).Child(\"backendRefs\").Index(refIdx) routeNs := route.Source.GetNamespace() ref, cond := createBackendRef( ref, routeNs, refGrantResolver.refAllowedFrom(getRefGrantFromResourceForRoute(route.RouteType, routeNs)), services, refPath, backendTLSPolicies, npCfg, ) backendRefs = append(backendRefs, ref) if cond != nil { route.Conditions = append(route.Conditions, *cond) } } if len(backendRefs) > 1 { cond := validateBackendTLSPolicyMatchingAllBackends(backendRefs) if cond != nil { route.Conditions = append(route.Conditions, *cond) for i := range backendRefs { backendRefs[i].Valid = false } } } route.Spec.Rules[idx].BackendRefs = backendRefs }"] ∧
    RefGrant.newBackendGroupBody =
      ["var backends []Backend",
       "if len(refs) > 0 { backends = make([]Backend, 0, len(refs)) }",
       "for _, ref := range refs { backends = append(backends, Backend{ UpstreamName: ref.ServicePortReference(), Weight: ref.Weight, Valid: ref.Valid, VerifyTLS: convertBackendTLS(ref.BackendTLSPolicy), }) }",
       "return BackendGroup{ Backends: backends, Source: sourceNsName, RuleIdx: ruleIdx, }"] := by
  repeat' constructor

end NGF.RefGrant

/-! ## 8. Reference resolution INSIDE the pipeline model: grant gating as theorems over `gen (resolve c)`

`PipelineRefs.resolve` (Model/PipelineRefs.lean) turns a cluster with HTTPRoute backendRefs, Services and ReferenceGrants
into the fragment scenario of Model/Pipeline.lean; `genR c = Pipeline.gen (resolve c)` is the abstract NGINX
configuration. `confTargets` lists every (upstream name, share) that some location — external or internal — proxies to,
directly (share 10000) or through its split_clients variable. All statements are for ALL clusters `c`. -/

namespace NGF.PipelineRefs
open NGF.Pipeline
open NGF.RefGrant (Grant BackendRef Permitted fromHTTPRoute refNs FromRes)

/-- Every action of every location of `gen (resolve c)` is the default 404 or the resolved action of a rule of a valid
route attached to the served Gateway (nothing else configures a location). -/
theorem actions_are_rule_actions (c : ScenarioR) (a : Act) (ha : a ∈ confActs (genR c)) :
    a = .status 404 ∨ ∃ g, winner (resolve c) = some g ∧ ∃ r ∈ c.routes, attached g r = true ∧
      ∃ ru ∈ r.rules, ∃ port, a = actOf port (resolveAction c.grants c.services r.ns ru.action) :=
  genR_acts ha

/-- `crossns_backend_needs_grant_gen` (provenance form): whatever upstream a location of the generated configuration
proxies to — directly or with any split share — other than `invalid-backend-ref` is `Justified`: in particular, if the
backendRef that yields it leaves the route's namespace, a ReferenceGrant in the Service's namespace satisfies the spec
for (HTTPRoute, route namespace) → (Service, name). -/
theorem crossns_backend_needs_grant_gen (c : ScenarioR) (t : Str) (share : Nat)
    (ht : (t, share) ∈ confTargets (genR c)) (hne : t ≠ invalidBackendRef) : Justified c t := by
  simp only [confTargets, List.mem_flatMap] at ht
  obtain ⟨a, ha, hta⟩ := ht
  rcases genR_acts ha with rfl | ⟨g, hw, r, hr, hatt, ru, hru, port, rfl⟩
  · simp [actTargets] at hta
  · obtain ⟨refs, hact, ref, href, p, htp, hok, hf⟩ := resolveAction_targets hta hne
    obtain ⟨hport, svc, hsvc, hp⟩ := findPort_some hf
    obtain ⟨hmem, hsns, hsname⟩ := lookupSvc_some hsvc
    refine ⟨g, hw, r, hr, hatt, ru, hru, refs, hact, ref, href, p, htp, hport, ⟨svc, hmem, hsns, hsname, hp⟩, ?_⟩
    exact RefGrant.accepted_ref_local_or_granted hok

/-- `crossns_backend_needs_grant_gen` for a named Service: if some location of `gen (resolve c)`
proxies — directly or with a split share — to the upstream of Service `ns'/name`, then a valid attached route with a
backendRef to exactly that Service contributed it, and if that route lives in another namespace than `ns'`, a
ReferenceGrant in `ns'` satisfies the spec for (HTTPRoute, route namespace) → (Service, name).
(`namesOK`: Kubernetes names contain no `_` (DNS-1123), so that `ns_name_port` identifies namespace and name.) -/
theorem crossns_service_needs_grant_gen (c : ScenarioR) (hc : namesOK c = true) (ns' name : String)
    (h1 : noUnderscore ns' = true) (h2 : noUnderscore name = true) (port share : Nat)
    (ht : (upstreamOf ns' name port, share) ∈ confTargets (genR c)) :
    ∃ g, winner (resolve c) = some g ∧ ∃ r ∈ c.routes, attached g r = true ∧ ∃ ru ∈ r.rules, ∃ refs,
      ru.action = .forward refs ∧ ∃ ref ∈ refs, refNs ref r.ns = ns' ∧ ref.name = name ∧
        (r.ns = ns' ∨ Permitted c.grants "Service" ns' name (fromHTTPRoute r.ns)) := by
  obtain ⟨g, hw, r, hr, hatt, ru, hru, refs, hact, ref, href, p, htp, _, _, hj⟩ :=
    crossns_backend_needs_grant_gen c _ share ht (upstreamOf_ne_invalid ns' name port)
  obtain ⟨hrns, hrules⟩ := namesOK_spec hc r hr
  obtain ⟨hname, hrefns⟩ := hrules ru hru refs hact ref href
  have hnsok : noUnderscore (refNs ref r.ns) = true := by
    cases hns : ref.ns with
    | none => simpa [refNs, hns] using hrns
    | some n => simpa [refNs, hns] using hrefns n hns
  obtain ⟨e1, e2⟩ := upstreamOf_inj h1 h2 hnsok hname htp
  refine ⟨g, hw, r, hr, hatt, ru, hru, refs, hact, ref, href, e1.symm, e2.symm, ?_⟩
  rcases hj with hj | hj
  · left; rw [← hj, ← e1]
  · right; rw [e1, e2]; exact hj

/-- `no_grant_gives_500`: a backendRef (at position `i` of a rule of a route in `r.ns`) that names another namespace
without a grant satisfying the spec gets its share sent to `invalid-backend-ref` (NGINX answers 500) in the action every
location of that rule takes: either the whole rule answers 500, or the distribution has one entry per backendRef and
the `i`-th entry names `invalid-backend-ref` — whatever Services, other grants, other backendRefs, weights the cluster has. -/
theorem no_grant_gives_500 (c : ScenarioR) (routeNs : String) (refs : List BackendRef) (i : Nat) (ref : BackendRef)
    (hi : refs[i]? = some ref) (n : String) (hn : ref.ns = some n) (hne : n ≠ routeNs)
    (hp : ¬ Permitted c.grants "Service" n ref.name (fromHTTPRoute routeNs)) (port : Nat) :
    ∃ d, actOf port (resolveAction c.grants c.services routeNs (.forward refs)) = .proxy d ∧
      (d = [(invalidBackendRef, 10000)] ∨ (d.length = refs.length ∧ ∃ share, d[i]? = some (invalidBackendRef, share))) := by
  refine ⟨_, rfl, ?_⟩
  have hv : RefGrant.routeRefVerdict c.grants .http routeNs ref ≠ .ok :=
    fun hok => hp (RefGrant.crossns_backend_needs_grant c.grants .http routeNs ref n hn hne hok)
  have hb : (refs.map fun ref => toPBackend (resolveRef c.grants c.services routeNs ref))[i]? =
      some (toPBackend (resolveRef c.grants c.services routeNs ref)) := by
    rw [List.getElem?_map, hi]; rfl
  have hinv : (toPBackend (resolveRef c.grants c.services routeNs ref)).valid = false := by
    rw [resolveRef_refused hv]; rfl
  rcases distOf_invalid_at hb hinv with h | ⟨hl, hs⟩
  · exact .inl h
  · exact .inr ⟨by simpa using hl, hs⟩

theorem permitted_iff_grantPermits (gs : List Grant) (kind ns name : String) (frm : FromRes) :
    Permitted gs kind ns name frm ↔ ∃ g ∈ gs, grantPermits g kind ns name frm = true := by
  rw [← RefGrant.permittedB_iff]
  exact List.any_eq_true

/-- removing every grant that permits the reference leaves it unpermitted (grants do not combine: `Permitted` needs ONE
grant with a matching `from` and a covering `to`) -/
theorem not_permitted_after_removal (gs : List Grant) (kind ns name : String) (frm : FromRes) :
    ¬ Permitted (gs.filter fun g => !grantPermits g kind ns name frm) kind ns name frm := by
  rw [permitted_iff_grantPermits]
  rintro ⟨g, hg, hp⟩
  have := (List.mem_filter.1 hg).2
  simp [hp] at this

/-- `revocation_effective_gen`: delete every ReferenceGrant that permits (HTTPRoute, `routeNs`) → (Service `n/name`) —
whatever other grants, for other referrers, other Services or in other namespaces, remain. In the configuration generated
from the remaining cluster, the share of every backendRef of a route of `routeNs` to that Service goes to
`invalid-backend-ref`; and (names without `_`) if its upstream still appears anywhere, a route of ANOTHER namespace
than `routeNs` — the Service's own, or one that still holds a grant — contributed it. -/
theorem revocation_effective_gen (c : ScenarioR) (routeNs n name : String) (hne : n ≠ routeNs) :
    let c' : ScenarioR := { c with grants := c.grants.filter fun g => !grantPermits g "Service" n name (fromHTTPRoute routeNs) }
    (∀ (refs : List BackendRef) (i : Nat) (ref : BackendRef), refs[i]? = some ref → ref.ns = some n → ref.name = name →
      ∀ port, ∃ d, actOf port (resolveAction c'.grants c'.services routeNs (.forward refs)) = .proxy d ∧
        (d = [(invalidBackendRef, 10000)] ∨ (d.length = refs.length ∧ ∃ share, d[i]? = some (invalidBackendRef, share)))) ∧
    (namesOK c = true → noUnderscore n = true → noUnderscore name = true → ∀ port share,
      (upstreamOf n name port, share) ∈ confTargets (genR c') →
        ∃ r ∈ c.routes, r.ns ≠ routeNs ∧ (r.ns = n ∨ Permitted c'.grants "Service" n name (fromHTTPRoute r.ns))) := by
  intro c'
  have hnp : ¬ Permitted c'.grants "Service" n name (fromHTTPRoute routeNs) :=
    not_permitted_after_removal c.grants "Service" n name (fromHTTPRoute routeNs)
  constructor
  · intro refs i ref hi hn hname port
    subst hname
    exact no_grant_gives_500 c' routeNs refs i ref hi n hn hne hnp port
  · intro hc h1 h2 port share ht
    have hc' : namesOK c' = true := hc
    obtain ⟨g, _, r, hr, _, ru, _, refs, _, ref, _, _, _, hj⟩ :=
      crossns_service_needs_grant_gen c' hc' n name h1 h2 port share ht
    refine ⟨r, hr, ?_, hj⟩
    rintro rfl
    rcases hj with hj | hj
    · exact hne hj.symm
    · exact hnp hj

/-- Grants matter only through the verdicts on the backendRefs of valid attached routes: two grant sets that give
every such reference the same verdict generate the same configuration. -/
theorem grants_matter_through_verdicts (c : ScenarioR) (gs' : List Grant)
    (h : ∀ g, winner (resolve c) = some g → ∀ r ∈ c.routes, attached g r = true → ∀ ru ∈ r.rules, ∀ refs,
      ru.action = .forward refs → ∀ ref ∈ refs,
        RefGrant.routeRefVerdict c.grants .http r.ns ref = RefGrant.routeRefVerdict gs' .http r.ns ref) :
    genR { c with grants := gs' } = genR c := by
  apply genR_congr c gs' c.services
  intro g hw r hr hatt ru hru
  exact resolveAction_congr ru.action fun refs hact ref href =>
    resolveRef_congr (h g hw r hr hatt ru hru refs hact ref href) fun _ => rfl

/-- `grant_irrelevant_same_ns`: when every backendRef of every valid attached route stays in its route's namespace
(namespace omitted or spelled out), ReferenceGrants are irrelevant: ANY two grant sets generate the same configuration. -/
theorem grant_irrelevant_same_ns (c : ScenarioR) (gs' : List Grant)
    (h : ∀ g, winner (resolve c) = some g → ∀ r ∈ c.routes, attached g r = true → ∀ ru ∈ r.rules, ∀ refs,
      ru.action = .forward refs → ∀ ref ∈ refs, ref.ns = none ∨ ref.ns = some r.ns) :
    genR { c with grants := gs' } = genR c :=
  grants_matter_through_verdicts c gs' fun g hw r hr hatt ru hru refs hact ref href =>
    RefGrant.same_namespace_needs_no_grant c.grants gs' .http r.ns ref (h g hw r hr hatt ru hru refs hact ref href)

/-- Monotonicity, rule by rule: adding ReferenceGrants never removes a proxied backend. In the action of any rule,
every entry of the distribution that names a real upstream keeps its position, its upstream and its share when grants
are added (only `invalid-backend-ref` entries can turn into upstreams) — whatever the Services and weights. -/
theorem adding_grants_keeps_backends (gs gs' : List Grant) (hsub : ∀ g ∈ gs, g ∈ gs') (svcs : List Service)
    (routeNs : String) (refs : List BackendRef) (port : Nat) :
    ∃ d d', actOf port (resolveAction gs svcs routeNs (.forward refs)) = .proxy d ∧
      actOf port (resolveAction gs' svcs routeNs (.forward refs)) = .proxy d' ∧
      ∀ (i : Nat) (t : Str) (share : Nat), d[i]? = some (t, share) → t ≠ invalidBackendRef → d'[i]? = some (t, share) :=
  ⟨_, _, rfl, rfl, distOf_upgrades (resolve_upgrades hsub svcs routeNs refs)⟩

/-- Monotonicity of the whole configuration: adding ReferenceGrants never removes a proxied backend — every (upstream,
share) some location of `gen (resolve c)` proxies to is still proxied to (with the same share) in the configuration
generated after ANY set of grants was added (servers, locations, match conditions and shares do not depend on grants;
only `invalid-backend-ref` entries can turn into upstreams). -/
theorem adding_grants_never_removes_backend_gen (c : ScenarioR) (gs' : List Grant) (hsub : ∀ g ∈ c.grants, g ∈ gs')
    (t : Str) (share : Nat) (ht : (t, share) ∈ confTargets (genR c)) (hne : t ≠ invalidBackendRef) :
    (t, share) ∈ confTargets (genR { c with grants := gs' }) :=
  genR_targets_mono c gs' hsub ht hne

/-! non-vacuity, by evaluation (`gen` sorts and de-duplicates by well-founded recursion, which `decide` cannot unfold):
one Gateway, one HTTPRoute in `app` with a weighted rule — a cross-namespace backendRef to `backend/svc` and a local one -/

def exGw : Gateway :=
  { ns := "default".toList, name := "gw".toList, cls := "nginx".toList, age := 1,
    listeners := [{ name := "http".toList, port := 80, host := [], fromAll := true }] }

def exRef (ns : Option String) (name : String) (w : Option Int) : BackendRef := ⟨none, none, ns, name, some 80, w, 0⟩

def exRoute (refs : List BackendRef) : RouteR :=
  { ns := "app", name := "hr", age := 2, parents := [{ ns := "default".toList, name := "gw".toList, sectionName := none }],
    hostnames := ["cafe.example.com".toList],
    rules := [{ ms := [{ exact := false, path := "/".toList, method := [], headers := [], query := [] }], action := .forward refs }],
    valid := true }

def exGrant : Grant := ⟨"backend", "g", [⟨RefGrant.gatewayGroup, "HTTPRoute", "app"⟩], [⟨"", "Service", some "svc"⟩]⟩

def exC : ScenarioR :=
  { cls := "nginx".toList, ctlr := "ctl".toList, classes := [⟨"nginx".toList, "ctl".toList⟩], gateways := [exGw],
    routes := [exRoute [exRef (some "backend") "svc" none, exRef none "local" none]],
    services := [⟨"backend", "svc", [80]⟩, ⟨"app", "local", [8080, 80]⟩], grants := [exGrant] }

-- granted: both upstreams are served (crossns_*_needs_grant_gen have a non-trivial instance) …
#guard confTargets (genR exC) == [("backend_svc_80".toList, 5000), ("app_local_80".toList, 5000)]
#guard namesOK exC && noUnderscore "backend" && noUnderscore "svc"
-- … revoked (or never granted): that share goes to the 500 upstream, the local one is untouched (no_grant_gives_500,
-- revocation_effective_gen, adding_grants_keeps_backends read from right to left)
#guard (exC.grants.filter fun g => !grantPermits g "Service" "backend" "svc" (fromHTTPRoute "app")) == []
#guard confTargets (genR { exC with grants := [] }) == [(invalidBackendRef, 5000), ("app_local_80".toList, 5000)]
-- a grant for another referrer namespace / another name / placed in the referrer's namespace changes nothing
#guard confTargets (genR { exC with grants := [⟨"backend", "g", [⟨RefGrant.gatewayGroup, "HTTPRoute", "other"⟩], [⟨"", "Service", none⟩]⟩,
    ⟨"backend", "g2", [⟨RefGrant.gatewayGroup, "HTTPRoute", "app"⟩], [⟨"", "Service", some "svc2"⟩]⟩,
    ⟨"app", "g3", [⟨RefGrant.gatewayGroup, "HTTPRoute", "app"⟩], [⟨"", "Service", none⟩]⟩] })
  == [(invalidBackendRef, 5000), ("app_local_80".toList, 5000)]
-- the only backendRef of a rule unpermitted: the rule answers 500; a missing Service / port likewise
#guard confTargets (genR { exC with grants := [], routes := [exRoute [exRef (some "backend") "svc" none]] }) == [(invalidBackendRef, 10000)]
#guard confTargets (genR { exC with services := [⟨"app", "local", [8080]⟩] }) == [(invalidBackendRef, 5000), (invalidBackendRef, 5000)]
-- same-namespace references only: grants are irrelevant (grant_irrelevant_same_ns)
#guard confTargets (genR { exC with routes := [exRoute [exRef (some "app") "local" none]], grants := [] }) == [("app_local_80".toList, 10000)]

example : ¬ Permitted [] "Service" "backend" "svc" (fromHTTPRoute "app") := by simp [Permitted]
example : Permitted exC.grants "Service" "backend" "svc" (fromHTTPRoute "app") :=
  (RefGrant.permittedB_iff _ _ _ _ _).1 (by decide +kernel)

end NGF.PipelineRefs
