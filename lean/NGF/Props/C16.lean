/-
C16 — TLS material is bound to the right listener and never weakened silently.
Property theorems about `NGF.Model.TlsBind` (the functions the driver runs and the correspondence compares
with the real code), expectation lemmas over the facts regenerated from /repo, witnesses of the two places
where the current code does not satisfy the property at full strength, and their `_partial` theorems.
The theorems over the GENERATED CONFIGURATION (pipeline level: `PipelineTls.genT`) are in NGF/Props/C16Pipeline.lean,
imported here.
-/
import NGF.Model.TlsBind
import NGF.Proofs.TlsBind
import NGF.Proofs.TlsOwner
import NGF.Generated.TlsFacts
import NGF.Props.C16Pipeline

namespace NGF.Tls

theorem fact_keyPairFormat : Generated.Tls.keyPairFormat = "ssl_keypair_%s_%s" := rfl
theorem fact_certBundleFormat : Generated.Tls.certBundleFormat = "cert_bundle_%s_%s" := rfl
theorem fact_paths : Generated.Tls.secretsFolder.toList = secretsFolder ∧ Generated.Tls.alpineSSLRootCAPath.toList = systemCAPath ∧
    Generated.Tls.wildcardHostname.toList = wildcardHostname := ⟨rfl, rfl, rfl⟩

theorem fact_generatePEM : Generated.Tls.generatePEMBody =
    ["c := make([]byte, 0, len(cert)+len(key)+1)", "c = append(c, cert...)", "c = append(c, '\\n')",
     "c = append(c, key...)", "return file.File{ Content: c, Path: generatePEMFileName(id), Type: file.TypeSecret, }"] ∧
    Generated.Tls.generatePEMFileNameBody = ["return filepath.Join(secretsFolder, string(id)+\".pem\")"] ∧
    Generated.Tls.generateCertBundleFileNameBody = ["return filepath.Join(secretsFolder, string(id)+\".crt\")"] := ⟨rfl, rfl, rfl⟩

theorem fact_buildSSLKeyPairs : Generated.Tls.buildSSLKeyPairsBody =
    ["keyPairs := make(map[SSLKeyPairID]SSLKeyPair)",
     "for _, l := range listeners { if l.Valid && l.ResolvedSecret != nil { id := generateSSLKeyPairID(*l.ResolvedSecret) secret := secrets[*l.ResolvedSecret] keyPairs[id] = SSLKeyPair{ Cert: secret.Source.Data[apiv1.TLSCertKey], Key: secret.Source.Data[apiv1.TLSPrivateKeyKey], } } }",
     "return keyPairs"] := rfl

theorem fact_owner_choice :
    Generated.Tls.listenersForHostLoop.head? = some "if prevListener, exists := hpr.listenersForHost[h]; exists { if listenerHostnameMoreSpecific(listener.Source.Hostname, prevListener.Source.Hostname) { hpr.listenersForHost[h] = listener } } else { hpr.listenersForHost[h] = listener }" ∧
    Generated.Tls.listenerHostnameMoreSpecificBody.getLast? = some "return graph.GetMoreSpecificHostname(host1Str, host2Str) == host1Str" ∧
    Generated.Tls.buildServersSSLAssignments = ["s.SSL = &SSL{ KeyPairID: generateSSLKeyPairID(*l.ResolvedSecret), }",
                                      "s.SSL = &SSL{ KeyPairID: generateSSLKeyPairID(*l.ResolvedSecret), }"] ∧
    Generated.Tls.buildServersConditions = ["l.ResolvedSecret != nil", "len(l.Routes) == 0 || hostname == wildcardHostname",
                                  "l.ResolvedSecret != nil", "hpr.listenersExist"] ∧
    Generated.Tls.sslServerCertFields = ["Certificate: generatePEMFileName(virtualServer.SSL.KeyPairID)",
                               "CertificateKey: generatePEMFileName(virtualServer.SSL.KeyPairID)"] := ⟨rfl, rfl, rfl, rfl, rfl⟩

theorem fact_getMoreSpecificHostname : Generated.Tls.getMoreSpecificHostnameBody =
    ["if hostname1 == hostname2 { return hostname1 }", "if hostname1 == \"\" { return hostname2 }",
     "if hostname2 == \"\" { return hostname1 }",
     "if strings.HasPrefix(hostname1, \"*.\") { if strings.HasPrefix(hostname2, \"*.\") { subdomains1 := strings.Split(hostname1, \".\") subdomains2 := strings.Split(hostname2, \".\") if len(subdomains1) > len(subdomains2) { return hostname1 } return hostname2 } return hostname2 }",
     "if strings.HasPrefix(hostname2, \"*.\") { return hostname1 }", "return \"\""] := rfl

theorem fact_secret_resolution : Generated.Tls.secretResolveCases = ["!exist", "secret.Type != apiv1.SecretTypeTLS", "default"] := rfl

/-- the loop deciding whether the backends of a rule agree (fix e38b1f9): every backend is compared with the first,
CA refs are namespaced, wellKnown is compared by value. Reverting the fix breaks this lemma. -/
theorem fact_mismatch_loop :
    Generated.Tls.mismatchLoopBody =
      ["for i := 1; i < len(backendRefs); i++",
       "if policiesDiffer(backendRefs[i].BackendTLSPolicy, backendRefs[0].BackendTLSPolicy) { mismatch = true break }"] ∧
    Generated.Tls.mismatchCompare =
      "policiesDiffer := func(p1, p2 *BackendTLSPolicy) bool { if p1 == nil || p2 == nil { return p1 != p2 } val1, val2 := p1.Source.Spec.Validation, p2.Source.Spec.Validation return !slices.Equal(val1.CACertificateRefs, val2.CACertificateRefs) || (len(val1.CACertificateRefs) > 0 && p1.Source.Namespace != p2.Source.Namespace) || (val1.WellKnownCACertificates == nil) != (val2.WellKnownCACertificates == nil) || (val1.WellKnownCACertificates != nil && *val1.WellKnownCACertificates != *val2.WellKnownCACertificates) || val1.Hostname != val2.Hostname }" ∧
    Generated.Tls.mismatchGuard = "len(backendRefs) > 1" := ⟨rfl, rfl, rfl⟩

theorem fact_proxy_tls :
    Generated.Tls.createProxyTLSFromBackendsBody =
      ["if len(backends) == 0 { return nil }",
       "for _, b := range backends { proxyVerify := createProxySSLVerify(b.VerifyTLS) if proxyVerify != nil { return proxyVerify } }",
       "return nil"] ∧
    Generated.Tls.createProxySSLVerifyBody =
      ["if v == nil { return nil }", "var trustedCert string",
       "if v.CertBundleID != \"\" { trustedCert = generateCertBundleFileName(v.CertBundleID) } else { trustedCert = v.RootCAPath }",
       "return &http.ProxySSLVerify{ TrustedCertificate: trustedCert, Name: v.Hostname, }"] ∧
    Generated.Tls.convertBackendTLSBody =
      ["if btp == nil || !btp.Valid { return nil }", "verify := &VerifyTLS{}",
       "if btp.CaCertRef.Name != \"\" { verify.CertBundleID = generateCertBundleID(btp.CaCertRef) } else { verify.RootCAPath = alpineSSLRootCAPath }",
       "verify.Hostname = string(btp.Source.Spec.Validation.Hostname)", "return verify"] := ⟨rfl, rfl, rfl⟩

theorem fact_template_tls_lines : Generated.Tls.templateTLSLines =
    ["listen {{ $s.Listen }} ssl default_server{{ $.RewriteClientIP.ProxyProtocol }};",
     "listen [::]:{{ $s.Listen }} ssl default_server{{ $.RewriteClientIP.ProxyProtocol }};",
     "ssl_reject_handshake on;",
     "listen {{ $s.Listen }} ssl{{ $.RewriteClientIP.ProxyProtocol }};",
     "listen [::]:{{ $s.Listen }} ssl{{ $.RewriteClientIP.ProxyProtocol }};",
     "ssl_certificate {{ $s.SSL.Certificate }};",
     "ssl_certificate_key {{ $s.SSL.CertificateKey }};",
     "if ($ssl_server_name != $host) {",
     "{{ $proxyOrGRPC }}_ssl_server_name on;",
     "{{ $proxyOrGRPC }}_ssl_verify on;",
     "{{ $proxyOrGRPC }}_ssl_name {{ $l.ProxySSLVerify.Name }};",
     "{{ $proxyOrGRPC }}_ssl_trusted_certificate {{ $l.ProxySSLVerify.TrustedCertificate }};"] := rfl

/-- secretResolver.resolve: a cached entry answers first; otherwise ONE verdict is computed and stored — whatever it
is — before it is returned (`resolveCached`). A branch that returns without storing its error breaks this lemma. -/
theorem fact_secret_resolver_cache : Generated.Tls.secretResolveBody =
    ["if s, resolved := r.resolvedSecrets[nsname]; resolved { return s.err }",
     "secret, exist := r.clusterSecrets[nsname]",
     "var validationErr error",
     "switch { case !exist: validationErr = errors.New(\"secret does not exist\") case secret.Type != apiv1.SecretTypeTLS: validationErr = fmt.Errorf(\"secret type must be %q not %q\", apiv1.SecretTypeTLS, secret.Type) default: _, err := tls.X509KeyPair(secret.Data[apiv1.TLSCertKey], secret.Data[apiv1.TLSPrivateKeyKey]) if err != nil { validationErr = fmt.Errorf(\"TLS secret is invalid: %w\", err) } }",
     "r.resolvedSecrets[nsname] = &secretEntry{ Secret: Secret{ Source: secret, }, err: validationErr, }",
     "return validationErr"] := rfl

/-- processBackendTLSPolicies: every policy gets an entry of the processed map, an ignored one as invalid
(`processBtp`); Generate: one freshly built PEM file per key pair (`generatePEM` allocates its own slice:
`fact_generatePEM`) -/
theorem fact_process_btp_and_keypair_loop :
    Generated.Tls.processBTPLoop =
      ["var caCertRef types.NamespacedName",
       "valid, ignored, conds := validateBackendTLSPolicy(backendTLSPolicy, configMapResolver, ctlrName)",
       "if valid && !ignored && len(backendTLSPolicy.Spec.Validation.CACertificateRefs) > 0 { caCertRef = types.NamespacedName{ Namespace: backendTLSPolicy.Namespace, Name: string(backendTLSPolicy.Spec.Validation.CACertificateRefs[0].Name), } }",
       "processedBackendTLSPolicies[nsname] = &BackendTLSPolicy{ Source: backendTLSPolicy, Valid: valid, Conditions: conds, Gateway: types.NamespacedName{ Namespace: gateway.Source.Namespace, Name: gateway.Source.Name, }, CaCertRef: caCertRef, Ignored: ignored, }"] ∧
    Generated.Tls.generateKeyPairLoop =
      ["for id, pair := range conf.SSLKeyPairs", "files = append(files, generatePEM(id, pair.Cert, pair.Key))"] := ⟨rfl, rfl⟩

/-- Key pair ids (hence key pair file names) of different Secrets differ, for admissible namespaces:
a namespace is a DNS label and cannot contain `_`. (Without the hypothesis `a_b/c` and `a/b_c` collide.) -/
theorem keypair_id_injective (a b : Name × Name) (ha : '_' ∉ a.1) (hb : '_' ∉ b.1)
    (h : pemFileName (keyPairId a) = pemFileName (keyPairId b)) : a = b :=
  keyPairId_inj ha hb (pemFileName_inj h)

/-- the hypothesis is needed -/
example : keyPairId ("a_b".toList, "c".toList) = keyPairId ("a".toList, "b_c".toList) := by
  decide_chars
example : ('_' ∉ "team-a".toList) ∧ keyPairId ("team-a".toList, "tls".toList) = "ssl_keypair_team-a_tls".toList := by
  decide_chars

theorem certbundle_id_injective (a b : Name × Name) (ha : '_' ∉ a.1) (hb : '_' ∉ b.1)
    (h : certBundleId a = certBundleId b) : a = b := certBundleId_inj ha hb h

/-- `keypair_file_injective`: Secret NAMES are arbitrary (dots are legal: `example.com-tls`, `edge.pem`); two different
Secrets of admissible namespaces never share a key-pair file, and two different ConfigMaps never share a bundle file. -/
theorem keypair_file_injective (a b : Name × Name) (ha : '_' ∉ a.1) (hb : '_' ∉ b.1) :
    (pemFileName (keyPairId a) = pemFileName (keyPairId b) → a = b) ∧
    (bundleFileName (certBundleId a) = bundleFileName (certBundleId b) → a = b) := by
  refine ⟨keypair_id_injective a b ha hb, ?_⟩
  intro h
  unfold bundleFileName at h
  have h' := List.append_cancel_left (List.append_cancel_right h)
  exact certBundleId_inj ha hb (by simpa using h')

/-- non-vacuity on dotted names, and the regression detector: a file-name function that trims the id's "extension"
(everything after the last dot) sends `example.com-tls` and `example.org-tls` to ONE file (seeded change C16-r5m1) -/
theorem keypair_file_trimmed_ext_false :
    pemFileName (keyPairId ("default".toList, "example.com-tls".toList)) ≠
      pemFileName (keyPairId ("default".toList, "example.org-tls".toList)) ∧
    pemFileNameTrimExt (keyPairId ("default".toList, "example.com-tls".toList)) =
      pemFileNameTrimExt (keyPairId ("default".toList, "example.org-tls".toList)) ∧
    pemFileNameTrimExt (keyPairId ("default".toList, "edge.pem".toList)) = "/etc/nginx/secrets/ssl_keypair_default_edge.pem".toList := by
  unfold pemFileName pemFileNameTrimExt keyPairId keyPairPrefix secretsFolder
  decide_chars

/-- The key pair file holds the certificate bytes, one newline, the key bytes — both recoverable. -/
theorem pem_bytes (cert key : Bytes) :
    pem cert key = cert ++ ['\n'] ++ key ∧ (pem cert key).take cert.length = cert ∧
    (pem cert key).drop (cert.length + 1) = key := by
  refine ⟨by simp [pem], by simp [pem], ?_⟩
  simp [pem, List.drop_append]

example : pem "CERT".toList "KEY".toList = "CERT\nKEY".toList := by
  decide_chars

/-- Every key pair handed to the generator carries the bytes of the Secret referenced by a VALID listener,
under the id derived from that Secret's namespace and name. -/
theorem keypairs_from_valid_listeners (secrets : List SecretObj) (ls : List Listener) (k : KeyPair)
    (h : k ∈ buildSSLKeyPairs secrets ls) :
    ∃ l ∈ ls, l.valid = true ∧ k.id = keyPairId l.secret ∧
      ∃ s, findSecret secrets l.secret.1 l.secret.2 = some s ∧ k.cert = s.cert ∧ k.key = s.key :=
  buildSSLKeyPairs_sound secrets ls k h

/-! ### a listener whose certificate reference failed contributes nothing -/

/-- A listener whose Secret is missing / malformed / of the wrong type / not permitted / not a Secret is not
valid, whatever else holds. -/
theorem bad_reference_invalid (l : Listener) (h : l.res ≠ .ok) : l.valid = false := by
  simp [Listener.valid, h]

/-- `invalid_secret_no_cert`: removing every listener whose reference did not resolve changes neither the SSL
servers nor the key pairs — such a listener contributes no server and no key material. -/
theorem invalid_secret_no_cert (secrets : List SecretObj) (ls : List Listener) :
    buildSSLServers ls = buildSSLServers (ls.filter fun l => l.res = .ok) ∧
    buildSSLKeyPairs secrets ls = buildSSLKeyPairs secrets (ls.filter fun l => l.res = .ok) := by
  have hf : (ls.filter fun l => decide (l.res = .ok)).filter Listener.valid = ls.filter Listener.valid := by
    rw [List.filter_filter]
    congr 1
    funext l
    by_cases h : l.res = .ok <;> simp [Listener.valid, h]
  constructor
  · simp only [buildSSLServers, sslListeners, hf]
  · rw [buildSSLKeyPairs_filter secrets (ls.filter _), hf, ← buildSSLKeyPairs_filter]

/-- and resolution fails in each of the cases the property names -/
theorem resolution_failures (grants : List Grant) (secrets : List SecretObj) (gwNs : Name) (r : CertRef) :
    (r.nrefs = 0 → resolveRef grants secrets gwNs r ≠ .ok) ∧
    (r.kindOK = false → resolveRef grants secrets gwNs r ≠ .ok) ∧
    (r.ns ≠ gwNs → secretRefAllowed grants gwNs r.ns r.name = false → resolveRef grants secrets gwNs r ≠ .ok) ∧
    (findSecret secrets r.ns r.name = none → resolveRef grants secrets gwNs r ≠ .ok) ∧
    (∀ s, findSecret secrets r.ns r.name = some s → (s.isTLS = false ∨ s.pairOK = false) →
      resolveRef grants secrets gwNs r ≠ .ok) := by
  refine ⟨fun h hok => ?_, fun h hok => ?_, fun h1 h2 hok => ?_, fun h hok => ?_, fun s hs hbad hok => ?_⟩ <;>
    obtain ⟨h0, hk, _, hp, sec, hf, ht, hpo⟩ := resolveRef_ok_iff.1 hok
  · exact h0 h
  · rw [hk] at h; cases h
  · rcases hp with e | e
    · exact h1 e
    · rw [h2] at e; cases e
  · rw [h] at hf; cases hf
  · rw [hs] at hf; cases hf
    rcases hbad with e | e
    · rw [ht] at e; cases e
    · rw [hpo] at e; cases e

example : (⟨"l".toList, 443, true, [], ("ns".toList, "s".toList), .wrongType, true, 0, []⟩ : Listener).valid = false := rfl

/-- `cert_is_owner_listeners_secret` (model level): every non-default SSL server for (port, h) presents the key
pair of a valid HTTPS listener `l` of that port which covers `h`, and either
 * `h` was accepted by a route attached to `l`, and no valid listener of the port to which a route carrying `h`
   is attached has a more specific hostname (`l` is the last of the most specific ones), or
 * it is the server generated for `l` itself (no routes, or no hostname) and carries `l`'s server name. -/
theorem cert_is_owner_listeners_secret (ls : List Listener) (s : Server)
    (hs : s ∈ buildSSLServers ls) (hnd : s.isDefault = false) :
    ∃ l ∈ ls, l.valid = true ∧ l.port = s.port ∧ s.keyPair = some (keyPairId l.secret) ∧
      ((s.host ∈ l.accepted ∧ covers l.host s.host = true ∧
          ∀ l' ∈ ls, l'.valid = true → l'.port = s.port → s.host ∈ l'.accepted → rank l'.host ≤ rank l.host)
       ∨ (s.host = listenerServerName l.host ∧ (l.nroutes = 0 ∨ listenerServerName l.host = wildcardHostname))) :=
  ssl_server_owner ls s hs hnd

/-- non-vacuity: a Gateway with a wildcard and a specific listener and one route on the whole Gateway yields the
three servers; the server for the specific name presents the specific listener's key pair. -/
def exWild : Listener :=
  ⟨"wild".toList, 443, true, "*.example.com".toList, ("default".toList, "tls-a".toList), .ok, true, 1,
   [["foo.example.com".toList, "cafe.example.com".toList]]⟩
def exFoo : Listener :=
  ⟨"foo".toList, 443, true, "foo.example.com".toList, ("default".toList, "tls-b".toList), .ok, true, 1,
   [["foo.example.com".toList, "cafe.example.com".toList]]⟩
def exBad : Listener :=
  ⟨"bad".toList, 443, true, "bar.org".toList, ("default".toList, "tls-missing".toList), .missing, true, 0, []⟩

example : buildSSLServers [exWild, exFoo, exBad] =
    [⟨"foo.example.com".toList, 443, false, some "ssl_keypair_default_tls-b".toList⟩,
     ⟨"cafe.example.com".toList, 443, false, some "ssl_keypair_default_tls-a".toList⟩,
     ⟨[], 443, true, none⟩] := by
  unfold exWild exFoo exBad
  decide_chars

/-- The default server of a port never carries a key pair (it rejects the handshake). -/
theorem default_server_has_no_cert (ls : List Listener) (s : Server)
    (hs : s ∈ buildSSLServers ls) (hd : s.isDefault = true) : s.keyPair = none :=
  ssl_default_no_keypair ls s hs hd

/-- The owner of `h` on port `p` as the property reads it: a valid HTTPS listener of the port covering `h`
such that no other one is more specific. -/
def IsSpecOwner (ls : List Listener) (p : Nat) (h : Host) (o : Listener) : Prop :=
  o ∈ ls ∧ o.valid = true ∧ o.port = p ∧ covers o.host h = true ∧
  ∀ l' ∈ ls, l'.valid = true → l'.port = p → covers l'.host h = true → rank l'.host ≤ rank o.host

def witnessWild : Listener :=
  ⟨"wild".toList, 443, true, "*.example.com".toList, ("default".toList, "tls-a".toList), .ok, true, 1,
   [["foo.example.com".toList]]⟩
def witnessFoo : Listener :=
  ⟨"foo".toList, 443, true, "foo.example.com".toList, ("default".toList, "tls-b".toList), .ok, true, 0, []⟩

/-- FULL STRENGTH IS FALSE on the current code: a route attached only to the wildcard listener carries the
hostname of the more specific listener; the server for that hostname presents the wildcard listener's
key pair although the specific listener owns the hostname (reproduced on the real pipeline: known finding
`C16:hostname-of-more-specific-listener-served-with-less-specific-listeners-cert`). -/
theorem cert_is_spec_owner_false :
    (⟨"foo.example.com".toList, 443, false, some (keyPairId witnessWild.secret)⟩ : Server) ∈
        buildSSLServers [witnessWild, witnessFoo] ∧
      witnessFoo.valid = true ∧ witnessFoo.port = 443 ∧
      covers witnessFoo.host "foo.example.com".toList = true ∧ rank witnessWild.host < rank witnessFoo.host ∧
      keyPairId witnessWild.secret ≠ keyPairId witnessFoo.secret := by
  unfold witnessWild witnessFoo
  decide_chars

/-- `_partial`: when the spec owner of `h` is among the listeners to which a route carrying `h` is attached
(always the case when routes attach to the whole Gateway and every listener admits them), the server
presents the key pair of a listener exactly as specific as the spec owner — the owner itself when the
Gateway does not repeat a (port, hostname) pair. -/
theorem cert_is_spec_owner_partial (ls : List Listener) (s : Server)
    (hs : s ∈ buildSSLServers ls) (hnd : s.isDefault = false)
    (o : Listener) (ho : IsSpecOwner ls s.port s.host o) (hacc : s.host ∈ o.accepted)
    (hwf : o.host ≠ wildcardHostname)
    (huniq : ∀ l ∈ ls, l.valid = true → l.port = s.port → rank l.host = rank o.host →
       covers l.host s.host = true → l.secret = o.secret) :
    s.keyPair = some (keyPairId o.secret) :=
  ssl_server_spec_owner ls s hs hnd o ho.1 ho.2.1 ho.2.2.1 ho.2.2.2.1 ho.2.2.2.2 hacc hwf huniq

/-- non-vacuity of the `_partial` hypotheses: with the route on the whole Gateway the specific listener is the
spec owner of its name, has the name accepted, and the server presents its key pair -/
example : IsSpecOwner [exWild, exFoo, exBad] 443 "foo.example.com".toList exFoo ∧
    "foo.example.com".toList ∈ exFoo.accepted := by
  unfold IsSpecOwner
  refine ⟨⟨List.mem_cons_of_mem _ List.mem_cons_self, ?_⟩, ?_⟩
  · unfold exWild exFoo exBad
    decide_chars
  · unfold exFoo
    decide_chars

def witnessPol : BTP :=
  { id := 1, ns := "default".toList, name := "pol-p".toList, ts := 5, targets := ["svc-b".toList],
    hostname := "b.example.com".toList, hostOK := true, refs := [⟨[], "ConfigMap".toList, "ca-1".toList⟩],
    wk := none, full := false }
def witnessCMs' : List CMObj := [⟨"default".toList, "ca-1".toList, true, true, "CA".toList⟩]

/-- A backend list whose every backend carries (a policy with the configuration of) the valid policy `p`
yields `*_ssl_verify on`, `*_ssl_name` = the policy hostname and the trusted certificate of `p`:
the bundle file of the referenced ConfigMap, or the system bundle. -/
theorem btp_verify_directives (cms : List CMObj) (p : BTP) (rest : List (Option BTP)) (grpc : Bool)
    (hv : p.valid cms = true) :
    ∃ v, proxyTLS ((some p :: rest).map (convertBackendTLS cms)) = some v ∧
      v.hostname = p.hostname ∧
      (trustedCert v = if p.caName cms ≠ [] then bundleFileName (certBundleId (p.ns, p.caName cms)) else systemCAPath) ∧
      verifyDirectives v grpc =
        [((if grpc then "grpc".toList else "proxy".toList) ++ "_ssl_server_name".toList, "on".toList),
         ((if grpc then "grpc".toList else "proxy".toList) ++ "_ssl_verify".toList, "on".toList),
         ((if grpc then "grpc".toList else "proxy".toList) ++ "_ssl_name".toList, p.hostname),
         ((if grpc then "grpc".toList else "proxy".toList) ++ "_ssl_trusted_certificate".toList, trustedCert v)] ∧
      protocol (some v) grpc = (if grpc then "grpcs".toList else "https".toList) := by
  -- the first backend has settings, so it decides (`proxyTLS`); which settings depends on whether `p` names a ConfigMap
  have hconv : proxyTLS ((some p :: rest).map (convertBackendTLS cms)) =
      some (if p.caName cms ≠ [] then ⟨certBundleId (p.ns, p.caName cms), p.hostname, []⟩
            else ⟨[], p.hostname, systemCAPath⟩) := by
    rw [List.map_cons, convertBackendTLS_valid hv]; rfl
  by_cases hc : p.caName cms = []
  · rw [if_neg (not_not_intro hc)] at hconv ⊢
    exact ⟨_, hconv, rfl, trustedCert_root _ _, rfl, by cases grpc <;> rfl⟩
  · rw [if_pos hc] at hconv ⊢
    exact ⟨_, hconv, rfl, trustedCert_bundle (certBundleId_ne_nil _) _ _, rfl, by cases grpc <;> rfl⟩

example : witnessPol.valid witnessCMs' = true ∧
    (proxyTLS ([some witnessPol, some witnessPol].map (convertBackendTLS witnessCMs'))).map (verifyDirectives · false) =
      some [("proxy_ssl_server_name".toList, "on".toList), ("proxy_ssl_verify".toList, "on".toList),
            ("proxy_ssl_name".toList, "b.example.com".toList),
            ("proxy_ssl_trusted_certificate".toList, "/etc/nginx/secrets/cert_bundle_default_ca-1.crt".toList)] := by
  unfold witnessPol witnessCMs' verifyDirectives trustedCert bundleFileName secretsFolder
  decide_chars

/-- a valid policy with a ConfigMap reference names that ConfigMap -/
theorem valid_policy_ca (cms : List CMObj) (p : BTP) (r : CARef) (hv : p.valid cms = true) (hr : p.refs = [r]) :
    p.caName cms = r.name ∧ cmResolves cms p.ns r.name = true := by
  refine ⟨by simp [BTP.caName, hv, hr], ?_⟩
  have h := hv
  simp only [BTP.valid, validateBTP, hr, caRefOK] at h
  cases hw : p.wk with
  | some w => simp [hw] at h
  | none =>
    simp [hw] at h
    exact h.2.2

/-! ### a rule whose backends disagree on TLS policy serves none of them -/

/-- what "the backends of a rule disagree" means (stated independently of the code's loop): two backends of the
rule, at ANY positions, of which one has a policy and the other has none, or whose policies differ in the ConfigMap they
reference (name AND namespace), the wellKnown setting or the hostname, by VALUE -/
def specDiffer : Option BTP → Option BTP → Bool
  | none, none => false
  | some p, some q =>
    p.refs ≠ q.refs || (!p.refs.isEmpty && p.ns ≠ q.ns) || p.wk ≠ q.wk || p.hostname ≠ q.hostname
  | _, _ => true

def Disagree (bs : List (Option BTP)) : Prop := ∃ x ∈ bs, ∃ y ∈ bs, specDiffer x y = true

theorem specDiffer_eq (x y : Option BTP) : specDiffer x y = policiesDiffer x y := by
  cases x <;> cases y <;> rfl

theorem specDiffer_self (x : Option BTP) : specDiffer x x = false := by
  rw [specDiffer_eq]; exact policiesDiffer_self x

theorem specDiffer_false_iff (p q : BTP) : specDiffer (some p) (some q) = false ↔
    p.refs = q.refs ∧ (p.refs.isEmpty = false → p.ns = q.ns) ∧ p.wk = q.wk ∧ p.hostname = q.hostname := by
  simp only [specDiffer, Bool.or_eq_false_iff, Bool.and_eq_false_imp, Bool.not_eq_true', decide_eq_false_iff_not,
    Decidable.not_not, ne_eq, and_assoc]

theorem specDiffer_symm (x y : Option BTP) : specDiffer x y = specDiffer y x := by
  cases x <;> cases y <;> try rfl
  rename_i p q
  apply Bool.eq_iff_iff.mpr
  rw [← Bool.not_eq_false, ← Bool.not_eq_false, specDiffer_false_iff, specDiffer_false_iff]
  apply not_congr
  constructor <;> rintro ⟨h1, h2, h3, h4⟩
  · exact ⟨h1.symm, fun e => (h2 (h1 ▸ e)).symm, h3.symm, h4.symm⟩
  · exact ⟨h1.symm, fun e => (h2 (h1 ▸ e)).symm, h3.symm, h4.symm⟩

theorem specDiffer_trans {x y f : Option BTP} (hx : specDiffer x f = false) (hy : specDiffer y f = false) :
    specDiffer x y = false := by
  match x, y, f, hx, hy with
  | none, none, _, _, _ => rfl
  | none, some _, none, _, hy => cases hy
  | none, some _, some _, hx, _ => cases hx
  | some _, none, none, hx, _ => cases hx
  | some _, none, some _, _, hy => cases hy
  | some _, some _, none, hx, _ => cases hx
  | some p, some q, some r, hx, hy =>
    obtain ⟨a1, a2, a3, a4⟩ := (specDiffer_false_iff p r).mp hx
    obtain ⟨b1, b2, b3, b4⟩ := (specDiffer_false_iff q r).mp hy
    exact (specDiffer_false_iff p q).mpr
      ⟨a1.trans b1.symm, fun e => (a2 e).trans (b2 (b1 ▸ a1 ▸ e)).symm, a3.trans b3.symm, a4.trans b4.symm⟩

/-- the loop detects EXACTLY the disagreements, whatever the order of the backends -/
theorem mismatch_iff_disagree (bs : List (Option BTP)) : mismatch bs = true ↔ Disagree bs := by
  cases bs with
  | nil => simp [mismatch, Disagree]
  | cons f rest =>
    simp only [mismatch, List.any_eq_true]
    constructor
    · rintro ⟨x, hx, hd⟩
      exact ⟨x, List.mem_cons_of_mem _ hx, f, List.mem_cons_self, by rw [specDiffer_eq]; exact hd⟩
    · rintro ⟨x, hx, y, hy, hd⟩
      -- a backend that differs from the first is found by the loop (the first does not differ from itself)
      have key : ∀ z ∈ f :: rest, specDiffer z f = true → ∃ b ∈ rest, policiesDiffer b f = true := by
        intro z hz hzf
        rcases List.mem_cons.mp hz with e | e
        · rw [e, specDiffer_self] at hzf; cases hzf
        · exact ⟨z, e, specDiffer_eq z f ▸ hzf⟩
      -- and if neither x nor y differed from the first, they would agree with each other
      by_cases hxf : specDiffer x f = true
      · exact key x hx hxf
      by_cases hyf : specDiffer y f = true
      · exact key y hy hyf
      rw [specDiffer_trans (Bool.eq_false_iff.mpr hxf) (Bool.eq_false_iff.mpr hyf)] at hd
      cases hd

/-- `mismatch_invalidates_all` — FULL STRENGTH: a rule whose backends disagree on TLS policy (any two of them, in any
order, same or different namespaces) has ALL its backends invalid: it serves none of them. -/
theorem mismatch_invalidates_all (bs : List BRef) (hd : Disagree (bs.map (·.pol))) :
    ∀ b ∈ validateRule bs, b.valid = false := by
  have hm : mismatch (bs.map (·.pol)) = true := (mismatch_iff_disagree _).mpr hd
  have hlen : bs.length > 1 := by
    match bs, hm with
    | [], h => simp [mismatch] at h
    | [_], h => simp [mismatch] at h
    | _ :: _ :: _, _ => simp
  have hc : (decide (bs.length > 1) && mismatch (bs.map (·.pol))) = true := by
    rw [hm]; simpa using hlen
  intro b hb
  unfold validateRule at hb
  rw [if_pos hc] at hb
  simp only [List.mem_map] at hb
  obtain ⟨b', _, rfl⟩ := hb
  rfl

/-- and a rule whose backends agree is left alone -/
theorem agreeing_rule_untouched (bs : List BRef) (ha : ¬ Disagree (bs.map (·.pol))) : validateRule bs = bs := by
  have hm : mismatch (bs.map (·.pol)) = false := by
    cases h : mismatch (bs.map (·.pol))
    · rfl
    · exact absurd ((mismatch_iff_disagree _).mp h) ha
  simp [validateRule, hm]

def witnessP : BTP :=
  { id := 1, ns := "default".toList, name := "pol-p".toList, ts := 5, targets := ["svc-b".toList],
    hostname := "b.example.com".toList, hostOK := true, refs := [⟨[], "ConfigMap".toList, "ca-1".toList⟩],
    wk := none, full := false }
def witnessPOther : BTP := { witnessP with id := 2, ns := "team-a".toList }
def witnessCMs : List CMObj :=
  [⟨"default".toList, "ca-1".toList, true, true, "CA-OF-DEFAULT".toList⟩,
   ⟨"team-a".toList, "ca-1".toList, true, true, "CA-OF-TEAM-A".toList⟩]

/-- non-vacuity: both orders of {no policy, P}, and same-named ConfigMaps of two namespaces, disagree and are
invalidated -/
example : Disagree [none, some witnessP] ∧ Disagree [some witnessP, none] ∧ Disagree [some witnessP, some witnessPOther] :=
  ⟨⟨none, by simp, some witnessP, by simp, rfl⟩, ⟨none, by simp, some witnessP, by simp, rfl⟩,
   ⟨some witnessP, by simp, some witnessPOther, by simp, by
      unfold witnessPOther witnessP; decide_chars⟩⟩

example : (validateRule [⟨none, true⟩, ⟨some witnessP, true⟩]).all (·.valid = false) = true ∧
    (validateRule [⟨some witnessP, true⟩, ⟨none, true⟩]).all (·.valid = false) = true ∧
    (validateRule [⟨some witnessP, true⟩, ⟨some witnessPOther, true⟩]).all (·.valid = false) = true ∧
    validateRule [⟨some witnessP, true⟩, ⟨some witnessP, false⟩] = [⟨some witnessP, true⟩, ⟨some witnessP, false⟩] := by
  unfold witnessPOther witnessP
  decide_chars

/-! #### regression detectors: the loop before fix e38b1f9 (`mismatchPre`) does NOT have the property -/

/-- PRE-FIX, first gap (DESIGN §7 row 17; was known finding `C16:btp-mismatch-undetected-when-first-backend-has-no-policy`,
fixed by e38b1f9): `[no policy, P]` disagrees but the old loop does not notice; the reverse order was caught. -/
theorem mismatch_invalidates_all_false :
    mismatchPre [none, some witnessP] = false ∧
    validateRulePre [⟨none, true⟩, ⟨some witnessP, true⟩] = [⟨none, true⟩, ⟨some witnessP, true⟩] ∧
    mismatchPre [some witnessP, none] = true ∧
    -- the current loop catches both
    mismatch [none, some witnessP] = true ∧ mismatch [some witnessP, none] = true := by
  unfold witnessP
  decide_chars

/-- PRE-FIX, second gap (was known finding `C16:btp-same-named-configmaps-of-different-namespaces-treated-as-equal`,
fixed by e38b1f9): two policies naming ConfigMaps of the same NAME in different namespaces compared equal, and the
location then verifies every backend against the FIRST policy's bundle. -/
theorem mismatch_ignores_configmap_namespace :
    mismatchPre [some witnessP, some witnessPOther] = false ∧
    (proxyTLS ([some witnessP, some witnessPOther].map (convertBackendTLS witnessCMs))).map trustedCert =
      some (bundleFileName (certBundleId ("default".toList, "ca-1".toList))) ∧
    (convertBackendTLS witnessCMs (some witnessPOther)).map trustedCert =
      some (bundleFileName (certBundleId ("team-a".toList, "ca-1".toList))) ∧
    -- the current loop tells them apart
    mismatch [some witnessP, some witnessPOther] = true := by
  unfold witnessPOther witnessP witnessCMs
  decide_chars

/-! ### the Secret resolver's cache: one verdict per Secret, however often and in whatever order it is resolved -/

/-- `resolve_cached_verdict_stable`: on one resolver (one graph build) the answer to EVERY call `resolve(k)` is the
verdict of validating Secret `k` — the first call computes and stores it, every later call for the same Secret returns
the same verdict. In particular two HTTPS listeners referencing one invalid Secret are both rejected. -/
theorem resolve_cached_verdict_stable (secrets : List SecretObj) (ks : List (Name × Name)) :
    resolveSeq secrets [] ks = ks.map (secretVerdict secrets) ∧
    ∀ (i j : Nat) (k : Name × Name), ks[i]? = some k → ks[j]? = some k →
      (resolveSeq secrets [] ks)[i]? = (resolveSeq secrets [] ks)[j]? := by
  have h := resolveSeq_spec secrets ks [] (by intro k v hk; simp at hk)
  refine ⟨h, ?_⟩
  intro i j k hi hj
  rw [h]
  simp [List.getElem?_map, hi, hj]

def witnessMalformed : List SecretObj := [⟨"default".toList, "tls-mal".toList, true, false, "X".toList, "Y".toList⟩]

/-- non-vacuity, and the regression detector: a resolver that registers the entry up front but does not store the
error of the malformed-pair branch answers `malformed` once and `ok` ever after (seeded change C16-r4m1) -/
theorem resolve_unstored_error_false :
    resolveSeq witnessMalformed [] [("default".toList, "tls-mal".toList), ("default".toList, "tls-mal".toList)] =
      [.malformed, .malformed] ∧
    resolveSeqUnstored witnessMalformed [] [("default".toList, "tls-mal".toList), ("default".toList, "tls-mal".toList)] =
      [.malformed, .ok] := by
  unfold witnessMalformed
  decide_chars

/-! ### a Service targeted by a BackendTLSPolicy is never reached over plain HTTP -/

/-- `targeted_service_never_plain`: when ANY BackendTLSPolicy of the Service's namespace targets the Service — valid,
invalid, or ignored because its ancestor status list is full — the backendRef is either invalid (500, not reached) or
proxied over verified TLS; never plain. -/
theorem targeted_service_never_plain (cms : List CMObj) (pols : List BTP) (refNs refName : Name) (b : BTP)
    (hb : b ∈ pols) (ht : targetsSvc b refNs refName = true) :
    backendTLSOf (processBtp cms pols) refNs refName ≠ .plain := by
  have hp : (⟨b, (validateBTP cms b).1, (validateBTP cms b).2, b.caName cms⟩ : ProcBTP) ∈ processBtp cms pols :=
    List.mem_map.mpr ⟨b, hb, rfl⟩
  have hs := findProc_isSome (refNs := refNs) (refName := refName) hp ht
  unfold backendTLSOf
  cases hf : findProc (processBtp cms pols) refNs refName with
  | none => rw [hf] at hs; cases hs
  | some p =>
    dsimp only
    by_cases hv : (!p.valid) = true
    · rw [if_pos hv]; exact fun h => nomatch h
    · rw [if_neg hv]
      by_cases hc : p.ca ≠ []
      · rw [if_pos hc]; exact fun h => nomatch h
      · rw [if_neg hc]; exact fun h => nomatch h

/-- `ignored_policy_fails_closed`: when the policy selected for the Service (oldest, then namespace/name) is IGNORED
(16 ancestor entries of other controllers: no status can be written), the backendRef is INVALID — the rule answers 500;
the Service is not proxied without TLS. -/
theorem ignored_policy_fails_closed (cms : List CMObj) (pols : List BTP) (refNs refName : Name) (p : ProcBTP)
    (hsel : findProc (processBtp cms pols) refNs refName = some p) (hfull : p.pol.full = true) :
    backendTLSOf (processBtp cms pols) refNs refName = .invalid ∧ p.ignored = true := by
  obtain ⟨hm, _⟩ := findProc_mem hsel
  obtain ⟨b, _, rfl⟩ := List.mem_map.mp hm
  have hv := full_invalid cms b hfull
  have hfull' : b.full = true := hfull
  refine ⟨?_, by simp [validateBTP, hfull']⟩
  unfold backendTLSOf
  rw [hsel]
  simp [hv]

def witnessIgnored : BTP := { witnessP with full := true }

/-- non-vacuity, and the regression detector: a `processBackendTLSPolicies` that does not track ignored policies
(seeded change C16-r4m2) lets the targeted Service be proxied over plain HTTP -/
theorem ignored_policy_dropped_false :
    findProc (processBtp witnessCMs [witnessIgnored]) "default".toList "svc-b".toList =
      some ⟨witnessIgnored, false, true, []⟩ ∧
    backendTLSOf (processBtp witnessCMs [witnessIgnored]) "default".toList "svc-b".toList = .invalid ∧
    backendTLSOf (processBtpDropping witnessCMs [witnessIgnored]) "default".toList "svc-b".toList = .plain ∧
    -- the same policy, not ignored: verified TLS against the referenced CA
    backendTLSOf (processBtp witnessCMs [witnessP]) "default".toList "svc-b".toList =
      .verify ⟨certBundleId ("default".toList, "ca-1".toList), "b.example.com".toList, []⟩ := by
  unfold witnessIgnored witnessP witnessCMs
  decide_chars

end NGF.Tls
