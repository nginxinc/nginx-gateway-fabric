/-
C12 — a reload is reported successful only if NGINX really runs that version.

Theorems about `NGF.Reload.reload` / `waitForCorrectVersion` (every oracle: arbitrary scripts for the
pid file, the children file, kill, the version endpoint, arbitrary poll budgets), about
`NGF.HandlerVer.hstep` / `hrun` (every batch sequence, every environment per batch) and about
`NGF.HandlerVer.fold` (every condition list).  These are the functions `ngfdriver_C12` runs.
-/
import NGF.Model.Reload
import NGF.Model.HandlerVer
import NGF.Proofs.Reload
import NGF.Proofs.HandlerVer
import NGF.Generated.ReloadFacts
import NGF.Props.C12Apply
import NGF.Proofs.CharLits

namespace NGF.C12
open NGF.Reload NGF.HandlerVer

/-- `Reload(n) = nil` exactly when: the pid was found, the children file was read, the HUP was
delivered, some later read of the children file differed from the pre-HUP content (all reads before
it were unchanged and none failed), and then the version endpoint answered exactly `n` after only
well-formed answers different from `n` — all within the deadline. -/
theorem reload_ok_iff (o : Oracle) (n : Int) : (reload o n).res = none ↔ Running o n :=
  reload_res_none_iff o n

/-- The pid is found exactly when the pid file shows up within `PidFileTimeout` after only
"does not exist" results (any other stat error aborts) and its content parses. -/
theorem find_pid_ok_iff (o : Oracle) (p : Nat) :
    findMainProcess o = .ok p ↔
      o.pidRead = .pid p ∧ ∃ i, i ≤ o.pidBudget ∧ o.pidPolls[i]? = some .present ∧
        ∀ k, k < i → o.pidPolls[k]? = some .missing := by
  -- the pid is returned exactly when the poll for the pid file succeeds and the content parses
  have h : findMainProcess o = .ok p ↔
      o.pidRead = .pid p ∧ ∃ b rest, pollLoop pidTick o.pidBudget o.pidPolls = (.ok, b, rest) := by
    unfold findMainProcess
    rcases pollLoop pidTick o.pidBudget o.pidPolls with ⟨r, b, rest⟩
    cases r <;> cases o.pidRead <;> simp
  rw [h]
  simp only [pollLoop_ok_iff, pidTick_done, pidTick_retry]
  constructor
  · rintro ⟨hr, _, _, i, hi, ⟨_, hx, rfl⟩, hb, _, _⟩
    exact ⟨hr, i, hi, hx, fun k hk => by obtain ⟨_, hy, rfl⟩ := hb k hk; exact hy⟩
  · rintro ⟨hr, i, hi, hx, hb⟩
    exact ⟨hr, _, _, i, hi, ⟨_, hx, rfl⟩, fun k hk => ⟨_, hb k hk, rfl⟩, rfl, rfl⟩

/-- The C12 clause "reported successful only after new NGINX workers exist and answer with exactly
that version", over every behaviour of the master. -/
theorem reload_ok_implies_running (o : Oracle) (n : Int) (h : (reload o n).res = none) :
    o.kill = true ∧ (reload o n).killCalled = true ∧
    ∃ prev c i j, o.prevRead = .content prev ∧
      o.children[i]? = some (.content c) ∧ c ≠ prev ∧
      o.versions[j]? = some (.ver n) ∧
      (∀ k, k < j → ∃ v, o.versions[k]? = some (.ver v) ∧ v ≠ n) ∧ i + j ≤ o.budget := by
  obtain ⟨_, prev, hp, hk, i, j, hb, ⟨c, hc, hne⟩, _, hv, hbefore⟩ := (reload_ok_iff o n).1 h
  refine ⟨hk, ?_, prev, c, i, j, hp, hc, hne, hv, hbefore, hb⟩
  obtain ⟨⟨p, hf⟩, _⟩ := (reload_ok_iff o n).1 h
  simp [reload, hf, hp, hk]

/-- No signal is sent unless the pid was found and the children file could be read. -/
theorem no_kill_without_pid (o : Oracle) (n : Int) (h : (reload o n).killCalled = true) :
    (∃ p, findMainProcess o = .ok p) ∧ ∃ prev, o.prevRead = .content prev := by
  revert h
  unfold reload
  cases hf : findMainProcess o with
  | error e => simp
  | ok p =>
    cases hp : o.prevRead with
    | err => simp
    | content prev => simp

/-- A failing `kill` is an error (never ignored). -/
theorem kill_failure_is_error (o : Oracle) (n : Int) (h : o.kill = false) :
    (reload o n).res ≠ none := by
  intro hr
  obtain ⟨_, _, _, hk, _⟩ := (reload_ok_iff o n).1 hr
  rw [h] at hk; cases hk

/-- Workers not respawned (every read of the children file equals the pre-HUP content): never ok,
whatever the version endpoint says — in particular if it already answers `n`. -/
theorem no_new_workers_never_ok (o : Oracle) (n : Int) (prev : Nat) (hp : o.prevRead = .content prev)
    (h : ∀ r ∈ o.children, r = .content prev) : (reload o n).res ≠ none := by
  intro hr
  obtain ⟨_, prev', hp', _, i, j, _, ⟨c, hc, hne⟩, _⟩ := (reload_ok_iff o n).1 hr
  rw [hp] at hp'; cases hp'
  have := h _ (List.mem_of_getElem? hc)
  cases this; exact hne rfl

/-- A stale endpoint (no answer equals `n`) never yields ok: `≥ n`, `n ± 1`, anything else. -/
theorem stale_version_never_ok (o : Oracle) (n : Int) (h : ∀ a ∈ o.versions, a ≠ .ver n) :
    (reload o n).res ≠ none := by
  intro hr
  obtain ⟨_, _, _, _, i, j, _, _, _, hv, _⟩ := (reload_ok_iff o n).1 hr
  exact h _ (List.mem_of_getElem? hv) rfl

/-- The first error of the version endpoint aborts (it is not polled away): if an error answer
precedes every answer `n`, the reload fails. -/
theorem version_error_aborts (o : Oracle) (n : Int) (k : Nat) (hk : o.versions[k]? = some .err)
    (h : ∀ j, j < k → o.versions[j]? ≠ some (.ver n)) : (reload o n).res ≠ none := by
  intro hr
  obtain ⟨_, _, _, _, i, j, _, _, _, hv, hbefore⟩ := (reload_ok_iff o n).1 hr
  rcases Nat.lt_trichotomy j k with hjk | hjk | hjk
  · exact h j hjk hv
  · subst hjk; rw [hk] at hv; cases hv
  · obtain ⟨v, hv', _⟩ := hbefore k hjk
    rw [hk] at hv'; cases hv'

/-- Completeness (the model is not vacuously strict): a master that behaves is accepted. -/
theorem wellbehaved_master_ok (o : Oracle) (n : Int) (p prev c : Nat)
    (h1 : o.pidPolls.head? = some .present) (h2 : o.pidRead = .pid p)
    (h3 : o.prevRead = .content prev) (h4 : o.kill = true)
    (h5 : o.children.head? = some (.content c)) (h6 : c ≠ prev)
    (h7 : o.versions.head? = some (.ver n)) : (reload o n).res = none := by
  rw [reload_ok_iff]
  -- every poll succeeds at its first observation
  have hd {α : Type} (l : List α) : l[0]? = l.head? := List.head?_eq_getElem?.symm
  exact ⟨⟨p, (find_pid_ok_iff o p).2 ⟨h2, 0, Nat.zero_le _, (hd _).trans h1, nofun⟩⟩, prev, h3, h4,
    0, 0, Nat.zero_le _, ⟨c, (hd _).trans h5, h6⟩, nofun, (hd _).trans h7, nofun⟩

/-- the model's counters never exceed the scripts -/
theorem reload_reads_bounded (o : Oracle) (n : Int) :
    (reload o n).childReads ≤ o.children.length ∧ (reload o n).verReqs ≤ o.versions.length := by
  unfold reload
  cases findMainProcess o <;> simp
  cases o.prevRead <;> simp
  cases o.kill <;> simp
  unfold waitForCorrectVersion
  rcases hp : pollLoop (childTick _) o.budget o.children with ⟨r, b, rest⟩
  cases r <;> simp
  · rcases hq : pollLoop (verTick n) b o.versions with ⟨r2, b2, rest2⟩
    cases r2 <;> simp <;> omega
  all_goals omega

/-- a late pid file, two unchanged reads, a stale answer, then the right one: ok -/
example :
    let o : Oracle := ⟨[.missing, .present], 20, .pid 7, .content 1, true,
      [.content 1, .content 1, .content 2], [.ver 4, .ver 5], 10⟩
    (reload o 5).res = none ∧ (reload o 5).childReads = 3 ∧ (reload o 5).verReqs = 2 := by decide +kernel

/-- the deadline is shared by both polls: budget 2 is used up by the children reads -/
example :
    let o : Oracle := ⟨[.present], 20, .pid 7, .content 1, true,
      [.content 1, .content 1, .content 2], [.ver 4, .ver 5], 2⟩
    (reload o 5).res = some .versionTimeout := by decide +kernel

/-- old workers still answer the previous version `n` is never accepted if no new worker appeared -/
example :
    let o : Oracle := ⟨[.present], 20, .pid 7, .content 1, true,
      [.content 1, .content 1], [.ver 5], 10⟩
    (reload o 5).res = some .workersTimeout := by decide +kernel

/-- an error answer before the right one: aborted (hypotheses of `version_error_aborts`) -/
example :
    let o : Oracle := ⟨[.present], 20, .pid 7, .content 1, true, [.content 2], [.ver 4, .err, .ver 5], 10⟩
    o.versions[1]? = some .err ∧ (∀ j, j < 1 → o.versions[j]? ≠ some (.ver 5)) ∧
      (reload o 5).res = some .versionErr ∧ (reload o 5).verReqs = 2 := by
  refine ⟨by decide +kernel, ?_, by decide +kernel, by decide +kernel⟩
  intro j hj; have : j = 0 := by omega
  subst this; decide +kernel

/-- kill fails although new workers and the right version are there: still an error, no poll -/
example :
    let o : Oracle := ⟨[.present], 20, .pid 7, .content 1, false, [.content 2], [.ver 5], 10⟩
    (reload o 5).res = some .kill ∧ (reload o 5).killCalled = true ∧ (reload o 5).verReqs = 0 := by
  decide +kernel

/-- garbled pid file: nothing is signalled -/
example :
    let o : Oracle := ⟨[.missing, .missing, .present], 20, .garbage, .content 1, true, [.content 2], [.ver 5], 10⟩
    (reload o 5).res = some .pidParse ∧ (reload o 5).killCalled = false := by decide +kernel

/-- Every configuration handed to the generator carries a version strictly greater than all
earlier ones — over every batch sequence, change type and failure pattern, from any state. -/
theorem version_strict_mono (plus : Bool) (s : H) (bs : List Batch) :
    (cfgVersions (hrun plus s bs).2).Pairwise (· < ·) ∧
    ∀ v ∈ cfgVersions (hrun plus s bs).2, s.version < v :=
  cfgVersions_increasing plus bs s

/-- A version is consumed by every batch that builds a configuration, successful or not, and by
no other batch. -/
theorem version_bumped_iff (plus : Bool) (s : H) (b : Batch) :
    ((hstep plus s b).2.cfgVersion = some (s.version + 1) ↔ b.ct ≠ .noChange) ∧
    ((hstep plus s b).2.cfgVersion = none ↔ b.ct = .noChange) ∧
    (hstep plus s b).1.version = if b.ct = .noChange then s.version else s.version + 1 := by
  refine ⟨?_, ?_, hstep_version plus s b⟩ <;> rw [hstep_cfgVersion] <;>
    by_cases h : b.ct = .noChange <;> simp [h]

/-- `Reload` is always called with the version of the configuration that was just written. -/
theorem reload_gets_configuration_version (plus : Bool) (s : H) (b : Batch) (v : Nat)
    (h : (hstep plus s b).2.reloadVersion = some v) :
    (hstep plus s b).2.cfgVersion = some v ∧ b.writeOk = true :=
  ⟨(hstep_reloadVersion plus s b v h).1, (hstep_reloadVersion plus s b v h).2.2.2⟩

example : cfgVersions (hrun false H.init
    [⟨.clusterState, 3, 1, .failed .io 1, ⟨[], 0, .readErr, .err, false, [], [], 0⟩, true⟩,
     ⟨.noChange, 3, 1, .ok, ⟨[], 0, .readErr, .err, false, [], [], 0⟩, true⟩,
     ⟨.endpointsOnly, 3, 1, .ok, ⟨[], 0, .readErr, .err, false, [], [], 0⟩, true⟩]).2 = [1, 2] := by
  decide +kernel

/-! ### Known finding `C12:version_reuse_after_controller_restart`

The counter lives in the handler: a restarted NGF container starts again at 0 while the NGINX
master keeps running what the previous process loaded.  "Strictly greater than all earlier ones"
therefore holds per controller process (`version_strict_mono`, the `_partial` form below), not over
the life of the NGINX master, and the exact-version check can be satisfied by old workers. -/

/-- witness: every controller process hands out version 1 for its first configuration -/
theorem restart_reuses_version (plus : Bool) (b1 b2 : Batch) (h1 : b1.ct ≠ .noChange)
    (h2 : b2.ct ≠ .noChange) :
    (hstep plus H.init b1).2.cfgVersion = some 1 ∧ (hstep plus H.init b2).2.cfgVersion = some 1 := by
  constructor <;> rw [hstep_cfgVersion] <;> simp [*, H.init]

/-- witness: after a restart, a master that rejected the new files and kept its old workers (one
old worker exited, so the children file changed; the remaining ones answer the version loaded by
the PREVIOUS process, which is 1 as well) is reported as successfully reloaded, and the pod turns
ready.  Reproduced on the real handler + Reload by harness/c12 `restartCase`. -/
theorem restart_stale_master_accepted :
    let o : Oracle := ⟨[.present], 5, .pid 7, .content 1, true, [.content 3], [.ver 1], 5⟩
    let r := hstep false H.init ⟨.clusterState, 3, 1, .ok, o, true⟩
    r.2.err = false ∧ r.2.reloadVersion = some 1 ∧ r.1.ready = true ∧ r.1.lastErr = false := by
  decide +kernel

/-- `_partial`: within one controller process no version is handed out twice. -/
theorem version_unique_partial (plus : Bool) (bs : List Batch) :
    (cfgVersions (hrun plus H.init bs).2).Nodup :=
  (cfgVersions_increasing plus bs H.init).1.imp fun hlt => Nat.ne_of_lt hlt

/-! ## Success is reported only if NGINX runs that version -/

/-- End to end: if a batch that had to reload (OSS: any change; Plus: cluster state change, or an
endpoints-only change while a failed apply is remembered — /repo c94173a) ends
without error — so that statuses carry no reload failure and the pod may become ready — then the
master received the HUP, showed changed children and answered exactly the version of the
configuration written in this batch. -/
theorem programmed_implies_running (plus : Bool) (s : H) (b : Batch)
    (hct : b.ct ≠ .noChange) (hre : plus = false ∨ b.ct = .clusterState ∨ s.lastErr = true)
    (hok : (hstep plus s b).2.err = false) :
    (hstep plus s b).2.cfgVersion = some (s.version + 1) ∧
    (hstep plus s b).2.reloadVersion = some (s.version + 1) ∧
    b.writeOk = true ∧ Running b.oracle (s.version + 1 : Nat) := by
  rw [hstep_change plus s b hct] at hok ⊢
  have ha : apiOnly plus s.lastErr b = false := by
    rcases hre with rfl | hc | hl
    · simp [apiOnly]
    · simp [apiOnly, hc]
    · simp [apiOnly, hl]
  obtain ⟨h1, h2⟩ := apply_ok_reload plus s.lastErr b _ hok ha hct
  obtain ⟨_, _, h3⟩ := apply_reloadVersion plus s.lastErr b _ _ h1
  exact ⟨apply_cfgVersion plus s.lastErr b _ hct, h1, h3, (reload_ok_iff _ _).1 h2⟩

/-- hypotheses of `programmed_implies_running` are satisfiable: third batch of a sequence, OSS -/
example :
    let good (n : Int) : Oracle := ⟨[.present], 5, .pid 7, .content 1, true, [.content 1, .content 2], [.ver (n - 1), .ver n], 5⟩
    let s := (hrun false H.init [⟨.clusterState, 3, 1, .ok, good 1, true⟩, ⟨.endpointsOnly, 3, 1, .failed .io 1, good 2, true⟩]).1
    s.version = 2 ∧ s.lastErr = true ∧
      (hstep false s ⟨.endpointsOnly, 3, 1, .ok, good 3, true⟩).2.err = false ∧
      (hstep false s ⟨.endpointsOnly, 3, 1, .ok, good 3, true⟩).1.lastErr = false := by decide +kernel

/-- Plus, endpoints only, nothing failed before: no reload at all, the API result decides; with a
failed apply remembered the same batch goes through files + reload -/
example :
    let o : Oracle := ⟨[], 0, .readErr, .err, false, [], [], 0⟩
    (hstep true H.init ⟨.endpointsOnly, 3, 1, .ok, o, true⟩).2.reloadVersion = none ∧
    (hstep true H.init ⟨.endpointsOnly, 3, 1, .ok, o, true⟩).2.err = false ∧
    (hstep true H.init ⟨.endpointsOnly, 3, 1, .ok, o, false⟩).2.err = true ∧
    (hstep true { H.init with lastErr := true } ⟨.endpointsOnly, 3, 1, .ok, o, true⟩).2.reloadVersion = some 1 ∧
    (hstep true { H.init with lastErr := true } ⟨.endpointsOnly, 3, 1, .ok, o, true⟩).2.apiCalled = false := by
  decide +kernel

/-- Any failure to write, signal or verify (or of the Plus API) makes the batch fail — exactly. (The
API-only arm: Plus, endpoints-only, AND no failed apply remembered.) -/
theorem failure_iff (plus : Bool) (s : H) (b : Batch) :
    (hstep plus s b).2.err = true ↔
      (b.ct ≠ .noChange ∧
        if plus = true ∧ s.lastErr = false ∧ b.ct = .endpointsOnly then b.apiOk = false
        else (b.writeOk = false ∨ (reload b.oracle (s.version + 1)).res.isSome = true ∨
              (plus = true ∧ b.apiOk = false))) := by
  simp only [hstep_err_iff, apiOnly_iff]

/-! ## Failures surface in statuses -/

/-- A failed batch stores the error as `latestReloadResult` and issues statuses with it; a
`NoChange` batch leaves the stored result (and the issued statuses) alone. -/
theorem failure_recorded (plus : Bool) (s : H) (b : Batch) :
    ((hstep plus s b).2.err = true →
      (hstep plus s b).1.lastErr = true ∧ (hstep plus s b).2.statusUpdated = true) ∧
    (b.ct = .noChange →
      (hstep plus s b).1.lastErr = s.lastErr ∧ (hstep plus s b).2.statusUpdated = false) ∧
    (b.ct ≠ .noChange → (hstep plus s b).1.lastErr = (hstep plus s b).2.err) := by
  refine ⟨fun h => ⟨(hstep_err_status plus s b h).2.2, (hstep_err_status plus s b h).2.1⟩, ?_, ?_⟩
  · intro h
    refine ⟨by rw [hstep_lastErr]; simp [h], ?_⟩
    cases hs : (hstep plus s b).2.statusUpdated with
    | false => rfl
    | true => exact absurd h ((hstep_status_iff plus s b).1 hs)
  · intro h; rw [hstep_lastErr]; simp [h]

/-- With a reload error, the folded conditions report the failure condition for its type, report
no other condition of that type, and leave every other type as it would have been. For Gateways
and Listeners: `Programmed=False/Invalid`; for Route parents: `Accepted=False/GatewayNotProgrammed`.
Holds for EVERY list of conditions collected before (also ones that say Programmed=True). -/
theorem failure_surfaces (t : Target) (cs : List Cond) :
    lookup (failureCond t).type (fold t true cs) = some (failureCond t) ∧
    (∀ x ∈ fold t true cs, x.type = (failureCond t).type → x = failureCond t) ∧
    (∀ ty, ty ≠ (failureCond t).type → lookup ty (fold t true cs) = lookup ty (fold t false cs)) :=
  fold_true t cs

/-- In particular no `Programmed=True` (resp. `Accepted=True`) survives a reload error. -/
theorem failure_never_true (t : Target) (cs : List Cond) :
    ∀ x ∈ fold t true cs, x.type = (failureCond t).type → x.status = "False" := by
  intro x hx ht
  rw [(failure_surfaces t cs).2.1 x hx ht]
  cases t <;> rfl

/-- Folding is insensitive to a prior de-duplication (justifies feeding the status observed
without an error into the model during the correspondence run). -/
theorem fold_of_dedup (t : Target) (e : Bool) (cs : List Cond) :
    fold t e (dedup cs) = fold t e cs := by
  cases e
  · simp [fold, dedup_idem]
  · simp [fold, dedup_dedup_snoc]

example : fold .listener true
    [⟨"Accepted", "True", "Accepted"⟩, ⟨"Programmed", "True", "Programmed"⟩,
     ⟨"ResolvedRefs", "True", "ResolvedRefs"⟩] =
    [⟨"Accepted", "True", "Accepted"⟩, ⟨"ResolvedRefs", "True", "ResolvedRefs"⟩,
     ⟨"Programmed", "False", "Invalid"⟩] := by decide +kernel

/-- Ready is a latch: over every batch sequence it never turns false again. -/
theorem ready_latch (plus : Bool) (s : H) (bs : List Batch) (h : s.ready = true) :
    (hrun plus s bs).1.ready = true ∧ ∀ s' ∈ hstates plus s bs, s'.ready = true := by
  refine ⟨run_ready_latch plus bs s h, ?_⟩
  induction bs generalizing s with
  | nil => simp [hstates]
  | cons b bs ih =>
    intro s' hs'
    simp only [hstates, List.mem_cons] at hs'
    rcases hs' with rfl | hs'
    · exact hstep_ready_latch plus s b h
    · exact ih _ (hstep_ready_latch plus s b h) s' hs'

/-- A failed apply keeps an unready pod unready, and afterwards `NoChange` batches do not make it
ready either: only a later successful apply does. -/
theorem failure_keeps_unready (plus : Bool) (s : H) (b : Batch) (h0 : s.ready = false)
    (h1 : (hstep plus s b).2.err = true) :
    (hstep plus s b).1.ready = false ∧
    ∀ b', b'.ct = .noChange → (hstep plus (hstep plus s b).1 b').1.ready = false := by
  obtain ⟨hr, hf⟩ := hstep_failure_unready plus s b h0 h1
  refine ⟨hr, fun b' hb' => ?_⟩
  rw [hstep_fbe_blocks_noChange plus _ b' hf hb']; exact hr

/-- From start-up: if the pod is ready after a batch sequence then some batch made it ready, and
that batch either applied a configuration successfully, or was a `NoChange` batch before which no
apply had failed ("none was needed"). -/
theorem ready_only_after_success (plus : Bool) (bs : List Batch)
    (h : (hrun plus H.init bs).1.ready = true) :
    ∃ pre b post, bs = pre ++ b :: post ∧ (hrun plus H.init pre).1.ready = false ∧
      ((b.ct ≠ .noChange ∧ (hstep plus (hrun plus H.init pre).1 b).2.err = false) ∨
       (b.ct = .noChange ∧ ∀ e ∈ (hrun plus H.init pre).2, e.err = false)) := by
  obtain ⟨pre, b, post, hbs, hpre, hor⟩ := run_becomes_ready plus bs H.init rfl h
  refine ⟨pre, b, post, hbs, hpre, ?_⟩
  rcases hor with hl | ⟨hn, hf⟩
  · exact Or.inl hl
  · refine Or.inr ⟨hn, ?_⟩
    have hfb := run_fbe_unready plus pre H.init hpre
    rw [hf] at hfb
    have hany : (hrun plus H.init pre).2.any (·.err) = false := by simpa [H.init] using hfb.symm
    intro e he
    simpa using List.any_eq_false.1 hany e he

/-- For OSS NGINX "applied successfully" means: NGINX runs the version written in that batch. -/
theorem ready_means_nginx_configured (bs : List Batch)
    (h : (hrun false H.init bs).1.ready = true) :
    ∃ pre b post, bs = pre ++ b :: post ∧
      ((b.ct ≠ .noChange ∧ b.writeOk = true ∧
          Running b.oracle ((hrun false H.init pre).1.version + 1 : Nat)) ∨
       (b.ct = .noChange ∧ ∀ e ∈ (hrun false H.init pre).2, e.err = false)) := by
  obtain ⟨pre, b, post, hbs, _, hor⟩ := ready_only_after_success false bs h
  refine ⟨pre, b, post, hbs, ?_⟩
  rcases hor with ⟨hct, hok⟩ | hr
  · obtain ⟨_, _, hw, hrun⟩ := programmed_implies_running false _ b hct (Or.inl rfl) hok
    exact Or.inl ⟨hct, hw, hrun⟩
  · exact Or.inr hr

/-- `close(readyCh)` runs at most once (a second close would panic), exactly when ready. -/
theorem setAsReady_once (plus : Bool) (bs : List Batch) :
    let s := (hrun plus H.init bs).1
    s.closes ≤ 1 ∧ (s.closes = 1 ↔ s.ready = true) ∧ (s.firstBatchErr = true → s.ready = false) := by
  have hi := inv_run plus bs H.init inv_init
  obtain ⟨h1, h2, h3⟩ := hi
  cases hr : (hrun plus H.init bs).1.ready with
  | true => simp only; rw [h2 hr]; simp_all
  | false => simp only; rw [h3 hr]; simp_all

/-- first batch fails, nothing changes, then a successful apply: unready, unready, ready -/
example :
    let good : Oracle := ⟨[.present], 5, .pid 7, .content 1, true, [.content 2], [.ver 2], 5⟩
    let bad : Oracle := ⟨[.present], 5, .pid 7, .content 1, false, [], [], 5⟩
    (hstates false H.init
      [⟨.clusterState, 3, 1, .ok, bad, true⟩, ⟨.noChange, 3, 1, .ok, bad, true⟩,
       ⟨.clusterState, 3, 1, .ok, good, true⟩]).map (·.ready) = [false, false, true] := by decide +kernel

/-- first batch needs no change: ready at once -/
example : (hrun true H.init [⟨.noChange, 3, 1, .ok, ⟨[], 0, .readErr, .err, false, [], [], 0⟩, true⟩]).1.ready
    = true := by decide +kernel

/-! ## Tie to the source: facts regenerated by the translator on every run -/

/-- The version file makes NGINX answer `200 <version>` on `/version` of the socket that the
verify client dials. -/
theorem version_endpoint_as_modelled :
    containsSub Generated.Reload.versionTemplateText.toList
      ("listen unix:" ++ Generated.Reload.configVersionURI ++ ";").toList = true ∧
    containsSub Generated.Reload.versionTemplateText.toList "location /version {".toList = true ∧
    containsSub Generated.Reload.versionTemplateText.toList "return 200 {{.}};".toList = true ∧
    Generated.Reload.verifyClientDial = ["net.Dial(\"unix\", configVersionURI)"] ∧
    Generated.Reload.executeVersionBody =
      ["result := executeResult{ dest: configVersionFile, data: helpers.MustExecuteTemplate(versionTemplate, conf.Version), }",
       "return []executeResult{result}"] := by
  unfold Generated.Reload.versionTemplateText
  refine ⟨?_, ?_, ?_, rfl, rfl⟩
  · -- the searched line is the concatenation of three literals (cf. Proofs/CharLits)
    unfold Generated.Reload.configVersionURI
    rw [String.toList_append, String.toList_append]
    decide_chars
  · decide_chars
  · decide_chars

theorem constants_as_modelled :
    Generated.Reload.pidFile = "/var/run/nginx/nginx.pid" ∧
    Generated.Reload.pidFileTimeoutMs = 10000 ∧
    Generated.Reload.nginxReloadTimeoutMs = 60000 ∧
    Generated.Reload.childProcPathFmt = "/proc/%[1]v/task/%[1]v/children" ∧
    Generated.Reload.findMainProcessPolls = ["500 * time.Millisecond|true"] ∧
    Generated.Reload.ensureConfigVersionPolls = ["25 * time.Millisecond|true"] ∧
    Generated.Reload.ensureNewNginxWorkersPolls = ["25 * time.Millisecond|true"] ∧
    Generated.Reload.killBody = ["return syscall.Kill(pid, syscall.SIGHUP)"] ∧
    Generated.Reload.wiring =
      ["ngxruntime.NewProcessHandlerImpl(os.ReadFile, os.Stat)",
       "ngxruntime.NewVerifyClient(ngxruntime.NginxReloadTimeout)",
       "mgr.AddReadyzCheck(\"readyz\", nginxChecker.readyCheck)"] := by
  repeat' constructor

/-- `Reload`: find pid → read children → HUP → wait for new workers and version; every error is
returned. -/
theorem reload_source_as_modelled :
    Generated.Reload.reloadSteps =
      ["m.processHandler.FindMainProcess(ctx, PidFileTimeout)",
       "m.processHandler.ReadFile(childProcFile)",
       "m.processHandler.Kill(pid)",
       "m.verifyClient.WaitForCorrectVersion( ctx, configVersion, childProcFile, previousChildProcesses, os.ReadFile, )"] ∧
    Generated.Reload.reloadBody =
      ["start := time.Now()",
       "pid, err := m.processHandler.FindMainProcess(ctx, PidFileTimeout)",
       "if err != nil { return fmt.Errorf(\"failed to find NGINX main process: %w\", err) }",
       "childProcFile := fmt.Sprintf(childProcPathFmt, pid)",
       "previousChildProcesses, err := m.processHandler.ReadFile(childProcFile)",
       "if err != nil { return err }",
       "if errP := m.processHandler.Kill(pid); errP != nil { m.metricsCollector.IncReloadErrors() return fmt.Errorf(\"failed to send the HUP signal to NGINX main: %w\", errP) }",
       "if err = m.verifyClient.WaitForCorrectVersion( ctx, configVersion, childProcFile, previousChildProcesses, os.ReadFile, ); err != nil { m.metricsCollector.IncReloadErrors() return err }",
       "m.metricsCollector.IncReloadCount()",
       "finish := time.Now()",
       "m.metricsCollector.ObserveLastReloadTime(finish.Sub(start))",
       "return nil"] ∧
    Generated.Reload.findMainProcessBody =
      ["ctx, cancel := context.WithTimeout(ctx, timeout)",
       "defer cancel()",
       "err := wait.PollUntilContextCancel( ctx, 500*time.Millisecond, true, func(_ context.Context) (bool, error) { _, err := p.checkFile(PidFile) if err == nil { return true, nil } if !errors.Is(err, fs.ErrNotExist) { return false, err } return false, nil })",
       "if err != nil { return 0, err }",
       "content, err := p.readFile(PidFile)",
       "if err != nil { return 0, err }",
       "pid, err := strconv.Atoi(strings.TrimSpace(string(content)))",
       "if err != nil { return 0, fmt.Errorf(\"invalid pid file content %q: %w\", content, err) }",
       "return pid, nil"] := by
  repeat' constructor

/-- `WaitForCorrectVersion`: new workers first, then the exact version; one deadline for both;
poll conditions return errors (abort) and compare with `==` / `bytes.Equal`. -/
theorem verify_source_as_modelled :
    Generated.Reload.waitForCorrectVersionBody =
      ["ctx, cancel := context.WithTimeout(ctx, c.timeout)",
       "defer cancel()",
       "if err := ensureNewNginxWorkers( ctx, childProcFile, previousChildProcesses, readFile, ); err != nil { return fmt.Errorf(noNewWorkersErrFmt, expectedVersion, err) }",
       "if err := c.EnsureConfigVersion(ctx, expectedVersion); err != nil { if errors.Is(err, context.DeadlineExceeded) { err = fmt.Errorf( \"config version check didn't return expected version %d within the deadline\", expectedVersion, ) } return fmt.Errorf(\"could not get expected config version %d: %w\", expectedVersion, err) }",
       "return nil"] ∧
    Generated.Reload.ensureConfigVersionBody =
      ["return wait.PollUntilContextCancel( ctx, 25*time.Millisecond, true, func(_ context.Context) (bool, error) { version, err := c.GetConfigVersion() return version == expectedVersion, err }, )"] ∧
    Generated.Reload.ensureNewNginxWorkersBody =
      ["return wait.PollUntilContextCancel( ctx, 25*time.Millisecond, true, func(_ context.Context) (bool, error) { content, err := readFile(childProcFile) if err != nil { return false, err } if !bytes.Equal(previousContents, content) { return true, nil } return false, nil }, )"] ∧
    Generated.Reload.getConfigVersionBody =
      ["ctx, cancel := context.WithTimeout(context.Background(), c.timeout)",
       "defer cancel()",
       "req, err := http.NewRequestWithContext(ctx, http.MethodGet, \"http://config-version/version\", nil)",
       "if err != nil { return 0, fmt.Errorf(\"error creating request: %w\", err) }",
       "resp, err := c.client.Do(req)",
       "if err != nil { return 0, fmt.Errorf(\"error getting client: %w\", err) }",
       "defer resp.Body.Close()",
       "if resp.StatusCode != http.StatusOK { return 0, fmt.Errorf(\"non-200 response: %v\", resp.StatusCode) }",
       "body, err := io.ReadAll(resp.Body)",
       "if err != nil { return 0, fmt.Errorf(\"failed to read the response body: %w\", err) }",
       "v, err := strconv.Atoi(string(body))",
       "if err != nil { return 0, fmt.Errorf(\"error converting string to int: %w\", err) }",
       "return v, nil"] := by
  repeat' constructor

/-- `HandleEventBatch`: the three arms, what follows the switch, `updateNginxConf`, and the only
writers of `h.version`, `h.latestReloadResult`, `ready`, `firstBatchError`. -/
theorem handler_source_as_modelled :
    Generated.Reload.switchCases =
      ["state.NoChange", "state.EndpointsOnlyChange", "state.ClusterStateChange"] ∧
    Generated.Reload.case_state_NoChange =
      ["if !h.cfg.nginxConfiguredOnStartChecker.ready && h.cfg.nginxConfiguredOnStartChecker.firstBatchError == nil { h.cfg.nginxConfiguredOnStartChecker.setAsReady() }",
       "return"] ∧
    Generated.Reload.case_state_EndpointsOnlyChange =
      ["h.version++",
       "cfg := dataplane.BuildConfiguration(ctx, gr, h.cfg.serviceResolver, h.version)",
       "depCtx, getErr := h.getDeploymentContext(ctx)",
       "if getErr != nil { logger.Error(getErr, \"error getting deployment context for usage reporting\") }",
       "cfg.DeploymentContext = depCtx",
       "h.setLatestConfiguration(&cfg)",
       "if h.cfg.plus && h.latestReloadResult.Error == nil { err = h.updateUpstreamServers(cfg) } else { err = h.updateNginxConf(ctx, cfg) }"] ∧
    Generated.Reload.case_state_ClusterStateChange =
      ["h.version++",
       "cfg := dataplane.BuildConfiguration(ctx, gr, h.cfg.serviceResolver, h.version)",
       "depCtx, getErr := h.getDeploymentContext(ctx)",
       "if getErr != nil { logger.Error(getErr, \"error getting deployment context for usage reporting\") }",
       "cfg.DeploymentContext = depCtx",
       "h.setLatestConfiguration(&cfg)",
       "err = h.updateNginxConf(ctx, cfg)"] ∧
    Generated.Reload.afterSwitch =
      ["var nginxReloadRes status.NginxReloadResult",
       "if err != nil { logger.Error(err, \"Failed to update NGINX configuration\") nginxReloadRes.Error = err if !h.cfg.nginxConfiguredOnStartChecker.ready { h.cfg.nginxConfiguredOnStartChecker.firstBatchError = err } } else { logger.Info(\"NGINX configuration was successfully updated\") if !h.cfg.nginxConfiguredOnStartChecker.ready { h.cfg.nginxConfiguredOnStartChecker.setAsReady() } }",
       "h.latestReloadResult = nginxReloadRes",
       "h.updateStatuses(ctx, logger, gr)"] ∧
    Generated.Reload.updateNginxConfBody =
      ["files := h.cfg.generator.Generate(conf)",
       "if err := h.cfg.nginxFileMgr.ReplaceFiles(files); err != nil { return fmt.Errorf(\"failed to replace NGINX configuration files: %w\", err) }",
       "if err := h.cfg.nginxRuntimeMgr.Reload(ctx, conf.Version); err != nil { return fmt.Errorf(\"failed to reload NGINX: %w\", err) }",
       "if err := h.updateUpstreamServers(conf); err != nil { return fmt.Errorf(\"failed to update upstream servers: %w\", err) }",
       "return nil"] ∧
    Generated.Reload.updateUpstreamServersGuard = "if !h.cfg.plus { return nil }" ∧
    Generated.Reload.versionWrites = ["HandleEventBatch: h.version++", "HandleEventBatch: h.version++"] ∧
    Generated.Reload.latestReloadResultWrites =
      ["HandleEventBatch: h.latestReloadResult = nginxReloadRes"] ∧
    Generated.Reload.readyWrites =
      ["HandleEventBatch: h.cfg.nginxConfiguredOnStartChecker.firstBatchError = err",
       "setAsReady: h.ready = true", "setAsReady: h.firstBatchError = nil"] ∧
    Generated.Reload.setAsReadyBody =
      ["h.lock.Lock()", "defer h.lock.Unlock()", "h.ready = true", "h.firstBatchError = nil",
       "close(h.readyCh)"] ∧
    Generated.Reload.readyCheckBody =
      ["h.lock.RLock()", "defer h.lock.RUnlock()",
       "if !h.ready { return errors.New(\"nginx has not yet become ready to accept traffic\") }",
       "return nil"] := by
  repeat' constructor

/-- The apply transaction as modelled by `applyTx`: `ReplaceFiles`, `Reload`, `updateUpstreamServers`
in this order; each error branch is taken on EVERY non-nil error (condition exactly `err != nil`, no
class is exempt) and ends in `return`, so a `ReplaceFiles` error returns before `Reload`.  And the
stored `latestReloadResult` is what the status writers are handed (`issued`). -/
theorem apply_source_as_modelled :
    Generated.Reload.updateNginxConfGuards =
      ["h.cfg.nginxFileMgr.ReplaceFiles(files) | err != nil | return",
       "h.cfg.nginxRuntimeMgr.Reload(ctx, conf.Version) | err != nil | return",
       "h.updateUpstreamServers(conf) | err != nil | return"] ∧
    Generated.Reload.latestReloadResultReads =
      ["updateStatuses: status.PrepareRouteRequests",
       "updateStatuses: status.PrepareGatewayRequests",
       "nginxGatewayServiceUpsert: status.PrepareGatewayRequests",
       "nginxGatewayServiceDelete: status.PrepareGatewayRequests"] := by
  repeat' constructor

/-- `prepare_requests.go`: the three places where a reload error is appended (last, so that it
wins the de-duplication), and the failure conditions themselves. -/
theorem status_source_as_modelled :
    Generated.Reload.reloadErrorFolds =
      ["prepareRouteStatus: if nginxReloadRes.Error != nil { allConds = append( allConds, staticConds.NewRouteGatewayNotProgrammed(staticConds.RouteMessageFailedNginxReload), ) }",
       "prepareGatewayRequest: if nginxReloadRes.Error != nil { conds = append( conds, staticConds.NewListenerNotProgrammedInvalid(staticConds.ListenerMessageFailedNginxReload), ) }",
       "prepareGatewayRequest: if nginxReloadRes.Error != nil { gwConds = append( gwConds, staticConds.NewGatewayNotProgrammedInvalid(staticConds.GatewayMessageFailedNginxReload), ) }"] ∧
    Generated.Reload.dedupCalls =
      ["prepareGatewayRequest: conditions.DeduplicateConditions(gateway.Conditions)",
       "prepareGatewayRequest: conditions.DeduplicateConditions(conds)",
       "prepareGatewayRequest: conditions.DeduplicateConditions(gwConds)",
       "prepareRouteStatus: conditions.DeduplicateConditions(allConds)"] ∧
    Generated.Reload.cond_NewGatewayNotProgrammedInvalid =
      ["return conditions.Condition{ Type: string(v1.GatewayConditionProgrammed), Status: metav1.ConditionFalse, Reason: string(v1.GatewayReasonInvalid), Message: msg, }"] ∧
    Generated.Reload.cond_NewListenerNotProgrammedInvalid =
      ["return conditions.Condition{ Type: string(v1.ListenerConditionProgrammed), Status: metav1.ConditionFalse, Reason: string(v1.ListenerReasonInvalid), Message: msg, }"] ∧
    Generated.Reload.cond_NewRouteGatewayNotProgrammed =
      ["return conditions.Condition{ Type: string(v1.RouteConditionAccepted), Status: metav1.ConditionFalse, Reason: string(RouteReasonGatewayNotProgrammed), Message: msg, }"] ∧
    Generated.Reload.routeReasonGatewayNotProgrammed = "\"GatewayNotProgrammed\"" ∧
    Generated.Reload.deduplicateConditionsBody =
      ["type elem struct { cond Condition reverseIdx int }",
       "uniqueElems := make(map[string]elem)",
       "idx := 0",
       "for i := len(conds) - 1; i >= 0; i-- { if _, exist := uniqueElems[conds[i].Type]; exist { continue } uniqueElems[conds[i].Type] = elem{ cond: conds[i], reverseIdx: idx, } idx++ }",
       "result := make([]Condition, len(uniqueElems))",
       "for _, el := range uniqueElems { result[len(result)-el.reverseIdx-1] = el.cond }",
       "return result"] := by
  repeat' constructor

end NGF.C12
