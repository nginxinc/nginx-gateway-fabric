/-
C04 — user-supplied field values cannot inject NGINX configuration.

What is proved here (for ALL strings, lexer states and continuations), over the definitions the driver
runs (`NGF.Nginx.lexFrom`, `NGF.Rx.Regex.test`, the validator models of `NGF.Inj`, `NGF.Inj.judgeToks`):

* regex bridges: a string accepted by a GENERATED validator regex has the lexical shape its template
  context needs (`pathRe_safe`, `escapedStringsRe_escapedOK`, `escapedStringsNoVarRe_novar`, the
  character-set regexes `*_plain`);
* hole theorems: a value accepted by the validator of a hole, put into that hole, yields exactly one
  argument token containing the value and leaves the lexer in a state independent of the value
  (`dquoted_hole_safe`, `bare_hole_safe_semi`, `bare_hole_safe_ws`, `path_hole_safe`, `filter_path_hole_safe`,
  `rewrite_prefix_safe`, `rewrite_full_safe`, `redirect_body_inert`);
* no interpolation: `novar_hole_no_dollar`;
* `hole_guard_table`: every hole of every template (regenerated) has the lexical context recorded in
  the guard table and a guard that is sound for that context (`guard_sound`);
* the judge accepts only token streams that agree with the baseline outside marker-bearing argument
  words (`judge_sound`), and accepts the baseline itself (`judge_refl`).

The behaviour of /repo before commit b4791fc (validatePath accepted backslashes, an empty ReplaceFullPath replacement
was rendered as nothing) is kept as regression witnesses (`prefix_validatePath_admitted_trailing_backslash`,
`trailing_backslash_swallows_semicolon/_break`, `prefix_empty_replacement_dropped_argument`).
-/
import NGF.Model.InjGuards
import NGF.Model.InjHoles
import NGF.Model.InjJudge
import NGF.Proofs.Regex
import NGF.Proofs.NginxLexHoles
import NGF.Proofs.InjBridge
import NGF.Proofs.InjCompose
import NGF.Proofs.InjHoles
import NGF.Proofs.CharLits

namespace NGF.Props.C04
open NGF.Rx NGF.Nginx NGF.Inj

/-- all seven regexes of nginx/config/validation are modelled (a new `regexp.MustCompile` breaks this) -/
theorem repo_regexes_covered :
    NGF.Generated.Regexes.repoRegexNames = repoRegexTable.map (·.1) := rfl

/-- every modelled regex is anchored at both ends (so `MatchString` is a whole-string match) -/
theorem regexes_anchored :
    (repoRegexTable.map (·.2) ++ [G.dnsLabelRe, G.dnsSubdomainRe, G.wildcardRe, G.headerNameRe]).all
      (fun g => g.anchoredStart && g.anchoredEnd) = true := by decide +kernel

theorem test_iff_matches (g : GoRegex) (h : (g.anchoredStart && g.anchoredEnd) = true) (s : List Char) :
    g.test s = true ↔ g.re.Matches s := by
  simp only [Bool.and_eq_true] at h
  simp only [GoRegex.test, GoRegex.full, h.1, h.2, if_true]
  exact Regex.test_iff

theorem pathRe_chars {s : List Char} (h : G.pathRe.test s = true) :
    (∃ t, s = '/' :: t) ∧ ∀ c ∈ s, isWs c = false ∧ c ≠ ';' ∧ c ≠ '{' ∧ c ≠ '}' := by
  have hm : G.pathRe.re.Matches s := (test_iff_matches _ (by decide +kernel) s).mp h
  constructor
  · cases s with
    | nil => exact absurd rfl (ne_nil_of_matches (by decide +kernel) hm)
    | cons c t =>
      have hf := Re.first_of_matches hm c t rfl
      rw [show Re.firstRanges G.pathRe.re.toRe = [(47, 47)] by decide +kernel] at hf
      simp only [inRanges, List.any_cons, List.any_nil, Bool.or_false, Bool.and_eq_true, decide_eq_true_eq] at hf
      obtain rfl : c = '/' := Char.toNat_inj.mp (Nat.le_antisymm hf.2 hf.1)
      exact ⟨t, rfl⟩
  · intro c hc
    have hav : avoids (Regex.alphabet G.pathRe.re) [9, 10, 13, 32, 59, 123, 125] = true := by decide +kernel
    have hn := not_bad_of_avoids hav (Regex.alphabet_of_matches hm c hc)
    have hne := ne_of_not_mem hn
    exact ⟨not_ws_of_not_mem hn (by decide), hne _ (by decide), hne _ (by decide), hne _ (by decide)⟩

theorem pathRe_nonterm {s : List Char} (h : G.pathRe.test s = true) :
    ∃ t, s = '/' :: t ∧ ∀ c ∈ t, isTerm .bare c = false := by
  obtain ⟨⟨t, rfl⟩, hc⟩ := pathRe_chars h
  refine ⟨t, rfl, fun c hct => ?_⟩
  obtain ⟨h1, h2, h3, _⟩ := hc c (List.mem_cons_of_mem _ hct)
  simp [isTerm, h1, h2, h3]

theorem pathRe_safe {s : List Char} (h : G.pathRe.test s = true) (hb : '\\' ∉ s) :
    ∃ t, s = '/' :: t ∧ Inert .bare t := by
  obtain ⟨t, rfl, ht⟩ := pathRe_nonterm h
  exact ⟨t, rfl, inert_of_all_plain fun c hc => ⟨ht c hc, fun e => hb (e ▸ List.mem_cons_of_mem _ hc)⟩⟩

/-- `escapedStringsFmt` `([^"\\]|\\.)*`: quotes are escaped, no lone trailing backslash -/
theorem escapedStringsRe_escapedOK {s : List Char} (h : G.escapedRe.test s = true) : Inert .dq s := by
  have hm : G.escapedRe.re.Matches s := (test_iff_matches _ (by decide +kernel) s).mp h
  exact inert_dq_of_shape (by decide +kernel) (by intro n hn; simp [inRanges] at hn; omega)
    (Re.shape_of_star_alt (A := [(0,33),(35,91),(93,1114111)]) (B := [(92,92)]) (C := [(0,9),(11,1114111)]) hm)

/-- `escapedStringsNoVarExpansionFmt` `([^"$\\]|\\[^$])*`: the above and no `$` at all -/
theorem escapedStringsNoVarRe_novar {s : List Char} (h : G.noVarRe.test s = true) :
    Inert .dq s ∧ '$' ∉ s := by
  have hm : G.noVarRe.re.Matches s := (test_iff_matches _ (by decide +kernel) s).mp h
  constructor
  · exact inert_dq_of_shape (by decide +kernel) (by intro n hn; simp [inRanges] at hn; omega)
      (Re.shape_of_star_alt (A := [(0,33),(35,35),(37,91),(93,1114111)]) (B := [(92,92)]) (C := [(0,35),(37,1114111)]) hm)
  · intro hd
    have hav : avoids (Regex.alphabet G.noVarRe.re) [36] = true := by decide +kernel
    exact not_bad_of_avoids hav (Regex.alphabet_of_matches hm '$' hd) (by decide)

theorem charset_regex_plain (g : GoRegex)
    (hg : g ∈ [G.alnumRe, G.durationRe, G.sizeRe, G.endpointRe, G.dnsLabelRe, G.dnsSubdomainRe, G.wildcardRe,
      G.headerNameRe]) {s : List Char} (h : g.test s = true) : s ≠ [] ∧ ∀ c ∈ s, Plain c := by
  have hall : [G.alnumRe, G.durationRe, G.sizeRe, G.endpointRe, G.dnsLabelRe, G.dnsSubdomainRe, G.wildcardRe,
      G.headerNameRe].all (fun g => g.anchoredStart && g.anchoredEnd && avoids (Regex.alphabet g.re) specials &&
        !Re.nullable g.re.toRe) = true := by decide +kernel
  have hg' := List.all_eq_true.mp hall g hg
  simp only [Bool.and_eq_true, Bool.not_eq_true'] at hg'
  obtain ⟨⟨⟨ha, he⟩, hav⟩, hn⟩ := hg'
  have hm := (test_iff_matches g (by rw [ha, he]; rfl) s).mp h
  exact ⟨ne_nil_of_matches hn hm, plain_of_matches hav hm⟩

/-- **Quoted holes** (`"{{ $h.Value }}"`, `return … "{{ body }}"`, `otel_span_name "{{ … }}"`, `otel_span_attr`):
a value accepted by validateEscapedStringNoVarExpansion, followed by the template's closing quote, is one
quoted word, and the lexer continues in a state that does not mention the value. -/
theorem dquoted_hole_safe {st : LexSt} {v post : List Char} (hm : st.mode = .dq) (he : st.esc = false)
    (hv : validateEscapedStringNoVarExpansion v = true) :
    lexFrom st (v ++ '"' :: post) =
      prepend [.word (unescape (st.cur ++ v)) true]
        (lexFrom { st with mode := .needSpace, dollar := false, cur := [], pending := st.pending + 1 } post) :=
  hole_dquoted hm he (escapedStringsNoVarRe_novar hv).1

/-- **No interpolation** in quoted holes: if the literal part of the argument has no `$`, the argument NGINX
sees has no `$`, whatever accepted value is inserted. -/
theorem novar_hole_no_dollar {pre v : List Char} (hp : '$' ∉ pre)
    (hv : validateEscapedStringNoVarExpansion v = true) : '$' ∉ unescape (pre ++ v) :=
  novar hp (escapedStringsNoVarRe_novar hv).2

/-- **Bare holes guarded by a character-set regex** (durations, sizes, endpoint, service name, DNS names,
header names), `;` follows: exactly `value ;`. -/
theorem bare_hole_safe_semi (g : GoRegex)
    (hg : g ∈ [G.alnumRe, G.durationRe, G.sizeRe, G.endpointRe, G.dnsLabelRe, G.dnsSubdomainRe, G.wildcardRe,
      G.headerNameRe]) {st : LexSt} {v post : List Char} (hm : st.mode = .space) (he : st.esc = false)
    (hv : g.test v = true) :
    lexFrom st (v ++ ';' :: post) =
      prepend [.word v false, .semi]
        (lexFrom { st with mode := .space, dollar := false, cur := [], pending := 0 } post) := by
  obtain ⟨hne, hp⟩ := charset_regex_plain g hg hv
  exact plain_hole_semi hm he hne hp

/-- the same with white space after the hole (`proxy_set_header {{ name }} "…"`, `upstream {{ name }} {`) -/
theorem bare_hole_safe_ws (g : GoRegex)
    (hg : g ∈ [G.alnumRe, G.durationRe, G.sizeRe, G.endpointRe, G.dnsLabelRe, G.dnsSubdomainRe, G.wildcardRe,
      G.headerNameRe]) {st : LexSt} {v post : List Char} {w : Char} (hm : st.mode = .space) (he : st.esc = false)
    (hv : g.test v = true) (hw : isWs w = true) :
    lexFrom st (v ++ w :: post) =
      prepend [.word v false]
        (lexFrom { st with mode := .space, dollar := false, cur := [], pending := st.pending + 1 } post) := by
  obtain ⟨hne, hp⟩ := charset_regex_plain g hg hv
  exact plain_hole_ws hm he hne hp hw

/-- tail of a bare argument (`listen [::]:{{ … }}`, `ngf:ns:name:{{ serviceName }}`, `unix:…/{{ hostname }}-443.sock`) -/
theorem bare_tail_hole_safe (g : GoRegex)
    (hg : g ∈ [G.alnumRe, G.durationRe, G.sizeRe, G.endpointRe, G.dnsLabelRe, G.dnsSubdomainRe, G.wildcardRe,
      G.headerNameRe]) {st : LexSt} {v : List Char} (hm : st.mode = .bare) (he : st.esc = false)
    (hv : g.test v = true) :
    ∃ d, lexFrom st v = .ok ({ st with cur := st.cur ++ v, dollar := d }, []) := by
  obtain ⟨_, hp⟩ := charset_regex_plain g hg hv
  exact lexFrom_inert tokenMode_bare (inert_of_plain tokenMode_bare hp) st hm he

theorem hostname_plain {v : List Char} (h : validateHostname v = true) : v ≠ [] ∧ ∀ c ∈ v, Plain c := by
  unfold validateHostname at h
  split at h
  · cases h
  · split at h
    · exact charset_regex_plain G.wildcardRe (by simp) (Bool.and_eq_true_iff.mp h).2
    · exact charset_regex_plain G.dnsSubdomainRe (by simp) (Bool.and_eq_true_iff.mp h).2

theorem headerName_plain {v : List Char} (h : validateHeaderName v = true) : v ≠ [] ∧ ∀ c ∈ v, Plain c := by
  simp only [validateHeaderName, Bool.and_eq_true] at h
  exact charset_regex_plain G.headerNameRe (by simp) h.1.2

/-- **Match paths** (`location {{ path }} {`): every path accepted by ValidatePathInMatch — backslashes
included, even a trailing one — followed by the template's ` {` is exactly one argument word and the opening brace.
The word is the path, or (trailing backslash) the path with the swallowed space; the state afterwards does not depend
on the path. -/
theorem path_hole_safe {st : LexSt} {v post : List Char} (hm : st.mode = .space) (he : st.esc = false)
    (hv : validatePathInMatch v = true) :
    ∃ w, lexFrom st (v ++ ' ' :: '{' :: post) =
        prepend [.word w false, .open]
          (lexFrom { st with mode := .space, dollar := false, cur := [], pending := 0 } post) ∧
      (w = unescape v ∨ w = unescape (v ++ [' '])) := by
  simp only [validatePathInMatch, Bool.and_eq_true] at hv
  obtain ⟨t, rfl, ht⟩ := pathRe_nonterm hv.2
  exact hole_bare_path_open hm he (by decide) ht

/-- without a backslash the word is the path itself (and any white space may follow) -/
theorem path_hole_exact {st : LexSt} {v post : List Char} {w : Char} (hm : st.mode = .space)
    (he : st.esc = false) (hv : validatePathInMatch v = true) (hb : '\\' ∉ v) (hw : isWs w = true) :
    lexFrom st (v ++ w :: post) =
      prepend [.word v false]
        (lexFrom { st with mode := .space, dollar := false, cur := [], pending := st.pending + 1 } post) := by
  simp only [validatePathInMatch, Bool.and_eq_true] at hv
  obtain ⟨t, rfl, ht⟩ := pathRe_safe hv.2 hb
  rw [hole_bare_ws hm he (by decide) ht hw, unescape_of_no_backslash _ hb]

theorem validatePath_facts {v : List Char} (hv : validatePath v = true) :
    v = [] ∨ (G.pathRe.test v = true ∧ '$' ∉ v ∧ '\\' ∉ v) := by
  simp only [validatePath, Bool.or_eq_true, Bool.and_eq_true, List.isEmpty_iff, Bool.not_eq_true',
    List.contains_eq_mem, decide_eq_false_iff_not] at hv
  rcases hv with h | ⟨⟨h1, h2⟩, h3⟩
  · exact .inl h
  · exact .inr ⟨h1, h2, h3⟩

theorem effectiveReplacement_safe {v : List Char} (hv : validatePath v = true) :
    ∃ t, effectiveReplacement v = '/' :: t ∧ Inert .bare t ∧ '\\' ∉ effectiveReplacement v ∧
      '$' ∉ effectiveReplacement v := by
  rcases validatePath_facts hv with rfl | ⟨h1, h2, h3⟩
  · exact ⟨[], rfl, .nil, by decide, by decide⟩
  · obtain ⟨t, rfl, ht⟩ := pathRe_safe h1 h3
    exact ⟨t, by simp [effectiveReplacement], ht, by simpa [effectiveReplacement] using h3,
      by simpa [effectiveReplacement] using h2⟩

/-- **Filter paths** (`rewrite ^ {{ path }};`): for EVERY replacement accepted by validatePath the
rendered replacement (`/` for the empty string) followed by `;` is exactly one word and the semicolon, and it
contains no `$` (the replacement of `rewrite` interpolates variables). -/
theorem filter_path_hole_safe {st : LexSt} {v post : List Char} (hm : st.mode = .space) (he : st.esc = false)
    (hv : validatePath v = true) :
    lexFrom st (effectiveReplacement v ++ ';' :: post) =
      prepend [.word (effectiveReplacement v) false, .semi]
        (lexFrom { st with mode := .space, dollar := false, cur := [], pending := 0 } post) ∧
      '$' ∉ effectiveReplacement v := by
  obtain ⟨t, e, ht, hb, hd⟩ := effectiveReplacement_safe hv
  refine ⟨?_, hd⟩
  rw [e] at hb ⊢
  rw [hole_bare_semi hm he (by decide) ht, unescape_of_no_backslash _ hb]

theorem prefixRewriteArgs_shape (repl path : List Char) :
    ∃ lit1 lit2, (prefixRewriteArgs repl path).1 = '^' :: (path ++ lit1) ∧
      (prefixRewriteArgs repl path).2 = effectiveReplacement repl ++ lit2 ∧ allPlainFor .bare lit1 = true ∧
      2 ≤ lit1.length ∧ allPlainFor .bare lit2 = true := by
  refine ⟨if endsSlash (effectiveReplacement repl) && !endsSlash path then "(?:/([^?]*))?".toList
      else "([^?]*)?".toList,
    if endsSlash path && !endsSlash (effectiveReplacement repl) then "/$1?$args?".toList else "$1?$args?".toList,
    ?_, ?_, ?_, ?_, ?_⟩
  · simp only [prefixRewriteArgs]; split <;> rfl
  · simp only [prefixRewriteArgs]; split <;> rfl
  · split <;> decide_chars
  · split <;> decide_chars
  · split <;> decide_chars

/-- **URLRewrite, ReplacePrefixMatch** (`rewrite {{ regex replacement break }};`): for every match path
accepted by ValidatePathInMatch (backslashes included: they can only escape characters of the regex argument
itself) and every replacement accepted by validatePath: exactly the two arguments NGF computed, `break`, `;`. -/
theorem rewrite_prefix_safe {st : LexSt} {post path repl : List Char} (hm : st.mode = .space)
    (he : st.esc = false) (hp : validatePathInMatch path = true) (hr : validatePath repl = true) :
    lexFrom st (rewriteFilterMain (.pfx repl) path ++ ';' :: post) =
      prepend [.word (unescape (prefixRewriteArgs repl path).1) false, .word (prefixRewriteArgs repl path).2 false,
          .word "break".toList false, .semi]
        (lexFrom { st with mode := .space, dollar := false, cur := [], pending := 0 } post) := by
  obtain ⟨_, _, dollar, cur, pending⟩ := st
  cases hm
  cases he
  rw [String.toList_ofList]
  simp only [validatePathInMatch, Bool.and_eq_true] at hp
  obtain ⟨tp, rfl, htp⟩ := pathRe_nonterm hp.2
  obtain ⟨lit1, lit2, e1, e2, hl1, hlen, hl2⟩ := prefixRewriteArgs_shape repl ('/' :: tp)
  obtain ⟨t2, efp, ht2, hb2, _⟩ := effectiveReplacement_safe hr
  have hw2 : '\\' ∉ ('/' :: t2) ++ lit2 := fun h =>
    (List.mem_append.mp h).elim (efp ▸ hb2) (no_backslash_of_allPlainFor hl2)
  have eq : rewriteFilterMain (.pfx repl) ('/' :: tp) ++ ';' :: post =
      '^' :: ('/' :: tp ++ lit1) ++ ' ' :: ('/' :: (t2 ++ lit2) ++ ' ' :: ('b' :: ['r', 'e', 'a', 'k'] ++ ';' :: post)) := by
    simp only [rewriteFilterMain, mainRewrite, e1, e2, efp]
    rw [String.toList_ofList]
    simp [List.append_assoc]
  rw [eq, hole_bare_ws rfl rfl (by decide)
      (inert_nonterm_append (List.forall_mem_cons.mpr ⟨by decide, htp⟩) (of_allPlainFor hl1) hlen) (by decide),
    hole_bare_ws rfl rfl (by decide) (inert_append ht2 (inert_of_allPlainFor hl2)) (by decide),
    hole_bare_semi rfl rfl (by decide) (inert_of_allPlainFor (by decide)), prepend_prepend, prepend_prepend,
    unescape_of_no_backslash ('/' :: (t2 ++ lit2)) (by simpa using hw2),
    unescape_of_no_backslash ('b' :: ['r', 'e', 'a', 'k']) (by decide), e1, e2, efp]
  simp

/-- **RequestRedirect / URLRewrite, ReplaceFullPath** (`rewrite ^ {{ path }};`): for EVERY replacement
accepted by validatePath (the empty one is rendered as `/`) exactly `^`, the replacement, `;`. -/
theorem rewrite_full_safe {st : LexSt} {post path repl : List Char} (hm : st.mode = .space)
    (he : st.esc = false) (hr : validatePath repl = true) :
    lexFrom st (mainRewrite (.full repl) path ++ ';' :: post) =
      prepend [.word "^".toList false, .word (effectiveReplacement repl) false, .semi]
        (lexFrom { st with mode := .space, dollar := false, cur := [], pending := 0 } post) := by
  have eq : mainRewrite (.full repl) path ++ ';' :: post =
      '^' :: [] ++ ' ' :: (effectiveReplacement repl ++ ';' :: post) := by
    simp [mainRewrite]
  obtain ⟨_, _, dollar, cur, pending⟩ := st
  cases hm
  cases he
  rw [eq, hole_bare_ws rfl rfl (by decide) .nil (by decide), (filter_path_hole_safe rfl rfl hr).1, prepend_prepend]
  simp [unescape]

/-- **Redirect URL** (`return 30x "{{ body }}";`): for an accepted scheme (http/https or unset) and an accepted or
unset hostname the composed body is an escaped-string shape, so `dquoted`-hole lexing applies to it. -/
theorem redirect_body_inert (scheme hostname : Option (List Char)) (port : Option Nat) (hasPath : Bool) (lp : Nat)
    (hs : ∀ s, scheme = some s → validateRedirectScheme s = true)
    (hh : ∀ v, hostname = some v → validateEscapedStringNoVarExpansion v = true) :
    Inert .dq (redirectBody scheme hostname port hasPath lp) := by
  have hhost : Inert .dq (hostname.getD ['$', 'h', 'o', 's', 't']) := by
    cases hostname with
    | none => exact inert_of_allPlainFor (by decide)
    | some v => exact (escapedStringsNoVarRe_novar (hh v rfl)).1
  have hwith : ∀ h, Inert .dq h → Inert .dq (h ++ [':'] ++ natDigits (port.getD lp)) := fun h hi =>
    inert_append (inert_append hi (inert_of_allPlainFor (by decide))) (inert_of_plain tokenMode_dq (digits_plain _))
  have hhp : Inert .dq (redirectHostPort scheme (hostname.getD ['$', 'h', 'o', 's', 't']) port lp) := by
    unfold redirectHostPort
    cases scheme with
    | none => exact hwith _ hhost
    | some s =>
      simp only
      split
      · exact hhost
      · split
        · exact hhost
        · exact hwith _ hhost
  have hsch : Inert .dq (scheme.getD ['$', 's', 'c', 'h', 'e', 'm', 'e']) := by
    cases scheme with
    | none => exact inert_of_allPlainFor (by decide)
    | some s =>
      have hmem : String.ofList s ∈ NGF.Generated.Regexes.supportedRedirectSchemes := by
        simpa [validateRedirectScheme] using hs s rfl
      have hall : NGF.Generated.Regexes.supportedRedirectSchemes.all (fun x => allPlainFor .dq x.toList) = true := by
        decide +kernel
      have := List.all_eq_true.mp hall _ hmem
      rw [String.toList_ofList] at this
      exact inert_of_allPlainFor this
  have htail : Inert .dq (redirectTail hasPath) := by
    cases hasPath <;> exact inert_of_allPlainFor (by decide)
  unfold redirectBody
  exact inert_append (inert_append (inert_append hsch (inert_of_allPlainFor (by decide))) hhp) htail

/-! ### regression witnesses: the code before /repo commit b4791fc

Before b4791fc validatePath accepted backslashes and an empty ReplaceFullPath replacement was rendered as nothing.
The four signatures `…requestRedirect|urlRewrite.path.replaceFullPath:{trailing-backslash,empty-argument}`
(`fixed` in known_findings.json) reappear from the search if the commit is reverted; these theorems record why. -/

/-- the old validator accepted a path ending in a backslash, the current one rejects it; ValidatePathInMatch
(match paths, `location`) still accepts it — harmless there, see `path_hole_safe` -/
theorem prefix_validatePath_admitted_trailing_backslash :
    validatePathPreFix "/x\\".toList = true ∧ validatePath "/x\\".toList = false ∧
      validatePathInMatch "/x\\".toList = true := by decide +kernel

/-- … in `rewrite ^ {{ path }};` (RequestRedirect, ReplaceFullPath) that backslash escaped the `;` of the
template: the directive did not end, the following `return` became arguments of `rewrite`. -/
theorem trailing_backslash_swallows_semicolon :
    (lex "rewrite ^ /x\\;\nreturn 302 \"u\";".toList).toOption =
      some [.word "rewrite".toList false, .word "^".toList false, .word "/x\\;".toList false,
           .word "return".toList false, .word "302".toList false, .word "u".toList true, .semi] ∧
    (lex "rewrite ^ /x;\nreturn 302 \"u\";".toList).toOption =
      some [.word "rewrite".toList false, .word "^".toList false, .word "/x".toList false, .semi,
           .word "return".toList false, .word "302".toList false, .word "u".toList true, .semi] := by
  decide_chars

/-- … and in `rewrite ^ {{ path }} break;` (URLRewrite, ReplaceFullPath) it glued the `break` flag to the path -/
theorem trailing_backslash_swallows_break :
    (lex "rewrite ^ /x\\ break;".toList).toOption =
      some [.word "rewrite".toList false, .word "^".toList false, .word "/x\\ break".toList false, .semi] := by
  decide_chars

/-- with an empty replacement the old composer left the argument out; the current one renders `/` -/
theorem prefix_empty_replacement_dropped_argument :
    (lex ("rewrite ".toList ++ mainRewritePreFix (.full []) "/p".toList ++ ";".toList)).toOption =
      some [.word "rewrite".toList false, .word "^".toList false, .semi] ∧
    (lex ("rewrite ".toList ++ mainRewritePreFix (.full []) "/p".toList ++ " break;".toList)).toOption =
      some [.word "rewrite".toList false, .word "^".toList false, .word "break".toList false, .semi] ∧
    (lex ("rewrite ".toList ++ mainRewrite (.full []) "/p".toList ++ ";".toList)).toOption =
      some [.word "rewrite".toList false, .word "^".toList false, .word "/".toList false, .semi] := by
  decide_chars

/-- who guarantees the lexical safety of a hole -/
inductive Guard
  | internal        -- numbers, booleans, fixed strings and names mangled by the generator (C03 lexical classes)
  | k8sName         -- built from namespace/name of API objects (DNS-1123, enforced by the API server) and fixed text
  | enumConst       -- value checked against a fixed list / rendered from a constant
  | hostname        -- graph.validateHostname / listener hostname validation (DNS-1123 subdomain, `*.` wildcard)
  | pathInMatch     -- HTTPNJSMatchValidator.ValidatePathInMatch (backslashes possible; only before ` {`)
  | rewriteArgs     -- createMainRewriteForFilters: ValidatePathInMatch + validatePath parts (rewrite_prefix_safe, rewrite_full_safe)
  | redirectBody    -- scheme enum + ValidateHostname (escaped, no `$`) + port number + fixed variables
  | headerName      -- validateHeaderName / k8s IsHTTPHeaderName
  | noVarQuoted     -- validateEscapedStringNoVarExpansion
  | endpoint        -- GenericValidator.ValidateEndpoint
  | duration        -- GenericValidator.ValidateNginxDuration
  | size            -- GenericValidator.ValidateNginxSize
  | serviceName     -- `ngf:<ns>:<name>` + GenericValidator.ValidateServiceName
  | address         -- k8s IsValidCIDR / IsValidIP / IsDNS1123Subdomain (validateRewriteClientIP)
  | cliFlag         -- command-line flags validated by cmd/gateway (property C20), not resource fields
  deriving DecidableEq, Repr

/-- the validator model attached to a guard (for the guards whose value is inserted verbatim) -/
def Guard.pred : Guard → Option (List Char → Bool)
  | .hostname => some validateHostname
  | .pathInMatch => some validatePathInMatch
  | .headerName => some validateHeaderName
  | .noVarQuoted => some validateEscapedStringNoVarExpansion
  | .endpoint => some G.endpointRe.test
  | .duration => some G.durationRe.test
  | .size => some G.sizeRe.test
  | _ => none

def Guard.okIn : Guard → HoleCtx → Bool
  | .noVarQuoted, c => c == .dquoted
  | .redirectBody, c => c == .dquoted
  | .internal, c => c == .argStart || c == .argTail || c == .comment
  | _, c => c == .argStart || c == .argTail

def h (t e : String) (c : HoleCtx) (n : String) : Hole := ⟨t.toList, e.toList, c, n.toList⟩

def serversTable : List (Hole × Guard) :=
  [(h "servers" "$s.Listen" .argStart " s", .internal),
   (h "servers" "$.RewriteClientIP.ProxyProtocol" .argTail ";", .internal),
   (h "servers" "$s.Listen" .argTail " s", .internal),
   (h "servers" "$address" .argStart ";", .address),
   (h "servers" "$.RewriteClientIP.RealIPHeader" .argStart ";", .enumConst),
   (h "servers" "$s.Listen" .argStart " d", .internal),
   (h "servers" "$s.Listen" .argTail " d", .internal),
   (h "servers" "$s.SSL.Certificate" .argStart ";\n", .k8sName),
   (h "servers" "$s.SSL.CertificateKey" .argStart ";\n", .k8sName),
   (h "servers" "$s.Listen" .argStart "", .internal),
   (h "servers" "$s.Listen" .argTail "", .internal),
   (h "servers" "$s.ServerName" .argStart ";", .hostname),
   (h "servers" "$i.Name" .argStart ";", .k8sName),
   (h "servers" "$l.Path" .argStart " {", .pathInMatch),
   (h "servers" "$r" .argStart ";", .rewriteArgs),
   (h "servers" "$l.Return.Code" .argStart " \"", .internal),
   (h "servers" "$l.Return.Body" .dquoted "\";", .redirectBody),
   (h "servers" "$l.HTTPMatchKey" .argStart ";\n", .internal),
   (h "servers" "$proxyOrGRPC" .argStart "_s", .internal),
   (h "servers" "$h.Name" .argStart " \"", .headerName),
   (h "servers" "$h.Value" .dquoted "\";", .noVarQuoted),
   (h "servers" "$proxyOrGRPC" .argStart "_p", .internal),
   (h "servers" "$l.ProxyPass" .argStart ";\n", .k8sName),
   (h "servers" "$h.Value" .dquoted "\" ", .noVarQuoted),
   (h "servers" "$h.Name" .argStart ";\n", .headerName),
   (h "servers" "$h" .argStart ";", .headerName),
   (h "servers" "$l.ProxySSLVerify.Name" .argStart ";\n", .hostname),
   (h "servers" "$l.ProxySSLVerify.TrustedCertificate" .argStart ";", .k8sName)]

def mainTable : List (Hole × Guard) :=
  [(h "mainConfig" ".Conf.Logging.ErrorLevel" .argStart ";\n", .enumConst),
   (h "mainConfig" "$i.Name" .argStart ";\n", .k8sName)]

def mgmtTable : List (Hole × Guard) :=
  [(h "mgmtConfig" ".Endpoint" .argTail ";", .cliFlag),
   (h "mgmtConfig" ".Resolver" .argStart ";", .cliFlag),
   (h "mgmtConfig" ".LicenseTokenFile" .argStart ";\n", .internal),
   (h "mgmtConfig" ".CACertFile" .argStart ";", .internal),
   (h "mgmtConfig" ".ClientSSLCertFile" .argStart ";\n", .internal),
   (h "mgmtConfig" ".ClientSSLKeyFile" .argStart ";", .internal)]

def otelTable : List (Hole × Guard) :=
  [(h "otel" ".Endpoint" .argStart ";", .endpoint),
   (h "otel" ".Interval" .argStart ";", .duration),
   (h "otel" ".BatchSize" .argStart ";", .internal),
   (h "otel" ".BatchCount" .argStart ";", .internal),
   (h "otel" ".ServiceName" .argStart ";", .serviceName),
   (h "otel" "$ratio.Name" .argStart " {", .internal),
   (h "otel" "$ratio.Value" .argStart "% ", .internal)]

def baseHTTPTable : List (Hole × Guard) :=
  [(h "baseHTTP" "$i.Name" .argStart ";\n", .k8sName)]

def mapsTable : List (Hole × Guard) :=
  [(h "maps" "$m.Source" .argStart " ", .internal),
   (h "maps" "$m.Variable" .argStart " {", .internal),
   (h "maps" "$p.Value" .argStart " ", .hostname),
   (h "maps" "$p.Result" .argStart ";\n", .internal)]

def splitClientsTable : List (Hole × Guard) :=
  [(h "splitClients" "$sc.VariableName" .argTail " {", .k8sName),
   (h "splitClients" "$d.Percent" .comment "% ", .internal),
   (h "splitClients" "$d.Value" .comment ";", .internal),
   (h "splitClients" "$d.Percent" .argStart "% ", .internal),
   (h "splitClients" "$d.Value" .argStart ";", .k8sName)]

def upstreamsTable : List (Hole × Guard) :=
  [(h "upstreams" "$u.Name" .argStart " {", .k8sName),
   (h "upstreams" "$u.Name" .argStart " ", .k8sName),
   (h "upstreams" "$u.ZoneSize" .argStart ";\n", .size),
   (h "upstreams" "$u.StateFile" .argStart ";", .k8sName),
   (h "upstreams" "$server.Address" .argStart ";", .internal),
   (h "upstreams" "$u.KeepAlive.Connections" .argStart ";", .internal),
   (h "upstreams" "$u.KeepAlive.Requests" .argStart ";", .internal),
   (h "upstreams" "$u.KeepAlive.Time" .argStart ";", .duration),
   (h "upstreams" "$u.KeepAlive.Timeout" .argStart ";", .duration)]

def streamUpstreamsTable : List (Hole × Guard) :=
  [(h "streamUpstreams" "$u.Name" .argStart " {", .k8sName),
   (h "streamUpstreams" "$u.Name" .argStart " ", .k8sName),
   (h "streamUpstreams" "$u.ZoneSize" .argStart ";", .internal),
   (h "streamUpstreams" "$u.StateFile" .argStart ";", .k8sName),
   (h "streamUpstreams" "$server.Address" .argStart ";", .internal)]

def streamServersTable : List (Hole × Guard) :=
  [(h "streamServers" "$s.Listen" .argStart "", .hostname),
   (h "streamServers" "$s.RewriteClientIP.ProxyProtocol" .argTail ";", .internal),
   (h "streamServers" "$s.Listen" .argTail ";", .internal),
   (h "streamServers" "$address" .argStart ";", .address),
   (h "streamServers" "$s.StatusZone" .argStart ";", .hostname),
   (h "streamServers" "$s.ProxyPass" .argStart ";", .k8sName),
   (h "streamServers" "$s.Pass" .argStart ";", .internal)]

def versionTable : List (Hole × Guard) :=
  [(h "version" "." .argStart ";\n", .internal)]

def obsTable : List (Hole × Guard) :=
  [(h "obsPolicy" ".Strategy" .argStart ";", .internal),
   (h "obsPolicy" ".Tracing.Context" .argStart ";", .enumConst),
   (h "obsPolicy" ".Tracing.SpanName" .dquoted "\";", .noVarQuoted),
   (h "obsPolicy" "$attr.Key" .dquoted "\" ", .noVarQuoted),
   (h "obsPolicy" "$attr.Value" .dquoted "\";", .noVarQuoted)]

def obsInternalTable : List (Hole × Guard) :=
  [(h "obsPolicyInternal" ".Tracing.SpanName" .dquoted "\";", .noVarQuoted),
   (h "obsPolicyInternal" "$attr.Key" .dquoted "\" ", .noVarQuoted),
   (h "obsPolicyInternal" "$attr.Value" .dquoted "\";", .noVarQuoted)]

def obsExtTable : List (Hole × Guard) :=
  [(h "obsPolicyExtRedirect" ".Strategy" .argStart ";", .internal),
   (h "obsPolicyExtRedirect" ".Tracing.Context" .argStart ";", .enumConst)]

def clientSettingsTable : List (Hole × Guard) :=
  [(h "clientSettings" ".Body.MaxSize" .argStart ";", .size),
   (h "clientSettings" ".Body.Timeout" .argStart ";", .duration),
   (h "clientSettings" ".KeepAlive.Requests" .argStart ";", .internal),
   (h "clientSettings" ".KeepAlive.Time" .argStart ";", .duration),
   (h "clientSettings" ".KeepAlive.Timeout.Server" .argStart " ", .duration),
   (h "clientSettings" ".KeepAlive.Timeout.Header" .argStart ";", .duration),
   (h "clientSettings" ".KeepAlive.Timeout.Server" .argStart ";", .duration)]

def guardTable : List (Hole × Guard) :=
  serversTable ++ mainTable ++ mgmtTable ++ otelTable ++ baseHTTPTable ++ mapsTable ++ splitClientsTable ++
    upstreamsTable ++ streamUpstreamsTable ++ streamServersTable ++ versionTable ++ obsTable ++ obsInternalTable ++
    obsExtTable ++ clientSettingsTable

/-- the table entries on `chars` (Proofs/InjHoles), for evaluation by the kernel -/
theorem h_eq_chars (t e : String) (c : HoleCtx) (n : String) : h t e c n = ⟨chars t, chars e, c, chars n⟩ := by
  simp only [h, toList_eq_chars]

section
open NGF.Generated.Templates

theorem holes_servers : holesOf "servers" servers = serversTable.map (·.1) := by
  simp only [holesOf_eq_holesGoC, serversTable, h_eq_chars]
  decide +kernel
theorem holes_mainConfig : holesOf "mainConfig" mainConfig = mainTable.map (·.1) := by
  simp only [holesOf_eq_holesGoC, mainTable, h_eq_chars]
  decide +kernel
theorem holes_mgmtConfig : holesOf "mgmtConfig" mgmtConfig = mgmtTable.map (·.1) := by
  simp only [holesOf_eq_holesGoC, mgmtTable, h_eq_chars]
  decide +kernel
theorem holes_otel : holesOf "otel" otel = otelTable.map (·.1) := by
  simp only [holesOf_eq_holesGoC, otelTable, h_eq_chars]
  decide +kernel
theorem holes_baseHTTP : holesOf "baseHTTP" baseHTTP = baseHTTPTable.map (·.1) := by
  simp only [holesOf_eq_holesGoC, baseHTTPTable, h_eq_chars]
  decide +kernel
theorem holes_maps : holesOf "maps" maps = mapsTable.map (·.1) := by
  simp only [holesOf_eq_holesGoC, mapsTable, h_eq_chars]
  decide +kernel
theorem holes_splitClients : holesOf "splitClients" splitClients = splitClientsTable.map (·.1) := by
  simp only [holesOf_eq_holesGoC, splitClientsTable, h_eq_chars]
  decide +kernel
theorem holes_upstreams : holesOf "upstreams" upstreams = upstreamsTable.map (·.1) := by
  simp only [holesOf_eq_holesGoC, upstreamsTable, h_eq_chars]
  decide +kernel
theorem holes_streamUpstreams : holesOf "streamUpstreams" streamUpstreams = streamUpstreamsTable.map (·.1) := by
  simp only [holesOf_eq_holesGoC, streamUpstreamsTable, h_eq_chars]
  decide +kernel
theorem holes_streamServers : holesOf "streamServers" streamServers = streamServersTable.map (·.1) := by
  simp only [holesOf_eq_holesGoC, streamServersTable, h_eq_chars]
  decide +kernel
theorem holes_version : holesOf "version" version = versionTable.map (·.1) := by
  simp only [holesOf_eq_holesGoC, versionTable, h_eq_chars]
  decide +kernel
theorem holes_obsPolicy : holesOf "obsPolicy" obsPolicy = obsTable.map (·.1) := by
  simp only [holesOf_eq_holesGoC, obsTable, h_eq_chars]
  decide +kernel
theorem holes_obsPolicyInternal : holesOf "obsPolicyInternal" obsPolicyInternal = obsInternalTable.map (·.1) := by
  simp only [holesOf_eq_holesGoC, obsInternalTable, h_eq_chars]
  decide +kernel
theorem holes_obsPolicyExtRedirect : holesOf "obsPolicyExtRedirect" obsPolicyExtRedirect = obsExtTable.map (·.1) := by
  simp only [holesOf_eq_holesGoC, obsExtTable, h_eq_chars]
  decide +kernel
theorem holes_clientSettings : holesOf "clientSettings" clientSettings = clientSettingsTable.map (·.1) := by
  simp only [holesOf_eq_holesGoC, clientSettingsTable, h_eq_chars]
  decide +kernel

end

/-- every template of the generator is in the list, and no other template text exists in the package tree -/
theorem templates_covered :
    NGF.Generated.Templates.templateNames = allTemplates.map (·.1) ∧
    NGF.Generated.Templates.unlistedTemplates = [] := ⟨rfl, rfl⟩

/-- **Hole/guard table.** The holes of the CURRENT templates, with the lexical context computed by the Lean
lexer, are exactly the entries of the guard table, and every guard is adequate for the context of its hole
(a quoted-string validator only inside quotes, bare-argument validators only in bare arguments). A new hole, a
hole moved out of its quotes, or a changed delimiter breaks this theorem. -/
theorem hole_guard_table :
    allHoles = guardTable.map (·.1) ∧ guardTable.all (fun e => e.2.okIn e.1.ctx) = true := by
  refine ⟨?_, by decide +kernel⟩
  simp only [allHoles, allTemplates, List.map_cons, List.map_nil, List.flatten_cons, List.flatten_nil,
    holes_servers, holes_mainConfig, holes_mgmtConfig, holes_otel, holes_baseHTTP, holes_maps, holes_splitClients,
    holes_upstreams, holes_streamUpstreams, holes_streamServers, holes_version, holes_obsPolicy,
    holes_obsPolicyInternal, holes_obsPolicyExtRedirect, holes_clientSettings,
    guardTable, List.map_append, List.append_nil, List.append_assoc]

/-- lexical safety a context (with the template text `next` that follows the hole) asks of a value. A bare
argument may contain backslashes (non-terminating characters only) where the template continues with ` {`:
`hole_bare_path_open` / `path_hole_safe`. -/
def SafeIn : HoleCtx → List Char → List Char → Prop
  | .argStart, next, v => ∃ c t, v = c :: t ∧ startOK c = true ∧
      (Inert .bare t ∨ (next = [' ', '{'] ∧ ∀ c' ∈ t, isTerm .bare c' = false))
  | .argTail, _, v => Inert .bare v
  | .dquoted, _, v => Inert .dq v ∧ '$' ∉ v
  | _, _, _ => False

/-- the context in which the validator of a guard makes the value safe: quoted values inside quotes, match paths
as a whole argument before ` {`, the character-set validators as a whole argument. For a guard with a validator
this is narrower than `okIn`, which also admits the tail of a bare argument. -/
def Guard.fits : Guard → HoleCtx → List Char → Bool
  | .noVarQuoted, c, _ => c == .dquoted
  | .pathInMatch, c, n => c == .argStart && n == [' ', '{']
  | _, c, _ => c == .argStart

theorem pred_safe {g : Guard} {p : List Char → Bool} (hp : g.pred = some p) {v : List Char} (hv : p v = true)
    {c : HoleCtx} {n : List Char} (hf : g.fits c n = true) : SafeIn c n v := by
  have plain : v ≠ [] ∧ (∀ c ∈ v, Plain c) → g.fits c n = (c == .argStart) → SafeIn c n v := by
    intro ⟨hne, hpl⟩ hc
    obtain ⟨c', t, e, hs, ht⟩ := plain_arg hne hpl
    rw [hc, beq_iff_eq] at hf
    exact hf ▸ ⟨c', t, e, hs, .inl ht⟩
  unfold Guard.pred at hp
  split at hp <;> cases hp
  · exact plain (hostname_plain hv) rfl
  · simp only [Guard.fits, Bool.and_eq_true, beq_iff_eq] at hf
    simp only [validatePathInMatch, Bool.and_eq_true] at hv
    obtain ⟨t, rfl, ht⟩ := pathRe_nonterm hv.2
    exact hf.1 ▸ ⟨'/', t, rfl, by decide, .inr ⟨hf.2, ht⟩⟩
  · exact plain (headerName_plain hv) rfl
  · rw [Guard.fits, beq_iff_eq] at hf
    exact hf ▸ escapedStringsNoVarRe_novar hv
  · exact plain (charset_regex_plain G.endpointRe (by simp) hv) rfl
  · exact plain (charset_regex_plain G.durationRe (by simp) hv) rfl
  · exact plain (charset_regex_plain G.sizeRe (by simp) hv) rfl

/-- **Guard soundness.** For every table entry whose value is inserted verbatim, acceptance by the guard's
validator model implies the lexical safety predicate of the hole's context (which the hole theorems of
Proofs/NginxLexHoles turn into "exactly one argument token, state independent of the value"). -/
theorem guard_sound : ∀ e ∈ guardTable, ∀ p, e.2.pred = some p → ∀ v, p v = true → SafeIn e.1.ctx e.1.next v := by
  have hall : guardTable.all (fun e => e.2.pred.isNone || e.2.fits e.1.ctx e.1.next) = true := by decide +kernel
  intro e he p hp v hv
  have := List.all_eq_true.mp hall e he
  rw [hp] at this
  exact pred_safe hp hv this

theorem judge_refl (ts : List Tok) : judgeToks ts ts = .ok 0 := judgeGo_refl _ _ _ _

/-- **Judge soundness.** If the judge accepts, the probe's token stream has the length of the baseline's and
agrees with it at every position, except where both tokens are argument words and the probe's carries the
marker; in particular the sequence of token kinds (word ; { }) is identical. -/
theorem judge_sound (base probe : List Tok) (k : Nat) (hj : judgeToks base probe = .ok k) :
    Agree base probe ∧ base.length = probe.length := by
  have ha := agree_of_judgeGo _ _ _ _ _ _ hj
  exact ⟨ha, agree_length _ _ ha⟩

/-! The validators accept hostile values, so the hypotheses of the hole theorems can be met; the judge tells an
injected statement from a marked argument. -/

example : validateEscapedStringNoVarExpansion "a \\\" ; } b".toList = true := by decide_chars
example : validateEscapedStringNoVarExpansion "a$b".toList = false := by decide_chars
example : validateEscapedStringNoVarExpansion "a\\".toList = false := by decide_chars
example : validatePathInMatch "/coffee\"x#y".toList = true := by decide_chars
example : G.endpointRe.test "otel.example.com:4317".toList = true := by decide_chars
example : validateHostname "*.example.com".toList = true := by decide_chars
/-- a hostile value in a quoted hole of a real template context, evaluated -/
example :
    (lex "add_header X \"a \\\" ; } b\" always;".toList).toOption =
      some [.word "add_header".toList false, .word "X".toList false, .word "a \" ; } b".toList true,
           .word "always".toList false, .semi] := by decide_chars
example : judgeToks [.word "a".toList false, .semi] [.word "zqmq;".toList false, .semi] = .ok 1 := by decide +kernel
example : (judgeToks [.word "a".toList false, .semi]
    [.word "zqmq".toList false, .semi, .word "load_module".toList false, .semi]).isOk = false := by decide +kernel

end NGF.Props.C04
