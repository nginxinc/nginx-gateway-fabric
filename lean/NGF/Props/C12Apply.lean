/-
C12 — the apply step (write files → reload → verify → Plus API) as ONE transaction, and the
handler composed with it over whole batch sequences.

Everything is about `NGF.HandlerVer.applyTx` / `updateNginxConf` / `hstep` / `hrun` / `fold` and
`NGF.Reload.reload` — the functions `ngfdriver_C12 model` runs and the correspondence compares with the
real `eventHandlerImpl` + real `file.ManagerImpl` (over a fault-injecting file layer) + real
`ManagerImpl.Reload` (against the simulated master that serves the version file actually on disk).

`Running o v` (Proofs/Reload.lean) is the right-hand side of `reload_res_none_iff` (= `reload_ok_iff` of Props/C12); `ApplyOk plus le b v`
(Proofs/HandlerBatch.lean) says, in terms of the environment only, that batch `b` applied version `v`.
-/
import NGF.Model.Reload
import NGF.Model.HandlerVer
import NGF.Proofs.Reload
import NGF.Proofs.HandlerVer
import NGF.Proofs.HandlerBatch

namespace NGF.C12
open NGF.Reload NGF.HandlerVer

/-- `updateNginxConf … = nil` ⇒ EVERY file of the generated set was written (whatever the length of
the set and wherever the version file sits in it) AND `Reload` was invoked with that version AND the
oracle answered exactly that version after new workers (`Running`).  No hypothesis on the error
class: the statement quantifies over every `FilesOutcome`, so over all four classes. -/
theorem apply_ok_implies_all_files_written_and_version_runs
    (plus : Bool) (f : FilesOutcome) (o : Oracle) (apiOk : Bool) (v n : Nat)
    (h : (applyTx plus f o apiOk v).res = none) :
    f = .ok ∧ filesOnDisk n f = n ∧ (∀ i, i < n → fileOnDisk n f i = true) ∧
      (applyTx plus f o apiOk v).reload = some (reload o v) ∧ Running o v ∧
      (plus = true → apiOk = true) := by
  obtain ⟨hf, hr, hp⟩ := (applyTx_ok_iff plus f o apiOk v).1 h
  subst hf
  refine ⟨rfl, rfl, ?_, ?_, (reload_res_none_iff o v).1 hr, hp⟩
  · intro i hi; simp [fileOnDisk, hi]
  · rw [applyTx_reload]; simp

/-- exact form: the transaction returns nil iff all files were written, the master runs the version,
and (Plus) the API call succeeded -/
theorem apply_ok_iff (plus : Bool) (f : FilesOutcome) (o : Oracle) (apiOk : Bool) (v : Nat) :
    (applyTx plus f o apiOk v).res = none ↔ f = .ok ∧ Running o v ∧ (plus = true → apiOk = true) := by
  rw [applyTx_ok_iff, reload_res_none_iff]

/-- A `ReplaceFiles` error of ANY class — `fs.ErrNotExist`-wrapping, permission, EIO, plain — and
after ANY number of files (version file written or not) is returned as the transaction's error with
its class preserved; `Reload` is not invoked and the Plus API is not consulted. -/
theorem files_error_returns_before_reload (plus : Bool) (c : ErrClass) (k : Nat) (o : Oracle)
    (apiOk : Bool) (v : Nat) :
    (applyTx plus (.failed c k) o apiOk v).res = some (.files c) ∧
    (applyTx plus (.failed c k) o apiOk v).reload = none ∧
    (applyTx plus (.failed c k) o apiOk v).apiCalled = false := by
  simp [applyTx_files_failed]

/-- `Reload` is invoked exactly when `ReplaceFiles` returned nil; the Plus API exactly after a
successful reload on Plus. -/
theorem apply_step_order (plus : Bool) (f : FilesOutcome) (o : Oracle) (apiOk : Bool) (v : Nat) :
    ((applyTx plus f o apiOk v).reload.isSome = true ↔ f = .ok) ∧
    ((applyTx plus f o apiOk v).apiCalled = true ↔ plus = true ∧ f = .ok ∧ Running o v) := by
  refine ⟨?_, ?_⟩
  · rw [applyTx_reload]; by_cases h : f = .ok <;> simp [h]
  · rw [applyTx_apiCalled, reload_res_none_iff]

/-- hypotheses satisfiable: 5 files, version file third, a master that behaves; and a permission
error after 3 files (version file on disk!) is an error although that master would answer 7 -/
example :
    let o : Oracle := ⟨[.present], 5, .pid 7, .content 1, true, [.content 1, .content 2], [.ver 6, .ver 7], 9⟩
    (applyTx false .ok o true 7).res = none ∧
    (applyTx false (.failed .permission 3) o true 7).res = some (.files .permission) ∧
    (applyTx false (.failed .notExist 3) o true 7).res = some (.files .notExist) ∧
    fileOnDisk 5 (.failed .notExist 3) 2 = true ∧ filesOnDisk 5 (.failed .notExist 3) = 3 := by decide +kernel

/-- REFUTED VARIANT "ENOENT is benign" (`applyTxEnoentBenign`, the seeded change C12-r3m1): creating
the fourth of five files fails with ENOENT after the version file (third) was written; the master
loads the partial set, which carries the right version number, and the variant reports success —
with two files of the generated set missing. -/
theorem enoent_benign_refuted :
    ∃ (f : FilesOutcome) (o : Oracle) (n vi v : Nat),
      (applyTxEnoentBenign false f o true v).res = none ∧   -- reported successful
      (reload o v).res = none ∧                             -- the master does answer version v
      fileOnDisk n f vi = true ∧                            -- the version file is on disk
      filesOnDisk n f < n ∧                                 -- but the set is incomplete
      (applyTx false f o true v).res = some (.files .notExist) := -- the code: an error
  ⟨.failed .notExist 3,
   ⟨[.present], 5, .pid 7, .content 1, true, [.content 2], [.ver 7], 9⟩, 5, 2, 7, by decide +kernel⟩

/-- the variant differs from the code on the `notExist` class only -/
theorem enoent_benign_differs_only_on_notExist (plus : Bool) (f : FilesOutcome) (o : Oracle)
    (apiOk : Bool) (v : Nat) (h : ∀ k, f ≠ .failed .notExist k) :
    applyTxEnoentBenign plus f o apiOk v = applyTx plus f o apiOk v := by
  cases f with
  | ok => rfl
  | failed c k => cases c <;> first | rfl | exact absurd rfl (h k)

/-- Handler level: a batch that goes through `updateNginxConf` and ends without error wrote every
generated file (so also the version file), reloaded with the version of the configuration it
built, and the master runs that version. -/
theorem batch_ok_implies_files_written_and_version_runs (plus : Bool) (s : H) (b : Batch)
    (hre : needsReload plus s.lastErr b = true) (hok : (hstep plus s b).2.err = false) :
    b.files = .ok ∧ (hstep plus s b).2.written = some b.nfiles ∧
    (∀ i, i < b.nfiles → fileOnDisk b.nfiles b.files i = true) ∧
    (b.verIdx < b.nfiles → b.versionFileOnDisk = true) ∧
    (hstep plus s b).2.reloadVersion = some (s.version + 1) ∧
    (hstep plus s b).2.fileErr = none ∧
    Running b.oracle (s.version + 1 : Nat) := by
  obtain ⟨hct, ha⟩ := (needsReload_iff plus s.lastErr b).1 hre
  have hA := (hstep_err_false_iff plus s b hct).1 hok
  simp only [ApplyOk, ha, Bool.false_eq_true, if_false] at hA
  obtain ⟨hf, hrun, _⟩ := hA
  have hall : ∀ i, i < b.nfiles → fileOnDisk b.nfiles b.files i = true := by
    intro i hi; simp [fileOnDisk, hi, hf]
  have hunc := hstep_conf plus s b hre
  refine ⟨hf, ?_, hall, fun hv => hall _ hv, ?_, ?_, hrun⟩
  · rw [hunc]; simp [updateNginxConf, hf, filesOnDisk]
  · rw [hunc]; simp [updateNginxConf, applyTx_reload, hf]
  · rw [hunc]; simp only [updateNginxConf]; rw [applyTx_fileClass, hf]

/-- …and a `ReplaceFiles` failure of any class makes the batch fail without a reload, the class being
visible in the returned error. -/
theorem batch_files_error_surfaces (plus : Bool) (s : H) (b : Batch) (c : ErrClass) (k : Nat)
    (hre : needsReload plus s.lastErr b = true) (hf : b.files = .failed c k) :
    (hstep plus s b).2.err = true ∧ (hstep plus s b).2.reloadVersion = none ∧
    (hstep plus s b).2.reload = none ∧ (hstep plus s b).2.apiCalled = false ∧
    (hstep plus s b).2.fileErr = some c ∧ (hstep plus s b).2.written = some (min k b.nfiles) ∧
    (hstep plus s b).1.lastErr = true ∧ (hstep plus s b).1.version = s.version + 1 := by
  obtain ⟨hct, _⟩ := (needsReload_iff plus s.lastErr b).1 hre
  -- the batch is `updateNginxConf` on a failed `ReplaceFiles`: every field can be read off
  have hu : (hstep plus s b).2 = updateNginxConf plus b (s.version + 1) := hstep_conf plus s b hre
  rw [updateNginxConf, hf] at hu
  have he : (hstep plus s b).2.err = true := by rw [hu]; rfl
  refine ⟨he, ?_, ?_, ?_, ?_, ?_, by rw [hstep_lastErr, if_neg hct, he],
    by rw [hstep_version, if_neg hct]⟩ <;> rw [hu] <;> rfl

/-- satisfiable: ENOENT after the version file, as third batch of a sequence -/
example :
    let good (n : Int) : Oracle := ⟨[.present], 5, .pid 7, .content 1, true, [.content 2], [.ver n], 5⟩
    let s := (hrun false H.init [⟨.clusterState, 4, 0, .ok, good 1, true⟩, ⟨.noChange, 0, 0, .ok, good 0, true⟩]).1
    let r := hstep false s ⟨.endpointsOnly, 6, 1, .failed .notExist 4, good 2, true⟩
    s.ready = true ∧ r.2.err = true ∧ r.2.reloadVersion = none ∧ r.2.fileErr = some .notExist ∧
      r.2.written = some 4 ∧ r.1.lastErr = true ∧ r.1.version = 2 := by decide +kernel

/-- `batch_ok_iff`, one step from ANY state: the remembered result (`h.latestReloadResult.Error == nil`)
is "ok" after a batch iff the batch needed no apply and the previous result was ok, or its apply
transaction satisfied `ApplyOk` (all files written ∧ `reload_ok_iff`'s right-hand side for the version
`s.version + 1` ∧ Plus API; Plus endpoints-only WITH the previous result ok: API alone — since
/repo c94173a a remembered failure sends that arm through files + reload as well). -/
theorem batch_ok_iff (plus : Bool) (s : H) (b : Batch) :
    (hstep plus s b).1.lastErr = false ↔
      (b.ct = .noChange ∧ s.lastErr = false) ∨
      (b.ct ≠ .noChange ∧ ApplyOk plus s.lastErr b (s.version + 1)) :=
  hstep_lastErr_false_iff plus s b

/-- `batch_ok_iff` for batch `i` of ANY sequence from start-up (arbitrary change types, files
outcomes, oracle scripts, Plus outcomes): the version it applies is one more than the number of
applies before it — failed ones included. -/
theorem batch_ok_iff_seq (plus : Bool) (pre : List Batch) (b : Batch) :
    (hrun plus H.init (pre ++ [b])).1.lastErr = false ↔
      (b.ct = .noChange ∧ (hrun plus H.init pre).1.lastErr = false) ∨
      (b.ct ≠ .noChange ∧ ApplyOk plus (hrun plus H.init pre).1.lastErr b (applies pre + 1)) := by
  rw [hrun_snoc_state, batch_ok_iff, run_version]
  simp [H.init]

/-- Closed form: after ANY sequence the remembered result is ok iff no configuration was built yet,
or the LAST batch that built one satisfied `ApplyOk` for its version.  In particular batches that
change nothing never reset (or set) it. -/
theorem result_ok_iff_last_apply (plus : Bool) (bs : List Batch) :
    (hrun plus H.init bs).1.lastErr = false ↔
      match lastApply bs with
      | none => True
      | some (pre, b) => ApplyOk plus (hrun plus H.init pre).1.lastErr b (applies pre + 1) := by
  have h := run_lastErr_false_iff plus bs H.init
  cases hl : lastApply bs with
  | none => rw [hl] at h; simpa [H.init] using h
  | some px => obtain ⟨pre, b⟩ := px; rw [hl] at h; simpa [H.init, run_version] using h

/-- `lastApply` really is the last batch that built a configuration -/
theorem lastApply_is_last (bs : List Batch) :
    match lastApply bs with
    | none => ∀ b ∈ bs, b.ct = .noChange
    | some (pre, x) => x.ct ≠ .noChange ∧ ∃ post, bs = pre ++ x :: post ∧ ∀ b ∈ post, b.ct = .noChange :=
  lastApply_spec bs

/-- `latestReloadResult` is never touched by batches that apply nothing: from any state, through any
number of `NoChange` batches, result, version and emitted actions stay put. -/
theorem result_not_reset_by_noChange (plus : Bool) (s : H) (bs : List Batch)
    (h : ∀ b ∈ bs, b.ct = .noChange) :
    (hrun plus s bs).1.lastErr = s.lastErr ∧ (hrun plus s bs).1.version = s.version ∧
      ∀ e ∈ (hrun plus s bs).2, e = Emit.none :=
  run_noChange_keeps plus bs s h

/-- a failed apply followed by three idle batches: still failed; then a good apply: ok -/
example :
    let good (n : Int) : Oracle := ⟨[.present], 5, .pid 7, .content 1, true, [.content 2], [.ver n], 5⟩
    let idle : Batch := ⟨.noChange, 0, 0, .ok, good 0, true⟩
    let bs : List Batch := [⟨.clusterState, 4, 0, .failed .io 2, good 1, true⟩, idle, idle, idle]
    (hrun false H.init bs).1.lastErr = true ∧
    (hrun false H.init (bs ++ [⟨.clusterState, 4, 0, .ok, good 2, true⟩])).1.lastErr = false := by decide +kernel

/-! ### The newest configuration runs (full strength since /repo c94173a)

Former known finding `C12:stale_after_plus_endpoints_only_update` (= C07's
`C07:programmed:true-after-failed-reload:stale-after-plus-endpoints-only-update`), FIXED by /repo
c94173a: the Plus endpoints-only arm took the API path alone whatever was remembered, so a
successful API call overwrote a failed `latestReloadResult`.  Since c94173a it asks
`h.cfg.plus && h.latestReloadResult.Error == nil`. -/

/-- Whenever the remembered result is ok, the newest configuration that went through `updateNginxConf`
(batch `b`, no later batch did) was written completely and the master runs its version — the version
that counts ALL earlier applies.  Full strength: OSS and Plus, every sequence. -/
theorem newest_config_runs (plus : Bool) (pre post : List Batch) (b : Batch)
    (hb : (hstep plus (hrun plus H.init pre).1 b).2.generated = true)
    (hpost : ∀ e ∈ (hrun plus (hrun plus H.init (pre ++ [b])).1 post).2, e.generated = false)
    (hok : (hrun plus H.init (pre ++ b :: post)).1.lastErr = false) :
    b.files = .ok ∧ Running b.oracle (applies pre + 1 : Nat) := by
  rw [show pre ++ b :: post = (pre ++ [b]) ++ post by simp, hrun_append] at hok
  simp only at hok
  have h1 : (hrun plus H.init (pre ++ [b])).1.lastErr = false := by
    cases h : (hrun plus H.init (pre ++ [b])).1.lastErr with
    | false => rfl
    | true => rw [run_lastErr_stays plus post _ h hpost] at hok; cases hok
  rw [hrun_snoc_state] at h1
  have := hstep_generated_ok plus _ b hb h1
  rwa [run_version, show H.init.version = 0 from rfl, Nat.zero_add] at this

/-- the hypotheses stated on the batches: `b` needed a reload and only idle batches followed -/
theorem newest_config_runs_idle (plus : Bool) (pre post : List Batch) (b : Batch)
    (hb : needsReload plus (hrun plus H.init pre).1.lastErr b = true)
    (hpost : ∀ b' ∈ post, b'.ct = .noChange)
    (hok : (hrun plus H.init (pre ++ b :: post)).1.lastErr = false) :
    b.files = .ok ∧ Running b.oracle (applies pre + 1 : Nat) := by
  apply newest_config_runs plus pre post b ?_ ?_ hok
  · rw [hstep_conf plus _ b hb]; rfl
  · intro e he
    rw [(run_noChange_keeps plus post _ hpost).2.2 e he]; rfl

/-- hypotheses satisfiable on Plus: failed ClusterStateChange, then an EndpointsOnlyChange — which now
goes through files + reload (version 2) —, then an idle batch -/
example :
    let o (n : Int) : Oracle := ⟨[.present], 5, .pid 7, .content 1, true, [.content 2], [.ver n], 5⟩
    let pre : List Batch := [⟨.clusterState, 4, 1, .failed .permission 2, o 1, true⟩]
    let b : Batch := ⟨.endpointsOnly, 4, 0, .ok, o 2, true⟩
    let post : List Batch := [⟨.noChange, 0, 0, .ok, o 0, true⟩]
    (hstep true (hrun true H.init pre).1 b).2.generated = true ∧
    (hstep true (hrun true H.init pre).1 b).2.reloadVersion = some 2 ∧
    ((hrun true (hrun true H.init (pre ++ [b])).1 post).2.map (·.generated)) = [false] ∧
    (hrun true H.init (pre ++ b :: post)).1.lastErr = false := by decide +kernel

/-- PRE-FIX witness (regression detector; `hrunPreFix` is NOT the code): ClusterStateChange whose
`ReplaceFiles` fails (version 1 never loaded), then EndpointsOnlyChange whose Plus API call succeeds:
under the old arm the remembered result is ok, the issued Gateway conditions keep `Programmed=True`,
the pod is ready and nothing was ever reloaded.  The repaired model on the same input: the second
batch goes through `updateNginxConf` and reloads with version 2. -/
theorem plus_endpoints_only_resets_failed_reload :
    let o : Oracle := ⟨[.present], 5, .pid 7, .content 1, true, [.content 2], [.ver 1], 5⟩
    let bs : List Batch := [⟨.clusterState, 4, 1, .failed .permission 2, o, true⟩,
                            ⟨.endpointsOnly, 0, 0, .ok, o, true⟩]
    (hrunPreFix true H.init bs).1.lastErr = false ∧ (hrunPreFix true H.init bs).1.ready = true ∧
    ((hrunPreFix true H.init bs).2.map (·.reloadVersion)) = [none, none] ∧
    issued (hrunPreFix true H.init bs).1 .gateway [⟨"Programmed", "True", "Programmed"⟩] =
      [⟨"Programmed", "True", "Programmed"⟩] ∧
    ((hrun true H.init bs).2.map (·.reloadVersion)) = [none, some 2] ∧
    (hrun true H.init bs).1.lastErr = true := by
  decide +kernel

/-- the pre-fix variant differs from the code only on Plus endpoints-only batches that follow a
remembered failure -/
theorem prefix_variant_differs_only_after_failure (plus : Bool) (s : H) (b : Batch)
    (h : ¬(plus = true ∧ s.lastErr = true ∧ b.ct = .endpointsOnly)) :
    hstepPreFix plus s b = hstep plus s b := by
  -- `apply` looks at the remembered result only in the Plus endpoints-only arm
  have key : apply plus false b (s.version + 1) = apply plus s.lastErr b (s.version + 1) := by
    cases hl : s.lastErr with
    | false => rfl
    | true =>
      cases hp : plus with
      | false => rfl
      | true =>
        have hc : b.ct ≠ .endpointsOnly := fun hc => h ⟨hp, hl, hc⟩
        unfold apply
        split <;> first | rfl | contradiction
  unfold hstepPreFix hstep applyPreFix
  rw [key]

/-- OSS: full strength — every batch that builds a configuration goes through `updateNginxConf`. -/
theorem newest_config_runs_oss (bs : List Batch) (hok : (hrun false H.init bs).1.lastErr = false) :
    match lastApply bs with
    | none => True
    | some (pre, b) => b.files = .ok ∧ Running b.oracle (applies pre + 1 : Nat) := by
  have h := (result_ok_iff_last_apply false bs).1 hok
  cases hl : lastApply bs with
  | none => trivial
  | some px =>
    obtain ⟨pre, b⟩ := px
    rw [hl] at h
    simp only [ApplyOk, apiOnly, Bool.false_and, Bool.false_eq_true, if_false] at h
    exact ⟨h.1, h.2.1⟩

/-- Versions count ALL applies, failed ones included: after any sequence `h.version` is the number of
batches that built a configuration, and the `i`-th such batch is handed exactly `i`. -/
theorem version_counts_all_applies (plus : Bool) (pre post : List Batch) (b : Batch)
    (hct : b.ct ≠ .noChange) :
    (hrun plus H.init (pre ++ b :: post)).1.version = applies pre + 1 + applies post ∧
    (hstep plus (hrun plus H.init pre).1 b).2.cfgVersion = some (applies pre + 1) ∧
    (needsReload plus (hrun plus H.init pre).1.lastErr b = true → b.files = .ok →
      (hstep plus (hrun plus H.init pre).1 b).2.reloadVersion = some (applies pre + 1)) := by
  refine ⟨?_, ?_, ?_⟩
  · rw [run_version, applies_append]; simp [applies, hct, H.init]; omega
  · rw [hstep_cfgVersion, run_version]; simp [hct, H.init]
  · intro hre hf
    rw [hstep_conf plus _ b hre, run_version]
    simp [updateNginxConf, applyTx_reload, hf, H.init]

/-- strictly increasing across a failed apply: the next apply gets a NEW number -/
theorem version_after_failed_apply (plus : Bool) (pre mid : List Batch) (b1 b2 : Batch)
    (h1 : b1.ct ≠ .noChange) (h2 : b2.ct ≠ .noChange) :
    ∃ v1 v2, (hstep plus (hrun plus H.init pre).1 b1).2.cfgVersion = some v1 ∧
      (hstep plus (hrun plus H.init (pre ++ b1 :: mid)).1 b2).2.cfgVersion = some v2 ∧ v1 < v2 := by
  refine ⟨applies pre + 1, applies (pre ++ b1 :: mid) + 1, ?_, ?_, ?_⟩
  · exact (version_counts_all_applies plus pre [] b1 h1).2.1
  · exact (version_counts_all_applies plus (pre ++ b1 :: mid) [] b2 h2).2.1
  · rw [applies_append]; simp [applies, h1]; omega

example :
    let o : Oracle := ⟨[], 0, .readErr, .err, false, [], [], 0⟩
    ((hrun true H.init [⟨.clusterState, 3, 0, .failed .notExist 1, o, true⟩, ⟨.noChange, 0, 0, .ok, o, true⟩,
        ⟨.endpointsOnly, 0, 0, .ok, o, false⟩, ⟨.clusterState, 3, 2, .ok, o, true⟩]).2.map (·.cfgVersion)) =
      [some 1, none, some 2, some 3] := by decide +kernel

/-- Exact characterisation of readiness over ANY sequence from start-up, in terms of the environment:
the pod is ready iff the very first batch needed no change, or SOME batch's apply satisfied
`ApplyOk` for its version.  (So ready is latched, and a failed first apply blocks `NoChange`.) -/
theorem ready_iff (plus : Bool) (bs : List Batch) :
    (hrun plus H.init bs).1.ready = true ↔
      (∃ b rest, bs = b :: rest ∧ b.ct = .noChange) ∨
      (∃ pre b post, bs = pre ++ b :: post ∧ b.ct ≠ .noChange ∧ ApplyOk plus (hrun plus H.init pre).1.lastErr b (applies pre + 1)) := by
  have key : ∀ pre b, b.ct ≠ .noChange → ((hstep plus (hrun plus H.init pre).1 b).2.err = false ↔
      ApplyOk plus (hrun plus H.init pre).1.lastErr b (applies pre + 1)) := by
    intro pre b hb
    rw [hstep_err_false_iff plus _ b hb, run_version]
    simp [H.init]
  rw [run_ready_iff]
  constructor
  · rintro (h | ⟨b, rest, rfl, hn, _⟩ | ⟨pre, b, post, rfl, hb, he⟩)
    · cases h
    · exact .inl ⟨b, rest, rfl, hn⟩
    · exact .inr ⟨pre, b, post, rfl, hb, (key pre b hb).1 he⟩
  · rintro (⟨b, rest, rfl, hn⟩ | ⟨pre, b, post, rfl, hb, hok⟩)
    · exact .inr (.inl ⟨b, rest, rfl, hn, rfl⟩)
    · exact .inr (.inr ⟨pre, b, post, rfl, hb, (key pre b hb).2 hok⟩)

/-- latch, stated on the characterisation: extending a sequence never makes a ready pod unready -/
theorem ready_latched_seq (plus : Bool) (bs more : List Batch)
    (h : (hrun plus H.init bs).1.ready = true) : (hrun plus H.init (bs ++ more)).1.ready = true := by
  rw [hrun_append]
  exact run_ready_latch plus more _ h

/-- OSS: ready after a first batch that built a configuration means: some batch wrote ALL its files
and the master ran its version. -/
theorem ready_means_files_written_and_running (b : Batch) (rest : List Batch) (hct : b.ct ≠ .noChange)
    (h : (hrun false H.init (b :: rest)).1.ready = true) :
    ∃ pre x post, b :: rest = pre ++ x :: post ∧ x.files = .ok ∧
      Running x.oracle (applies pre + 1 : Nat) := by
  rcases (ready_iff false (b :: rest)).1 h with ⟨b', rest', hbs, hn⟩ | ⟨pre, x, post, hbs, _, hok⟩
  · simp only [List.cons.injEq] at hbs
    obtain ⟨rfl, _⟩ := hbs
    exact absurd hn hct
  · simp only [ApplyOk, apiOnly, Bool.false_and, Bool.false_eq_true, if_false] at hok
    exact ⟨pre, x, post, hbs, hok.1, hok.2.1⟩

/-- first apply fails (EIO after two files): idle batches do not make the pod ready, a good apply does -/
example :
    let good (n : Int) : Oracle := ⟨[.present], 5, .pid 7, .content 1, true, [.content 2], [.ver n], 5⟩
    let idle : Batch := ⟨.noChange, 0, 0, .ok, good 0, true⟩
    (hstates false H.init [⟨.clusterState, 4, 3, .failed .io 2, good 1, true⟩, idle, idle,
        ⟨.endpointsOnly, 4, 0, .ok, good 2, true⟩, idle]).map (·.ready) = [false, false, false, true, true] := by
  decide +kernel

/-! ### `failure_surfaces` over the composed model -/

/-- For batch `b` after ANY history `pre`: if it had to apply a configuration and its transaction did
not satisfy `ApplyOk` (some file not written — any error class —, the master does not run the
version, or the Plus API failed), then statuses ARE issued in this batch, computed from the NEW
remembered result, and for EVERY target and EVERY list of conditions collected before, the issued
conditions report exactly the failure condition for its type (`Programmed=False/Invalid`,
`Accepted=False/GatewayNotProgrammed`) and leave the other types as they would have been. -/
theorem failure_surfaces_composed (plus : Bool) (pre : List Batch) (b : Batch) (t : Target)
    (cs : List Cond) (hct : b.ct ≠ .noChange) (hfail : ¬ ApplyOk plus (hrun plus H.init pre).1.lastErr b (applies pre + 1)) :
    (hstep plus (hrun plus H.init pre).1 b).2.statusUpdated = true ∧
    (hrun plus H.init (pre ++ [b])).1.lastErr = true ∧
    lookup (failureCond t).type (issued (hrun plus H.init (pre ++ [b])).1 t cs) = some (failureCond t) ∧
    (∀ x ∈ issued (hrun plus H.init (pre ++ [b])).1 t cs,
        x.type = (failureCond t).type → x = failureCond t ∧ x.status = "False") ∧
    (∀ ty, ty ≠ (failureCond t).type →
        lookup ty (issued (hrun plus H.init (pre ++ [b])).1 t cs) = lookup ty (dedup cs)) := by
  have hl : (hrun plus H.init (pre ++ [b])).1.lastErr = true := by
    cases h : (hrun plus H.init (pre ++ [b])).1.lastErr with
    | true => rfl
    | false =>
      rcases (batch_ok_iff_seq plus pre b).1 h with ⟨hn, _⟩ | ⟨_, hok⟩
      · exact absurd hn hct
      · exact absurd hok hfail
  obtain ⟨h1, h2, h3⟩ := fold_true t cs
  rw [issued, hl]
  refine ⟨(hstep_status_iff plus _ b).2 hct, rfl, h1, fun x hx ht => ?_, h3⟩
  obtain rfl := h2 x hx ht
  exact ⟨rfl, by cases t <;> rfl⟩

/-- conversely a batch whose transaction satisfied `ApplyOk` adds no failure condition -/
theorem success_issues_plain_conditions (plus : Bool) (pre : List Batch) (b : Batch) (t : Target)
    (cs : List Cond) (hct : b.ct ≠ .noChange) (hok : ApplyOk plus (hrun plus H.init pre).1.lastErr b (applies pre + 1)) :
    issued (hrun plus H.init (pre ++ [b])).1 t cs = dedup cs := by
  have hl := (batch_ok_iff_seq plus pre b).2 (Or.inr ⟨hct, hok⟩)
  simp [issued, fold, hl]

/-- the stored failure outlives any number of idle batches (other status writers, e.g. the Gateway
Service upsert, keep reporting it) -/
theorem failure_persists_through_idle (plus : Bool) (pre idle : List Batch) (b : Batch) (t : Target)
    (cs : List Cond) (hct : b.ct ≠ .noChange) (hfail : ¬ ApplyOk plus (hrun plus H.init pre).1.lastErr b (applies pre + 1))
    (hidle : ∀ x ∈ idle, x.ct = .noChange) :
    lookup (failureCond t).type (issued (hrun plus H.init (pre ++ [b] ++ idle)).1 t cs) =
      some (failureCond t) := by
  have h := (failure_surfaces_composed plus pre b t cs hct hfail).2.2.1
  rw [hrun_append]
  simp only [issued] at h ⊢
  rw [(run_noChange_keeps plus idle _ hidle).1]
  exact h

/-- hypotheses satisfiable, all four classes: ENOENT after the version file, on a listener that said
Programmed=True -/
example :
    let good (n : Int) : Oracle := ⟨[.present], 5, .pid 7, .content 1, true, [.content 2], [.ver n], 5⟩
    let pre : List Batch := [⟨.clusterState, 4, 0, .ok, good 1, true⟩]
    (∀ c : ErrClass,
      issued (hrun false H.init (pre ++ [⟨.clusterState, 5, 1, .failed c 3, good 2, true⟩])).1 .listener
        [⟨"Accepted", "True", "Accepted"⟩, ⟨"Programmed", "True", "Programmed"⟩] =
        [⟨"Accepted", "True", "Accepted"⟩, ⟨"Programmed", "False", "Invalid"⟩]) ∧
    issued (hrun false H.init (pre ++ [⟨.clusterState, 5, 1, .ok, good 2, true⟩])).1 .listener
        [⟨"Accepted", "True", "Accepted"⟩, ⟨"Programmed", "True", "Programmed"⟩] =
        [⟨"Accepted", "True", "Accepted"⟩, ⟨"Programmed", "True", "Programmed"⟩] := by
  refine ⟨?_, by decide⟩
  intro c; cases c <;> decide

end NGF.C12
