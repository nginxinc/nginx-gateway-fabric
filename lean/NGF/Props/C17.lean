import NGF.Model.Ownership
import NGF.Model.OwnershipJudge
import NGF.Proofs.Ownership
import NGF.Generated.OwnershipFacts
import NGF.Proofs.PipelineForeign
import NGF.Proofs.CharLits
/-
C17 — resources owned by other controllers are neither configured nor written to.

The theorems of namespace `NGF.Ownership` are about `buildGraph` / `targets` (Model/Ownership.lean), the functions the
driver runs and the correspondence compares with the real `graph.Graph` and UpdateRequests; the notion of
"foreign" (`foreignClass/Gw/Route/Policy/Btp`, `Droppable`) is the one the judge applies to the real outputs. They are
followed by the class store of a long-lived controller (`runClasses`, histories of GatewayClass events) and by the
expectation lemmas over the facts regenerated from /repo. Namespace `NGF.Props.C17Pipeline` at the end states foreign
non-interference for the generated configuration `genR` of the pipeline model, in set form (Proofs/PipelineForeign.lean).
-/
namespace NGF.Ownership
namespace G
export NGF.Generated.OwnershipFacts (processGatewayClassesBody buildGraphHead processGatewaysArgs buildRoutesArgs
  buildL4RoutesArgs processPoliciesArgs buildReferencedServicesArgs graphLiteralFields gatewayExistsBody
  processGatewaysBody getAllNsNamesBody findGatewayForParentRefBody buildSectionNameRefsBody
  buildRoutesForGatewaysBody buildL4RoutesForGatewaysBody buildHTTPRouteHead buildGRPCRouteHead buildTLSRouteHead
  buildReferencedServicesBody processPoliciesBody attachPoliciesBody attachPolicyToGatewayBody refGroupKindBody
  gatewayGroupKindExpr hrGroupKindExpr grpcGroupKindExpr serviceGroupKindExpr kindGateway kindHTTPRoute
  kindGRPCRoute kindService maxAncestors ngfPolicyAncestorsFullBody processBackendTLSPoliciesGuard
  gatewayClassPredicateCreate gatewayClassPredicateUpdate gatewayClassPredicateDelete updateStatusesPrepareCalls
  prepareRequestsLoops setterKeepLoops buildHTTPRouteBody buildGRPCRouteBody snippetsFilterResolverBody
  snippetsFilterReferencedWrites processRouteRuleFiltersBody snippetsFilterResolverCalls buildSnippetsForContextBody
  updateStatusesGroupCalls groupAllExceptGateways groupGateways)
end G

/-- **Non-interference.** Let `t` be ANY cluster state and remove from it any set of foreign objects
(`Droppable`: GatewayClasses naming another controller and another name, Gateways of other classes, Routes
none of whose parentRefs resolves to one of our Gateways, policies and BackendTLSPolicies targeting nothing of
ours). The ownership core of the graph — winner/ignored classes and Gateways, the Routes and policies that
enter the graph with their resolved parentRefs/targetRefs, the referenced Services — and therefore the set of
status-request targets are the same with and without them (`t = s ∪ X`, `t.restrict k = s`, any interleaving). -/
theorem noninterference_foreign (cfg : Cfg) (t : State) (k : Keep) (h : Droppable cfg t k) :
    buildGraph cfg (t.restrict k) = buildGraph cfg t ∧
    targets (buildGraph cfg (t.restrict k)) = targets (buildGraph cfg t) := by
  have := buildGraph_restrict cfg t k h
  exact ⟨this, by rw [this]⟩

/-- **No request for foreign objects.** Every UpdateRequest target is the key of an object of the state that
is not foreign: a class naming our controller, a Gateway of the configured class, a Route with a parentRef
resolving to such a Gateway, a policy with a target among those (or a Service such a Route resolves to). -/
theorem no_request_for_foreign (cfg : Cfg) (s : State) :
    ∀ tg ∈ targets (buildGraph cfg s), tg.OwnIn cfg s :=
  targets_own cfg s

/-- With unique object keys (Kubernetes), the targets are disjoint from the foreign objects — in particular
from every removable set `X` of `noninterference_foreign`. -/
theorem foreign_objects_get_no_request (cfg : Cfg) (s : State) (hu : KeysUnique s) :
    (∀ c ∈ s.classes, foreignClass cfg c = true → Target.cls c.name ∉ targets (buildGraph cfg s)) ∧
    (∀ g ∈ s.gws, foreignGw cfg g = true → Target.gw g.nn ∉ targets (buildGraph cfg s)) ∧
    (∀ r ∈ s.routes, foreignRoute cfg s r = true → Target.route r.kind r.nn ∉ targets (buildGraph cfg s)) ∧
    (∀ p ∈ s.policies, foreignPolicy cfg s p = true → Target.policy p.gvk p.nn ∉ targets (buildGraph cfg s)) ∧
    (∀ b ∈ s.btps, foreignBtp cfg s b = true → Target.btp b.nn ∉ targets (buildGraph cfg s)) := by
  obtain ⟨u1, u2, u3, u4, u5⟩ := hu
  refine ⟨?_, ?_, ?_, ?_, ?_⟩
  · intro c hc hf hin
    obtain ⟨c', hc', hn, hf'⟩ := targets_own cfg s _ hin
    exact foreign_unique (·.name) u1 hc' hc hn hf hf'
  · intro g hg hf hin
    obtain ⟨g', hg', hn, hf'⟩ := targets_own cfg s _ hin
    exact foreign_unique (·.nn) u2 hg' hg hn hf hf'
  · intro r hr hf hin
    obtain ⟨r', hr', hk, hn, hf'⟩ := targets_own cfg s _ hin
    exact foreign_unique (fun r : Route => (r.kind, r.nn)) u3 hr' hr (by rw [hk, hn]) hf hf'
  · intro p hp hf hin
    obtain ⟨p', hp', hk, hn, hf'⟩ := targets_own cfg s _ hin
    exact foreign_unique (fun p : Policy => (p.gvk, p.nn)) u4 hp' hp (by rw [hk, hn]) hf hf'
  · intro b hb hf hin
    obtain ⟨b', hb', hn, hf'⟩ := targets_own cfg s _ hin
    exact foreign_unique (·.nn) u5 hb' hb hn hf hf'

/-- **A foreign-controlled configured-name class disables everything.** If a GatewayClass with the configured
name exists and no class of that name names our controller, the graph is `&Graph{}` (no class, no Gateway,
no Route, no policy, not even our other classes) and NO UpdateRequest is issued. -/
theorem foreign_class_disables_all (cfg : Cfg) (s : State)
    (hex : ∃ c ∈ s.classes, c.name = cfg.gcName)
    (hfor : ∀ c ∈ s.classes, c.name = cfg.gcName → c.ctlr ≠ cfg.ctlr) :
    buildGraph cfg s = Core.empty ∧ targets (buildGraph cfg s) = [] := by
  have hd : disabled cfg s = true :=
    (disabled_iff cfg s).mpr ⟨hex, fun ⟨c, hc, hn, ho⟩ => hfor c hc hn ho⟩
  rw [buildGraph_disabled cfg s hd]
  exact ⟨rfl, rfl⟩

/-- … and only then: the early return is taken exactly in that situation. -/
theorem disabled_exactly (cfg : Cfg) (s : State) : disabled cfg s = true ↔
    (∃ c ∈ s.classes, c.name = cfg.gcName) ∧ ¬ ∃ c ∈ s.classes, c.name = cfg.gcName ∧ c.ctlr = cfg.ctlr :=
  disabled_iff cfg s

/-- **What is ours is written to even when it loses**: every class naming our controller (the winner gets its
conditions, the others `Conflict`), every Gateway of the configured class (winner or ignored), every Route
with a parentRef resolving to one of them, every SnippetsFilter. -/
theorem ignored_but_ours_get_status (cfg : Cfg) (s : State) (hd : disabled cfg s = false) :
    (∀ c ∈ s.classes, c.ctlr = cfg.ctlr → Target.cls c.name ∈ targets (buildGraph cfg s)) ∧
    (∀ g ∈ s.gws, g.cls = cfg.gcName → Target.gw g.nn ∈ targets (buildGraph cfg s)) ∧
    (∀ r ∈ s.routes, refsOwnGw cfg s r = true → Target.route r.kind r.nn ∈ targets (buildGraph cfg s)) ∧
    (∀ n ∈ s.snippets, Target.snippet n ∈ targets (buildGraph cfg s)) := by
  refine ⟨fun c hc ho => own_class_target cfg s hd c hc ho, fun g hg ho => own_gw_target cfg s hd g hg ho,
    fun r hr ho => own_route_target cfg s hd r hr ho, ?_⟩
  intro n hn
  rw [buildGraph_unfold]; simp only [hd]
  exact (mem_targets _ _).2 hn

/-- A Route enters the graph exactly when one of its parentRefs resolves to a Gateway of the configured class
(winner or ignored) — the mechanism of route_common.go:254-324. -/
theorem route_in_graph_iff (cfg : Cfg) (s : State) (r : Route) :
    (buildRoute (allNsNames (processGateways s.gws cfg.gcName)) r).isSome = true ↔ refsOwnGw cfg s r = true := by
  rw [buildRoute_isSome, resolvesSome_eq_refsOwn]

/-- Gateways are selected by class NAME alone: the controller of their class plays no role (a Gateway of the
configured class is ours even when that class object is absent). -/
theorem gateways_by_class_name (cfg : Cfg) (s : State) (cs : List GwClass) :
    processGateways s.gws cfg.gcName = processGateways ({ s with classes := cs }).gws cfg.gcName := rfl

/-! ## SnippetsFilters: `Referenced` — and with it the main/http/server/location snippets — only through OUR routes

A SnippetsFilter is NGF's own CRD: every one of them gets a status request (`ignored_but_ours_get_status`). What
must not happen is that a Route of another controller switches its snippets on. -/

/-- A SnippetsFilter is `Referenced` only if an HTTPRoute/GRPCRoute of ITS namespace that references one of our
Gateways names it in an ExtensionRef filter. -/
theorem referenced_snippet_has_own_route (cfg : Cfg) (s : State) (sf : NN)
    (h : sf ∈ (buildGraph cfg s).refSnippets) :
    sf ∈ s.snippets ∧ ∃ r ∈ s.routes, foreignRoute cfg s r = false ∧ r.kind ≠ .tls ∧ r.nn.ns = sf.ns ∧
      sf.name ∈ r.sfRefs := by
  rw [buildGraph_unfold] at h
  split at h
  · simp [Core.empty] at h
  · simp only [referencedSnippets, List.mem_filter] at h
    refine ⟨h.1, ?_⟩
    rcases List.any_eq_true.mp h.2 with ⟨r, hr, hm⟩
    obtain ⟨h1, h2, h3, h4⟩ := marksSnippet_resolves _ r sf hm
    exact ⟨r, hr, by simp [foreignRoute, ← resolvesSome_eq_refsOwn, h1], h2, h3, h4⟩

/-- **A SnippetsFilter referenced only by foreign (or unattached) Routes is not `Referenced`** — whatever those
routes' rules, hostnames and filters are, and whatever else the cluster holds. -/
theorem snippet_referenced_only_by_foreign_not_referenced (cfg : Cfg) (s : State) (sf : NN)
    (h : ∀ r ∈ s.routes, r.nn.ns = sf.ns → sf.name ∈ r.sfRefs → foreignRoute cfg s r = true) :
    sf ∉ (buildGraph cfg s).refSnippets := by
  intro hin
  obtain ⟨_, r, hr, hf, _, hns, hname⟩ := referenced_snippet_has_own_route cfg s sf hin
  simp [h r hr hns hname] at hf

/-- Removing any set of SnippetsFilters that are not `Referenced` (e.g. referenced by foreign routes only) changes
nothing in the graph but their own entries: every other `Referenced` flag, the routes, the policies and all
other request targets stay. -/
theorem unreferenced_snippets_removable (cfg : Cfg) (t : State) (k : NN → Bool)
    (h : ∀ sf ∈ t.snippets, k sf = false → sf ∉ (buildGraph cfg t).refSnippets) :
    buildGraph cfg { t with snippets := t.snippets.filter k } =
      { buildGraph cfg t with snippets := (buildGraph cfg t).snippets.filter k } := by
  rw [buildGraph_unfold] at h
  rw [buildGraph_unfold, buildGraph_unfold]
  have hd : disabled cfg { t with snippets := t.snippets.filter k } = disabled cfg t := rfl
  rw [hd]
  split
  · rfl
  · rename_i hdis
    simp only [hdis] at h
    have e : referencedSnippets (allNsNames (gPg cfg t)) t.routes (t.snippets.filter k) =
        referencedSnippets (allNsNames (gPg cfg t)) t.routes t.snippets := by
      unfold referencedSnippets
      apply filter_filter_of_imp
      intro sf hsf hq
      cases hk : k sf with
      | true => rfl
      | false =>
        exact absurd (by simp only [referencedSnippets]; exact List.mem_filter.mpr ⟨hsf, hq⟩) (h sf hsf hk)
    show Core.mk _ _ _ _ _ _ _ _ _ _ = Core.mk _ _ _ _ _ _ _ _ _ _
    congr 1

/-- **Witness against the order-of-checks variant** (seeded change C17-r3m1: the rules — and with them the
ExtensionRef resolver — are processed before the route is checked for a parentRef to one of our Gateways):
`default/xsf` is named only by `xr`, a Route of the other controller's Gateway; the variant marks it
`Referenced` (its main/http snippets would enter OUR nginx.conf), the model of the code does not. -/
theorem early_rule_processing_marks_foreign_snippet :
    (⟨"default", "xsf"⟩ : NN) ∈ referencedSnippetsEarly (allNsNames (processGateways exState.gws exCfg.gcName))
      exState.routes exState.snippets ∧
    (⟨"default", "xsf"⟩ : NN) ∉ (buildGraph exCfg exState).refSnippets ∧
    (∀ r ∈ exState.routes, "xsf" ∈ r.sfRefs → foreignRoute exCfg exState r = true) :=
  ⟨by decide +kernel, by rw [buildGraph_exState]; decide +kernel, by decide +kernel⟩

/-- `sf` is referenced by our `hr0` (and by the foreign `xr`): Referenced; `team-a/sf` has the same name in another
namespace: not Referenced -/
example : (buildGraph exCfg exState).refSnippets = [⟨"default", "sf"⟩] := by rw [buildGraph_exState]
example : ∀ r ∈ exState.routes, r.nn.ns = "default" → "xsf" ∈ r.sfRefs → foreignRoute exCfg exState r = true := by decide +kernel
example : (buildGraph exCfg { exState with snippets := exState.snippets.filter (fun n => n.name != "xsf") }).snippets.length = 2 := by
  decide +kernel

/-! ## Policy relevance: API group AND kind of every targetRef (`switch refGroupKind(ref.Group, ref.Kind)`) -/

/-- A targetRef is kept by `processPolicies` only if its (group, kind) — `refGroupKind`, the empty group read as
`core` — is one of the four the controller serves: Gateway API Gateway / HTTPRoute / GRPCRoute or core Service. For EVERY
kind the group takes part in the comparison. -/
theorem policy_target_needs_group_and_kind (pg : PGws) (routes : List RouteG) (svcs : List NN) (ns : String) (t : TRef)
    (h : targetOk pg routes svcs ns t = true) :
    refGroupKind t = gatewayGroupKind ∨ refGroupKind t = hrGroupKind ∨ refGroupKind t = grpcGroupKind ∨
      refGroupKind t = serviceGroupKind := by
  unfold targetOk at h
  simp only at h
  by_cases h1 : refGroupKind t = gatewayGroupKind
  · exact .inl h1
  · by_cases h2 : refGroupKind t = hrGroupKind
    · exact .inr (.inl h2)
    · by_cases h3 : refGroupKind t = grpcGroupKind
      · exact .inr (.inr (.inl h3))
      · by_cases h4 : refGroupKind t = serviceGroupKind
        · exact .inr (.inr (.inr h4))
        · simp [h1, h2, h3, h4] at h

/-- … hence a policy ALL of whose targetRefs carry another (group, kind) stays out of the graph and gets no status
request — whatever names its refs collide with (`foreignPolicy`: the specification side agrees). -/
theorem foreign_group_policy_not_in_graph (cfg : Cfg) (s : State) (p : Policy)
    (h : ∀ t ∈ p.targets, refGroupKind t ≠ gatewayGroupKind ∧ refGroupKind t ≠ hrGroupKind ∧
      refGroupKind t ≠ grpcGroupKind ∧ refGroupKind t ≠ serviceGroupKind) :
    foreignPolicy cfg s p = true ∧ ∀ pg routes svcs, processPolicy pg routes svcs p = none := by
  constructor
  · unfold foreignPolicy
    simp only [Bool.not_eq_true', List.any_eq_false]
    intro t ht
    obtain ⟨h1, h2, h3, h4⟩ := h t ht
    simp [ownTarget, h1, h2, h3, h4]
  · intro pg routes svcs
    unfold processPolicy
    have : p.targets.filter (targetOk pg routes svcs p.nn.ns) = [] := by
      rw [List.filter_eq_nil_iff]
      intro t ht hok
      obtain ⟨h1, h2, h3, h4⟩ := h t ht
      rcases policy_target_needs_group_and_kind pg routes svcs p.nn.ns t hok with e | e | e | e
      · exact h1 e
      · exact h2 e
      · exact h3 e
      · exact h4 e
    simp [this]

/-- a Knative `Service`, another project's `HTTPRoute` and `Gateway`, a group differing in case only, each named like an
object of ours (`svc0` is the backend of our `hr0`), alone or next to a core ref to an absent Service -/
def exForeignGroupPolicies : List Policy :=
  [⟨"UpstreamSettingsPolicy", ⟨"default", "xusp-grp"⟩, [⟨"serving.knative.dev", "Service", "svc0"⟩], 0⟩,
   ⟨"UpstreamSettingsPolicy", ⟨"default", "xusp-mixed"⟩, [⟨"serving.knative.dev", "Service", "svc0"⟩, ⟨"core", "Service", "absent"⟩], 0⟩,
   ⟨"UpstreamSettingsPolicy", ⟨"default", "xusp-case"⟩, [⟨"Core", "Service", "svc0"⟩], 0⟩,
   ⟨"ObservabilityPolicy", ⟨"default", "xobs-grp"⟩, [⟨"example.com", "HTTPRoute", "hr0"⟩], 0⟩,
   ⟨"ClientSettingsPolicy", ⟨"default", "xcsp-grp"⟩, [⟨"networking.istio.io", "Gateway", "gw0"⟩], 0⟩]

theorem buildGraph_exForeignGroupPolicies :
    buildGraph exCfg { exState with policies := exState.policies ++ exForeignGroupPolicies } = buildGraph exCfg exState := by
  rw [buildGraph_exState]; decide +kernel

example : exForeignGroupPolicies.all (fun p =>
    let s := { exState with policies := exState.policies ++ exForeignGroupPolicies }
    foreignPolicy exCfg s p && !(targets (buildGraph exCfg s)).contains (Target.policy p.gvk p.nn)) = true := by
  simp only [buildGraph_exForeignGroupPolicies, buildGraph_exState]
  decide +kernel
example : buildGraph exCfg { exState with policies := exState.policies ++ exForeignGroupPolicies } = buildGraph exCfg exState :=
  buildGraph_exForeignGroupPolicies
example : (exForeignGroupPolicies.take 1).all (fun p => p.targets.all fun t =>
    decide (refGroupKind t ≠ gatewayGroupKind ∧ refGroupKind t ≠ hrGroupKind ∧ refGroupKind t ≠ grpcGroupKind ∧
      refGroupKind t ≠ serviceGroupKind)) = true := by decide +kernel

/-- **Witness against the kind-only variant** (seeded change C17-r4m1): `targetOkKindOnly` keeps the Knative-group
`Service` ref named like the backend `default/svc0` of our `hr0` — the UpstreamSettingsPolicy would enter the graph, be
attached to OUR upstream and get its status written — while the model of the code (`targetOk`) drops it; for the Gateway
and HTTPRoute kinds the variant still compares the group. -/
theorem kind_only_dispatch_admits_foreign_group_service :
    let pg := processGateways exState.gws exCfg.gcName
    let routes := exState.routes.filterMap (buildRoute (allNsNames pg))
    let svcs := referencedServices pg.winner routes
    targetOkKindOnly pg routes svcs "default" ⟨"serving.knative.dev", "Service", "svc0"⟩ = true ∧
    targetOk pg routes svcs "default" ⟨"serving.knative.dev", "Service", "svc0"⟩ = false ∧
    targetOkKindOnly pg routes svcs "default" ⟨"example.com", "HTTPRoute", "hr0"⟩ = false ∧
    targetOkKindOnly pg routes svcs "default" ⟨"networking.istio.io", "Gateway", "gw0"⟩ = false ∧
    (∀ t ∈ [(⟨gatewayGroup, "Gateway", "gw0"⟩ : TRef), ⟨gatewayGroup, "HTTPRoute", "hr0"⟩, ⟨"core", "Service", "svc0"⟩, ⟨"", "Service", "svc0"⟩],
      targetOkKindOnly pg routes svcs "default" t = targetOk pg routes svcs "default" t) := by decide +kernel

/-! ## Histories: the class store of a long-lived controller (`GatewayClassPredicate`)

`BuildGraph` is a function of the controller's current store, so over a history the theorems above hold for
every batch with `s` = the store. The store of GatewayClasses, however, is fed through
`GatewayClassPredicate`, and differs from the cluster. `runClasses` replays any history of class events
(create/update/delete) through the predicate. -/

/-- For every history of class events, store and cluster hold the same classes of OUR controller: the winner
and the ignored-but-ours classes are always what a fresh start would see. -/
theorem long_lived_store_agrees_on_our_classes (ctlr : String) (start : List GwClass) (es : List ClsEv)
    (hu : NamesUnique start) (c : GwClass) (hc : c.ctlr = ctlr) :
    c ∈ (runClasses ctlr (start, start) es).2 ↔ c ∈ (runClasses ctlr (start, start) es).1 :=
  (run_agree ctlr es start start hu (fun _ _ => Iff.rfl)).2 c hc

/-- **Witness that `foreign_class_disables_all` fails over histories** (DESIGN §7 row 23, known finding
`C17:foreign-configured-class-created-while-running`): the configured-name class is created with a foreign
controller while the controller runs. The Create event is filtered, the store never learns of the class, the
early return is not taken, and status requests keep going to the Gateways and Routes of that class — while the
cluster state is one in which a fresh controller issues none. -/
theorem long_lived_misses_foreign_configured_class :
    let start : List GwClass := [⟨"nginx-2", exCfg.ctlr⟩]
    let r := runClasses exCfg.ctlr (start, start) [.put ⟨"nginx", "example.com/other"⟩]
    disabled exCfg { exState with classes := r.1 } = true ∧
    targets (buildGraph exCfg { exState with classes := r.1 }) = [] ∧
    disabled exCfg { exState with classes := r.2 } = false ∧
    Target.gw ⟨"default", "gw0"⟩ ∈ targets (buildGraph exCfg { exState with classes := r.2 }) ∧
    Target.route .http ⟨"default", "hr0"⟩ ∈ targets (buildGraph exCfg { exState with classes := r.2 }) := by
  decide +kernel

/-- **`foreign_class_disables_all` over histories, partial**: for every history of class events, if store and
cluster agree on whether the configured name is taken (the excluded region is exactly a configured-name class
of a foreign controller created — or left behind by a filtered delete — while the controller runs), the
long-lived controller takes the early return exactly when a fresh one would. -/
theorem foreign_class_disables_all_long_lived_partial (cfg : Cfg) (s : State) (start : List GwClass)
    (es : List ClsEv) (hu : NamesUnique start)
    (hname : (∃ c ∈ (runClasses cfg.ctlr (start, start) es).2, c.name = cfg.gcName) ↔
             (∃ c ∈ (runClasses cfg.ctlr (start, start) es).1, c.name = cfg.gcName)) :
    disabled cfg { s with classes := (runClasses cfg.ctlr (start, start) es).2 } =
    disabled cfg { s with classes := (runClasses cfg.ctlr (start, start) es).1 } := by
  apply disabled_congr
  · intro x hx
    exact ((run_agree cfg.ctlr es start start hu (fun _ _ => Iff.rfl)).2 x hx).symm
  · exact hname

/-- flips of the configured-name class between our controller and another one ARE delivered (Update passes
when the old or the new object names us): the store follows the cluster -/
example : (runClasses exCfg.ctlr ([⟨"nginx", exCfg.ctlr⟩], [⟨"nginx", exCfg.ctlr⟩])
    [.put ⟨"nginx", "example.com/other"⟩, .put ⟨"nginx", exCfg.ctlr⟩, .put ⟨"nginx", "example.com/other"⟩]) =
    ([⟨"nginx", "example.com/other"⟩], [⟨"nginx", "example.com/other"⟩]) := by decide +kernel
/-- … but a delete of the class while it names another controller is not: the store keeps it (the controller
stays disabled although a fresh one would not be; no foreign write results, this one is C01's) -/
example : (runClasses exCfg.ctlr ([⟨"nginx", exCfg.ctlr⟩], [⟨"nginx", exCfg.ctlr⟩])
    [.put ⟨"nginx", "example.com/other"⟩, .del "nginx"]) = ([], [⟨"nginx", "example.com/other"⟩]) := by decide +kernel
example : NamesUnique [⟨"nginx-2", exCfg.ctlr⟩] := by unfold NamesUnique; decide +kernel

/-! ## Non-vacuity: a concrete mixed cluster (`exState`, Proofs/Ownership.lean) -/

example : Droppable exCfg exState exKeep := by unfold Droppable; decide +kernel
example : (exState.restrict exKeep).routes.length = 3 ∧ exState.routes.length = 5 := by decide +kernel
example : buildGraph exCfg exState ≠ Core.empty := by rw [buildGraph_exState]; decide +kernel
example : (targets (buildGraph exCfg exState)).map Target.key =
    ["cls/nginx", "cls/nginx-2", "gw/default/gw0", "gw/default/gw1", "HTTPRoute/default/hr0", "HTTPRoute/default/hr1",
     "GRPCRoute/default/shared", "pol:ClientSettingsPolicy/default/csp", "pol:ObservabilityPolicy/default/obs",
     "btp/default/btp", "snip/default/sf", "snip/default/xsf", "snip/team-a/sf"] := by
  rw [buildGraph_exState]; decide +kernel
example : KeysUnique exState := by unfold KeysUnique; decide +kernel
example : foreignRoute exCfg exState ⟨.http, ⟨"default", "xr"⟩, [⟨none, none, none, "fgw", none⟩], true, [⟨"default", "xsvc"⟩], true, []⟩ = true := by
  decide +kernel
/-- a parentRef with an explicit EMPTY group (the core API group), or group "core", is not a reference to a
Gateway API Gateway even when kind/namespace/name are those of our Gateway: such a Route is foreign, stays out
of the graph and gets no request -/
example : [some "", some "core", some "example.com"].all (fun g =>
    let r : Route := ⟨.http, ⟨"default", "xr2"⟩, [⟨g, some "Gateway", some "default", "gw0", none⟩], true, [], true, []⟩
    foreignRoute exCfg { exState with routes := r :: exState.routes } r &&
    (buildRoute (allNsNames (processGateways exState.gws exCfg.gcName)) r).isNone &&
    !(targets (buildGraph exCfg { exState with routes := r :: exState.routes })).contains (Target.route .http ⟨"default", "xr2"⟩)) = true := by
  decide +kernel
/-- a BackendTLSPolicy targeting a Service none of our routes resolves to is not ours to write, whatever its spec -/
example : foreignBtp exCfg exState ⟨⟨"default", "xbtp"⟩, ["xsvc"], false⟩ = true ∧
    Target.btp ⟨"default", "xbtp"⟩ ∉ targets (buildGraph exCfg exState) := by rw [buildGraph_exState]; decide +kernel
/-- the ObservabilityPolicy keeps only its target that is in the graph -/
example : ((buildGraph exCfg exState).policies.map (·.targets.length)) = [1, 1, 1] := by rw [buildGraph_exState]; rfl
example : disabled exCfg exDisabled = true ∧ targets (buildGraph exCfg exDisabled) = [] := by decide +kernel
example : disabled exCfg exState = false := by decide +kernel
/-- without the early return the same cluster would be configured: the guard is what disables it -/
example : (processGateways exDisabled.gws exCfg.gcName).winner.isSome = true := by decide +kernel

/-! ## The judge agrees with the theorems on the example -/

example : foreignKeys exCfg exState =
    ["cls/other", "gw/default/fgw", "HTTPRoute/default/xr", "TLSRoute/team-a/tr", "pol:ClientSettingsPolicy/default/xcsp",
     "pol:UpstreamSettingsPolicy/default/xusp", "btp/default/xbtp"] := by decide +kernel

/-! ## Expectation lemmas over the facts regenerated from /repo (any textual change of the anchored
statements breaks the corresponding lemma) -/

theorem facts_constants :
    G.kindGateway = gatewayKind ∧
    G.gatewayGroupKindExpr = "v1.GroupName + \"/\" + kinds.Gateway" ∧ gatewayGroupKind = gatewayGroup ++ "/" ++ G.kindGateway ∧
    hrGroupKind = gatewayGroup ++ "/" ++ G.kindHTTPRoute ∧ grpcGroupKind = gatewayGroup ++ "/" ++ G.kindGRPCRoute ∧
    serviceGroupKind = "core" ++ "/" ++ G.kindService ∧ G.maxAncestors = maxAncestors := by
  -- the concatenations are compared as character lists (Proofs/CharLits)
  refine ⟨rfl, rfl, ?_, ?_, ?_, ?_, rfl⟩ <;> apply String.toList_inj.1 <;>
    simp only [String.toList_append, gatewayGroupKind, hrGroupKind, grpcGroupKind, serviceGroupKind, gatewayGroup,
      G.kindGateway, G.kindHTTPRoute, G.kindGRPCRoute, G.kindService] <;>
    decide_chars

theorem facts_processGatewayClassesBody : G.processGatewayClassesBody =
  ["processedGwClasses := processedGatewayClasses{}",
   "var gcExists bool",
   "for _, gc := range gcs { if gc.Name == gcName { gcExists = true if string(gc.Spec.ControllerName) == controllerName { processedGwClasses.Winner = gc } } else if string(gc.Spec.ControllerName) == controllerName { if processedGwClasses.Ignored == nil { processedGwClasses.Ignored = make(map[types.NamespacedName]*v1.GatewayClass) } processedGwClasses.Ignored[client.ObjectKeyFromObject(gc)] = gc } }",
   "return processedGwClasses, gcExists"] := rfl

theorem facts_buildGraphHead : G.buildGraphHead =
  ["var globalSettings *policies.GlobalSettings",
   "processedGwClasses, gcExists := processGatewayClasses(state.GatewayClasses, gcName, controllerName)",
   "if gcExists && processedGwClasses.Winner == nil { return &Graph{} }"] := rfl

theorem facts_processGatewaysArgs : G.processGatewaysArgs =
  ["state.Gateways",
   "gcName"] := rfl

theorem facts_buildRoutesArgs : G.buildRoutesArgs =
  ["validators.HTTPFieldsValidator",
   "state.HTTPRoutes",
   "state.GRPCRoutes",
   "processedGws.GetAllNsNames()",
   "npCfg",
   "processedSnippetsFilters"] := rfl

theorem facts_buildL4RoutesArgs : G.buildL4RoutesArgs =
  ["state.TLSRoutes",
   "processedGws.GetAllNsNames()",
   "state.Services",
   "npCfg",
   "refGrantResolver"] := rfl

theorem facts_processPoliciesArgs : G.processPoliciesArgs =
  ["state.NGFPolicies",
   "validators.PolicyValidator",
   "processedGws",
   "routes",
   "referencedServices",
   "globalSettings"] := rfl

theorem facts_buildReferencedServicesArgs : G.buildReferencedServicesArgs =
  ["routes",
   "l4routes",
   "gw"] := rfl

theorem facts_graphLiteralFields : G.graphLiteralFields =
  ["GatewayClass: gc",
   "Gateway: gw",
   "Routes: routes",
   "L4Routes: l4routes",
   "IgnoredGatewayClasses: processedGwClasses.Ignored",
   "IgnoredGateways: processedGws.Ignored",
   "ReferencedServices: referencedServices",
   "BackendTLSPolicies: processedBackendTLSPolicies",
   "NGFPolicies: processedPolicies",
   "SnippetsFilters: processedSnippetsFilters"] := rfl

theorem facts_gatewayExistsBody : G.gatewayExistsBody =
  ["if winner == nil { return false }",
   "if client.ObjectKeyFromObject(winner) == gwNsName { return true }",
   "_, exists := ignored[gwNsName]",
   "return exists"] := rfl

theorem facts_processGatewaysBody : G.processGatewaysBody =
  ["referencedGws := make([]*v1.Gateway, 0, len(gws))",
   "for _, gw := range gws { if string(gw.Spec.GatewayClassName) != gcName { continue } referencedGws = append(referencedGws, gw) }",
   "if len(referencedGws) == 0 { return processedGateways{} }",
   "sort.Slice(referencedGws, func(i, j int) bool { return ngfsort.LessClientObject(referencedGws[i], referencedGws[j]) })",
   "ignoredGws := make(map[types.NamespacedName]*v1.Gateway)",
   "for _, gw := range referencedGws[1:] { ignoredGws[client.ObjectKeyFromObject(gw)] = gw }",
   "return processedGateways{ Winner: referencedGws[0], Ignored: ignoredGws, }"] := rfl

theorem facts_getAllNsNamesBody : G.getAllNsNamesBody =
  ["winnerCnt := 0",
   "if gws.Winner != nil { winnerCnt = 1 }",
   "length := winnerCnt + len(gws.Ignored)",
   "if length == 0 { return nil }",
   "allNsNames := make([]types.NamespacedName, 0, length)",
   "if gws.Winner != nil { allNsNames = append(allNsNames, client.ObjectKeyFromObject(gws.Winner)) }",
   "for nsName := range gws.Ignored { allNsNames = append(allNsNames, nsName) }",
   "return allNsNames"] := rfl

theorem facts_findGatewayForParentRefBody : G.findGatewayForParentRefBody =
  ["if ref.Kind != nil && *ref.Kind != kinds.Gateway { return types.NamespacedName{}, false }",
   "if ref.Group != nil && *ref.Group != v1.GroupName { return types.NamespacedName{}, false }",
   "ns := routeNamespace",
   "if ref.Namespace != nil { ns = string(*ref.Namespace) }",
   "for _, gw := range gatewayNsNames { if gw.Namespace == ns && gw.Name == string(ref.Name) { return gw, true } }",
   "return types.NamespacedName{}, false"] := rfl

theorem facts_buildSectionNameRefsBody : G.buildSectionNameRefsBody =
  ["sectionNameRefs := make([]ParentRef, 0, len(parentRefs))",
   "type key struct { gwNsName types.NamespacedName sectionName string }",
   "uniqueSectionsPerGateway := make(map[key]struct{})",
   "for i, p := range parentRefs { gw, found := findGatewayForParentRef(p, routeNamespace, gatewayNsNames) if !found { continue } var sectionName string if p.SectionName != nil { sectionName = string(*p.SectionName) } k := key{ gwNsName: gw, sectionName: sectionName, } if _, exist := uniqueSectionsPerGateway[k]; exist { return nil, fmt.Errorf(\"duplicate section name %q for Gateway %s\", sectionName, gw.String()) } uniqueSectionsPerGateway[k] = struct{}{} sectionNameRefs = append(sectionNameRefs, ParentRef{ Idx: i, Gateway: gw, SectionName: p.SectionName, Port: p.Port, }) }",
   "return sectionNameRefs, nil"] := rfl

theorem facts_buildRoutesForGatewaysBody : G.buildRoutesForGatewaysBody =
  ["if len(gatewayNsNames) == 0 { return nil }",
   "routes := make(map[RouteKey]*L7Route)",
   "http2disabled := isHTTP2Disabled(npCfg)",
   "for _, route := range httpRoutes { r := buildHTTPRoute(validator, route, gatewayNsNames, snippetsFilters) if r != nil { routes[CreateRouteKey(route)] = r } }",
   "for _, route := range grpcRoutes { r := buildGRPCRoute(validator, route, gatewayNsNames, http2disabled, snippetsFilters) if r != nil { routes[CreateRouteKey(route)] = r } }",
   "return routes"] := rfl

theorem facts_buildL4RoutesForGatewaysBody : G.buildL4RoutesForGatewaysBody =
  ["if len(gatewayNsNames) == 0 { return nil }",
   "routes := make(map[L4RouteKey]*L4Route)",
   "for _, route := range tlsRoutes { r := buildTLSRoute( route, gatewayNsNames, services, npCfg, resolver.refAllowedFrom(fromTLSRoute(route.Namespace)), ) if r != nil { routes[CreateRouteKeyL4(route)] = r } }",
   "return routes"] := rfl

theorem facts_buildHTTPRouteHead : G.buildHTTPRouteHead =
  ["r := &L7Route{ Source: ghr, RouteType: RouteTypeHTTP, }",
   "sectionNameRefs, err := buildSectionNameRefs(ghr.Spec.ParentRefs, ghr.Namespace, gatewayNsNames)",
   "if err != nil { r.Valid = false return r }",
   "if len(sectionNameRefs) == 0 { return nil }",
   "r.ParentRefs = sectionNameRefs"] := rfl

theorem facts_buildGRPCRouteHead : G.buildGRPCRouteHead =
  ["r := &L7Route{ Source: ghr, RouteType: RouteTypeGRPC, }",
   "sectionNameRefs, err := buildSectionNameRefs(ghr.Spec.ParentRefs, ghr.Namespace, gatewayNsNames)",
   "if err != nil { r.Valid = false return r }",
   "if len(sectionNameRefs) == 0 { return nil }",
   "r.ParentRefs = sectionNameRefs"] := rfl

theorem facts_buildTLSRouteHead : G.buildTLSRouteHead =
  ["r := &L4Route{ Source: gtr, }",
   "sectionNameRefs, err := buildSectionNameRefs(gtr.Spec.ParentRefs, gtr.Namespace, gatewayNsNames)",
   "if err != nil { r.Valid = false return r }",
   "if len(sectionNameRefs) == 0 { return nil }",
   "r.ParentRefs = sectionNameRefs"] := rfl

theorem facts_buildReferencedServicesBody : G.buildReferencedServicesBody =
  ["if gw == nil { return nil }",
   "referencedServices := make(map[types.NamespacedName]*ReferencedService)",
   "belongsToWinningGw := func(refs []ParentRef) bool { for _, ref := range refs { if ref.Gateway == client.ObjectKeyFromObject(gw.Source) { return true } } return false }",
   "addServicesForL7Routes := func(routeRules []RouteRule) { for _, rule := range routeRules { for _, ref := range rule.BackendRefs { if ref.SvcNsName != (types.NamespacedName{}) { referencedServices[ref.SvcNsName] = &ReferencedService{ Policies: nil, } } } } }",
   "addServicesForL4Routes := func(route *L4Route) { nsname := route.Spec.BackendRef.SvcNsName if nsname != (types.NamespacedName{}) { referencedServices[nsname] = &ReferencedService{ Policies: nil, } } }",
   "for _, route := range l7routes { if !route.Valid { continue } if !belongsToWinningGw(route.ParentRefs) { continue } addServicesForL7Routes(route.Spec.Rules) }",
   "for _, route := range l4Routes { if !route.Valid { continue } if !belongsToWinningGw(route.ParentRefs) { continue } addServicesForL4Routes(route) }",
   "if len(referencedServices) == 0 { return nil }",
   "return referencedServices"] := rfl

theorem facts_processPoliciesBody : G.processPoliciesBody =
  ["if len(pols) == 0 || gateways.Winner == nil { return nil }",
   "processedPolicies := make(map[PolicyKey]*Policy)",
   "for key, policy := range pols { var conds []conditions.Condition targetRefs := make([]PolicyTargetRef, 0, len(policy.GetTargetRefs())) targetedRoutes := make(map[types.NamespacedName]*L7Route) for _, ref := range policy.GetTargetRefs() { refNsName := types.NamespacedName{Name: string(ref.Name), Namespace: policy.GetNamespace()} switch refGroupKind(ref.Group, ref.Kind) { case gatewayGroupKind: if !gatewayExists(refNsName, gateways.Winner, gateways.Ignored) { continue } case hrGroupKind, grpcGroupKind: if route, exists := routes[routeKeyForKind(ref.Kind, refNsName)]; !exists { continue } else { targetedRoutes[client.ObjectKeyFromObject(route.Source)] = route } case serviceGroupKind: if _, exists := services[refNsName]; !exists { continue } default: continue } targetRefs = append(targetRefs, PolicyTargetRef{ Kind: ref.Kind, Group: ref.Group, Nsname: refNsName, }) } if len(targetRefs) == 0 { continue } overlapConds := checkTargetRoutesForOverlap(targetedRoutes, routes) conds = append(conds, overlapConds...) conds = append(conds, validator.Validate(policy, globalSettings)...) processedPolicies[key] = &Policy{ Source: policy, Valid: len(conds) == 0, Conditions: conds, TargetRefs: targetRefs, Ancestors: make([]PolicyAncestor, 0, len(targetRefs)), } }",
   "markConflictedPolicies(processedPolicies, validator)",
   "return processedPolicies"] := rfl

theorem facts_attachPoliciesBody : G.attachPoliciesBody =
  ["if g.Gateway == nil { return }",
   "for _, policy := range g.NGFPolicies { for _, ref := range policy.TargetRefs { switch ref.Kind { case kinds.Gateway: attachPolicyToGateway(policy, ref, g.Gateway, g.IgnoredGateways, ctlrName) case kinds.HTTPRoute, kinds.GRPCRoute: route, exists := g.Routes[routeKeyForKind(ref.Kind, ref.Nsname)] if !exists { continue } attachPolicyToRoute(policy, route, ctlrName) case kinds.Service: svc, exists := g.ReferencedServices[ref.Nsname] if !exists { continue } attachPolicyToService(policy, svc, g.Gateway, ctlrName) } } }"] := rfl

theorem facts_attachPolicyToGatewayBody : G.attachPolicyToGatewayBody =
  ["_, ignored := ignoredGateways[ref.Nsname]",
   "if !ignored && ref.Nsname != client.ObjectKeyFromObject(gw.Source) { return }",
   "ancestor := PolicyAncestor{ Ancestor: createParentReference(v1.GroupName, kinds.Gateway, ref.Nsname), }",
   "if ngfPolicyAncestorsFull(policy, ctlrName) { return }",
   "if ignored { ancestor.Conditions = []conditions.Condition{staticConds.NewPolicyTargetNotFound(\"TargetRef is ignored\")} policy.Ancestors = append(policy.Ancestors, ancestor) return }",
   "if !gw.Valid { ancestor.Conditions = []conditions.Condition{staticConds.NewPolicyTargetNotFound(\"TargetRef is invalid\")} policy.Ancestors = append(policy.Ancestors, ancestor) return }",
   "policy.Ancestors = append(policy.Ancestors, ancestor)",
   "gw.Policies = append(gw.Policies, policy)"] := rfl

theorem facts_refGroupKindBody : G.refGroupKindBody =
  ["if group == \"\" { return fmt.Sprintf(\"core/%s\", kind) }",
   "return fmt.Sprintf(\"%s/%s\", group, kind)"] := rfl

theorem facts_gatewayGroupKindExpr : G.gatewayGroupKindExpr =
  "v1.GroupName + \"/\" + kinds.Gateway" := rfl

theorem facts_hrGroupKindExpr : G.hrGroupKindExpr =
  "v1.GroupName + \"/\" + kinds.HTTPRoute" := rfl

theorem facts_grpcGroupKindExpr : G.grpcGroupKindExpr =
  "v1.GroupName + \"/\" + kinds.GRPCRoute" := rfl

theorem facts_serviceGroupKindExpr : G.serviceGroupKindExpr =
  "\"core\" + \"/\" + kinds.Service" := rfl

theorem facts_kindGateway : G.kindGateway =
  "Gateway" := rfl

theorem facts_kindHTTPRoute : G.kindHTTPRoute =
  "HTTPRoute" := rfl

theorem facts_kindGRPCRoute : G.kindGRPCRoute =
  "GRPCRoute" := rfl

theorem facts_kindService : G.kindService =
  "Service" := rfl

theorem facts_maxAncestors : G.maxAncestors =
  16 := rfl

theorem facts_ngfPolicyAncestorsFullBody : G.ngfPolicyAncestorsFullBody =
  ["currAncestors := policy.Source.GetPolicyStatus().Ancestors",
   "var nonNGFControllerCount int",
   "for _, ancestor := range currAncestors { if ancestor.ControllerName != v1.GatewayController(ctlrName) { nonNGFControllerCount++ } }",
   "return nonNGFControllerCount+len(policy.Ancestors) >= maxAncestors"] := rfl

theorem facts_processBackendTLSPoliciesGuard : G.processBackendTLSPoliciesGuard =
  ["if len(backendTLSPolicies) == 0 || gateway == nil { return nil }"] := rfl

theorem facts_gatewayClassPredicateCreate : G.gatewayClassPredicateCreate =
  ["if e.Object == nil { return false }",
   "gc, ok := e.Object.(*v1.GatewayClass)",
   "if !ok { return false }",
   "return string(gc.Spec.ControllerName) == gcp.ControllerName"] := rfl

theorem facts_gatewayClassPredicateUpdate : G.gatewayClassPredicateUpdate =
  ["if e.ObjectOld != nil { gcOld, ok := e.ObjectOld.(*v1.GatewayClass) if ok && string(gcOld.Spec.ControllerName) == gcp.ControllerName { return true } }",
   "if e.ObjectNew != nil { gcNew, ok := e.ObjectNew.(*v1.GatewayClass) if ok && string(gcNew.Spec.ControllerName) == gcp.ControllerName { return true } }",
   "return false"] := rfl

theorem facts_gatewayClassPredicateDelete : G.gatewayClassPredicateDelete =
  ["if e.Object == nil { return false }",
   "gc, ok := e.Object.(*v1.GatewayClass)",
   "if !ok { return false }",
   "return string(gc.Spec.ControllerName) == gcp.ControllerName"] := rfl

theorem facts_updateStatusesPrepareCalls : G.updateStatusesPrepareCalls =
  ["status.PrepareGatewayClassRequests(gr.GatewayClass, gr.IgnoredGatewayClasses)",
   "status.PrepareRouteRequests(gr.L4Routes, gr.Routes)",
   "status.PrepareBackendTLSPolicyRequests(gr.BackendTLSPolicies)",
   "status.PrepareNGFPolicyRequests(gr.NGFPolicies)",
   "status.PrepareSnippetsFilterRequests(gr.SnippetsFilters)",
   "status.PrepareGatewayRequests(gr.Gateway, gr.IgnoredGateways)"] := rfl

theorem facts_prepareRequestsLoops : G.prepareRequestsLoops =
  ["PrepareRouteRequests: range l4routes",
   "PrepareRouteRequests: range routes",
   "PrepareGatewayClassRequests: if gc != nil",
   "PrepareGatewayClassRequests: range ignoredGwClasses",
   "PrepareGatewayRequests: if gateway != nil",
   "PrepareGatewayRequests: range ignoredGateways",
   "PrepareNGFPolicyRequests: range policies",
   "PrepareNGFPolicyRequests: skip if len(pol.Ancestors) == 0",
   "PrepareBackendTLSPolicyRequests: range policies",
   "PrepareBackendTLSPolicyRequests: skip if !pol.IsReferenced || pol.Ignored",
   "PrepareSnippetsFilterRequests: range snippetsFilters"] := rfl

theorem facts_setterKeepLoops : G.setterKeepLoops =
  ["newHTTPRouteStatusSetter: range hr.Status.Parents if string(os.ControllerName) != gatewayCtlrName newStatus.Parents = append(newStatus.Parents, os)",
   "newTLSRouteStatusSetter: range tr.Status.Parents if string(os.ControllerName) != gatewayCtlrName newStatus.Parents = append(newStatus.Parents, os)",
   "newGRPCRouteStatusSetter: range gr.Status.Parents if string(os.ControllerName) != gatewayCtlrName newStatus.Parents = append(newStatus.Parents, os)",
   "newBackendTLSPolicyStatusSetter: range btp.Status.Ancestors if string(os.ControllerName) != gatewayCtlrName ancestors = append(ancestors, os)",
   "newNGFPolicyStatusSetter: range prevStatus.Ancestors if string(as.ControllerName) != gatewayCtlrName ancestors = append(ancestors, as)",
   "newSnippetsFilterStatusSetter: range sf.Status.Controllers if string(status.ControllerName) != gatewayCtlrName controllerStatuses = append(controllerStatuses, status)"] := rfl

/-! ### facts behind the SnippetsFilter `Referenced` model and the leadership composition

`sf.Referenced = true` is the ONLY write of the flag (`facts_snippetsFilterReferencedWrites`), inside the resolver
closure, which is called from `processRouteRuleFilters` only, reached from `buildHTTPRoute`/`buildGRPCRoute` through
`process*RouteRules` — in both AFTER `if len(sectionNameRefs) == 0 { return nil }` (`facts_build{HTTP,GRPC}RouteBody`:
the statement order is pinned, which is what the seeded change C17-r3m1 alters). `updateStatuses` makes exactly the
two `UpdateGroup` calls `opsOf` models, Gateway requests in the second. -/

theorem facts_buildHTTPRouteBody : G.buildHTTPRouteBody =
  ["r := &L7Route{ Source: ghr, RouteType: RouteTypeHTTP, }",
   "sectionNameRefs, err := buildSectionNameRefs(ghr.Spec.ParentRefs, ghr.Namespace, gatewayNsNames)",
   "if err != nil { r.Valid = false return r }",
   "if len(sectionNameRefs) == 0 { return nil }",
   "r.ParentRefs = sectionNameRefs",
   "if err := validateHostnames( ghr.Spec.Hostnames, field.NewPath(\"spec\").Child(\"hostnames\"), ); err != nil { r.Valid = false r.Conditions = append(r.Conditions, staticConds.NewRouteUnsupportedValue(err.Error())) return r }",
   "r.Spec.Hostnames = ghr.Spec.Hostnames",
   "r.Attachable = true",
   "rules, valid, conds := processHTTPRouteRules( ghr.Spec.Rules, validator, getSnippetsFilterResolverForNamespace(snippetsFilters, r.Source.GetNamespace()), )",
   "r.Spec.Rules = rules",
   "r.Conditions = append(r.Conditions, conds...)",
   "r.Valid = valid",
   "return r"] := rfl

theorem facts_buildGRPCRouteBody : G.buildGRPCRouteBody =
  ["r := &L7Route{ Source: ghr, RouteType: RouteTypeGRPC, }",
   "sectionNameRefs, err := buildSectionNameRefs(ghr.Spec.ParentRefs, ghr.Namespace, gatewayNsNames)",
   "if err != nil { r.Valid = false return r }",
   "if len(sectionNameRefs) == 0 { return nil }",
   "r.ParentRefs = sectionNameRefs",
   "if http2disabled { r.Valid = false msg := \"HTTP2 is disabled - cannot configure GRPCRoutes\" r.Conditions = append(r.Conditions, staticConds.NewRouteUnsupportedConfiguration(msg)) return r }",
   "if err := validateHostnames( ghr.Spec.Hostnames, field.NewPath(\"spec\").Child(\"hostnames\"), ); err != nil { r.Valid = false r.Conditions = append(r.Conditions, staticConds.NewRouteUnsupportedValue(err.Error())) return r }",
   "r.Spec.Hostnames = ghr.Spec.Hostnames",
   "r.Attachable = true",
   "rules, valid, conds := processGRPCRouteRules( ghr.Spec.Rules, validator, getSnippetsFilterResolverForNamespace(snippetsFilters, r.Source.GetNamespace()), )",
   "r.Spec.Rules = rules",
   "r.Valid = valid",
   "r.Conditions = append(r.Conditions, conds...)",
   "return r"] := rfl

theorem facts_snippetsFilterResolverBody : G.snippetsFilterResolverBody =
  ["if len(snippetsFilters) == 0 { return nil }",
   "if ref.Group != ngfAPI.GroupName || ref.Kind != kinds.SnippetsFilter { return nil }",
   "sf := snippetsFilters[types.NamespacedName{Namespace: ns, Name: string(ref.Name)}]",
   "if sf == nil { return nil }",
   "sf.Referenced = true",
   "return &ExtensionRefFilter{SnippetsFilter: sf, Valid: sf.Valid}"] := rfl

theorem facts_snippetsFilterReferencedWrites : G.snippetsFilterReferencedWrites =
  ["snippets_filter.go: sf.Referenced = true"] := rfl

theorem facts_processRouteRuleFiltersBody : G.processRouteRuleFiltersBody =
  ["errors := routeRuleErrors{}",
   "valid := true",
   "for i, f := range filters { filterPath := path.Index(i) validateErrs := validateFilter(validator, f, filterPath) if len(validateErrs) > 0 { errors.invalid = append(errors.invalid, validateErrs...) valid = false continue } if f.FilterType == FilterExtensionRef && f.ExtensionRef != nil { resolved := resolveExtRefFunc(*f.ExtensionRef) if resolved == nil { err := field.NotFound(filterPath.Child(\"extensionRef\"), f.ExtensionRef) errors.resolve = append(errors.resolve, err) valid = false continue } if !resolved.Valid { err := field.Invalid( filterPath.Child(\"extensionRef\"), f.ExtensionRef, \"referenced filter is invalid. See filter status for more details.\", ) errors.resolve = append(errors.resolve, err) valid = false continue } filters[i].ResolvedExtensionRef = resolved } }",
   "return RouteRuleFilters{Valid: valid, Filters: filters}, errors"] := rfl

theorem facts_snippetsFilterResolverCalls : G.snippetsFilterResolverCalls =
  ["httproute.go buildHTTPRoute: getSnippetsFilterResolverForNamespace(snippetsFilters, r.Source.GetNamespace())",
   "grpcroute.go buildGRPCRoute: getSnippetsFilterResolverForNamespace(snippetsFilters, r.Source.GetNamespace())",
   "common_filter.go processRouteRuleFilters: resolveExtRefFunc(*f.ExtensionRef)"] := rfl

theorem facts_buildSnippetsForContextBody : G.buildSnippetsForContextBody =
  ["if len(snippetFilters) == 0 { return nil }",
   "snippetsForContext := make([]Snippet, 0)",
   "for _, filter := range snippetFilters { if !filter.Valid || !filter.Referenced { continue } snippetValue, ok := filter.Snippets[nc] if !ok { continue } snippetsForContext = append(snippetsForContext, Snippet{ Name: createSnippetName(nc, client.ObjectKeyFromObject(filter.Source)), Contents: snippetValue, }) }",
   "return snippetsForContext"] := rfl

theorem facts_updateStatusesGroupCalls : G.updateStatusesGroupCalls =
  ["append(reqs, gcReqs...)",
   "append(reqs, routeReqs...)",
   "append(reqs, polReqs...)",
   "append(reqs, ngfPolReqs...)",
   "append(reqs, snippetsFilterReqs...)",
   "h.cfg.statusUpdater.UpdateGroup(ctx, groupAllExceptGateways, reqs...)",
   "h.cfg.statusUpdater.UpdateGroup(ctx, groupGateways, gwReqs...)"] := rfl

theorem facts_groupAllExceptGateways : G.groupAllExceptGateways =
  "all-graphs-except-gateways" := rfl

theorem facts_groupGateways : G.groupGateways =
  "gateways" := rfl

/-- the position of the resolver inside build{HTTP,GRPC}Route: after the parentRef check (`rulesProcessed`) -/
theorem facts_resolver_after_parentref_check :
    (G.buildHTTPRouteBody.idxOf "if len(sectionNameRefs) == 0 { return nil }" <
      G.buildHTTPRouteBody.idxOf "rules, valid, conds := processHTTPRouteRules( ghr.Spec.Rules, validator, getSnippetsFilterResolverForNamespace(snippetsFilters, r.Source.GetNamespace()), )") ∧
    (G.buildGRPCRouteBody.idxOf "if len(sectionNameRefs) == 0 { return nil }" <
      G.buildGRPCRouteBody.idxOf "rules, valid, conds := processGRPCRouteRules( ghr.Spec.Rules, validator, getSnippetsFilterResolverForNamespace(snippetsFilters, r.Source.GetNamespace()), )") ∧
    G.buildHTTPRouteBody.idxOf "rules, valid, conds := processHTTPRouteRules( ghr.Spec.Rules, validator, getSnippetsFilterResolverForNamespace(snippetsFilters, r.Source.GetNamespace()), )" < G.buildHTTPRouteBody.length ∧
    G.buildGRPCRouteBody.idxOf "rules, valid, conds := processGRPCRouteRules( ghr.Spec.Rules, validator, getSnippetsFilterResolverForNamespace(snippetsFilters, r.Source.GetNamespace()), )" < G.buildGRPCRouteBody.length := by
  -- The two statements are lines 3 and 8 (9 for GRPC) of the body: found there by `rfl`, which compares the
  -- literals as written; evaluating the equality of a long string with itself is slow.
  have h := idxOf_lt_idxOf (l := G.buildHTTPRouteBody) (m := 3) (n := 8) rfl rfl ?_ ?_ (by decide)
  have g := idxOf_lt_idxOf (l := G.buildGRPCRouteBody) (m := 3) (n := 9) rfl rfl ?_ ?_ (by decide)
  · exact ⟨h.1, g.1, h.2, g.2⟩
  all_goals
    simp only [facts_buildHTTPRouteBody, facts_buildGRPCRouteBody, List.take, List.forall_mem_cons, List.not_mem_nil,
      false_imp_iff, implies_true, and_true]
    decide_chars

end NGF.Ownership

/-! ## Foreign non-interference over the PIPELINE model with references (`genR = gen ∘ resolve`)

`NGF.Pipeline.gen` (Model/Pipeline.lean, C02) is the model of graph → dataplane → NGINX configuration for the HTTP
fragment, `NGF.PipelineRefs.resolve` (Model/PipelineRefs.lean, C06) the model of backendRef resolution with Services
and ReferenceGrants; `genR c` is compared with the REAL http.conf on every in-fragment case (C02 `pipeline`, C06 `refs`,
and this property's `frag` stream on both sides of every pair). The theorems below are the SET form of C02's
`noninterference_foreign_fragment`: a whole foreign set X mixed into the cluster in ANY arrival order
(`Mixed`: `List.Perm` of the concatenations, per kind). Helper lemmas: Proofs/PipelineForeign.lean. -/
namespace NGF.Props.C17Pipeline
open NGF.Pipeline NGF.PipelineRefs NGF.PipelineForeign

/-- **Set form, meaning.** For ALL clusters `c` and ALL foreign sets X (`Foreign c x`: GatewayClasses of other names,
Gateways of other classes, Routes attached to no listener of the served Gateway — every parentRef names another or an
unknown Gateway or an unknown section, or the namespace is not allowed, or the route is invalid —, Services no
backendRef of a route of ours names, ReferenceGrants that permit no backendRef of a route of ours), with `c'` = the
objects of `c` and X in ANY order: NGINX answers every request under the configuration of `c'` as under that of `c`.
Hypotheses: Kubernetes key uniqueness in `c'` (Gateways, Routes, Services) and no empty match path in `c`. -/
theorem noninterference_foreign_set (c : ScenarioR) (x : XSet) (c' : ScenarioR) (hm : Mixed c x c')
    (hf : Foreign c x) (hk : KeyInj c'.gateways) (hrk : RouteKeysNodup (resolve c').routes)
    (hsk : SvcKeysNodup c'.services) (hp : PathsOKR c) :
    ∀ q, nginxEvalConf (genR c') q = nginxEvalConf (genR c) q :=
  genR_mixed_meaning hm hf hk hrk hsk hp

/-- **Set form, configuration.** … and the two configurations are equal up to the order of the default-server ports, of
the servers and of the locations of each server. -/
theorem noninterference_foreign_set_equiv (c : ScenarioR) (x : XSet) (c' : ScenarioR) (hm : Mixed c x c')
    (hf : Foreign c x) (hk : KeyInj c'.gateways) (hrk : RouteKeysNodup (resolve c').routes)
    (hsk : SvcKeysNodup c'.services) : Conf.equiv (genR c) (genR c') :=
  genR_mixed_equiv hm hf hk hrk hsk

/-- When the foreign objects arrive after ours (X appended) the configuration is literally the same. -/
theorem noninterference_foreign_set_appended (c : ScenarioR) (x : XSet) (hf : Foreign c x)
    (hn : SvcKeysNodup (c.services ++ x.services)) : genR (ext c x) = genR c :=
  genR_ext c x hf hn

/-- **Referenced Services.** `Graph.ReferencedServices` (the relevance filter of Service/EndpointSlice events) of `c ∪ X`
is that of `c` up to order — provided no Route of X is in the graph on behalf of the served Gateway. -/
theorem referencedServices_foreign_set (c : ScenarioR) (x : XSet) (c' : ScenarioR) (hm : Mixed c x c')
    (hf : Foreign c x) (hk : KeyInj c'.gateways)
    (hx : ∀ g, winner (resolve c) = some g → ∀ r ∈ x.routes, inGraph g r = false) :
    (referencedServices c').Perm (referencedServices c) :=
  referencedServices_mixed hm hf hk hx

/-- the served Gateway of `c ∪ X` is the served Gateway of `c` -/
theorem served_gateway_foreign_set (c : ScenarioR) (x : XSet) (c' : ScenarioR) (hm : Mixed c x c')
    (hf : Foreign c x) (hk : KeyInj c'.gateways) : winner (resolve c') = winner (resolve c) :=
  winner_mixed hm hf hk

/-- **A foreign-controlled configured class disables all configuration**: if no GatewayClass with the configured name
names our controller — in particular when the class with that name names another controller — the generated
configuration is empty (no default server, no server), whatever Gateways, Routes, Services and grants exist. -/
theorem foreign_class_disables_all_gen (c : ScenarioR)
    (h : ∀ k ∈ c.classes, (k.name == c.cls) = true → (k.ctlr == c.ctlr) = false) :
    genR c = { ports := [], servers := [] } ∧ ∀ q, nginxEvalConf (genR c) q = .refused := by
  have hw : winner (resolve c) = none := if_neg fun hco => by
    obtain ⟨k, hk, hkk⟩ := List.any_eq_true.1 hco
    rw [Bool.and_eq_true] at hkk
    exact absurd ((h k hk hkk.1).symm.trans hkk.2) Bool.false_ne_true
  have e : genR c = { ports := [], servers := [] } := by
    unfold genR gen; rw [hw]
  refine ⟨e, fun q => ?_⟩
  rw [e]; simp [nginxEvalConf]

/-- the executable check of the hypothesis `Foreign` (evaluated by `ngfdriver_C17 fragx` on every generated pair) is sound -/
theorem foreignB_sound (c : ScenarioR) (x : XSet) (h : foreignB c x = true) : Foreign c x :=
  foreign_of_foreignB h

/-- **The form the driver evaluates** (`ngfdriver_C17 fragx`, on every pair (s, s ∪ X) the harness runs through the real
pipeline): when the executable check `hypsB` — `Mixed`, `Foreign`, key uniqueness, non-empty paths — accepts the decoded
pair, NGINX cannot tell the two model configurations apart, and they are equal up to order. -/
theorem noninterference_foreign_set_checked (c : ScenarioR) (x : XSet) (c' : ScenarioR) (h : hypsB c x c' = true) :
    (∀ q, nginxEvalConf (genR c') q = nginxEvalConf (genR c) q) ∧ Conf.equiv (genR c) (genR c') :=
  genR_meaning_of_hypsB h

/-- which Routes are foreign, syntactically: every parentRef names another (or an unknown) Gateway or an unknown section;
or the Route lives in a namespace no listener of the served Gateway admits -/
theorem foreign_route_syntactic (g : Gateway) (r : RouteR) :
    ((∀ p ∈ r.parents, (p.ns == g.ns && p.name == g.name) = false ∨
        ∃ sn, p.sectionName = some sn ∧ ∀ l ∈ g.listeners, (sn == l.name) = false) → attached g r = false) ∧
    ((r.ns.toList == g.ns) = false → (∀ l ∈ g.listeners, l.fromAll = false) → attached g r = false) :=
  ⟨unattached_of_parents_elsewhere, unattached_of_namespace⟩

/-! ### non-vacuity: a cluster, a foreign set of every kind, and a mixed arrival order -/

def lis0 : Listener := ⟨"l0".toList, 80, [], true⟩
def lisSame : Listener := ⟨"l1".toList, 8080, "*.example.com".toList, false⟩
def gwOurs : Gateway := ⟨"default".toList, "gw".toList, "nginx".toList, 5, [lis0, lisSame]⟩
def gwForeign : Gateway := ⟨"default".toList, "fgw".toList, "other".toList, 1, [lis0]⟩
def mP (p : String) : Match := ⟨false, p.toList, [], [], []⟩
def ref (ns : Option String) (name : String) : RefGrant.BackendRef := ⟨none, none, ns, name, some 80, none, 0⟩
def par (name : String) (sect : Option String) : Parent := ⟨"default".toList, name.toList, sect.map (·.toList)⟩
def r1 : RouteR := ⟨"default", "r1", 7, [par "gw" none], ["cafe.example.com".toList],
  [⟨[mP "/coffee"], .forward [ref none "svc0"]⟩, ⟨[mP "/tea"], .forward [ref (some "team-b") "svc1"]⟩], true⟩
/-- foreign: its only parentRef names the other controller's Gateway; it names a Service and needs a grant of its own -/
def xr : RouteR := ⟨"default", "xr", 1, [par "fgw" none], ["cafe.example.com".toList],
  [⟨[mP "/coffee"], .forward [ref (some "team-b") "xsvc"]⟩], true⟩
/-- foreign for the configuration: names OUR Gateway but a section it does not have -/
def xr2 : RouteR := ⟨"default", "xr2", 2, [par "gw" (some "nope")], [], [⟨[mP "/"], .forward [ref none "xsvc2"]⟩], true⟩
/-- foreign: another namespace, and the only listener it names admits its own namespace only -/
def xr3 : RouteR := ⟨"team-a", "xr3", 3, [par "gw" (some "l1")], [], [⟨[mP "/"], .forward [ref none "svc0"]⟩], true⟩
def grantB (name svc : String) : RefGrant.Grant :=
  ⟨"team-b", name, [⟨RefGrant.gatewayGroup, "HTTPRoute", "default"⟩], [⟨"", "Service", some svc⟩]⟩
def exC : ScenarioR :=
  { cls := "nginx".toList, ctlr := "ctl".toList, classes := [⟨"nginx".toList, "ctl".toList⟩], gateways := [gwOurs],
    routes := [r1], services := [⟨"default", "svc0", [80]⟩, ⟨"team-b", "svc1", [80]⟩], grants := [grantB "g1" "svc1"] }
def exX : XSet :=
  { classes := [⟨"other".toList, "x".toList⟩, ⟨"nginx-2".toList, "ctl".toList⟩], gateways := [gwForeign],
    routes := [xr, xr2, xr3], services := [⟨"team-b", "xsvc", [80]⟩, ⟨"default", "xsvc2", [80]⟩],
    grants := [grantB "gx" "xsvc"] }
def exC' : ScenarioR :=
  { cls := exC.cls, ctlr := exC.ctlr, classes := (exC.classes ++ exX.classes).reverse,
    gateways := (exC.gateways ++ exX.gateways).reverse, routes := (exC.routes ++ exX.routes).reverse,
    services := (exC.services ++ exX.services).reverse, grants := (exC.grants ++ exX.grants).reverse }

example : Mixed exC exX exC' :=
  ⟨rfl, rfl, (List.reverse_perm _).symm, (List.reverse_perm _).symm, (List.reverse_perm _).symm,
    (List.reverse_perm _).symm, (List.reverse_perm _).symm⟩
#guard foreignB exC exX
#guard hypsB exC exX exC'
#guard hypsB exC (diffX exC exC') exC' && (diffX exC exC').routes.length == 3 && (diffX exC exC').grants.length == 1
#guard winner (resolve exC) == some gwOurs && winner (resolve exC') == some gwOurs
example : KeyInj exC'.gateways := by decide +kernel
example : RouteKeysNodup (resolve exC').routes := by unfold RouteKeysNodup; decide +kernel
example : SvcKeysNodup exC'.services := by unfold SvcKeysNodup; decide +kernel
example : PathsOKR exC := by unfold PathsOKR; decide +kernel

def rq (port : Nat) (host path : String) : Req :=
  { port := port, host := host.toList, path := path.toList, method := "GET".toList, headers := [], query := [] }
#guard nginxEvalConf (genR exC) (rq 80 "cafe.example.com" "/coffee") == .proxy [("default_svc0_80".toList, 10000)]
#guard nginxEvalConf (genR exC') (rq 80 "cafe.example.com" "/tea/x") == .proxy [("team-b_svc1_80".toList, 10000)]
#guard [rq 80 "cafe.example.com" "/coffee", rq 80 "cafe.example.com" "/tea", rq 80 "cafe.example.com" "/", rq 80 "x.org" "/coffee",
        rq 8080 "a.example.com" "/", rq 81 "cafe.example.com" "/coffee"].all fun q =>
  nginxEvalConf (genR exC') q == nginxEvalConf (genR exC) q
-- the hypothesis matters: the same route `xr` naming OUR Gateway (older than r1, same host and path) takes `/coffee` over
#guard nginxEvalConf (genR { exC' with routes := { xr with parents := [par "gw" none] } :: exC'.routes })
    (rq 80 "cafe.example.com" "/coffee") == .proxy [("team-b_xsvc_80".toList, 10000)]
#guard !foreignB exC { exX with routes := [{ xr with parents := [par "gw" none] }] }
-- … and so do the Services / grants clauses: a Service of X that a route of ours names, a grant of X that permits a
-- reference of ours, are not foreign
#guard !foreignB exC { services := [⟨"default", "svc0", [81]⟩] }
#guard !foreignB exC { grants := [grantB "g2" "svc1"] }
#guard (referencedServices exC').isPerm (("default", "xsvc2") :: ("team-a", "svc0") :: referencedServices exC)
#guard (referencedServices (ext exC { exX with routes := [xr] })).isPerm (referencedServices exC)

/-- **Why `referencedServices_foreign_set` asks for more than `Foreign`**: a Route that names OUR Gateway with a section
it does not have attaches nowhere (`attached = false`: foreign for the configuration) but IS in the graph on behalf of the
Gateway, and the code (`buildReferencedServices`) tracks its backend Services. -/
theorem unknown_section_route_is_tracked :
    attached gwOurs xr2 = false ∧ inGraph gwOurs xr2 = true ∧
    ("default", "xsvc2") ∈ referencedServices (ext exC { routes := [xr2] }) ∧
    ("default", "xsvc2") ∉ referencedServices exC := by decide +kernel

end NGF.Props.C17Pipeline
