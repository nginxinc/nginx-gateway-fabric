import NGF.Proofs.PipelinePermLayers
import NGF.Props.C16Pipeline
import NGF.Props.C03Render
/-
C14 on the LAYERED pipeline models: the models other properties stacked on `Pipeline.gen` —
backend references and ReferenceGrants (`PipelineRefs.genR`, C06), EndpointSlices (`PipelineEndpoints.upstreamsOf`, C13),
HTTPS listeners / Secrets (`PipelineTls.genT`, C16), statuses (`PipelineStatus`, C07) and the renderer with its explicit
Go-map port order (`Render.genR s order`, C03) — produce a result that does not depend on the order in which the cluster's
objects arrive / are iterated over. Go maps and informer stores = lists, every theorem quantifies over ALL permutations
(`List.Perm`) of every object list; listener order inside a Gateway is spec order and is not permuted.
Helper lemmas: NGF/Proofs/PipelinePermLayers.lean (on top of Props/C14Pipeline and C17's Proofs/PipelineForeign).
-/
namespace NGF.Props.C14Layers
open NGF.Pipeline NGF.PipelineLayers
open NGF.Props.C14Pipeline (Reordered)

open NGF.PipelineRefs NGF.PipelineForeign in
/-- `genR_perm_equiv`: permuting Services, ReferenceGrants, HTTPRoutes, Gateways and GatewayClasses (distinct keys per kind)
leaves `gen (resolve c)` unchanged up to the order of ports / servers / locations -/
theorem genR_perm_equiv (c c' : ScenarioR) (h : ReorderedR c c') (hk : KeyInj c.gateways)
    (hr : RouteKeysNodupR c.routes) (hs : SvcKeysNodup c.services) : Conf.equiv (genR c) (genR c') :=
  have ⟨k1, k2, k3⟩ := h.keys hk hr hs
  genR_mixed_equiv (mixed_of_reorderedR h) (foreign_empty c) k1 k2 k3

open NGF.PipelineRefs NGF.PipelineForeign in
/-- `genR_perm_meaning`: … and NGINX answers every request the same way -/
theorem genR_perm_meaning (c c' : ScenarioR) (h : ReorderedR c c') (hk : KeyInj c.gateways)
    (hr : RouteKeysNodupR c.routes) (hs : SvcKeysNodup c.services) (hp : PathsOKR c) :
    ∀ q, nginxEvalConf (genR c') q = nginxEvalConf (genR c) q :=
  have ⟨k1, k2, k3⟩ := h.keys hk hr hs
  genR_mixed_meaning (mixed_of_reorderedR h) (foreign_empty c) k1 k2 k3 hp

open NGF.PipelineRefs in
/-- `Graph.ReferencedServices` is the same collection (even as a multiset) -/
theorem referencedServices_perm (c c' : ScenarioR) (h : ReorderedR c c') (hk : KeyInj c.gateways) :
    (referencedServices c').Perm (referencedServices c) :=
  NGF.PipelineForeign.referencedServices_mixed (mixed_of_reorderedR h) (foreign_empty c) (hk.perm h.gateways)
    (fun _ _ _ hr => absurd hr List.not_mem_nil)

open NGF.PipelineRefs NGF.PipelineForeign in
/-- every backendRef of every route resolves to the SAME graph route: the resolution (validity, Service port, weight) of a
reference is a function of the cluster state only -/
theorem resolution_perm (c c' : ScenarioR) (h : ReorderedR c c') (hs : SvcKeysNodup c.services) (r : RouteR) :
    resolveRoute c'.grants c'.services r = resolveRoute c.grants c.services r :=
  congrFun (resolveRoute_congr (resolveRef_reordered h hs)) r

open NGF.PipelineRefs NGF.PipelineEndpoints NGF.PipelineForeign in
/-- `upstreamsOf_perm`: additionally permuting the EndpointSlices (the API server's listing order) and the Service port
entries leaves the SET of upstreams and each upstream's server SET unchanged. The ORDER of the servers inside an upstream is
not a function of the cluster state in the code either (the resolver collects endpoints in a Go map); the model's `dedup`
order stands for the listing order, and the statement is about the set. -/
theorem upstreamsOf_perm (c c' : ScenarioE) (h : ReorderedE c c') (hk : KeyInj c.base.gateways)
    (hs : SvcKeysNodup c.base.services) (hpk : PortKeysNodup c.ports) (hn : namesOK c.base = true) :
    (∀ u ∈ upstreamsOf c, ∃ u' ∈ upstreamsOf c', u'.name = u.name ∧ u.eps.Perm u'.eps) ∧
    (∀ u' ∈ upstreamsOf c', ∃ u ∈ upstreamsOf c, u.name = u'.name ∧ u'.eps.Perm u.eps) := by
  refine ⟨upstreamsOf_sub h hk hs hpk hn, ?_⟩
  have hs' : SvcKeysNodup c'.base.services := h.base.svcKeys hs
  have hpk' : PortKeysNodup c'.ports := (h.ports.map _).nodup hpk
  exact upstreamsOf_sub h.symm (hk.perm h.base.gateways) hs' hpk' (namesOK_perm h.base hn)

open NGF.PipelineRefs NGF.PipelineEndpoints NGF.PipelineForeign in
/-- the upstream names are the same list up to order (they are distinct: `nodup_upstreamsOf`) -/
theorem upstream_names_perm (c c' : ScenarioE) (h : ReorderedE c c') (hk : KeyInj c.base.gateways)
    (hs : SvcKeysNodup c.base.services) (hpk : PortKeysNodup c.ports) (hn : namesOK c.base = true) :
    ((upstreamsOf c).map (·.name)).Perm ((upstreamsOf c').map (·.name)) := by
  rw [List.perm_ext_iff_of_nodup (nodup_upstreamsOf c) (nodup_upstreamsOf c')]
  obtain ⟨h1, h2⟩ := upstreamsOf_perm c c' h hk hs hpk hn
  intro n
  constructor
  · intro hm
    obtain ⟨u, hu, rfl⟩ := List.mem_map.mp hm
    obtain ⟨u', hu', e, _⟩ := h1 u hu
    exact List.mem_map.mpr ⟨u', hu', e⟩
  · intro hm
    obtain ⟨u', hu', rfl⟩ := List.mem_map.mp hm
    obtain ⟨u, hu, e, _⟩ := h2 u' hu'
    exact List.mem_map.mpr ⟨u, hu, e⟩

/-- the resolver's answer for one Service port under two listings of the same EndpointSlices -/
theorem endpoints_perm (all all' : List NGF.Resolver.Slice) (hp : all.Perm all') (ns name : String)
    (sp : NGF.Resolver.SvcPort) (fam : NGF.Resolver.IPFamily) :
    (NGF.Resolver.upstreamEndpoints all ns name sp fam).Perm (NGF.Resolver.upstreamEndpoints all' ns name sp fam) :=
  upstreamEndpoints_perm hp ns name sp fam

open NGF.PipelineTls in
/-- `genT_perm`: permuting Secrets, ReferenceGrants, routes, Gateways and classes leaves the HTTP part and the SSL part
unchanged up to the order of servers / locations, every SSL server keeps its key pair, the SSL default-server ports are the
same, and the key-pair files are IDENTICAL -/
theorem genT_perm (s s' : ScenarioT) (h : ReorderedT s s') (hk : KeyInjT s.gateways) (hr : RouteKeysNodup s.routes)
    (hn : SecretKeysNodup s.secrets) : ConfTEquiv (genT s) (genT s') :=
  genT_equiv_of_reordered h hk hr hn

open NGF.PipelineTls in
/-- the served Gateway, which of its HTTPS listeners are valid (Secret resolved, permitted, well-formed) and the key pairs
are functions of the cluster state only -/
theorem tls_decisions_perm (s s' : ScenarioT) (h : ReorderedT s s') (hk : KeyInjT s.gateways)
    (hn : SecretKeysNodup s.secrets) :
    winnerT s' = winnerT s ∧ validHttps s' = validHttps s ∧ (genT s').keyPairs = (genT s).keyPairs :=
  ⟨winnerT_perm h hk, validHttps_perm h hn, genT_keyPairs_perm h hk hn⟩

open NGF.PipelineTls in
/-- listener order inside a Gateway is spec order, and `createPortConflictResolver` is stateful — but which listeners it
invalidates does not depend on that order either (via C16's `port_conflict_resolver_exact`) -/
theorem port_conflict_verdict_perm (g g' : GatewayT) (hp : g.listeners.Perm g'.listeners) (l : ListenerT)
    (hl : l ∈ g.listeners) (hf : l.fieldsOK = true) :
    l ∈ (pcRun g.listeners).invalid ↔ l ∈ (pcRun g'.listeners).invalid :=
  by
  rw [port_conflict_resolver_exact g l hl hf, port_conflict_resolver_exact g' l (hp.mem_iff.mp hl) hf]
  unfold conflicted
  rw [hp.any_eq]

open NGF.PipelineStatus in
/-- `status_perm` (routes): the status of every route — one entry per parentRef, in parentRef order, with the type, status
and reason of every condition — is a function of the cluster state only -/
theorem route_status_perm (s s' : Scenario) (h : Reordered s s') (hk : KeyInj s.gateways) (reloadErr : Bool) (gen : Int)
    (r : Route) : routeParentStatuses s' reloadErr gen r = routeParentStatuses s reloadErr gen r :=
  routeParentStatuses_perm h hk reloadErr gen r

open NGF.PipelineStatus in
/-- … hence the multiset of (route key, parent statuses) over all routes is invariant -/
theorem route_statuses_multiset_perm (s s' : Scenario) (h : Reordered s s') (hk : KeyInj s.gateways) (reloadErr : Bool)
    (gen : Route → Int) :
    (s.routes.map fun r => (r.ns, r.name, routeParentStatuses s reloadErr (gen r) r)).Perm
      (s'.routes.map fun r => (r.ns, r.name, routeParentStatuses s' reloadErr (gen r) r)) := by
  have : (s'.routes.map fun r => (r.ns, r.name, routeParentStatuses s' reloadErr (gen r) r)) =
      (s'.routes.map fun r => (r.ns, r.name, routeParentStatuses s reloadErr (gen r) r)) :=
    List.map_congr_left fun r _ => by rw [routeParentStatuses_perm h hk]
  rw [this]
  exact h.routes.map _

open NGF.PipelineStatus in
/-- `status_perm` (Gateway): the Gateway status, every listener's conditions and `attachedRoutes` -/
theorem gateway_status_perm (s s' : Scenario) (h : Reordered s s') (hk : KeyInj s.gateways) (reloadErr : Bool) (gen : Int) :
    gatewayStatus s' reloadErr gen = gatewayStatus s reloadErr gen ∧
    listenerStatuses s' reloadErr gen = listenerStatuses s reloadErr gen :=
  ⟨gatewayStatus_perm h hk reloadErr gen, by unfold listenerStatuses; rw [gatewayStatus_perm h hk]⟩

open NGF.PipelineStatus in
/-- the Gateways told `GatewayConflict` are the same set -/
theorem ignored_gateways_perm (s s' : Scenario) (h : Reordered s s') (hk : KeyInj s.gateways) :
    (ignoredGateways s).Perm (ignoredGateways s') := by
  unfold ignoredGateways
  rw [graphGateway_perm h hk]
  cases graphGateway s with
  | none => exact List.Perm.refl _
  | some gg => exact (ours_perm h).filter _

open NGF.Render in
/-- `render_port_order_irrelevant`: for any two iteration orders of the `portPathRules` map the enriched configurations differ
ONLY in the serverIDs (and thereby in the `$match_key` / matches.json keys `<serverID>_<pathRuleIdx>` and in the order of the
server blocks, which `serverDirs` sorts by serverID): same servers / path rules / actions, same default-server ports, same
BackendGroups and therefore IDENTICAL split_clients blocks, the same abstract configuration (`forget`), the same answer of
NGINX to every request, and — inside the fragment — the same (empty) verdict of the well-formedness judge `wfDirs`. -/
theorem render_port_order_irrelevant (s : Scenario) (o₁ o₂ : List Nat) :
    (Render.genR s o₁).servers.map unsid = (Render.genR s o₂).servers.map unsid ∧
    (Render.genR s o₁).dports.map (·.1) = (Render.genR s o₂).dports.map (·.1) ∧
    splitDirs (Render.genR s o₁) = splitDirs (Render.genR s o₂) ∧
    (Render.genR s o₁).forget = (Render.genR s o₂).forget ∧
    (∀ q, nginxEvalConf (Render.genR s o₁).forget q = nginxEvalConf (Render.genR s o₂).forget q) ∧
    (inFragment s = true → namesSafe s = true → portsOK s = true →
      wfDirs (render (Render.genR s o₁)) (matchKeysOf (Render.genR s o₁)) =
        wfDirs (render (Render.genR s o₂)) (matchKeysOf (Render.genR s o₂))) :=
  have hforget : (Render.genR s o₁).forget = (Render.genR s o₂).forget := by rw [forget_genR, forget_genR]
  ⟨(genR_order_only_sids s o₁ o₂).1, (genR_order_only_sids s o₁ o₂).2.1,
   by unfold splitDirs; rw [(genR_order_only_sids s o₁ o₂).2.2], hforget, fun q => by rw [hforget],
   fun hf hs hp => by
    rw [NGF.Props.C03Render.render_wellformed_fragment s o₁ hf hs hp,
      NGF.Props.C03Render.render_wellformed_fragment s o₂ hf hs hp]⟩

open NGF.Render in
/-- the server blocks of http.conf are, up to order, the default servers and the renderings of the servers -/
theorem server_blocks_perm (c : ConfR) :
    (serverDirs c).Perm (c.dports.map (fun d => renderDefault d.1) ++ c.servers.map renderServer) := by
  unfold serverDirs
  refine ((List.mergeSort_perm _ _).map _).trans (List.Perm.of_eq ?_)
  simp [List.map_append, List.map_map, Function.comp_def]

section examples
open NGF.PipelineRefs NGF.PipelineForeign NGF.PipelineEndpoints NGF.PipelineTls NGF.PipelineStatus

private def lis0 : Listener := ⟨"l0".toList, 80, [], true⟩
private def lis1 : Listener := ⟨"l1".toList, 8080, "*.example.com".toList, true⟩
private def gw0 : Gateway := ⟨"default".toList, "gw".toList, "nginx".toList, 5, [lis0, lis1]⟩
private def gw1 : Gateway := ⟨"default".toList, "gw-z".toList, "nginx".toList, 5, [lis0]⟩
private def par0 : Parent := ⟨"default".toList, "gw".toList, none⟩
private def mPre (p : String) : Match := ⟨false, p.toList, [], [], []⟩
private def ref (ns : Option String) (name : String) (w : Option Int) : NGF.RefGrant.BackendRef :=
  ⟨none, none, ns, name, some 80, w, 0⟩
private def rA : RouteR := ⟨"default", "ra", 7, [par0], ["cafe.example.com".toList],
  [⟨[mPre "/coffee"], .forward [ref none "svc0" (some 3), ref (some "team-b") "svc1" (some 1)]⟩], true⟩
private def rB : RouteR := ⟨"team-a", "rb", 7, [par0], [], [⟨[mPre "/tea", mPre "/"], .forward [ref none "svc0" none]⟩], true⟩
private def svcs : List Service := [⟨"default", "svc0", [80]⟩, ⟨"team-b", "svc1", [80, 81]⟩, ⟨"team-a", "svc0", [80]⟩]
private def grant : NGF.RefGrant.Grant :=
  ⟨"team-b", "g", [⟨NGF.RefGrant.gatewayGroup, "HTTPRoute", "default"⟩], [⟨"", "Service", none⟩]⟩
private def cA : ScenarioR := ⟨"nginx".toList, "ctl".toList, [⟨"nginx".toList, "ctl".toList⟩, ⟨"x".toList, "y".toList⟩],
  [gw1, gw0], [rA, rB], svcs, [grant, { grant with ns := "other", name := "h" }]⟩
private def cB : ScenarioR :=
  { cA with
    classes := cA.classes.reverse, gateways := cA.gateways.reverse, routes := cA.routes.reverse
    services := cA.services.reverse, grants := cA.grants.reverse }

example : ReorderedR cA cB := ⟨rfl, rfl, (List.reverse_perm _).symm, (List.reverse_perm _).symm, (List.reverse_perm _).symm,
  (List.reverse_perm _).symm, (List.reverse_perm _).symm⟩
example : KeyInj cA.gateways := NGF.Props.C14Pipeline.keyInj_of_nodup _ (by decide +kernel)
example : RouteKeysNodupR cA.routes := by unfold RouteKeysNodupR; decide +kernel
example : SvcKeysNodup cA.services := by unfold SvcKeysNodup; decide +kernel
#guard (genR cA).servers.length == 4 && (genR cA).servers.map (·.name) != (genR cB).servers.map (·.name)
#guard referencedServices cA == [("default", "svc0"), ("team-b", "svc1"), ("team-a", "svc0")]
private def rq1 : Req :=
  { port := 80, host := "cafe.example.com".toList, path := "/coffee/x".toList, method := "GET".toList, headers := [], query := [] }
#guard nginxEvalConf (genR cB) rq1 == .proxy [("default_svc0_80".toList, 7500), ("team-b_svc1_80".toList, 2500)]

private def sl (ns svc : String) (addrs : List String) : NGF.Resolver.Slice :=
  ⟨ns, some svc, .ipv4, [⟨some "", some 8080⟩], [⟨addrs, some true⟩]⟩
private def eA : ScenarioE := ⟨cA, [⟨"default", "svc0", ⟨"", 80, .int 0⟩⟩, ⟨"team-b", "svc1", ⟨"", 80, .int 0⟩⟩],
  [sl "default" "svc0" ["10.0.0.1", "10.0.0.2"], sl "default" "svc0" ["10.0.0.3"], sl "team-b" "svc1" ["10.0.1.1"]]⟩
private def eB : ScenarioE := ⟨cB, eA.ports.reverse, eA.slices.reverse⟩
example : PortKeysNodup eA.ports := by unfold PortKeysNodup; decide +kernel
#guard namesOK cA
#guard (upstreamsOf eA).map (·.name) == ["default_svc0_80", "team-b_svc1_80", "team-a_svc0_80"]
-- the server ORDER inside an upstream follows the listing order of the slices (a set in the statement)
#guard ((upstreamsOf eA).map (·.eps.length)) == [3, 1, 0] &&
  ((upstreamsOf eA).find? (·.name == "default_svc0_80")).map (·.eps.map (·.address)) !=
    ((upstreamsOf eB).find? (·.name == "default_svc0_80")).map (·.eps.map (·.address))

private def sT : ScenarioT :=
  { exScen with
    classes := exScen.classes ++ [⟨"other".toList, "x".toList⟩]
    gateways := exScen.gateways ++ [{ ns := "default".toList, name := "later".toList, cls := "nginx".toList, age := 2, listeners := [exFoo] }]
    routes := exScen.routes ++ [mkRoute "hr1" (some "cross") []] }
private def sT' : ScenarioT :=
  { sT with
    classes := sT.classes.reverse, gateways := sT.gateways.reverse, routes := sT.routes.reverse
    secrets := sT.secrets.reverse, grants := sT.grants.reverse }
example : ReorderedT sT sT' := ⟨rfl, rfl, (List.reverse_perm _).symm, (List.reverse_perm _).symm, (List.reverse_perm _).symm,
  (List.reverse_perm _).symm, (List.reverse_perm _).symm⟩
example : SecretKeysNodup sT.secrets := by unfold SecretKeysNodup; decide +kernel
example : RouteKeysNodup sT.routes := by unfold RouteKeysNodup; decide +kernel
#guard (genT sT).ssl.length ≥ 3 && (genT sT).keyPairs.length == 3 && (genT sT').keyPairs == (genT sT).keyPairs
#guard (genT sT).ssl.map (·.1.name) != (genT sT').ssl.map (·.1.name) || (genT sT).ssl.length == (genT sT').ssl.length

private def sS : Scenario := resolve cA
private def sS' : Scenario := resolve cB
#guard (routeParentStatuses sS false 1 (resolveRoute cA.grants cA.services rA)).isSome
#guard (sS.routes.all fun r => routeParentStatuses sS false 1 r == routeParentStatuses sS' false 1 r)
#guard gatewayStatus sS false 1 == gatewayStatus sS' false 1 && (listenerStatuses sS false 1).map (·.attachedRoutes) == [2, 2]
#guard (ignoredGateways sS).map (·.name) == ["gw-z".toList]

-- two ports: the port order changes the serverIDs and thereby the rendered text, not the stripped servers
#guard (Render.genR sS [80, 8080]).servers.map (·.sid) != (Render.genR sS [8080, 80]).servers.map (·.sid)
end examples

end NGF.Props.C14Layers
