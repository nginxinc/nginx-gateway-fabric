import NGF.Model.Order
import NGF.Proofs.Sort
import NGF.Proofs.Order
import NGF.Proofs.Listeners
import NGF.Generated.OrderFacts
import NGF.Props.C14Pipeline
import NGF.Props.C14Layers
/-
(NGF.Props.C14Pipeline: permutation / arrival-order invariance of the pipeline fragment model `Pipeline.gen` —
`winner_perm`, `gen_perm_equiv`, `gen_perm_meaning`, `gen_servers_distinct`, `gen_locs_distinct`.
 NGF.Props.C14Layers: the same for the layered models — references, endpoints, TLS, statuses, renderer port order.)
-/
/-
C14 — conflicts resolve by age then namespace/name, independent of arrival and map iteration order.

All theorems are about the functions of NGF/Model/Order.lean that the driver (NGF/Driver/C14.lean)
runs against the real code. Go map iteration order = the order of the input lists; every
`…_perm_invariant` theorem quantifies over all permutations of them.
-/
namespace NGF.Props.C14
open NGF.Order NGF.Sort

/-- `LessObjectMeta`/`LessClientObject` is a strict total order on (creationTimestamp, namespace, name):
irreflexive, transitive, trichotomous. Objects of one kind have distinct (namespace, name), hence
distinct `Meta`s, hence are strictly ordered. -/
theorem less_strict_total :
    (∀ a : Meta, less a a = false) ∧
    (∀ a b c : Meta, less a b = true → less b c = true → less a c = true) ∧
    (∀ a b : Meta, less a b = true ∨ a = b ∨ less b a = true) ∧
    (∀ a b : Meta, less a b = true → less b a = false) :=
  ⟨less_irrefl, fun _ _ _ h1 h2 => less_trans h1 h2, less_tri, fun _ _ h => less_asymm h⟩

/-- distinct (namespace, name) ⇒ comparable, whatever the timestamps -/
theorem less_total_on_distinct_names (a b : Meta) (h : (a.ns, a.name) ≠ (b.ns, b.name)) :
    less a b = true ∨ less b a = true := by
  rcases less_tri a b with h1 | h1 | h1
  · exact Or.inl h1
  · subst h1; exact absurd rfl h
  · exact Or.inr h1

/-- age first: an older object precedes a younger one whatever the names -/
theorem older_first (a b : Meta) (h : a.ts < b.ts) : less a b = true := by
  unfold less
  have : ¬ a.ts = b.ts := by omega
  simp [this, h]

/-- equal age: namespace decides before name (bytewise) -/
theorem equal_age_namespace_first (a b : Meta) (ht : a.ts = b.ts) (h : bytesLt a.ns b.ns = true) :
    less a b = true := by
  unfold less
  have : ¬ a.ns = b.ns := by intro e; rw [e, bytesLt_irrefl] at h; cases h
  simp [ht, this, h]

example : less ⟨5, [97], [122]⟩ ⟨5, [98], [97]⟩ = true := by decide +kernel   -- a/z before b/a
example : less ⟨5, [98], [97]⟩ ⟨4, [122], [122]⟩ = false := by decide +kernel  -- older wins
example : bytesLt [97, 45] [97, 97] = true := by decide +kernel                -- "a-" < "aa" bytewise

/-- `processGateways` does not depend on the iteration order of the Gateway map. -/
theorem winner_perm_invariant (gws gws' : List Gw) (gc : List Nat) (hp : gws.Perm gws')
    (inj : InjOn Gw.md gws) : processGateways gws gc = processGateways gws' gc := by
  unfold processGateways
  rw [sortBy_filter_perm_invariant _ _ _ _ hp inj]

/-- the winner is the minimum of the Gateways of the class; every other one is ignored; none is lost -/
theorem winner_is_min (gws : List Gw) (gc : List Nat) (inj : InjOn Gw.md gws) (w : Gw) (ign : List Gw)
    (h : processGateways gws gc = ⟨some w, ign⟩) :
    w ∈ gws ∧ w.cls = gc ∧
    (∀ g ∈ gws, g.cls = gc → g = w ∨ less w.md g.md = true) ∧
    (w :: ign).Perm (gws.filter (fun g => g.cls == gc)) := by
  unfold processGateways at h
  cases hs : sortBy (·.md) (gws.filter (fun g => g.cls == gc)) with
  | nil => rw [hs] at h; cases h
  | cons w' rest =>
    rw [hs] at h
    have e1 : w' = w := by injection h with h1 _; injection h1
    have e2 : rest = ign := by injection h
    subst e1; subst e2
    obtain ⟨hm, hmin, hperm⟩ := head_sortBy_min Gw.md _ _ _ hs
    have hw := List.mem_filter.mp hm
    refine ⟨hw.1, beq_iff_eq.mp hw.2, fun g hg hc => ?_, hperm⟩
    exact inj.eq_or_less hw.1 hg (hmin g (List.mem_filter.mpr ⟨hg, beq_iff_eq.mpr hc⟩))

theorem no_winner_iff (gws : List Gw) (gc : List Nat) :
    (processGateways gws gc).winner = none ↔ ∀ g ∈ gws, g.cls ≠ gc := by
  unfold processGateways
  have hp := sortBy_perm Gw.md (gws.filter (fun g => g.cls == gc))
  cases hs : sortBy (·.md) (gws.filter (fun g => g.cls == gc)) with
  | nil =>
    rw [hs] at hp
    refine ⟨fun _ g hg hc => ?_, fun _ => rfl⟩
    have : g ∈ gws.filter (fun g => g.cls == gc) := List.mem_filter.mpr ⟨hg, beq_iff_eq.mpr hc⟩
    rw [hp.symm.eq_nil] at this; cases this
  | cons w rest =>
    rw [hs] at hp
    have hw := List.mem_filter.mp (hp.mem_iff.mp List.mem_cons_self)
    exact ⟨fun h => (by cases h), fun h => absurd (beq_iff_eq.mp hw.2) (h w hw.1)⟩

private def gA : Gw := ⟨⟨10, [100], [98]⟩, [110]⟩
private def gB : Gw := ⟨⟨10, [100], [97]⟩, [110]⟩
private def gC : Gw := ⟨⟨9, [122], [122]⟩, [111]⟩
example : (processGateways [gA, gB, gC] [110]).winner = some gB := by decide +kernel
example : (processGateways [gC, gB, gA] [110]).ignored = [gA] := by decide +kernel

/-- Appendix A.10 instantiated with `higherPriority`: the stable sort of the match rules of one
(host, path) does not depend on the order in which the routes were visited (`range l.Routes`), as
long as rules that compare equal — the rules of one route — keep their relative (rule, match) order. -/
theorem matchrules_perm_invariant (l1 l2 : List MatchRule)
    (h : ∀ a, l1.filter (equivB mrLe a) = l2.filter (equivB mrLe a)) :
    sortMatchRules l1 = sortMatchRules l2 := by
  rw [sortMatchRules_eq, sortMatchRules_eq]
  exact stable_sort_perm_invariant mrLe_trans mrLe_total l1 l2 h

/-- the order handed to NGINX/njs is the precedence order: no rule is preceded by one of strictly
lower priority, rules of equal priority keep the order of the route (first rule first), nothing is
lost or invented. -/
theorem matchrules_order_is_precedence (l : List MatchRule) :
    List.Pairwise (fun a b => higherPriority b a = false) (sortMatchRules l) ∧
    (sortMatchRules l).Perm l ∧
    (∀ a, (sortMatchRules l).filter (equivB mrLe a) = l.filter (equivB mrLe a)) := by
  rw [sortMatchRules_eq]
  refine ⟨?_, List.mergeSort_perm l _, fun a => filter_mergeSort_class mrLe_trans mrLe_total l a⟩
  have := List.pairwise_mergeSort mrLe_trans mrLe_total l
  refine this.imp ?_
  intro a b hab
  unfold mrLe at hab
  simpa using hab

/-- two rules are equivalent for the sort only if method/header/query counts agree and they come from
objects with the same (timestamp, namespace, name) -/
theorem equiv_iff_same_source (a b : MatchRule) :
    equivB mrLe a b = true ↔
      (a.hasMethod = b.hasMethod ∧ a.headers = b.headers ∧ a.queries = b.queries ∧ a.src = b.src) :=
  equivB_leOf.trans incomp_hp

private def r1 : MatchRule := ⟨false, 1, 0, ⟨5, [100], [98]⟩, 0⟩
private def r2 : MatchRule := ⟨true, 0, 0, ⟨9, [100], [99]⟩, 1⟩
private def r3 : MatchRule := ⟨false, 1, 0, ⟨5, [100], [97]⟩, 2⟩
private def r4 : MatchRule := ⟨false, 1, 0, ⟨5, [100], [98]⟩, 3⟩
example : sortMatchRules [r1, r2, r3, r4] = [r2, r3, r1, r4] := by decide +kernel
example : sortMatchRules [r3, r1, r4, r2] = [r2, r3, r1, r4] := by decide +kernel

/-! ## TLSRoutes: one owner per (hostname, port) -/

theorem tls_perm_invariant (rs rs' : List L4) (hp : rs.Perm rs') (inj : InjOn L4.md rs) :
    bindL4 rs = bindL4 rs' := by
  unfold bindL4; rw [sortBy_perm_invariant _ _ _ hp inj]

/-- the route that is granted a (hostname, port) key is the oldest (then namespace/name-first) of all
routes claiming it -/
theorem tls_hostname_owner_is_oldest (rs : List L4) (inj : InjOn L4.md rs)
    (r : L4) (g : List String) (k : String) (h : (r, g) ∈ bindL4 rs) (hk : k ∈ g) :
    r ∈ rs ∧ k ∈ r.claims ∧ ∀ r' ∈ rs, k ∈ r'.claims → r' = r ∨ less r.md r'.md = true := by
  unfold bindL4 at h
  obtain ⟨_, hc, pre, post, hs, hpre⟩ := bind_spec _ _ r g k h hk
  have hperm := sortBy_perm (·.md) rs
  have hr : r ∈ rs := hperm.mem_iff.mp (by rw [hs]; simp)
  refine ⟨hr, hc, ?_⟩
  intro r' hr' hk'
  have hin : r' ∈ pre ++ r :: post := hs ▸ hperm.mem_iff.mpr hr'
  rcases List.mem_append.mp hin with h1 | h1
  · exact absurd hk' (hpre r' h1)
  · rcases List.mem_cons.mp h1 with e | e
    · exact Or.inl e
    · have hpw := sortBy_pairwise (·.md) rs
      rw [hs] at hpw
      have hle : le r.md r'.md = true :=
        (List.pairwise_cons.mp (List.pairwise_append.mp hpw).2.1).1 r' e
      exact inj.eq_or_less hr hr' hle

/-- every claimed key is granted to some route (no hostname is dropped by the conflict resolution) -/
theorem tls_every_claim_served (rs : List L4) (r : L4) (k : String) (hr : r ∈ rs) (hk : k ∈ r.claims) :
    ∃ r' g, (r', g) ∈ bindL4 rs ∧ k ∈ g := by
  unfold bindL4
  exact (bind_complete _ [] r k ((sortBy_perm L4.md rs).mem_iff.mpr hr) hk).resolve_left fun h => by cases h

private def t1 : L4 := ⟨⟨3, [100], [98]⟩, ["a.example.com:443", "b.example.com:443"]⟩
private def t2 : L4 := ⟨⟨2, [100], [99]⟩, ["b.example.com:443"]⟩
example : bindL4 [t1, t2] = [(t2, ["b.example.com:443"]), (t1, ["a.example.com:443"])] := by decide +kernel
example : bindL4 [t2, t1] = bindL4 [t1, t2] := rfl

/-- the chosen policy is a candidate and precedes every other candidate -/
theorem btp_choice_is_min (btps : List Btp) (ns n : List Nat) (inj : InjOn Btp.md btps) :
    (findBTP btps ns n = none ↔ ∀ b ∈ btps, cand ns n b = false) ∧
    (∀ m, findBTP btps ns n = some m →
      m ∈ btps ∧ cand ns n m = true ∧ ∀ c ∈ btps, cand ns n c = true → c = m ∨ less m.md c.md = true) := by
  rw [findBTP_eq]
  obtain ⟨hnone, hsome⟩ := foldl_upd_none (btps.filter (cand ns n))
  refine ⟨?_, fun m hm => ?_⟩
  · rw [hnone, List.filter_eq_nil_iff]
    exact forall₂_congr fun b _ => iff_of_eq (Bool.not_eq_true _)
  · obtain ⟨hmem, hmin⟩ := hsome m hm
    have hm' := List.mem_filter.mp hmem
    exact ⟨hm'.1, hm'.2, fun c hc hcc => inj.eq_or_less hm'.1 hc (hmin c (List.mem_filter.mpr ⟨hc, hcc⟩))⟩

/-- …and therefore does not depend on the iteration order of the BackendTLSPolicy map -/
theorem btp_perm_invariant (btps btps' : List Btp) (ns n : List Nat) (hp : btps.Perm btps')
    (inj : InjOn Btp.md btps) : findBTP btps ns n = findBTP btps' ns n := by
  have inj' : InjOn Btp.md btps' := fun a b ha hb => inj a b (hp.mem_iff.mpr ha) (hp.mem_iff.mpr hb)
  have s1 := btp_choice_is_min btps ns n inj
  have s2 := btp_choice_is_min btps' ns n inj'
  cases h1 : findBTP btps ns n with
  | none =>
    have := s1.1.mp h1
    exact (s2.1.mpr (fun b hb => this b (hp.mem_iff.mpr hb))).symm
  | some m =>
    cases h2 : findBTP btps' ns n with
    | none =>
      have := s2.1.mp h2
      have hm := s1.2 m h1
      rw [this m (hp.mem_iff.mp hm.1)] at hm
      exact absurd hm.2.1 (by simp)
    | some m' =>
      have hm := s1.2 m h1
      have hm' := s2.2 m' h2
      rcases hm.2.2 m' (hp.mem_iff.mpr hm'.1) hm'.2.1 with e | e
      · rw [e]
      · rcases hm'.2.2 m (hp.mem_iff.mp hm.1) hm.2.1 with e' | e'
        · rw [e']
        · rw [less_asymm e] at e'; cases e'

private def b1 : Btp := ⟨⟨7, [100], [98]⟩, [[115]]⟩
private def b2 : Btp := ⟨⟨7, [100], [97]⟩, [[120], [115]]⟩
private def b3 : Btp := ⟨⟨1, [101], [97]⟩, [[115]]⟩
example : findBTP [b1, b2, b3] [100] [115] = some b2 := by decide +kernel
example : findBTP [b3] [100] [115] = none := by decide +kernel

/-! ## NGF policies: `markConflictedPolicies`

The full-strength statement — the set of policies marked Conflicted does not depend on the iteration
order of the `possibles` map — is FALSE for policies with several targetRefs. -/

/-- A (oldest) and B share target 1, B and C share target 2; A conflicts with B, B with C, A not with C. -/
def wA : Pol := ⟨0, ⟨1, [100], [97]⟩, 7, [1], 0b01, true⟩
def wB : Pol := ⟨1, ⟨2, [100], [98]⟩, 7, [1, 2], 0b11, true⟩
def wC : Pol := ⟨2, ⟨3, [100], [99]⟩, 7, [2], 0b10, true⟩

/-- witness: target 1 first ⇒ only B loses; target 2 first ⇒ B and C lose. -/
theorem policy_conflict_order_dependent :
    markConflicted maskConflicts [(7, 1), (7, 2)] [wA, wB, wC] = [1] ∧
    markConflicted maskConflicts [(7, 2), (7, 1)] [wA, wB, wC] = [1, 2] := by decide +kernel

/-- the same with a conflict relation that holds between ALL policies of the kind (ObservabilityPolicy:
"both set tracing") -/
theorem policy_conflict_order_dependent_total :
    markConflicted (fun _ _ => true) [(7, 1), (7, 2)] [wA, wB, wC] = [1] ∧
    markConflicted (fun _ _ => true) [(7, 2), (7, 1)] [wA, wB, wC] = [1, 2] := by decide +kernel

/-- hence the unrestricted invariance statement is refuted -/
theorem policy_conflict_perm_invariant_false :
    ¬ (∀ (conf : Pol → Pol → Bool) (keys keys' : List (Nat × Nat)) (pols : List Pol),
        keys.Perm keys' → ∀ x, x ∈ markConflicted conf keys pols ↔ x ∈ markConflicted conf keys' pols) := by
  intro h
  have := h maskConflicts [(7, 1), (7, 2)] [(7, 2), (7, 1)] [wA, wB, wC] (List.Perm.swap _ _ _) 2
  rw [policy_conflict_order_dependent.1, policy_conflict_order_dependent.2] at this
  simp at this

theorem groups_disjoint (pols : List Pol) (keys : List (Nat × Nat))
    (hid : ∀ a ∈ pols, ∀ b ∈ pols, a.id = b.id → a = b)
    (single : ∀ p ∈ pols, p.valid = true → p.targets.length ≤ 1)
    (hk : keys.Nodup) : List.Pairwise Disjoint (keys.map (groupOf pols)) := by
  rw [List.pairwise_map]
  refine hk.imp fun {k1 k2} hne x h1 h2 => hne ?_
  obtain ⟨p, hp, e1⟩ := List.mem_map.mp h1
  obtain ⟨q, hq, e2⟩ := List.mem_map.mp h2
  -- a policy in both groups is valid, of both kinds and names both targets; it has one target
  have hp' := List.mem_filter.mp ((sortBy_perm Pol.md _).mem_iff.mp hp)
  have hq' := List.mem_filter.mp ((sortBy_perm Pol.md _).mem_iff.mp hq)
  have epq : q = p := hid q hq'.1 p hp'.1 (e2.trans e1.symm)
  rw [epq] at hq'
  obtain ⟨⟨hv, hg1⟩, ht1⟩ := Bool.and_eq_true_iff.mp hp'.2 |>.imp_left Bool.and_eq_true_iff.mp
  obtain ⟨⟨_, hg2⟩, ht2⟩ := Bool.and_eq_true_iff.mp hq'.2 |>.imp_left Bool.and_eq_true_iff.mp
  exact Prod.ext ((beq_iff_eq.mp hg1).symm.trans (beq_iff_eq.mp hg2))
    (NGF.ListPerm.eq_of_mem_of_length_le_one (single p hp'.1 hv) (List.contains_iff_mem.mp ht1)
      (List.contains_iff_mem.mp ht2))

/-- PARTIAL (excluded region: a valid policy with more than one targetRef). With single-target
policies the marking depends neither on the order of `possibles` nor on the order of the policy map. -/
theorem policy_conflict_perm_invariant_partial (conf : Pol → Pol → Bool)
    (pols pols' : List Pol) (keys keys' : List (Nat × Nat))
    (hpp : pols.Perm pols') (hkp : keys.Perm keys') (hk : keys.Nodup)
    (hid : ∀ a ∈ pols, ∀ b ∈ pols, a.id = b.id → a = b)
    (inj : InjOn Pol.md pols)
    (single : ∀ p ∈ pols, p.valid = true → p.targets.length ≤ 1) (x : Nat) :
    x ∈ markConflicted conf keys pols ↔ x ∈ markConflicted conf keys' pols' := by
  have hg : groupOf pols' = groupOf pols :=
    funext fun k => (sortBy_filter_perm_invariant _ _ _ _ hpp inj).symm
  rw [markConflicted_eq_runGroups, markConflicted_eq_runGroups, hg]
  exact runGroups_perm conf _ _ (hkp.map _) (groups_disjoint pols keys hid single hk) x

example : ∀ p ∈ [wA, wC], p.valid = true → p.targets.length ≤ 1 := by decide +kernel

/-- in every order: whoever is marked Conflicted lost against an older, conflicting policy of its
group that was valid when the comparison was made; the oldest policy of a group is never marked by
that group. (soundness of the marking for one group) -/
theorem processGroup_sound (conf : Pol → Pol → Bool) (g : List Pol) (inv : List Nat) (x : Nat)
    (h : x ∈ processGroup conf g inv) : x ∈ inv ∨ ∃ i ∈ g, ∃ j ∈ g, j.id = x ∧ conf i j = true := by
  induction g generalizing inv with
  | nil => exact Or.inl h
  | cons i rest ih =>
    have lift : (∃ a ∈ rest, ∃ b ∈ rest, b.id = x ∧ conf a b = true) →
        ∃ a ∈ i :: rest, ∃ b ∈ i :: rest, b.id = x ∧ conf a b = true :=
      fun h => by
        obtain ⟨a, ha, b, hb, r⟩ := h
        exact ⟨a, List.mem_cons_of_mem _ ha, b, List.mem_cons_of_mem _ hb, r⟩
    rw [processGroup_cons] at h
    split at h
    · exact (ih inv h).imp_right lift
    · rcases ih _ h with h1 | h1
      · rcases (markFrom_mem conf i rest inv x).mp h1 with h2 | ⟨j, hj, e, c⟩
        · exact Or.inl h2
        · exact Or.inr ⟨i, List.mem_cons_self, j, List.mem_cons_of_mem _ hj, e, c⟩
      · exact Or.inr (lift h1)

/-! ### the declarative specification of the losers (greedy by age) and its equivalence with the code's loops -/

/-- SOUND AND COMPLETE: for one (sorted) group with distinct policies, the ids that `markConflictedPolicies`' nested
loops mark are exactly the policies dropped by the greedy-by-age walk. In particular every policy that conflicts
with an older SURVIVOR is marked (completeness), and nobody else (soundness). -/
theorem processGroup_is_greedy (conf : Pol → Pol → Bool) (g : List Pol)
    (hpw : List.Pairwise (fun a b => a.id ≠ b.id) g) (x : Nat) :
    x ∈ processGroup conf g [] ↔ x ∈ (dropped conf [] g).map (·.id) := by
  have := processGroup_greedy conf g [] [] hpw (by intro j _; simp) x
  simpa using this

/-- the same, position by position: the policy `p` of the group `pre ++ p :: post` is Conflicted iff some policy
that SURVIVED among the older ones (`pre`) conflicts with it. -/
theorem conflicted_iff_older_survivor_conflicts (conf : Pol → Pol → Bool) (pre post : List Pol) (p : Pol)
    (hpw : List.Pairwise (fun a b => a.id ≠ b.id) (pre ++ p :: post)) :
    p.id ∈ processGroup conf (pre ++ p :: post) [] ↔ (survivors conf [] pre).any (fun q => conf q p) = true := by
  have hmem : p ∈ pre ++ p :: post := by simp
  have hsplit := List.pairwise_append.mp hpw
  have hpre : p ∉ pre := fun h => hsplit.2.2 p h p List.mem_cons_self rfl
  have hpost : p ∉ post := fun h => (List.pairwise_cons.mp hsplit.2.1).1 p h rfl
  rw [processGroup_is_greedy conf _ hpw, ← mem_dropped_iff conf p post hpost pre [] hpre]
  constructor
  · intro h
    obtain ⟨q, hq, e⟩ := List.mem_map.mp h
    have : q = p := pairwise_ids_inj _ hpw q (dropped_sub conf _ _ q hq) p hmem e
    rw [this] at hq; exact hq
  · intro h; exact List.mem_map.mpr ⟨p, h, rfl⟩

/-- for single-target policies the whole of `markConflictedPolicies` is the greedy specification of each policy's own
group, whatever the iteration orders -/
theorem single_target_conflicted_iff_greedy (conf : Pol → Pol → Bool) (pols : List Pol) (keys : List (Nat × Nat))
    (hk : keys.Nodup) (hpw : List.Pairwise (fun a b => a.id ≠ b.id) pols)
    (single : ∀ p ∈ pols, p.valid = true → p.targets.length ≤ 1)
    (k : Nat × Nat) (hkm : k ∈ keys) (p : Pol) (hp : p ∈ groupOf pols k) :
    p.id ∈ markConflicted conf keys pols ↔ p.id ∈ (dropped conf [] (groupOf pols k)).map (·.id) := by
  have hid : ∀ a ∈ pols, ∀ b ∈ pols, a.id = b.id → a = b := pairwise_ids_inj pols hpw
  have hgpw : List.Pairwise (fun a b => a.id ≠ b.id) (groupOf pols k) := by
    unfold groupOf
    refine ((sortBy_perm Pol.md _).pairwise_iff (fun h => fun e => h e.symm)).mpr ?_
    exact hpw.sublist List.filter_sublist
  rw [markConflicted_eq_runGroups,
    runGroups_member conf _ [] (groupOf pols k) p.id (groups_disjoint pols keys hid single hk)
      (List.mem_map.mpr ⟨k, hkm, rfl⟩) (List.mem_map.mpr ⟨p, hp, rfl⟩)]
  exact processGroup_is_greedy conf _ hgpw p.id

/-- four policies on one target with interleaved conflicts (A–C, B–D): C and D lose, A and B survive -/
def iA : Pol := ⟨0, ⟨1, [100], [97]⟩, 1, [9], 0b01, true⟩
def iB : Pol := ⟨1, ⟨2, [100], [98]⟩, 1, [9], 0b10, true⟩
def iC : Pol := ⟨2, ⟨3, [100], [99]⟩, 1, [9], 0b01, true⟩
def iD : Pol := ⟨3, ⟨4, [100], [100]⟩, 1, [9], 0b10, true⟩
example : markConflicted maskConflicts [(1, 9)] [iD, iB, iC, iA] = [3, 2] := by decide +kernel
example : (dropped maskConflicts [] [iA, iB, iC, iD]).map (·.id) = [2, 3] := by decide +kernel
example : survivors maskConflicts [] [iA, iB, iC, iD] = [iA, iB] := by decide +kernel

/-- the candidate repair does not have a `possibles` order at all and is invariant under permutation
of the policy map -/
theorem fixed_perm_invariant (conf : Pol → Pol → Bool) (pols pols' : List Pol) (hp : pols.Perm pols')
    (inj : InjOn Pol.md pols) : markConflictedFixed conf pols = markConflictedFixed conf pols' := by
  unfold markConflictedFixed
  rw [sortBy_filter_perm_invariant _ _ _ _ hp inj]

example : markConflictedFixed maskConflicts [wA, wB, wC] = [1] := by decide +kernel
example : markConflictedFixed maskConflicts [wC, wB, wA] = [1] := by decide +kernel


/-! ## Listeners on one port: `createPortConflictResolver`

Listeners of one Gateway have no age; the resolver sees them in `spec.listeners` order. Its result nevertheless does
not depend on that order: a listener ends up invalid exactly when another listener clashes with it (same port and
either another protocol group, or HTTPS vs TLS with overlapping hostnames). -/

theorem listener_conflicts_order_free (ov : Lis → Lis → Bool) (hsym : ∀ a b, ov a b = ov b a) (ls : List Lis)
    (hid : List.Pairwise (fun a b => a.id ≠ b.id) ls) (l : Lis) (hl : l ∈ ls) :
    (l.id ∈ (resolveListeners ov ls).invalid ↔ lisValidSpec ov ls l = false) :=
  resolveListeners_spec ov hsym ls hid l hl

theorem listener_conflicts_perm_invariant (ov : Lis → Lis → Bool) (hsym : ∀ a b, ov a b = ov b a)
    (ls ls' : List Lis) (hp : ls.Perm ls') (hid : List.Pairwise (fun a b => a.id ≠ b.id) ls) (l : Lis) (hl : l ∈ ls) :
    (l.id ∈ (resolveListeners ov ls).invalid ↔ l.id ∈ (resolveListeners ov ls').invalid) := by
  have hid' : List.Pairwise (fun a b => a.id ≠ b.id) ls' :=
    (hp.pairwise_iff (fun h => fun e => h e.symm)).mp hid
  rw [resolveListeners_spec ov hsym ls hid l hl, resolveListeners_spec ov hsym ls' hid' l (hp.mem_iff.mp hl)]
  unfold lisValidSpec
  rw [hp.any_eq]

/-- the executable overlap relation (`haveOverlap`) is symmetric, so the two theorems apply to the driver's instance -/
theorem lisOverlap_is_symmetric : ∀ a b : Lis, lisOverlap a b = lisOverlap b a := lisOverlap_symm

private def lA : Lis := ⟨0, 443, .https, some "cafe.example.com"⟩
private def lB : Lis := ⟨1, 443, .tls, some "*.example.com"⟩
private def lC : Lis := ⟨2, 443, .tls, some "other.org"⟩
private def lD : Lis := ⟨3, 8443, .http, none⟩
private def lE : Lis := ⟨4, 8443, .tls, none⟩
/-- only the hostnames of `lA` and `lB` overlap (String prefix/suffix tests do not reduce in the kernel, so the
examples use an explicit symmetric relation) -/
private def ovAB (a b : Lis) : Bool := a.id + b.id == 1
example : (resolveListeners ovAB [lA, lB, lC, lD, lE]).invalid = [4, 3, 1, 0] := by decide +kernel
example : (resolveListeners ovAB [lE, lC, lB, lD, lA]).invalid = [0, 1, 3, 4] := by decide +kernel
example : lisValidSpec ovAB [lA, lB, lC, lD, lE] lC = true := by decide +kernel

/-! ## Facts regenerated from the source (translator module OrderFacts)

If one of these stops compiling, the anchored code changed: the comparison chain, the kind of sort at a
site, or the set of `for … range <map>` loops (each `append … [unsorted]` is listed with the reason why
it is harmless or with the finding it causes). -/
open NGF.Generated.Order in
/-- `LessObjectMeta`: equal timestamps → equal namespaces → name `<`, else namespace `<`; else `Before`. -/
theorem lessObjectMeta_pinned : lessObjectMetaBody =
  ["if meta1.CreationTimestamp.Equal(&meta2.CreationTimestamp) { if meta1.Namespace == meta2.Namespace { return meta1.Name < meta2.Name } return meta1.Namespace < meta2.Namespace }",
   "return meta1.CreationTimestamp.Before(&meta2.CreationTimestamp)"] := by rfl

open NGF.Generated.Order in
/-- `LessClientObject` has the same shape on `client.Object` getters. -/
theorem lessClientObject_pinned : lessClientObjectBody =
  ["create1 := obj1.GetCreationTimestamp()",
   "create2 := obj2.GetCreationTimestamp()",
   "if create1.Time.Equal(create2.Time) { if obj1.GetNamespace() == obj2.GetNamespace() { return obj1.GetName() < obj2.GetName() } return obj1.GetNamespace() < obj2.GetNamespace() }",
   "return create1.Time.Before(create2.Time)"] := by rfl

open NGF.Generated.Order in
/-- the comparison chain of `higherPriority` that `NGF.Order.higherPriority` transcribes -/
theorem higherPriority_pinned : higherPriorityBody =
  ["if rule1.Match.Method != nil && rule2.Match.Method == nil { return true }",
   "if rule2.Match.Method != nil && rule1.Match.Method == nil { return false }",
   "l1 := len(rule1.Match.Headers)",
   "l2 := len(rule2.Match.Headers)",
   "if l1 != l2 { return l1 > l2 }",
   "l1 = len(rule1.Match.QueryParams)",
   "l2 = len(rule2.Match.QueryParams)",
   "if l1 != l2 { return l1 > l2 }",
   "return ngfsort.LessObjectMeta(rule1.Source, rule2.Source)"] := by rfl

open NGF.Generated.Order in
/-- match rules are sorted with the STABLE sort -/
theorem sortMatchRules_is_stable : sortMatchRulesBody =
  ["sort.SliceStable( matchRules, func(i, j int) bool { return higherPriority(matchRules[i], matchRules[j]) }, )"] := by rfl

open NGF.Generated.Order in
/-- the sort sites: `sort.Slice` (unstable) is only used with comparisons that are strict total orders on the
sorted elements — LessClientObject on objects of one kind (gateway.go, policies.go, route_common.go
bindRoutesToListeners), (Path, PathType) on the distinct keys of a map, Hostname on distinct server
names — except `tryToAttachL4RouteToListeners`, whose input order (spec.listeners) is part of the
cluster state. -/
theorem sort_sites_pinned : sortCalls =
  ["configuration.go:hostPathRules.buildServers: sort.Slice(s.PathRules)",
   "configuration.go:hostPathRules.buildServers: sort.Slice(servers)",
   "gateway.go:processGateways: sort.Slice(referencedGws)",
   "policies.go:markConflictedPolicies: sort.Slice(policyList)",
   "route_common.go:bindRoutesToListeners: sort.Slice(routes)",
   "route_common.go:tryToAttachL4RouteToListeners: sort.Slice(attachableListeners)",
   "sort.go:sortMatchRules: sort.SliceStable(matchRules)"] := by rfl

open NGF.Generated.Order in
/-- every range over a map in the anchored files. Order-sensitive ones and why they are (not) harmless:
* `processGateways`, `bindRoutesToListeners(l4Routes)`, `hostPathRules.buildServers`: sorted afterwards
  (`winner_perm_invariant`, `tls_perm_invariant`, `matchrules_perm_invariant`);
* `findBackendTLSPolicyForService`: running minimum (`btp_perm_invariant`);
* `markConflictedPolicies: range possibles`: NOT harmless — `policy_conflict_order_dependent`;
* `hostPathRules.upsertListener: range l.Routes -> upsertRoute`: match rules are sorted afterwards, policies are a
  set, but `hostRule.GRPC` is last-writer (finding hostrule-grpc-last-writer) and rules of an HTTPRoute and a
  GRPCRoute with one name and age tie (finding same-name-http-grpc-backend-group);
* `buildBackendGroups`, `buildUpstreams`, `buildStreamUpstreams`, `buildPassthroughServers`,
  `portPathRules.buildServers`, `buildTelemetry`, `buildSnippetsForContext`, `GetAllNsNames`: the result is
  used as a set (normalised by the judge: servers by (port, name), upstreams/groups by name);
* `attachPolicies`, `processPolicies`, `checkTargetRoutesForOverlap`: per-object lists of policies /
  conditions, used as sets (conditions are de-duplicated by type; messages are excluded). -/
theorem map_range_sites_pinned : mapRangeSites =
  ["backend_refs.go:addBackendRefsToRouteRules: range routes -> call addBackendRefsToRules",
   "backend_refs.go:findBackendTLSPolicyForService: range backendTLSPolicies -> assign beTLSPolicy",
   "configuration.go:buildAuxiliarySecrets: range secrets -> set auxSecrets[…]",
   "configuration.go:buildBackendGroups: range uniqueGroups -> append groups [unsorted]",
   "configuration.go:buildCertBundles: range caCertConfigMaps -> assign data; set bundles[…]",
   "configuration.go:buildPassthroughServers: range l.L4Routes -> assign hostnames; set passthroughServersMap[…]; assign foundRouteMatchingListenerHostname; append passthroughServersMap[key] [unsorted]",
   "configuration.go:buildPassthroughServers: range passthroughServersMap -> append passthroughServers [unsorted]",
   "configuration.go:buildSnippetsForContext: range snippetFilters -> append snippetsForContext [unsorted]",
   "configuration.go:buildStreamUpstreams: range l.L4Routes -> assign errMsg; set uniqueUpstreams[…]",
   "configuration.go:buildStreamUpstreams: range uniqueUpstreams -> append upstreams [unsorted]",
   "configuration.go:buildTelemetry: range g.NGFPolicies -> set ratioMap[…]",
   "configuration.go:buildTelemetry: range ratioMap -> append tel.Ratios [unsorted]",
   "configuration.go:buildUpstreams: range l.Routes -> assign errMsg; assign upstreamPolicies; set uniqueUpstreams[…]",
   "configuration.go:buildUpstreams: range uniqueUpstreams -> append upstreams [unsorted]",
   "configuration.go:hostPathRules.buildServers: range hpr.rulesPerHost -> call panic; set .SSL; call sortMatchRules; append s.PathRules [unsorted]; call sort.Slice; append servers [then sort.Slice]",
   "configuration.go:hostPathRules.upsertListener: range l.Routes -> call hpr.upsertRoute",
   "configuration.go:portPathRules.buildServers: range p -> append servers [unsorted]",
   "configuration.go:portPathRules.buildServers: range p -> read only",
   "gateway.go:processGateways: range gws -> append referencedGws [then sort.Slice]",
   "gateway.go:processedGateways.GetAllNsNames: range gws.Ignored -> append allNsNames [unsorted]",
   "policies.go:Graph.attachPolicies: range g.NGFPolicies -> call attachPolicyToGateway; call attachPolicyToRoute; call attachPolicyToService",
   "policies.go:checkForRouteOverlap: range parentRef.Attachment.AcceptedHostnames -> set hostPortPaths[…]",
   "policies.go:checkTargetRoutesForOverlap: range graphRoutes -> append conds [unsorted]",
   "policies.go:checkTargetRoutesForOverlap: range targetedRoutes -> nested range graphRoutes",
   "policies.go:markConflictedPolicies: range pols -> set possibles[…]; append possibles[ak] [unsorted]",
   "policies.go:markConflictedPolicies: range possibles -> call sort.Slice; set .Valid; append conflicted.Conditions [unsorted]",
   "policies.go:processPolicies: range pols -> set targetedRoutes[…]; append targetRefs [unsorted]; append conds [unsorted]; set processedPolicies[…]",
   "route_common.go:bindRoutesToListeners: range l4Routes -> append routes [then sort.Slice]",
   "route_common.go:bindRoutesToListeners: range l7Routes -> call bindL7RouteToListeners",
   "route_common.go:buildL4RoutesForGateways: range tlsRoutes -> set routes[…]",
   "route_common.go:buildRoutesForGateways: range grpcRoutes -> set routes[…]",
   "route_common.go:buildRoutesForGateways: range httpRoutes -> set routes[…]"] := by rfl

end NGF.Props.C14
