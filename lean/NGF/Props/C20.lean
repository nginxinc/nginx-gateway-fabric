/-
C20 — property theorems for the command-line validation model (`NGF.Model.Cli`), instantiated with
the constants the translator reads from the current sources (`genCfg`).  The same definitions are run
by the driver (`NGF.Driver.C20`) against the real validators.
-/
import NGF.Model.Cli
import NGF.Model.CliCfg
import NGF.Model.CliJudge
import NGF.Proofs.Cli
import NGF.Proofs.CliNginx
import NGF.Proofs.CliV6
import NGF.Generated.CliFacts

namespace NGF.Cli
open NGF.CliSpec

/-! ### facts regenerated from the sources -/

/-- the constants of the sources are the documented ones (bit size ≥ 17 keeps 65535 representable) -/
theorem cfg_documented :
    genCfg.epBits ≥ 17 ∧ genCfg.epBits ≤ 64 ∧ genCfg.epLo = 1 ∧ genCfg.epHi = 65535 ∧
    genCfg.optBits ≥ 17 ∧ genCfg.optBits ≤ 64 ∧ genCfg.optLo = 1 ∧ genCfg.optHi = 65535 ∧
    genCfg.intBits ≥ 17 ∧ genCfg.portLo = 1024 ∧ genCfg.portHi = 65535 ∧
    genCfg.domain = documentedDomain :=
  ⟨by decide, by decide, rfl, rfl, by decide, by decide, rfl, rfl, by decide, rfl, rfl, rfl⟩

/-- which validator guards which flag, the order of the checks in `RunE`, the wiring of the two
usage-report values into the mgmt template, and `Set` storing the parameter unmodified -/
theorem facts_pinned :
    NGF.Generated.Cli.controllerNameRegex =
      "^[a-z0-9]([-a-z0-9]*[a-z0-9])?(\\.[a-z0-9]([-a-z0-9]*[a-z0-9])?)*\\/[A-Za-z0-9\\/\\-._~%!$&'()*+,;=:]+$" ∧
    NGF.Generated.Cli.flagGuards =
      ["config=stringValidatingValue:validateResourceName",
       "gateway-ctlr-name=stringValidatingValue:validateGatewayControllerName",
       "gateway=namespacedNameValue:parseNamespacedResourceName",
       "gatewayclass=stringValidatingValue:validateResourceName",
       "health-port=intValidatingValue:validatePort",
       "leader-election-lock-name=stringValidatingValue:validateResourceName",
       "metrics-port=intValidatingValue:validatePort",
       "service=stringValidatingValue:validateResourceName",
       "usage-report-ca-secret=stringValidatingValue:validateResourceName",
       "usage-report-client-ssl-secret=stringValidatingValue:validateResourceName",
       "usage-report-endpoint=stringValidatingValue:validateEndpointOptionalPort",
       "usage-report-resolver=stringValidatingValue:validateEndpointOptionalPort",
       "usage-report-secret=stringValidatingValue:validateResourceName"] ∧
    NGF.Generated.Cli.flagDefaults =
      ["healthListenPort=8081", "leaderElectionLockName=\"nginx-gateway-leader-election-lock\"",
       "metricsListenPort=9113", "usageReportSecretName=\"nplus-license\""] ∧
    NGF.Generated.Cli.runEOrder =
      ["ensureNoPortCollisions(metricsListenPort.value, healthListenPort.value)",
       "validateEndpoint(telemetryEndpoint)",
       "plus && usageReportSecretName.value == \"\"",
       "createGatewayPodConfig",
       "static.StartManager"] ∧
    NGF.Generated.Cli.usageReportWiring =
      ["SecretName: usageReportSecretName.value", "ClientSSLSecretName: usageReportClientSSLSecretName.value",
       "CASecretName: usageReportCASecretName.value", "Endpoint: usageReportEndpoint.value",
       "Resolver: usageReportResolver.value", "SkipVerify: usageReportSkipVerify"] ∧
    NGF.Generated.Cli.mgmtConfWiring =
      ["Endpoint: nginxAddr(g.usageReportConfig.Endpoint)", "Resolver: nginxAddr(g.usageReportConfig.Resolver)",
       "LicenseTokenFile: tokenFile.Path", "SkipVerify: g.usageReportConfig.SkipVerify"] ∧
    NGF.Generated.Cli.nginxAddrBody =
      ["if strings.Contains(v, \":\") && net.ParseIP(v) != nil { return \"[\" + v + \"]\" }", "return v"] ∧
    NGF.Generated.Cli.validateEndpointOptionalPortBody =
      ["if len(value) == 0 { return errors.New(\"must be set\") }",
       "host, port, err := net.SplitHostPort(value)",
       "if err != nil && (!strings.Contains(err.Error(), \"missing port\") && !strings.Contains(err.Error(), \"too many colons\")) { return fmt.Errorf(\"error splitting %q into host and port: %w\", value, err) }",
       "if err == nil { if port == \"\" || port[0] == '+' || port[0] == '-' { return fmt.Errorf(\"port must be a valid number: %q\", port) } if strings.HasPrefix(value, \"[\") && !strings.Contains(host, \":\") { return fmt.Errorf(\"%q: only IPv6 addresses may be enclosed in brackets\", value) } if host == \"unix\" { return fmt.Errorf(\"%q: NGINX reads the host name \\\"unix\\\" followed by a colon as a unix socket\", value) } portVal, err := strconv.ParseInt(port, 10, 32) if err != nil { return fmt.Errorf(\"port must be a valid number: %w\", err) } if portVal < 1 || portVal > 65535 { return fmt.Errorf(\"port outside of valid port range [1 - 65535]: %v\", port) } }",
       "if host == \"\" { host = value }",
       "if err := validateIP(host); err == nil { return nil }",
       "if errs := validation.IsDNS1123Subdomain(host); len(errs) == 0 { return nil }",
       "return fmt.Errorf(\"%q must be a domain name or IP address with optional port\", value)"] ∧
    NGF.Generated.Cli.validateEndpointBody =
      ["host, port, err := net.SplitHostPort(endpoint)",
       "if err != nil { return fmt.Errorf(\"%q must be in the format <host>:<port>: %w\", endpoint, err) }",
       "portVal, err := strconv.ParseInt(port, 10, 32)",
       "if err != nil { return fmt.Errorf(\"port must be a valid number: %w\", err) }",
       "if portVal < 1 || portVal > 65535 { return fmt.Errorf(\"port outside of valid port range [1 - 65535]: %v\", port) }",
       "if err := validateIP(host); err == nil { return nil }",
       "if errs := validation.IsDNS1123Subdomain(host); len(errs) == 0 { return nil }",
       "return fmt.Errorf(\"%q must be in the format <host>:<port>\", endpoint)"] ∧
    NGF.Generated.Cli.stringSetBody =
      ["if err := v.validator(param); err != nil { return err }", "v.value = param", "return nil"] := by
  refine ⟨rfl, rfl, rfl, rfl, rfl, rfl, rfl, rfl, rfl, rfl⟩

/-- the holes of the mgmt template that receive flag values: both are bare arguments terminated by ';' -/
theorem mgmt_template_pinned :
    NGF.Generated.Cli.mgmtHoles =
      ["usage_report endpoint={{.Endpoint}}", "resolver {{.Resolver}}", "license_token {{.LicenseTokenFile}}",
       "ssl_trusted_certificate {{.CACertFile}}", "ssl_certificate {{.ClientSSLCertFile}}",
       "ssl_certificate_key {{.ClientSSLKeyFile}}"] ∧
    NGF.Generated.Cli.mgmtTemplate =
      "\nmgmt {\n\t{{- if .Endpoint }}\n\tusage_report endpoint={{ .Endpoint }};\n\t{{- end }}\n\t{{- if .Resolver }}\n\tresolver {{ .Resolver }};\n\t{{- end }}\n\tlicense_token {{ .LicenseTokenFile }};\n\tdeployment_context /etc/nginx/main-includes/deployment_ctx.json;\n\t{{- if .SkipVerify }}\n\tssl_verify off;\n\t{{- end }}\n\t{{- if .CACertFile }}\n\tssl_trusted_certificate {{ .CACertFile }};\n\t{{- end }}\n\t{{- if and .ClientSSLCertFile .ClientSSLKeyFile }}\n\tssl_certificate {{ .ClientSSLCertFile }};\n\tssl_certificate_key {{ .ClientSSLKeyFile }};\n\t{{- end }}\n}\n" :=
  ⟨rfl, rfl⟩

/-! ### every documented value is accepted -/

/-- `<host>:<port>` for EVERY host the validator's own host test admits without a colon (dotted IPv4,
DNS-1123 subdomain) and EVERY port 1..65535 in decimal -/
theorem endpoint_accepts_all_ports (h : Str) (p : Nat) (hk : hostOK h = true) (hc : ':' ∉ h)
    (h1 : 1 ≤ p) (h2 : p ≤ 65535) : validateEndpoint genCfg (h ++ ':' :: Nat.toDigits 10 p) = .ok :=
  validateEndpoint_plain (cfg := genCfg) (by decide) (by decide) hk hc h1 h2

/-- `[<ip>]:<port>` for every IP literal (in particular every IPv6 literal) and every port 1..65535 -/
theorem endpoint_accepts_all_ports_bracketed (h : Str) (p : Nat) (hk : hostOK h = true)
    (h1 : 1 ≤ p) (h2 : p ≤ 65535) :
    validateEndpoint genCfg ('[' :: (h ++ ']' :: ':' :: Nat.toDigits 10 p)) = .ok :=
  validateEndpoint_bracket (cfg := genCfg) (by decide) (by decide) hk h1 h2

theorem endpointopt_accepts_all_ports (h : Str) (p : Nat) (hk : hostOK h = true) (hc : ':' ∉ h)
    (hu : h ≠ "unix".toList) (h1 : 1 ≤ p) (h2 : p ≤ 65535) :
    validateEndpointOptionalPort genCfg (h ++ ':' :: Nat.toDigits 10 p) = .ok :=
  validateOpt_plain (cfg := genCfg) (by decide) (by decide) hk hc hu h1 h2

theorem endpointopt_accepts_all_ports_bracketed (h : Str) (p : Nat) (hk : hostOK h = true) (hc : ':' ∈ h)
    (h1 : 1 ≤ p) (h2 : p ≤ 65535) :
    validateEndpointOptionalPort genCfg ('[' :: (h ++ ']' :: ':' :: Nat.toDigits 10 p)) = .ok :=
  validateOpt_bracket (cfg := genCfg) (by decide) (by decide) hk hc h1 h2

/-- a host without port (dotted IPv4 or DNS name) is accepted by the optional-port validator -/
theorem endpointopt_accepts_bare_host (h : Str) (hk : hostOK h = true) (hc : ':' ∉ h) :
    validateEndpointOptionalPort genCfg h = .ok := validateOpt_bare hk hc

/-- … and so is every IPv6 literal without brackets (the repo's tests document it as valid; the generator
adds the brackets) -/
theorem endpointopt_accepts_bare_ipv6 (h : Str) (hp : parseIP h = true) (hc : ':' ∈ h) :
    validateEndpointOptionalPort genCfg h = .ok := bare_v6_accepted hp hc

/-- the only host name the stricter validator gives up: `unix:<port>`, which NGINX would read as a socket path -/
theorem endpointopt_unix_host_refused :
    validateEndpointOptionalPort genCfg "unix:53".toList = .unix ∧
    validateEndpointOptionalPort genCfg "unix".toList = .ok ∧
    validateEndpoint genCfg "unix:53".toList = .ok := by decide_chars

/-- the hosts of the statements above are not vacuous: every dotted quad … -/
theorem ipv4_quad_is_host (a b c d : Nat) (ha : a < 256) (hb : b < 256) (hc : c < 256) (hd : d < 256) :
    let s := joinC '.' [Nat.toDigits 10 a, Nat.toDigits 10 b, Nat.toDigits 10 c, Nat.toDigits 10 d]
    hostOK s = true ∧ ':' ∉ s :=
  ⟨hostOK_of_v4 (isV4_quad ha hb hc hd), isV4_no_colon (isV4_quad ha hb hc hd)⟩

/-- … and every DNS name made of RFC 1123 labels with at most 253 bytes -/
theorem dns_labels_is_host (ls : List Str) (hne : ls ≠ []) (hl : ∀ l ∈ ls, labelRe l = true)
    (hlen : (joinC '.' ls).length ≤ 253) :
    hostOK (joinC '.' ls) = true ∧ ':' ∉ joinC '.' ls :=
  ⟨hostOK_of_dns (subdomain_of_labels hne hl hlen), dns_no_colon (subdomain_of_labels hne hl hlen)⟩

/-- … and every RFC 4291 §2.2 text form of an IPv6 address (used between brackets with
`endpoint_accepts_all_ports_bracketed`; `g` ranges over groups of 1-4 hex digits, `q` over dotted quads):
x:x:x:x:x:x:x:x -/
theorem ipv6_full_is_host (gs : List Str) (hg : ∀ g ∈ gs, hexGroupOK g = true) (hlen : gs.length = 8) :
    hostOK (joinC ':' gs) = true := by
  have h6 := isV6_full (fieldsOK_groups hg) (by rw [v6Units_groups hg, hlen])
  match gs, hlen with
  | a :: b :: rest, _ => exact hostOK_of_v6 h6 colon_mem_joinC

/-- x:x:x:x:x:x:d.d.d.d -/
theorem ipv6_mixed_is_host (gs : List Str) (q : Str) (hg : ∀ g ∈ gs, hexGroupOK g = true)
    (hlen : gs.length = 6) (hq : isV4 q = true) : hostOK (joinC ':' (gs ++ [q])) = true := by
  have h6 := isV6_full (fieldsOK_groups_v4 hg hq) (by rw [v6Units_groups_v4 hg hq, hlen])
  match gs, hlen with
  | a :: b :: rest, _ => exact hostOK_of_v6 h6 colon_mem_joinC

/-- l::r with at most seven groups in total (either side may be empty: `::`, `::1`, `fe80::`) -/
theorem ipv6_compressed_is_host (l r : List Str) (hl : ∀ g ∈ l, hexGroupOK g = true)
    (hr : ∀ g ∈ r, hexGroupOK g = true) (hlen : l.length + r.length ≤ 7) :
    hostOK (joinC ':' l ++ ':' :: ':' :: joinC ':' r) = true :=
  hostOK_of_v6 (isV6_compressed hl (fieldsOK_groups hr) (v6Units_groups hr) hlen) (by simp)

/-- l::r:d.d.d.d with at most five groups (`::ffff:1.2.3.4`, `::1.2.3.4`) -/
theorem ipv6_compressed_mixed_is_host (l r : List Str) (q : Str) (hl : ∀ g ∈ l, hexGroupOK g = true)
    (hr : ∀ g ∈ r, hexGroupOK g = true) (hq : isV4 q = true) (hlen : l.length + r.length ≤ 5) :
    hostOK (joinC ':' l ++ ':' :: ':' :: joinC ':' (r ++ [q])) = true :=
  hostOK_of_v6 (isV6_compressed hl (fieldsOK_groups_v4 hr hq) (v6Units_groups_v4 hr hq) (by omega)) (by simp)

example : joinC ':' ["2001".toList, "db8".toList] ++ ':' :: ':' :: joinC ':' ["1".toList] = "2001:db8::1".toList := by
  decide_chars
example : hexGroupOK "2001".toList = true ∧ hexGroupOK "db8".toList = true ∧ hexGroupOK "FFFF".toList = true := by
  decide_chars

example : validateEndpoint genCfg "example.com:65535".toList = .ok := by decide_chars
example : validateEndpoint genCfg "[2001:db8::1]:32768".toList = .ok := by decide_chars
example : validateEndpointOptionalPort genCfg "10.0.0.1".toList = .ok := by decide_chars
example : hostOK "2001:db8::ffff:1.2.3.4".toList = true := by decide_chars

/-- decimal parsing, precisely: one optional sign, digits only (no `_`, no `0x`), leading zeros allowed -/
theorem port_text_forms :
    validateEndpoint genCfg "h:+80".toList = .ok ∧ validateEndpoint genCfg "h:0080".toList = .ok ∧
    validateEndpoint genCfg "h:8_0".toList = .portnum ∧ validateEndpoint genCfg "h:0x50".toList = .portnum ∧
    validateEndpoint genCfg "h:".toList = .portnum ∧ validateEndpoint genCfg "h:0".toList = .portrange ∧
    validateEndpoint genCfg "h:65536".toList = .portrange ∧ validateEndpoint genCfg "h:-1".toList = .portrange ∧
    validateEndpoint genCfg "h: 80".toList = .portnum ∧ validateEndpoint genCfg "h:4294967296".toList = .portnum := by
  decide_chars

theorem resource_name_iff (s : Str) : validateResourceName s = .ok ↔ isDNS1123Subdomain s = true :=
  validateResourceName_iff

theorem namespace_name_iff (s : Str) : validateNamespaceName s = .ok ↔ isDNS1123Label s = true :=
  validateNamespaceName_iff

theorem namespaced_name_iff (s : Str) : parseNamespacedResourceName s = .ok ↔ docNamespacedName s = true :=
  parseNamespacedResourceName_iff

/-- `DOMAIN/PATH` with the controller's domain and any non-empty path over the Gateway API alphabet -/
theorem controller_name_accepts_documented (path : Str) (hp : path ≠ [])
    (hc : path.all isCtlrPathChar = true) :
    validateGatewayControllerName genCfg (documentedDomain ++ '/' :: path) = .ok := by
  have hd : genCfg.domain = documentedDomain := cfg_documented.2.2.2.2.2.2.2.2.2.2.2
  have hs : subdomainRe genCfg.domain = true := by
    rw [hd]
    unfold documentedDomain
    decide_chars
  rw [← hd]
  exact ctlr_accepts hs hp hc

/-- the port flags accept every canonical decimal in [1024, 65535] -/
theorem port_flag_accepts_documented (p : Nat) (h1 : 1024 ≤ p) (h2 : p ≤ 65535) :
    intFlagSet genCfg (Nat.toDigits 10 p) = some (p : Int) := by
  have hp := parseInt_toDigits (bits := genCfg.intBits) (by decide) h2
  have hv : validatePort genCfg (p : Int) = true :=
    validatePort_iff.mpr ⟨Int.ofNat_le.mpr h1, Int.ofNat_le.mpr h2⟩
  simp [intFlagSet, hp, hv]

/-! ### nothing unsafe is accepted -/

/-- everything `validateEndpoint` accepts is `<host>:<port>` with a non-empty IP/DNS host and a port
value in 1..65535, and consists only of bytes that are ordinary in a bare NGINX argument -/
theorem endpoint_accepted_safe (s : Str) (h : validateEndpoint genCfg s = .ok) :
    safeBareArg s = true ∧ endpointWellFormed s = true :=
  ⟨validateEndpoint_safe h, validateEndpoint_wellformed (by decide) (by decide) (by decide) h⟩

/-- everything `validateEndpointOptionalPort` accepts is one bare NGINX token: no white space,
no `; { } " ' $ # \`, not empty -/
theorem endpointopt_accepted_lexically_safe (s : Str) (h : validateEndpointOptionalPort genCfg s = .ok) :
    safeBareArg s = true := validateOpt_safe h

/-- FULL STRENGTH (main theorem since 746dbb2 + 15df172): every value `validateEndpointOptionalPort` accepts
is, after the generator's `nginxAddr` (brackets around a bare IPv6 address), an NGINX `address[:port]` in
the sense of `ngx_parse_url` -/
theorem endpointopt_accepted_nginx_addr (s : Str) (h : validateEndpointOptionalPort genCfg s = .ok) :
    nginxAddrOk (nginxAddr s) = true :=
  validateOpt_nginx_addr (by decide) (by decide) h

example : validateEndpointOptionalPort genCfg "dns.example.com:53".toList = .ok ∧
    nginxAddr "dns.example.com:53".toList = "dns.example.com:53".toList := by decide_chars
example : validateEndpointOptionalPort genCfg "2001:db8::1".toList = .ok ∧
    nginxAddr "2001:db8::1".toList = "[2001:db8::1]".toList := by decide_chars
example : validateEndpointOptionalPort genCfg "[2001:db8::1]:53".toList = .ok := by decide_chars

/-- REGRESSION DETECTORS — the pre-fix validator (`validateEndpointOptionalPortPreFix`, before 746dbb2) and
the pre-fix rendering (verbatim, before 15df172) violate the statement on these witnesses; the current
validator refuses four of them and the current generator brackets the fifth.  Reverting either commit makes
the real code behave like the pre-fix variant again and is reported with the signatures `C20:nginx-addr-*`. -/
theorem prefix_accepts_non_nginx_addr :
    (validateEndpointOptionalPortPreFix genCfg "::1".toList = .ok ∧ nginxAddrOk "::1".toList = false) ∧
    (validateEndpointOptionalPortPreFix genCfg "host:".toList = .ok ∧ nginxAddrOk "host:".toList = false) ∧
    (validateEndpointOptionalPortPreFix genCfg "host:+80".toList = .ok ∧ nginxAddrOk "host:+80".toList = false) ∧
    (validateEndpointOptionalPortPreFix genCfg "[1.2.3.4]:80".toList = .ok ∧ nginxAddrOk "[1.2.3.4]:80".toList = false) ∧
    (validateEndpointOptionalPortPreFix genCfg "unix:53".toList = .ok ∧ nginxAddrOk "unix:53".toList = false) := by
  decide_chars

theorem current_refuses_prefix_witnesses :
    validateEndpointOptionalPort genCfg "host:".toList = .portnum ∧
    validateEndpointOptionalPort genCfg "[::1]:".toList = .portnum ∧
    validateEndpointOptionalPort genCfg "host:+80".toList = .portnum ∧
    validateEndpointOptionalPort genCfg "host:-80".toList = .portnum ∧
    validateEndpointOptionalPort genCfg "[1.2.3.4]:80".toList = .bracket ∧
    validateEndpointOptionalPort genCfg "[example.com]:80".toList = .bracket ∧
    validateEndpointOptionalPort genCfg "unix:53".toList = .unix := by decide_chars

/-- a bare IPv6 literal is still accepted, is not an NGINX address verbatim (why 15df172 was needed), and is one
once bracketed -/
theorem bare_ipv6_needs_the_generator_brackets (h : Str) (hp : parseIP h = true) (hc : ':' ∈ h) :
    validateEndpointOptionalPort genCfg h = .ok ∧ nginxAddrOk h = false ∧ nginxAddrOk (nginxAddr h) = true :=
  ⟨bare_v6_accepted hp hc, bare_v6_not_nginx_addr hp hc, bracketV6_nginx_addr hp hc⟩

/-- still refused (as before the fixes): the bracketed IPv6 spelling without port -/
theorem endpointopt_rejects_bracketed_v6_without_port :
    validateEndpointOptionalPort genCfg "[::1]".toList = .host ∧ nginxAddrOk "[::1]".toList = true := by decide_chars

/-- embedded verbatim, a lexically safe value is exactly one argument of its directive -/
theorem resolver_line_one_argument (v : Str) (hs : safeBareArg v = true) :
    parseConf ("\tresolver ".toList ++ v ++ ";\n".toList) = some [.simple ["resolver".toList, v]] := by
  have e : "\tresolver ".toList ++ v ++ ";\n".toList = '\t' :: ("resolver".toList ++ ' ' :: (v ++ ';' :: ['\n'])) := by
    -- the characters of the literals as in `NGF.Proofs.CharLits`, then a computation on lists
    repeat rw [String.toList_ofList]
    rfl
  rw [e]
  exact line_one_argument safe_words.1 hs

theorem usage_report_line_one_argument (v : Str) (hs : safeBareArg v = true) :
    parseConf ("\tusage_report endpoint=".toList ++ v ++ ";\n".toList) =
      some [.simple ["usage_report".toList, "endpoint=".toList ++ v]] := by
  simp only [safeBareArg, Bool.and_eq_true] at hs
  exact usage_report_line_verbatim hs.2

/-- the whole file: for accepted (or absent) endpoint and resolver values the text `generateMgmtFiles`
produces (`renderMgmt` = template ∘ `nginxAddr`, compared with the real generator's output on every run)
parses to exactly the intended directives, each value (bracketed if a bare IPv6 address) being one argument -/
theorem mgmt_conf_verbatim (ep res : Str)
    (hep : ep = [] ∨ validateEndpointOptionalPort genCfg ep = .ok)
    (hres : res = [] ∨ validateEndpointOptionalPort genCfg res = .ok) :
    mgmtConfOK (renderMgmt ep res) (nginxAddr ep) (nginxAddr res) = true :=
  mgmtConfOK_generated (hep.imp id validateOpt_safe) (hres.imp id validateOpt_safe)

/-- … and both arguments are NGINX addresses -/
theorem mgmt_conf_addresses (ep res : Str)
    (hep : validateEndpointOptionalPort genCfg ep = .ok) (hres : validateEndpointOptionalPort genCfg res = .ok) :
    nginxAddrOk (nginxAddr ep) = true ∧ nginxAddrOk (nginxAddr res) = true :=
  ⟨endpointopt_accepted_nginx_addr ep hep, endpointopt_accepted_nginx_addr res hres⟩

example : renderMgmt "a:1".toList "::1".toList =
    "\nmgmt {\n\tusage_report endpoint=a:1;\n\tresolver [::1];\n\tlicense_token /etc/nginx/secrets/license.jwt;\n\tdeployment_context /etc/nginx/main-includes/deployment_ctx.json;\n}\n".toList := by
  unfold renderMgmt renderMgmtRaw
  decide_chars

/-- an accepted resource name is a legal Kubernetes object name and a safe token -/
theorem resource_name_safe (s : Str) (h : validateResourceName s = .ok) :
    isDNS1123Subdomain s = true ∧ s.length ≤ 253 ∧ safeBareArg s = true := by
  have hd := validateResourceName_iff.mp h
  refine ⟨hd, ?_, subdomain_safe hd⟩
  simp only [isDNS1123Subdomain, Bool.and_eq_true, decide_eq_true_eq] at hd
  exact hd.1

/-- only `gateway.nginx.org/<path>` over the Gateway API alphabet is accepted as controller name -/
theorem controller_name_sound (s : Str) (h : validateGatewayControllerName genCfg s = .ok) :
    ∃ path, s = documentedDomain ++ '/' :: path ∧ path ≠ [] ∧ path.all isCtlrPathChar = true := by
  have := ctlr_sound h
  rwa [cfg_documented.2.2.2.2.2.2.2.2.2.2.2] at this

/-- a port flag that was accepted holds a value in [1024, 65535] -/
theorem port_flag_sound (s : Str) (p : Int) (h : intFlagSet genCfg s = some p) : 1024 ≤ p ∧ p ≤ 65535 :=
  validatePort_iff.mp (intFlagSet_some h)

/-! ### conflicting settings are rejected before anything is started -/

theorem collisions_iff_nodup (ps : List Int) : noCollisions ps = true ↔ ps.Nodup := by
  induction ps with
  | nil => simp [noCollisions]
  | cons p ps ih =>
    simp only [noCollisions, Bool.and_eq_true, Bool.not_eq_true', List.nodup_cons, ih]
    constructor
    · rintro ⟨a, b⟩; exact ⟨by simpa using a, b⟩
    · rintro ⟨a, b⟩; exact ⟨by simpa using a, b⟩

theorem initFlags_ok : FlagsOK genCfg initFlags where
  ctlr _ h := nomatch h
  cls _ h := nomatch h
  gw _ h := nomatch h
  config := .inl rfl
  service := .inl rfl
  lock := by dsimp only [initFlags]; decide_chars
  secret := by dsimp only [initFlags]; decide_chars
  ep := .inl rfl
  res := .inl rfl
  cssl := .inl rfl
  ca := .inl rfl
  mport := by decide
  hport := by decide

/-- whatever the command line: if the last values of --metrics-port and --health-port coincide, `RunE`
never reaches the statement that starts the manager -/
theorem static_port_collision_rejected (te ti : Str) (args : List (Flag × Str)) (st : Flags)
    (ha : applyFlags genCfg initFlags 0 args = .ok st) (hc : st.metricsPort = st.healthPort) :
    ∀ st', runStatic genCfg te ti args ≠ .validated st' :=
  NGF.Cli.static_collision_rejected (cfg := genCfg) ha hc

/-- what holds when `RunE` reaches the start of the manager -/
theorem static_validated_sound (te ti : Str) (args : List (Flag × Str)) (st : Flags)
    (h : runStatic genCfg te ti args = .validated st) :
    st.ctlrName.isSome = true ∧ st.gatewayClass.isSome = true ∧ st.metricsPort ≠ st.healthPort ∧
    (st.plus = true → st.urSecret ≠ []) ∧ (te ≠ [] → validateEndpoint genCfg te = .ok) := by
  obtain ⟨_, a, b, c, d, e, _⟩ := runStatic_validated h
  exact ⟨a, b, c, d, e⟩

/-- … and every flag value the manager is started with passed its validator; in particular the two
values that reach the mgmt block are empty (directive omitted) or single safe tokens -/
theorem static_validated_values_safe (te ti : Str) (args : List (Flag × Str)) (st : Flags)
    (h : runStatic genCfg te ti args = .validated st) :
    FlagsOK genCfg st ∧ (st.urEndpoint = [] ∨ safeBareArg st.urEndpoint = true) ∧
    (st.urResolver = [] ∨ safeBareArg st.urResolver = true) := by
  have hk := applyFlags_ok (runStatic_validated h).1 initFlags_ok
  exact ⟨hk, hk.ep.imp id validateOpt_safe, hk.res.imp id validateOpt_safe⟩

/-- the explicit `--nginx-plus` without secret check can never fire: the secret flag has a non-empty
default and refuses the empty string -/
theorem plus_secret_check_unreachable (te ti : Str) (args : List (Flag × Str)) :
    runStatic genCfg te ti args ≠ .plusSecret := by
  intro h
  obtain ⟨st, ha, he⟩ := runStatic_plusSecret h
  exact (dns_chars (applyFlags_ok ha initFlags_ok).secret).1 he

example : runStatic genCfg [] "false".toList
    [(.ctlrName, "gateway.nginx.org/x".toList), (.gatewayClass, "nginx".toList),
     (.metricsPort, "9000".toList), (.healthPort, "9000".toList)] = .collision := by decide_chars

end NGF.Cli
