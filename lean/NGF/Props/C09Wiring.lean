/-
C09 — the wiring between the event handler and the leader-aware status updater.

`UpdateGroup` keeps the caller's variadic slice by reference while the replica is not the leader.  The
theorems below are about `runR` (reference level: slices over a memory, `Model/LeaderWiring.lean`; its
updater is the very `step` of `Model/Leader.lean`, applied to slice headers) and `runV` (value level =
`run init`, the subject of `Props/C09.lean`).  For call sites that build their argument per call
(`allFresh` — the discipline of handler.go, tied to the source below) the two coincide on ALL
handler histories, so what `Enable` writes for a group is the list computed by the LAST call for that
group, read at call time, whatever is computed later for other groups.  With one scratch buffer shared by
two call sites (`scratchShared`) this is false: concrete witnesses.
-/
import NGF.Model.LeaderWiring
import NGF.Model.LeaderWiringJudge
import NGF.Proofs.LeaderWiring
import NGF.Proofs.LeaderWiringJudge
import NGF.Generated.LeaderFacts

namespace NGF.Leader

/-! ### saved requests are the values at call time -/

/-- For ALL handler histories (graph-changing batches, no-change batches, control-plane events,
fronting-Service events, the enable point anywhere, anything after it): when every call site passes a
slice allocated for that call, reading the saved slice headers at write time gives exactly the lists
that were passed — the reference-level behaviour IS the value-level behaviour. -/
theorem saved_requests_are_call_values (evs : List HEv) : runR allFresh evs = runV evs :=
  hrun_fresh_eq_run (opsOf evs) sim_init

/-- the same for every operation list (not only those that handler events produce) -/
theorem saved_requests_are_call_values_ops (ops : List Op) : hrun allFresh hinit ops = run init ops :=
  hrun_fresh_eq_run ops sim_init

/-- What `Enable` writes, in the reference-level semantics: one write per group, and `(g, r)` is written
iff `r` is the non-empty list passed by the LAST call for `g` before `Enable` — the value at call time. -/
theorem flush_writes_values_at_call_time (pre : List HEv) (o : List Group) (post : List HEv)
    (h : NoEnableEv pre) :
    ∃ ws, (runR allFresh (pre ++ .enable o :: post))[(opsOf pre).length]? = some (Out.writes ws) ∧
      (keys ws).Nodup ∧
      ∀ g r, (g, r) ∈ ws ↔ (lastCall g pre = some r ∧ r ≠ []) := by
  have hn := noEnable_opsOf h
  refine ⟨flush o (exec init (opsOf pre)).saved, ?_, flush_keys_nodup _ o hn, fun g r => ?_⟩
  · rw [saved_requests_are_call_values, runV_decompose pre o post h,
      List.getElem?_append_right (by simp)]
    simp
  · rw [(flush_perm_latest _ o hn).mem_iff, mem_latest_iff_lastSub]
    rfl

/-- An event that does not submit group `g` (another batch kind, a control-plane event while `g` is a
graph group, …) does not change what will be flushed for `g`. -/
theorem later_calls_for_other_groups_irrelevant (g : Group) (pre : List HEv) (ev : HEv)
    (h : g ∉ ev.groups) : lastCall g (pre ++ [ev]) = lastCall g pre := by
  unfold lastCall
  rw [opsOf_append]
  apply lastSub_append_other
  rw [show opsOf [ev] = ev.ops from List.append_nil _]
  exact superseded_ops_eq_false h

/-- Before `Enable` the handler's calls write nothing (reference level). -/
theorem handler_no_write_before_enable (pre : List HEv) (rest : List HEv) (h : NoEnableEv pre) :
    (runR allFresh (pre ++ rest)).take (opsOf pre).length =
      (opsOf pre).map (fun _ => Out.writes []) := by
  rw [saved_requests_are_call_values, runV, opsOf_append, run_append,
    run_of_noEnable _ (noEnable_opsOf h), List.take_left' (by simp)]

/-- After `Enable` every call of the handler is one immediate write of exactly the list it passes. -/
theorem handler_immediate_after_enable (pre : List HEv) (o : List Group) (post : List HEv)
    (h : NoEnableEv pre) :
    (runR allFresh (pre ++ .enable o :: post)).drop ((opsOf pre).length + 1) =
      (opsOf post).map after := by
  rw [saved_requests_are_call_values, runV_decompose pre o post h]
  simp [List.drop_append]

/-! ### a shared scratch buffer breaks it -/

/-- `updateStatuses` and `updateControlPlaneAndSetStatus` assemble their requests in one reusable buffer:
a graph-changing batch submits `[10, 11]` for all-except-gateways (saved: a header into the buffer), then
an NginxGateway event builds `[30]` in the same cells; `Enable` writes `[30, 11]` for the first group —
request 10 (the GatewayClass status, first in the list) is never written. -/
theorem flush_shared_buffer_false :
    runR scratchShared [.graph [10, 11] [20], .control [30], .enable [0, 1, 2]] =
      [.writes [], .writes [], .writes [], .writes [(0, [30, 11]), (1, [20]), (2, [30])]] ∧
    runV [.graph [10, 11] [20], .control [30], .enable [0, 1, 2]] =
      [.writes [], .writes [], .writes [], .writes [(0, [10, 11]), (1, [20]), (2, [30])]] := by
  decide +kernel

/-- start-up order NginxGateway first, then a graph with a single request: the control-plane request is
lost instead -/
theorem flush_shared_buffer_startup_false :
    runR scratchShared [.control [30], .graph [10] [20], .enable [2, 0, 1]] =
      [.writes [], .writes [], .writes [], .writes [(2, [10]), (0, [10]), (1, [20])]] ∧
    lastCall gControl [.control [30], .graph [10] [20]] = some [30] := by
  decide +kernel

/-- hence the equation of `saved_requests_are_call_values` does not hold for the shared-buffer variant -/
theorem saved_requests_shared_buffer_false : ¬ ∀ evs, runR scratchShared evs = runV evs := by
  intro h
  have := h [.graph [10, 11] [20], .control [30], .enable [0, 1, 2]]
  revert this
  decide +kernel

/-- a leader is unaffected by the shared buffer (every call is written before the buffer is reused) -/
example : runR scratchShared [.enable [], .graph [10, 11] [20], .control [30], .graph [12] []] =
    runV [.enable [], .graph [10, 11] [20], .control [30], .graph [12] []] := by decide +kernel

/-! ### requests are keyed by (kind, namespace, name) -/

/-- Every request of the last call for `g` is written at `Enable`, in particular two requests for
resources of DIFFERENT kinds that share namespace/name are both written. -/
theorem flush_writes_every_resource (pre : List HEv) (o : List Group) (post : List HEv)
    (h : NoEnableEv pre) (g : Group) (r : List Req) (hl : lastCall g pre = some r)
    (tbl : List SReq) (a b : SReq) (ha : a ∈ resources tbl r) (hb : b ∈ resources tbl r)
    (_ : a.nsName = b.nsName) (_ : a.kind ≠ b.kind) :
    ∃ ws, (runR allFresh (pre ++ .enable o :: post))[(opsOf pre).length]? = some (Out.writes ws) ∧
      ∃ w ∈ ws, w.1 = g ∧ a ∈ resources tbl w.2 ∧ b ∈ resources tbl w.2 := by
  obtain ⟨ws, h1, _, h3⟩ := flush_writes_values_at_call_time pre o post h
  have hne : r ≠ [] := by
    intro e
    subst e
    simp [resources] at ha
  exact ⟨ws, h1, (g, r), (h3 g r).2 ⟨hl, hne⟩, rfl, ha, hb⟩

/-- a flush that de-duplicates by NsName only ("write each resource once", ignoring the kind) drops the
status of the HTTPRoute that shares namespace/name with the Gateway -/
theorem flush_dedup_by_nsname_false :
    dedupNsName [] [⟨0, 1, 7, 100⟩, ⟨1, 1, 7, 200⟩, ⟨1, 1, 8, 300⟩] = [⟨0, 1, 7, 100⟩, ⟨1, 1, 8, 300⟩] ∧
    (⟨1, 1, 7, 200⟩ : SReq).key ≠ (⟨0, 1, 7, 100⟩ : SReq).key := by
  decide +kernel

/-! ### what the wiring judge looks at, on the model -/

/-- The judge attributes the writes of `Enable` to groups by resource kind (`ofGroup`/`groupOfKind`).  When every
request submitted under a group addresses a kind of that group (`KindsOk`, cf. `kinds_partition_groups`), the
group-`g` part of what the model flushes is exactly the resources of the list passed by the LAST call for `g`
(nothing when that list was empty or the group was never submitted). -/
theorem flush_per_group_is_last_call (tbl : List SReq) (pre : List HEv) (o : List Group) (post : List HEv)
    (h : NoEnableEv pre) (hk : KindsOk tbl (opsOf pre)) :
    ∃ ws, (runR allFresh (pre ++ .enable o :: post))[(opsOf pre).length]? = some (Out.writes ws) ∧
      ∀ g, ofGroup g ((ws.map fun w => resources tbl w.2).flatten) =
        resources tbl ((lastCall g pre).getD []) := by
  obtain ⟨ws, h1, h2, h3⟩ := flush_writes_values_at_call_time pre o post h
  refine ⟨ws, h1, fun g => ?_⟩
  have hkind : ∀ w ∈ ws, ∀ q ∈ resources tbl w.2, groupOfKind q.kind = w.1 := by
    intro w hw q hq
    have := (h3 w.1 w.2).1 hw
    exact hk w.1 w.2 (lastSub_mem this.1) q hq
  rw [ofGroup_flush tbl g ws h2 hkind]
  have hnone : (∀ r, lastCall g pre = some r → r = []) → get g ws = none := by
    intro hall
    apply get_none_of_not_mem
    intro hm
    obtain ⟨⟨g', r'⟩, hm', hg⟩ := List.mem_map.1 hm
    simp only at hg
    subst hg
    have := (h3 g' r').1 hm'
    exact this.2 (hall r' this.1)
  cases hl : lastCall g pre with
  | none => rw [hnone (by intro r e; rw [hl] at e; cases e)]
  | some r =>
    by_cases hr : r = []
    · subst hr
      rw [hnone (by intro r e; rw [hl] at e; cases e; rfl)]
      rfl
    · rw [get_of_mem h2 ((h3 g r).2 ⟨hl, hr⟩)]

/-- Hence the judge's flush clause accepts every run of the model whenever the fresh-handler oracle of the step
that submitted `g` last (`lastSubmitter`) is, as a multiset, the resources of the model's last call for `g`: the
judge demands nothing the theorems do not give. -/
theorem judge_flush_clause_accepts_model (tbl : List SReq) (pre : List HEv) (o : List Group) (post : List HEv)
    (h : NoEnableEv pre) (hk : KindsOk tbl (opsOf pre)) (before : List WStep) (g : Group) (s : WStep)
    (want : List SReq) (hs : lastSubmitter g before = some s) (hw : wantOf s g = some want)
    (hfresh : (resources tbl ((lastCall g pre).getD [])).Perm want) :
    ∃ ws, (runR allFresh (pre ++ .enable o :: post))[(opsOf pre).length]? = some (Out.writes ws) ∧
      flushOk before ((ws.map fun w => resources tbl w.2).flatten) g = none := by
  obtain ⟨ws, h1, h2⟩ := flush_per_group_is_last_call tbl pre o post h hk
  refine ⟨ws, h1, ?_⟩
  simp only [flushOk, hs, hw, h2 g]
  rw [if_pos (List.isPerm_iff.2 hfresh)]

/-- … and a group that no step submitted gets no write -/
theorem judge_flush_clause_accepts_model_unsubmitted (tbl : List SReq) (pre : List HEv) (o : List Group)
    (post : List HEv) (h : NoEnableEv pre) (hk : KindsOk tbl (opsOf pre)) (before : List WStep) (g : Group)
    (hs : lastSubmitter g before = none) (hl : lastCall g pre = none) :
    ∃ ws, (runR allFresh (pre ++ .enable o :: post))[(opsOf pre).length]? = some (Out.writes ws) ∧
      flushOk before ((ws.map fun w => resources tbl w.2).flatten) g = none := by
  obtain ⟨ws, h1, h2⟩ := flush_per_group_is_last_call tbl pre o post h hk
  refine ⟨ws, h1, ?_⟩
  have e : ofGroup g ((ws.map fun w => resources tbl w.2).flatten) = [] := by
    rw [h2 g, hl]; rfl
  simp only [flushOk, hs, e]
  rfl

/-- non-vacuity: a table in which group 0 holds a GatewayClass and an HTTPRoute, group 1 a Gateway sharing the
route's namespace/name, group 2 the NginxGateway -/
example : KindsOk [⟨0, 0, 0, 1⟩, ⟨2, 1, 7, 3⟩, ⟨1, 1, 7, 2⟩, ⟨4, 1, 7, 4⟩]
    (opsOf [.graph [0, 1] [2], .control [3], .graph [0] [2]]) := by
  intro g r hm q hq
  simp only [opsOf, HEv.ops, List.cons_append, List.nil_append, List.mem_cons, Op.update.injEq,
    List.not_mem_nil, or_false] at hm
  rcases hm with ⟨rfl, rfl⟩ | ⟨rfl, rfl⟩ | ⟨rfl, rfl⟩ | ⟨rfl, rfl⟩ | ⟨rfl, rfl⟩ <;>
    revert q <;> decide +kernel

example : NoEnableEv [.graph [1, 2] [3], .noChange, .control [4], .frontSvc [5], .graph [6] []] := by
  decide +kernel

example : runR allFresh [.graph [1, 2] [3], .noChange, .control [4], .frontSvc [5], .graph [6] [],
    .enable [2, 0], .control [], .graph [7] [8]] =
    [.writes [], .writes [], .writes [], .writes [], .writes [], .writes [],
     .writes [(2, [4]), (0, [6])], .writes [(2, [])], .writes [(0, [7])], .writes [(1, [8])]] := by
  decide +kernel

example : lastCall gGateways [.graph [1, 2] [3], .noChange, .control [4], .frontSvc [5]] = some [5] := by
  decide +kernel

example : gAll ∉ (HEv.control [4]).groups ∧ gAll ∉ (HEv.frontSvc [5]).groups ∧ gAll ∉ HEv.noChange.groups := by
  decide +kernel

example : ∃ a b : SReq, a ∈ resources [⟨0, 1, 7, 100⟩, ⟨1, 1, 7, 200⟩] [0, 1] ∧
    b ∈ resources [⟨0, 1, 7, 100⟩, ⟨1, 1, 7, 200⟩] [0, 1] ∧ a.nsName = b.nsName ∧ a.kind ≠ b.kind :=
  ⟨⟨0, 1, 7, 100⟩, ⟨1, 1, 7, 200⟩, by decide +kernel, by decide +kernel, by decide +kernel, by decide +kernel⟩

/-- The call sites of handler.go are the ones `HEv.ops` transcribes: `updateStatuses` (only called as the
last statement of `HandleEventBatch`, which returns earlier on `state.NoChange`) submits
all-except-gateways and then gateways; `updateControlPlaneAndSetStatus` (only called by the NginxGateway
object-filter callbacks) submits control-plane; the fronting-Service callbacks submit gateways. -/
theorem handler_call_sites_as_modelled :
    Generated.Leader.updateGroupCallSites =
      ["updateStatuses: groupAllExceptGateways: reqs...",
       "updateStatuses: groupGateways: gwReqs...",
       "updateControlPlaneAndSetStatus: groupControlPlane: reqs...",
       "nginxGatewayServiceUpsert: groupGateways: gatewayStatuses...",
       "nginxGatewayServiceDelete: groupGateways: gatewayStatuses..."] ∧
    Generated.Leader.handleEventBatchLastStmt = "h.updateStatuses(ctx, logger, gr)" ∧
    Generated.Leader.noChangeCaseLastStmt = "return" ∧
    Generated.Leader.updateStatusesCallers = ["HandleEventBatch: h.updateStatuses(ctx, logger, gr)"] :=
  ⟨rfl, rfl, rfl, rfl⟩

/-- `updateControlPlaneAndSetStatus` is only reached through the NginxGateway object filter (upsert with the
object, delete with nil); the fronting-Service filter has the two gateway-status callbacks. -/
theorem object_filters_as_modelled :
    Generated.Leader.controlPlaneStatusCallers =
      ["nginxGatewayCRDUpsert: h.updateControlPlaneAndSetStatus(ctx, logger, cfg)",
       "nginxGatewayCRDDelete: h.updateControlPlaneAndSetStatus(ctx, logger, nil)"] ∧
    Generated.Leader.objectFilterEntries =
      ["&ngfAPI.NginxGateway{} => { upsert: handler.nginxGatewayCRDUpsert, delete: handler.nginxGatewayCRDDelete, }",
       "&v1.Service{} => { upsert: handler.nginxGatewayServiceUpsert, delete: handler.nginxGatewayServiceDelete, captureChangeInGraph: true, }"] :=
  ⟨rfl, rfl⟩

/-- the group ids of the model are the positions of the three group-name constants of handler.go -/
theorem handler_groups_as_modelled :
    Generated.Leader.groupNames[gAll]? = some "all-graphs-except-gateways" ∧
    Generated.Leader.groupNames[gGateways]? = some "gateways" ∧
    Generated.Leader.groupNames[gControl]? = some "control-plane" :=
  ⟨rfl, rfl, rfl⟩

/-- The hypothesis `allFresh` of the theorems above, for the Go code: every `UpdateGroup` argument in
handler.go is `ident...` where `ident` is declared inside the calling function (by `make`, `var`, or as
the result of `status.PrepareGatewayRequests`), only ever assigned by appending to itself, and not
mentioned after the call; the `Prepare*Requests` functions return a slice they declared themselves; no
struct field (other than the updater's own map) and no package-level variable holds a slice of
`UpdateRequest`; and the updater stores exactly the slice it was given. -/
theorem call_sites_allocate_per_call :
    Generated.Leader.updateGroupArgDefs =
      ["updateStatuses: reqs := make( []frameworkStatus.UpdateRequest, 0, len(gcReqs)+len(routeReqs)+len(polReqs)+len(ngfPolReqs)+len(snippetsFilterReqs), )",
       "updateStatuses: reqs = append(reqs, gcReqs...)",
       "updateStatuses: reqs = append(reqs, routeReqs...)",
       "updateStatuses: reqs = append(reqs, polReqs...)",
       "updateStatuses: reqs = append(reqs, ngfPolReqs...)",
       "updateStatuses: reqs = append(reqs, snippetsFilterReqs...)",
       "updateStatuses: gwReqs := status.PrepareGatewayRequests( gr.Gateway, gr.IgnoredGateways, transitionTime, gwAddresses, h.latestReloadResult, )",
       "updateControlPlaneAndSetStatus: var reqs []frameworkStatus.UpdateRequest",
       "updateControlPlaneAndSetStatus: reqs = append(reqs, *req)",
       "nginxGatewayServiceUpsert: gatewayStatuses := status.PrepareGatewayRequests( gr.Gateway, gr.IgnoredGateways, transitionTime, gwAddresses, h.latestReloadResult, )",
       "nginxGatewayServiceDelete: gatewayStatuses := status.PrepareGatewayRequests( gr.Gateway, gr.IgnoredGateways, transitionTime, gwAddresses, h.latestReloadResult, )"] ∧
    Generated.Leader.updateGroupArgNonLocal = [] ∧
    Generated.Leader.updateGroupArgUsesAfterCall = [] ∧
    Generated.Leader.requestSliceFields =
      ["internal/framework/status/leader_aware_group_updater.go: LeaderAwareGroupUpdater.groupReqs map[string][]UpdateRequest"] ∧
    Generated.Leader.requestPackageVars = [] ∧
    Generated.Leader.prepareResultOrigins =
      ["PrepareRouteRequests: return reqs: reqs := make([]frameworkStatus.UpdateRequest, 0, len(routes))",
       "PrepareGatewayClassRequests: return reqs: var reqs []frameworkStatus.UpdateRequest",
       "PrepareGatewayRequests: return reqs: reqs := make([]frameworkStatus.UpdateRequest, 0, 1+len(ignoredGateways))",
       "PrepareNGFPolicyRequests: return reqs: reqs := make([]frameworkStatus.UpdateRequest, 0, len(policies))",
       "PrepareBackendTLSPolicyRequests: return reqs: reqs := make([]frameworkStatus.UpdateRequest, 0, len(policies))",
       "PrepareSnippetsFilterRequests: return reqs: reqs := make([]frameworkStatus.UpdateRequest, 0, len(snippetsFilters))"] ∧
    Generated.Leader.updateGroupBody[2]? =
      some "if !u.enabled { if len(reqs) == 0 { delete(u.groupReqs, name) return } u.groupReqs[name] = reqs return }" :=
  ⟨rfl, rfl, rfl, rfl, rfl, rfl, rfl⟩

/-- The judge attributes a write to a group by the kind of the resource (`groupOfKind`): Gateway statuses are
only produced by `PrepareGatewayRequests`/`prepareGatewayRequest` (submitted under gateways), NginxGateway
statuses only by `PrepareNginxGatewayStatus` (control-plane), and the functions feeding all-except-gateways
produce neither. -/
theorem kinds_partition_groups :
    Generated.Leader.prepareResourceTypes =
      ["PrepareRouteRequests: &v1alpha2.TLSRoute{}",
       "PrepareRouteRequests: &v1.HTTPRoute{}",
       "PrepareRouteRequests: &v1.GRPCRoute{}",
       "PrepareGatewayClassRequests: &v1.GatewayClass{}",
       "PrepareGatewayRequests: &v1.Gateway{}",
       "prepareGatewayRequest: &v1.Gateway{}",
       "PrepareNGFPolicyRequests: pol.Source",
       "PrepareBackendTLSPolicyRequests: &v1alpha3.BackendTLSPolicy{}",
       "PrepareSnippetsFilterRequests: snippetsFilter.Source",
       "PrepareNginxGatewayStatus: &ngfAPI.NginxGateway{}"] ∧
    groupOfKind kGateway = gGateways ∧ groupOfKind kNginxGateway = gControl ∧
    groupOfKind 0 = gAll ∧ groupOfKind 2 = gAll ∧ groupOfKind 3 = gAll ∧ groupOfKind 5 = gAll :=
  ⟨rfl, rfl, rfl, rfl, rfl, rfl, rfl⟩

/-! ### the wiring judge separates good and bad histories

`gc` GatewayClass, `gw`/`rt` Gateway and HTTPRoute sharing namespace/name, `ng` NginxGateway. -/

private def gc : SReq := ⟨0, 0, 0, 1⟩
private def gw : SReq := ⟨1, 1, 7, 2⟩
private def rt : SReq := ⟨2, 1, 7, 3⟩
private def ng : SReq := ⟨4, 1, 7, 4⟩

/-- start-up batch, control-plane event, election, one more batch: accepted -/
example : judgeW [⟨false, [0, 1], some [[gc, rt], [gw], []], []⟩, ⟨false, [2], some [[gc, rt], [gw], [ng]], []⟩,
                  ⟨true, [], none, [gw, gc, rt, ng]⟩,
                  ⟨false, [0, 1], some [[gc, rt], [gw], [ng]], [gc, rt, gw]⟩] = none := by decide +kernel

/-- shared scratch buffer: the control-plane request sits where the GatewayClass request was -/
example : judgeW [⟨false, [0, 1], some [[gc, rt], [gw], []], []⟩, ⟨false, [2], some [[gc, rt], [gw], [ng]], []⟩,
                  ⟨true, [], none, [ng, rt, gw, ng]⟩] = some "flush_wrong_requests" := by decide +kernel

/-- flush de-duplicated by NsName: the HTTPRoute that shares namespace/name with the Gateway is dropped -/
example : judgeW [⟨false, [0, 1], some [[gc, rt], [gw], []], []⟩,
                  ⟨true, [], none, [gw, gc]⟩] = some "flush_wrong_requests" := by decide +kernel

/-- a stale control-plane status (the NginxGateway was deleted before the election) -/
example : judgeW [⟨false, [2], some [[], [], [ng]], []⟩, ⟨false, [2], some [[], [], []], []⟩,
                  ⟨true, [], none, [ng]⟩] = some "flush_wrong_requests" := by decide +kernel

example : judgeW [⟨false, [0, 1], some [[gc], [gw], []], [gc]⟩] = some "write_before_leader" := by decide +kernel

example : judgeW [⟨true, [], none, []⟩, ⟨false, [0, 1], some [[gc, rt], [gw], []], [gc, gw]⟩] =
    some "not_immediate" := by decide +kernel

end NGF.Leader
