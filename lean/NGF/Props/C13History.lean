/-
C13 — HISTORIES of watch events through the change processor (`NGF.Model.ResolverHistory`: `capture`, `runBatch`,
`runHistory` are what the driver runs on the `hist` stream and what the correspondence compares — change type and NGINX
view after every batch — with the REAL ChangeProcessorImpl + eventHandlerImpl).

Quantification: ALL histories of batches of EndpointSlice / Service / HTTPRoute upserts and deletes, in any order
(slices seen before any route references their Service, the Service created after its slices, routes removed and
re-added around slice changes, a slice deleted / emptied / relabelled alone), OSS and Plus.
Helper lemmas: `NGF.Proofs.ResolverHistory`.
-/
import NGF.Proofs.ResolverHistory
import NGF.Generated.ResolverFacts

namespace NGF.Resolver

/-! ## 1. After every drained batch the generated configuration is the one of the CURRENT cluster -/

/-- **store_mirrors_cluster.** Whatever the history, the processor's EndpointSlice tracking store holds exactly the slices
the cluster holds — also those whose Service nothing referenced when they were last seen — so an update or delete is
always judged by the object as it was. -/
theorem store_mirrors_cluster (plus : Bool) (bs : List (List Ev)) :
    ∀ r ∈ runHistory plus true (PState.init plus) bs, r.1.proc.store = r.1.cluster.slices :=
  fun r hr => ((histInv_history plus bs).1 r hr).store

/-- **every_drained_batch_is_current.** For ALL histories, after EVERY drained batch — also one the processor judged
`NoChange` and for which nothing was rebuilt — the configuration last generated (and, no faults, applied) is the
configuration `BuildConfiguration` would build from the CURRENT cluster: every upstream of a resolvable backendRef with
the ready endpoints of the CURRENT EndpointSlices of its Service port; and the latest graph's referenced Services are
those of the current routes. -/
theorem every_drained_batch_is_current (plus : Bool) (bs : List (List Ev)) :
    ∀ r ∈ runHistory plus true (PState.init plus) bs,
      r.1.h.latest = some (confOf r.1.cluster) ∧ r.1.proc.refd = some (refsOf r.1.cluster) :=
  fun r hr => ⟨((histInv_history plus bs).1 r hr).latest, ((histInv_history plus bs).1 r hr).refd⟩

/-- **every_drained_batch_in_sync (OSS).** For ALL histories, after every drained batch NGINX holds, for every upstream of
the CURRENT cluster's configuration, exactly its servers: `inSync` (the Bool of `Model/ResolverFaults.lean`) holds between
what NGINX holds and `confOf` of the current cluster — the ready endpoints of the referenced Service port in the current
cluster, the 503 placeholder when there is none. -/
theorem every_drained_batch_in_sync (bs : List (List Ev)) :
    ∀ r ∈ runHistory false true (PState.init false) bs,
      r.1.h.ngx.api = loadOss (confOf r.1.cluster) ∧ inSync false (confOf r.1.cluster) r.1.h.ngx.api = true := by
  intro r hr
  have h1 := ((histInv_history false bs).1 r hr).latest
  have h2 := (ossHeld_history bs).1 r hr _ h1
  exact ⟨h2, by rw [h2]; exact inSync_loadOss (confOf_wf _)⟩

/-! ## 2. `slice_delete_after_late_reference_rebuilds` -/

/-- **slice_delete_after_late_reference_rebuilds.** After ANY history `bs` — in particular one in which the slice was last
seen while no route referenced its Service, and the reference came later — the deletion, alone in a batch, of a slice whose
owner Service the current routes reference is judged an `EndpointsOnlyChange`: the configuration is rebuilt from the
cluster WITHOUT the slice and applied (OSS: NGINX holds exactly that configuration's servers, the 503 placeholder when it
was the last ready endpoint). -/
theorem slice_delete_after_late_reference_rebuilds (plus : Bool) (bs : List (List Ev)) (ns obj : String) (o : Slice)
    (hget : getKV (finalState plus true (PState.init plus) bs).cluster.slices (ns, obj) = some o)
    (href : (o.ns, sliceOwner o) ∈ refsOf (finalState plus true (PState.init plus) bs).cluster) :
    let r := runBatch plus true (finalState plus true (PState.init plus) bs) [.deleteSlice ns obj]
    r.2 = .endpoints ∧
    getKV r.1.cluster.slices (ns, obj) = none ∧
    r.1.h.latest = some (confOf r.1.cluster) ∧
    (plus = false → r.1.h.ngx.api = loadOss (confOf r.1.cluster)) := by
  intro r
  have hinv := (histInv_history plus bs).2
  have hnext := histInv_runBatch plus hinv [.deleteSlice ns obj]
  have hpend : (captureAll true (finalState plus true (PState.init plus) bs).cluster
      (finalState plus true (PState.init plus) bs).proc [.deleteSlice ns obj]).2.pending = .endpoints := by
    simp only [captureAll, capture, hinv.store, hget, hinv.pending, hinv.refd]
    have : refSlice (some (refsOf (finalState plus true (PState.init plus) bs).cluster)) o = true := by
      simp only [refSlice, refSvc]; exact List.contains_iff_mem.mpr href
    rw [this]; rfl
  have hr2 : r.2 = .endpoints := by
    show (runBatch plus true _ _).2 = _
    unfold runBatch
    simp only [hpend]
  have hcl : r.1.cluster.slices = delKV (finalState plus true (PState.init plus) bs).cluster.slices (ns, obj) := by
    show (runBatch plus true _ _).1.cluster.slices = _
    unfold runBatch
    simp only [hpend]
    rfl
  refine ⟨hr2, by rw [hcl]; exact getKV_delKV_self _ _, hnext.latest, ?_⟩
  intro hplus
  subst hplus
  exact ossHeld_runBatch (ossHeld_history bs).2 [.deleteSlice ns obj] true _ hnext.latest

/-! ## 3. The history of the seeded change, and the refuted "remember only referenced slices" variant -/

def hSlice (label : String) (addr : String) : Slice :=
  ⟨"ns", some label, .ipv4, [⟨some "http", some 8080⟩], [⟨[addr], some true⟩]⟩

/-- backend first (Service and its slice, nothing references them: `NoChange`), the route later (`ClusterStateChange`:
the upstream gets the slice's endpoint), then the slice deleted — or relabelled to another Service — alone in a batch -/
def lateReference (last : Ev) : List (List Ev) :=
  [[.upsertSvc ⟨"ns", "svc", [⟨"http", 80, .int 8080⟩]⟩, .upsertSlice "svc-s0" (hSlice "svc" "10.0.0.1")],
   [.upsertRoute ⟨"ns", "r0", [⟨"svc", 80⟩]⟩],
   [last]]

def observe (r : PState × Change) : Change × List String × List (List Ep) :=
  (r.2, r.1.h.ngx.api.http.servers "ns_svc_80", (confOf r.1.cluster).http.map (·.eps))

/-- **remember_only_referenced_refuted** (seeded change C13-r4m1). The code (`keepAll = true`) rebuilds on the third batch
and NGINX answers 503; a tracking store that only remembers slices whose Service is referenced at the moment of the upsert
(`keepAll = false`) finds nothing to judge, reports `NoChange`, and NGINX keeps the server of a slice that no longer
exists (or no longer belongs to the Service) — `every_drained_batch_in_sync` does not hold for it. -/
theorem remember_only_referenced_refuted :
    (runHistory false true (PState.init false) (lateReference (.deleteSlice "ns" "svc-s0"))).map observe =
      [(.none, [], []), (.cluster, ["10.0.0.1:8080"], [[⟨"10.0.0.1", 8080, false⟩]]), (.endpoints, [nginx503Server], [[]])] ∧
    (runHistory false false (PState.init false) (lateReference (.deleteSlice "ns" "svc-s0"))).map observe =
      [(.none, [], []), (.cluster, ["10.0.0.1:8080"], [[⟨"10.0.0.1", 8080, false⟩]]), (.none, ["10.0.0.1:8080"], [[]])] ∧
    (runHistory false true (PState.init false) (lateReference (.upsertSlice "svc-s0" (hSlice "other" "10.0.0.1")))).map observe =
      [(.none, [], []), (.cluster, ["10.0.0.1:8080"], [[⟨"10.0.0.1", 8080, false⟩]]), (.endpoints, [nginx503Server], [[]])] ∧
    (runHistory false false (PState.init false) (lateReference (.upsertSlice "svc-s0" (hSlice "other" "10.0.0.1")))).map observe =
      [(.none, [], []), (.cluster, ["10.0.0.1:8080"], [[⟨"10.0.0.1", 8080, false⟩]]), (.none, ["10.0.0.1:8080"], [[]])] := by
  exact and_assoc.mp ⟨by decide +kernel, by decide +kernel⟩

/-- the same history under NGINX Plus: the code rebuilds (the API then holds an empty group — the older known finding
`C13:plus_empty_no_503`), the variant keeps the server -/
theorem remember_only_referenced_refuted_plus :
    ((runHistory true true (PState.init true) (lateReference (.deleteSlice "ns" "svc-s0"))).map observe).getLast? =
      some (.endpoints, [], [[]]) ∧
    ((runHistory true false (PState.init true) (lateReference (.deleteSlice "ns" "svc-s0"))).map observe).getLast? =
      some (.none, ["10.0.0.1:8080"], [[]]) := by
  decide +kernel

/-! non-vacuity of `slice_delete_after_late_reference_rebuilds` on the history above -/
example :
    let st := finalState false true (PState.init false) ((lateReference (.deleteSlice "ns" "other")).take 2)
    getKV st.cluster.slices ("ns", "svc-s0") = some (hSlice "svc" "10.0.0.1") ∧
    (("ns", sliceOwner (hSlice "svc" "10.0.0.1")) ∈ refsOf st.cluster) := by
  decide +kernel

/-! ## 4. Tie to the source -/

/-- how an EndpointSlice event is judged, statement for statement: the tracking store is a plain map that keeps EVERY
slice (no relevance filter in front of it), an upsert reads the stored object before overwriting it and asks
`isReferenced` of the new OR the stored one, a delete of an unknown object is no change and otherwise the STORED object is
judged, a slice change alone is `EndpointsOnlyChange`, `Process` rebuilds the graph only when something changed, and the
graph's reading of a slice is "owner Service (label, same namespace) ∈ ReferencedServices". -/
theorem slice_tracking_source_as_modelled :
    Generated.Resolver.sliceTrackingCfg =
      ["gvk: cfg.MustExtractGVK(&discoveryV1.EndpointSlice{})",
       "store: newObjectStoreMapAdapter(make(map[types.NamespacedName]*discoveryV1.EndpointSlice))",
       "predicate: funcPredicate{stateChanged: isReferenced}"] ∧
    Generated.Resolver.mapAdapterGetBody = ["obj, exist := m.objects[nsname]", "if !exist { return nil }", "return obj"] ∧
    Generated.Resolver.mapAdapterUpsertBody =
      ["t, ok := obj.(T)",
       "if !ok { panic(fmt.Errorf(\"obj type mismatch: got %T, expected %T\", obj, t)) }",
       "m.objects[client.ObjectKeyFromObject(obj)] = t"] ∧
    Generated.Resolver.mapAdapterDeleteBody = ["delete(m.objects, nsname)"] ∧
    Generated.Resolver.trackingUpsertBody =
      ["objTypeGVK := s.extractGVK(obj)",
       "var oldObj client.Object",
       "if s.store.persists(objTypeGVK) { oldObj = s.store.get(obj, client.ObjectKeyFromObject(obj)) s.store.upsert(obj) }",
       "stateChanged, ok := s.stateChangedPredicates[objTypeGVK]",
       "if !ok { return true }",
       "return stateChanged.upsert(oldObj, obj)"] ∧
    Generated.Resolver.trackingDeleteBody =
      ["objTypeGVK := s.extractGVK(objType)",
       "subject := client.Object(objType)",
       "if s.store.persists(objTypeGVK) { old := s.store.get(objType, nsname) if old == nil { return false } subject = old s.store.delete(objType, nsname) }",
       "stateChanged, ok := s.stateChangedPredicates[objTypeGVK]",
       "if !ok { return true }",
       "return stateChanged.delete(subject, nsname)"] ∧
    Generated.Resolver.funcPredicateUpsertBody =
      ["if newObject == nil { panic(\"new object cannot be nil\") }",
       "nsname := client.ObjectKeyFromObject(newObject)",
       "return f.stateChanged(newObject, nsname) || (oldObject != nil && f.stateChanged(oldObject, nsname))"] ∧
    Generated.Resolver.funcPredicateDeleteBody = ["return f.stateChanged(object, nsname)"] ∧
    Generated.Resolver.setChangeTypeBody =
      ["if changed && s.changeType != ClusterStateChange { if _, ok := obj.(*discoveryV1.EndpointSlice); ok { s.changeType = EndpointsOnlyChange } else { s.changeType = ClusterStateChange } }"] ∧
    Generated.Resolver.isReferencedClosure =
      "isReferenced := func(obj ngftypes.ObjectType, nsname types.NamespacedName) bool { return processor.latestGraph != nil && processor.latestGraph.IsReferenced(obj, nsname) }" ∧
    Generated.Resolver.processBody =
      ["c.lock.Lock()",
       "defer c.lock.Unlock()",
       "changeType := c.getAndResetClusterStateChanged()",
       "if changeType == NoChange { return NoChange, nil }",
       "c.latestGraph = graph.BuildGraph( c.clusterState, c.cfg.GatewayCtlrName, c.cfg.GatewayClassName, c.cfg.PlusSecrets, c.cfg.Validators, c.cfg.ProtectedPorts, )",
       "return changeType, c.latestGraph"] ∧
    Generated.Resolver.isReferencedSliceCase =
      ["svcName := index.GetServiceNameFromEndpointSlice(obj)",
       "_, exists := g.ReferencedServices[types.NamespacedName{Namespace: nsname.Namespace, Name: svcName}]",
       "return exists"] := by
  exact ⟨rfl, rfl, rfl, rfl, rfl, rfl, rfl, rfl, rfl, rfl, rfl, rfl⟩

end NGF.Resolver
