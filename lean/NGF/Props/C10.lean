/-
C10 — property theorems for the event loop model (`NGF.Model.Loop`).
Every theorem quantifies over *all* schedules (lists of actions), i.e. all interleavings of
producers, handler completion and cancellation.
-/
import NGF.Model.Loop
import NGF.Generated.LoopFacts

namespace NGF.Loop

/-- The invariant. `first` is the start-up batch. -/
structure Inv (first : List Ev) (s : Loop) : Prop where
  /-- exactly once, in order, nothing lost: handled batches ++ pending = first ++ received -/
  conserve   : s.log.flatten ++ s.next = first ++ s.seen
  /-- no event waits while the handler is idle -/
  idle_empty : s.handling = false → s.next = [] ∧ s.h = .idle
  /-- the slice the handler reads is the batch that was logged when it started -/
  view       : s.h ≠ .idle → s.log.getLast? = some s.current
  busy       : s.h ≠ .idle → s.handling = true
  /-- never two handlers at once -/
  no_overlap : s.overlap = false
  /-- Start returns only after the in-flight batch finished -/
  stop_idle  : s.phase = .stopped → s.h = .idle
  drain_busy : s.phase = .draining → s.handling = true
  /-- start-up batch first -/
  first_head : s.log.head? = some first
  /-- no empty batch is ever handed to the handler (except possibly the start-up batch) -/
  nonempty   : ∀ b ∈ s.log.tail, b ≠ []

theorem inv_init (first : List Ev) : Inv first (init first) := by
  constructor <;> simp [init, Loop.next, Loop.current, Loop.cell]

private theorem flatten_snoc (l : List (List Ev)) (b : List Ev) :
    (l ++ [b]).flatten = l.flatten ++ b := by simp

private theorem tail_snoc_mem {l : List (List Ev)} {b x : List Ev} (hl : l ≠ [])
    (hx : x ∈ (l ++ [b]).tail) : x ∈ l.tail ∨ x = b := by
  cases l with
  | nil => exact absurd rfl hl
  | cons a t => simpa using hx

private theorem head_snoc {l : List (List Ev)} {b f : List Ev} (h : l.head? = some f) :
    (l ++ [b]).head? = some f := by
  cases l with
  | nil => simp at h
  | cons a t => simpa using h

/-! What the two building blocks of `step` do to the quantities the invariant speaks of.  Which of the
two backing arrays is current is visible only through `next` and `current`, so each fact is checked
for both values of `cur`. -/

/-- The `eventCh` arm up to its `if`: `e` is appended to `nextBatch`, the array that is not current. -/
def Loop.store (s : Loop) (e : Ev) : Loop :=
  { s with cellF := if s.cur then s.cellF ++ [e] else s.cellF
           cellT := if s.cur then s.cellT else s.cellT ++ [e]
           seen := s.seen ++ [e] }

section fields
variable (s : Loop) (e : Ev)

@[simp] theorem store_next : (s.store e).next = s.next ++ [e] := by
  rcases s with ⟨_, _, _ | _, _, _, _, _, _, _⟩ <;> rfl
@[simp] theorem store_current : (s.store e).current = s.current := by
  rcases s with ⟨_, _, _ | _, _, _, _, _, _, _⟩ <;> rfl
@[simp] theorem store_seen : (s.store e).seen = s.seen ++ [e] := rfl
@[simp] theorem store_log : (s.store e).log = s.log := rfl
@[simp] theorem store_h : (s.store e).h = s.h := rfl
@[simp] theorem store_handling : (s.store e).handling = s.handling := rfl
@[simp] theorem store_phase : (s.store e).phase = s.phase := rfl
@[simp] theorem store_overlap : (s.store e).overlap = s.overlap := rfl

@[simp] theorem swapAndHandle_next : (swapAndHandle s).next = [] := by
  rcases s with ⟨_, _, _ | _, _, _, _, _, _, _⟩ <;> rfl
@[simp] theorem swapAndHandle_current : (swapAndHandle s).current = s.next := by
  rcases s with ⟨_, _, _ | _, _, _, _, _, _, _⟩ <;> rfl
@[simp] theorem swapAndHandle_log : (swapAndHandle s).log = s.log ++ [s.next] := by
  rcases s with ⟨_, _, _ | _, _, _, _, _, _, _⟩ <;> rfl
@[simp] theorem swapAndHandle_seen : (swapAndHandle s).seen = s.seen := by
  rcases s with ⟨_, _, _ | _, _, _, _, _, _, _⟩ <;> rfl
@[simp] theorem swapAndHandle_h : (swapAndHandle s).h = .running := by
  rcases s with ⟨_, _, _ | _, _, _, _, _, _, _⟩ <;> rfl
@[simp] theorem swapAndHandle_handling : (swapAndHandle s).handling = true := by
  rcases s with ⟨_, _, _ | _, _, _, _, _, _, _⟩ <;> rfl
@[simp] theorem swapAndHandle_phase : (swapAndHandle s).phase = s.phase := by
  rcases s with ⟨_, _, _ | _, _, _, _, _, _, _⟩ <;> rfl
@[simp] theorem swapAndHandle_overlap :
    (swapAndHandle s).overlap = (s.overlap || s.h != .idle) := by
  rcases s with ⟨_, _, _ | _, _, _, _, _, _, _⟩ <;> rfl

theorem step_recv : step s (.recv e) =
    if s.handling then s.store e else swapAndHandle (s.store e) := by
  rcases s with ⟨_, _, _ | _, _, _, _, _, _, _⟩ <;> rfl

theorem step_ack : step s .ack =
    if s.next.length > 0 then swapAndHandle { s with handling := false, h := .idle }
    else { s with handling := false, h := .idle } := rfl

theorem step_cancel : step s .cancel =
    if s.handling then { s with phase := .draining } else { s with phase := .stopped } := rfl

end fields

/-- Starting the handler on a non-empty pending batch, from a state where none runs and the loop is
at its `select`, establishes the invariant; this is the common part of the two arms that start one. -/
theorem inv_swapAndHandle {first : List Ev} {s : Loop}
    (c : s.log.flatten ++ s.next = first ++ s.seen) (hidle : s.h = .idle)
    (no : s.overlap = false) (hp : s.phase = .select) (fh : s.log.head? = some first)
    (ne : ∀ b ∈ s.log.tail, b ≠ []) (hn : s.next ≠ []) : Inv first (swapAndHandle s) where
  conserve := by
    rw [swapAndHandle_log, swapAndHandle_next, swapAndHandle_seen, flatten_snoc, List.append_nil, c]
  idle_empty := by simp
  view _ := by rw [swapAndHandle_log, swapAndHandle_current, List.getLast?_concat]
  busy _ := swapAndHandle_handling s
  no_overlap := by rw [swapAndHandle_overlap, no, hidle]; rfl
  stop_idle := by simp [hp]
  drain_busy _ := swapAndHandle_handling s
  first_head := by rw [swapAndHandle_log]; exact head_snoc fh
  nonempty b hb := by
    rw [swapAndHandle_log] at hb
    rcases tail_snoc_mem (by intro h; simp [h] at fh) hb with h | rfl
    · exact ne b h
    · exact hn

theorem inv_recv {first : List Ev} {s : Loop} (hi : Inv first s) (e : Ev) (hp : s.phase = .select) :
    Inv first (step s (.recv e)) := by
  have c : (s.store e).log.flatten ++ (s.store e).next = first ++ (s.store e).seen := by
    rw [store_log, store_next, store_seen, ← List.append_assoc, hi.conserve, List.append_assoc]
  cases hh : s.handling with
  | false =>
    rw [step_recv, hh, if_neg Bool.false_ne_true]
    exact inv_swapAndHandle c ((store_h s e).trans (hi.idle_empty hh).2)
      ((store_overlap s e).trans hi.no_overlap) ((store_phase s e).trans hp)
      (store_log s e ▸ hi.first_head) (store_log s e ▸ hi.nonempty) (by simp)
  | true =>
    rw [step_recv, hh, if_pos rfl]
    exact ⟨c, by simp [hh], by rw [store_h, store_log, store_current]; exact hi.view,
      fun _ => (store_handling s e).trans hh, (store_overlap s e).trans hi.no_overlap,
      by simp [hp], fun _ => (store_handling s e).trans hh, store_log s e ▸ hi.first_head,
      store_log s e ▸ hi.nonempty⟩

theorem inv_hreturn {first : List Ev} {s : Loop} (hi : Inv first s) (hr : s.h = .running) :
    Inv first (step s .hreturn) :=
  have hh : s.handling = true := hi.busy (by simp [hr])
  ⟨hi.conserve, fun h => by simp [step, hh] at h, fun _ => hi.view (by simp [hr]), fun _ => hh,
    hi.no_overlap, fun h => by simpa [hr] using hi.stop_idle h, hi.drain_busy, hi.first_head,
    hi.nonempty⟩

theorem inv_ack {first : List Ev} {s : Loop} (hi : Inv first s) (hp : s.phase = .select) :
    Inv first (step s .ack) := by
  rw [step_ack]
  split
  next hlen =>
    exact inv_swapAndHandle hi.conserve rfl hi.no_overlap hp hi.first_head hi.nonempty
      (by intro h; simp [show s.next = [] from h] at hlen)
  next hlen =>
    have hn : s.next = [] := List.eq_nil_of_length_eq_zero (Nat.eq_zero_of_not_pos hlen)
    exact ⟨hi.conserve, fun _ => ⟨hn, rfl⟩, fun h => absurd rfl h, fun h => absurd rfl h,
      hi.no_overlap, fun _ => rfl, fun h => by simp [hp] at h, hi.first_head, hi.nonempty⟩

theorem inv_cancel {first : List Ev} {s : Loop} (hi : Inv first s) :
    Inv first (step s .cancel) := by
  rw [step_cancel]
  split
  next hh =>
    exact ⟨hi.conserve, hi.idle_empty, hi.view, hi.busy, hi.no_overlap, nofun,
      fun _ => hh, hi.first_head, hi.nonempty⟩
  next hh =>
    exact ⟨hi.conserve, hi.idle_empty, hi.view, hi.busy, hi.no_overlap,
      fun _ => (hi.idle_empty ((Bool.not_eq_true _).mp hh)).2, nofun, hi.first_head,
      hi.nonempty⟩

theorem inv_drainack {first : List Ev} {s : Loop} (hi : Inv first s) (hp : s.phase = .draining) :
    Inv first (step s .drainack) :=
  ⟨hi.conserve, fun h => by simp [step, hi.drain_busy hp] at h, fun h => absurd rfl h,
    fun h => absurd rfl h, hi.no_overlap, fun _ => rfl, nofun, hi.first_head,
    hi.nonempty⟩

theorem inv_step {first : List Ev} {s : Loop} (hi : Inv first s) (a : Act)
    (he : enabled s a = true) : Inv first (step s a) := by
  cases a with
  | recv e => exact inv_recv hi e (by simpa [enabled] using he)
  | hreturn => exact inv_hreturn hi (by simpa [enabled] using he)
  | ack => exact inv_ack hi (by simp [enabled] at he; exact he.1)
  | cancel => exact inv_cancel hi
  | drainack => exact inv_drainack hi (by simp [enabled] at he; exact he.1)

/-- Every state reachable by any legal schedule satisfies the invariant. -/
theorem inv_reach {first : List Ev} :
    ∀ (as : List Act) (s : Loop), Inv first s → Inv first (run s as)
  | [], _, hi => hi
  | a :: as, s, hi => by
    simp only [run]
    split
    · next he => exact inv_reach as _ (inv_step hi a he)
    · exact inv_reach as _ hi

theorem inv_run_init (first : List Ev) (as : List Act) : Inv first (run (init first) as) :=
  inv_reach as _ (inv_init first)

/-- Exactly once, in delivery order: the handled batches followed by the pending buffer are the
start-up batch followed by every received event, in order. -/
theorem exactly_once_in_order (first : List Ev) (as : List Act) :
    let s := run (init first) as
    s.log.flatten ++ s.next = first ++ s.seen :=
  (inv_run_init first as).conserve

/-- At most one batch is processed at any instant. -/
theorem at_most_one_in_flight (first : List Ev) (as : List Act) :
    (run (init first) as).overlap = false :=
  (inv_run_init first as).no_overlap

/-- The start-up batch is processed before any watch event. -/
theorem first_batch_first (first : List Ev) (as : List Act) :
    (run (init first) as).log.head? = some first :=
  (inv_run_init first as).first_head

/-- No event waits once the handler is idle. -/
theorem idle_implies_empty_next (first : List Ev) (as : List Act) :
    let s := run (init first) as
    s.handling = false → s.next = [] ∧ s.h = .idle :=
  (inv_run_init first as).idle_empty

/-- Shutdown returns only after the in-flight batch has finished. -/
theorem cancel_waits (first : List Ev) (as : List Act) :
    let s := run (init first) as
    s.phase = .stopped → s.h = .idle :=
  (inv_run_init first as).stop_idle

/-- The batch seen by a running handler is the batch that was handed to it. -/
theorem handler_view_stable (first : List Ev) (as : List Act) :
    let s := run (init first) as
    s.h ≠ .idle → s.log.getLast? = some s.current :=
  (inv_run_init first as).view

/-- Events arriving while a batch is processed are coalesced: no empty batch is started. -/
theorem no_empty_batch (first : List Ev) (as : List Act) :
    ∀ b ∈ (run (init first) as).log.tail, b ≠ [] :=
  (inv_run_init first as).nonempty

/-- The two orders of "event arrives" and "loop receives handlingDone" lead to the same handled
batches when nothing was pending (this is why the harness need not observe the ack instant). -/
theorem recv_ack_commute (s : Loop) (e : Ev) (hs : s.phase = .select) (hr : s.h = .returned)
    (hh : s.handling = true) (hn : s.next = []) :
    (step (step s .ack) (.recv e)).log = (step (step s (.recv e)) .ack).log := by
  cases hc : s.cur <;>
    simp_all [step, swapAndHandle, start, swap, Loop.setCell, Loop.next, Loop.current, Loop.cell]

example :
    let s := run (init [1, 2]) [.recv 3, .recv 4, .hreturn, .ack, .recv 5, .hreturn, .ack]
    s.log = [[1, 2], [3, 4], [5]] ∧ s.h = .running ∧ s.next = [] := by decide +kernel

example :
    let s := run (init [1]) [.recv 2, .cancel, .hreturn, .drainack]
    s.phase = .stopped ∧ s.log = [[1]] ∧ s.next = [2] := by decide +kernel

/-! ### Tie to the source: structural facts regenerated by the translator -/

/-- `Start` is one `for { select { … } }` whose arms are ctx.Done / eventCh receive / handlingDone
receive; `handlingDone` is unbuffered; `swapBatches` exchanges then truncates. -/
theorem loop_structure_as_modelled :
    Generated.Loop.selectCount = 1 ∧ Generated.Loop.forCount = 1 ∧
    Generated.Loop.selectArms = ["<-ctx.Done()", "e := <-el.eventCh", "<-handlingDone"] ∧
    Generated.Loop.armBody0 = ["if handling { <-handlingDone }", "return nil"] ∧
    Generated.Loop.armBody1 =
      ["el.nextBatch = append(el.nextBatch, e)", "if !handling { swapAndHandleBatch() }"] ∧
    Generated.Loop.armBody2 =
      ["handling = false", "if len(el.nextBatch) > 0 { swapAndHandleBatch() }"] ∧
    Generated.Loop.handlingDoneBuffered = false ∧
    Generated.Loop.handleBatchGoArgs = ["el.currentBatch"] ∧
    Generated.Loop.handlerGoroutineBody =
      ["el.currentBatchID++", "el.handler.HandleEventBatch(ctx, batchLogger, batch)",
       "handlingDone <- struct{}{}"] ∧
    Generated.Loop.swapAndHandleBody = ["el.swapBatches()", "handleBatch()", "handling = true"] ∧
    Generated.Loop.swapBatchesBody =
      ["el.currentBatch, el.nextBatch = el.nextBatch, el.currentBatch",
       "el.nextBatch = el.nextBatch[:0]"] :=
  ⟨rfl, rfl, rfl, rfl, rfl, rfl, rfl, rfl, rfl, rfl, rfl⟩

end NGF.Loop
