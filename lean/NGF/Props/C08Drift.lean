/-
C08 — status writes against a CHANGING object (live drift, concurrent writers).

`runLive` (`NGF.Model.StatusDrift`) is the retry loop the driver executes: before every attempt another
writer may have replaced the stored status by ANY status (`Step.edit`), conflicts store a `poke`.
`runRetry` is the special case without edits (`runLive_is_runRetry_without_edits`), so the theorems of
`NGF.Props.C08` section C are about the same function.
-/
import NGF.Proofs.StatusDrift

namespace NGF.StatusWrite

/-- the loop of `NGF.Props.C08` §C is `runLive` on a script without edits -/
theorem runLive_is_runRetry_without_edits (inv : Invoke) (n : Nat) (r : Run) (sched : List Op) :
    runLive inv n r (sched.map fun op => ⟨none, op⟩) = runRetry inv n r sched :=
  runLive_no_edits inv n r sched

/-- RETRY AGAINST CONCURRENT WRITERS — for ALL step counts, ALL initial objects and ALL scripts of
(foreign edit before the attempt, attempt outcome incl. conflicts that store something else):
 (1) every status ever submitted is `merged s live` for the object `live` fetched IN THE SAME ATTEMPT:
     the foreign entries of that live object unchanged (content, order, multiplicity) and the own entries
     exactly the computed ones — a function of (live object, computed own entries) only, independent of
     everything fetched or submitted before; it is submitted only if the own entries of `live` differ
     modulo time;
 (2) at most one write succeeds, it is the last call, and the finally stored status is that function of
     the LAST fetched object. -/
theorem retry_against_concurrent_writers (s : Setter) (hm : Merging s) (hf : Fresh s) (n : Nat)
    (store : Status) (script : List Step) :
    let r := runLive Setter.invoke n (Run.init s store) script
    (∀ live sub ok, Call.update live sub ok ∈ r.calls →
      sub = merged s live ∧ foreign s.ctlr sub = foreign s.ctlr live ∧ own s.ctlr sub = s.cap ∧
        ¬ SameOwn s.kind s.ctlr live s.cap) ∧
    (r.writes = 0 ∨ (r.writes = 1 ∧ ∃ live, r.calls.getLast? = some (.update live r.store true) ∧
      r.store = merged s live ∧ foreign s.ctlr r.store = foreign s.ctlr live ∧ own s.ctlr r.store = s.cap)) := by
  intro r
  have hsub : ∀ live sub ok, Call.update live sub ok ∈ r.calls →
      sub = merged s live ∧ foreign s.ctlr sub = foreign s.ctlr live ∧ own s.ctlr sub = s.cap ∧
        ¬ SameOwn s.kind s.ctlr live s.cap :=
    fun live sub ok hc =>
      submission_spec hm hf (liveStateless_submissions Setter.invoke s (invoke_fst s) n store script live sub ok hc)
  refine ⟨hsub, ?_⟩
  rcases live_writes Setter.invoke n (Run.init s store) script rfl with h0 | ⟨h1, live, hl⟩
  · exact Or.inl h0
  · refine Or.inr ⟨h1, live, hl, ?_⟩
    have hmem : Call.update live r.store true ∈ r.calls := List.mem_of_getLast? hl
    obtain ⟨a, b, c, _⟩ := hsub live r.store true hmem
    exact ⟨a, b, c⟩

/-- CLOSED FORM of "the last fetched object": when a write succeeds, the stored status is
`merged s live` where `live` is element `gets - 1` of `liveSeq n store script` — the sequence of live
objects determined by the initial store and the other writers' script alone (edits before attempts,
pokes at conflicts), not by anything the setter saw or submitted earlier. -/
theorem retry_final_status_from_last_fetched (s : Setter) (hm : Merging s) (hf : Fresh s) (n : Nat)
    (store : Status) (script : List Step) :
    let r := runLive Setter.invoke n (Run.init s store) script
    r.writes = 1 → ∃ live, (liveSeq n store script)[r.gets - 1]? = some live ∧ 0 < r.gets ∧
      r.store = merged s live ∧ foreign s.ctlr r.store = foreign s.ctlr live ∧ own s.ctlr r.store = s.cap := by
  intro r hw
  obtain ⟨i, live, hi, hg, hlast⟩ := live_last_fetched Setter.invoke n (Run.init s store) script rfl hw
  have hg0 : r.gets = (Run.init s store).gets + i + 1 := hg
  have h0 : (Run.init s store).gets = 0 := rfl
  have hg' : r.gets = i + 1 := by omega
  obtain ⟨a, b, c, _⟩ := (retry_against_concurrent_writers s hm hf n store script).1 live r.store true
    (List.mem_of_getLast? hlast)
  refine ⟨live, ?_, by omega, a, b, c⟩
  rw [hg']; exact hi

/-- whole-status kinds (Gateway, GatewayClass, NginxGateway) against concurrent writers: every
submission is exactly the computed status, made only when the fetched object differs modulo time -/
theorem retry_whole_against_concurrent_writers (s : Setter) (h : s.kind.mode = .whole) (n : Nat)
    (store : Status) (script : List Step) :
    ∀ live sub ok, Call.update live sub ok ∈ (runLive Setter.invoke n (Run.init s store) script).calls →
      sub = s.cap ∧ live.map wkey ≠ s.cap.map wkey :=
  fun live sub ok hc =>
    whole_submission_spec h (liveStateless_submissions Setter.invoke s (invoke_fst s) n store script live sub ok hc)

private def dOwn : Entry := ⟨"ngf", ["~", "~", "ns", "gw", "~", "~"], [⟨"Accepted", "True", "Accepted", "ok", 2, 9⟩]⟩
private def dFor (i : Nat) : Entry :=
  ⟨"other", ["~", "~", "ns", toString i, "~", "~"], [⟨"Accepted", "True", "Accepted", "theirs", 1, 5⟩]⟩

/-- non-vacuity: graph built from [f0,f1]; before the first Get another controller adds f2 and reorders;
the Update fails; before the second Get f0 is removed and f3 added; then the write succeeds: two
invocations, the stored status = foreign entries of the LAST fetched object ++ own -/
example :
    let s : Setter := ⟨policyKind, "ngf", [dOwn]⟩
    let r := runLive Setter.invoke 4 (Run.init s [dFor 0, dFor 1])
      [⟨some [dFor 2, dFor 1, dFor 0], .updFail none⟩, ⟨some [dFor 3, dFor 2, dFor 1], .ok⟩]
    Merging s ∧ Fresh s ∧ r.invocations = 2 ∧ r.writes = 1 ∧ r.store = [dFor 3, dFor 2, dFor 1, dOwn] ∧
      liveSeq 2 [dFor 0, dFor 1] [⟨some [dFor 2, dFor 1, dFor 0], .updFail none⟩, ⟨some [dFor 3, dFor 2, dFor 1], .ok⟩]
        = [[dFor 2, dFor 1, dFor 0], [dFor 3, dFor 2, dFor 1]] := by
  refine ⟨by decide +kernel, by decide +kernel, ?_⟩
  decide +kernel

end NGF.StatusWrite
