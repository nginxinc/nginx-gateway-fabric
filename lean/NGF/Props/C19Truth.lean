/-
C19 — "counts equal the numbers of resources ACTUALLY IN EFFECT", the platform string, comment termination.

§A  `telemetry_snapshot_consistent`: whatever the history of event batches and whatever NGINX did with each update, the
    graph the collector reads from the change processor and the configuration it reads from the event handler belong
    to ONE snapshot (the configuration is the one built from that graph), so every reported count is a set size of one
    snapshot (`telemetry_counts_are_set_sizes`, via `countResources_eq`).  The variant that stores the configuration only after a
    successful update (seeded change C19-r4m2) is refuted by a witness history.
§B  `platform_value_closed`: for ALL node label sets, namespace lists and providerID strings the reported platform is one of
    eight constants or `other_<scheme>`, `<scheme>` = the white-space-trimmed text before the FIRST `://` of a providerID
    that contains `://`; nothing after that `://` influences the report (`platform_hides_node_id`), a providerID without
    `://` is never reported (`platform_without_scheme_is_constant`).  This clause follows from the word ONLY in the
    property's title ("discloses only counts, flag usage and directive names"): the platform field is allowed because it
    is a closed-form value, not user text.
§C  `comment_ends_at_lf_only`: a `#` comment of a snippet ends at LF and nowhere else (CR, `;`, `{`, quotes, tabs are comment
    text) — for the code's tokenizer and for the reference lexer.
§D  facts regenerated from the source (`NGF.Generated.TelemetryTruth`).
-/
import NGF.Model.TelemetryTruth
import NGF.Proofs.Telemetry
import NGF.Proofs.TelemetryTruth
import NGF.Generated.TelemetryTruthFacts

namespace NGF.Telemetry
open NGF.SnippetLex

/-! ## A. one consistent snapshot -/

/-- FOR ALL histories of event batches (any change types, any snapshots, any outcome of each NGINX update, Plus or OSS):
the counts the collector reports are the counts of the snapshot of the last batch that changed something — graph and
configuration of the SAME batch — and nothing is reported before the first such batch. -/
theorem telemetry_snapshot_consistent (plus : Bool) (bs : List Batch) :
    telemetryCounts (runBatches plus bs) = (lastSnapshot bs).map countResources ∧
    (runBatches plus bs).graph = lastSnapshot bs ∧
    (runBatches plus bs).conf = (lastSnapshot bs).map (fun g => buildConf g (runBatches plus bs).version) := by
  have hinv := inv_foldl plus bs .init inv_init
  have hg : (runBatches plus bs).graph = lastSnapshot bs := by
    have := graph_foldl plus bs .init
    simp only [runBatches, this]
    cases lastSnapshot bs <;> rfl
  refine ⟨?_, hg, ?_⟩
  · rw [← hg]; exact telemetryCounts_of_inv _ hinv
  · rw [← hg]; exact hinv

/-- the outcome of the NGINX updates has no influence on what is counted -/
theorem telemetry_counts_ignore_outcomes (plus plus' : Bool) (bs bs' : List Batch)
    (h : bs.map (fun b => (b.change, b.snap)) = bs'.map (fun b => (b.change, b.snap))) :
    telemetryCounts (runBatches plus bs) = telemetryCounts (runBatches plus' bs') := by
  rw [(telemetry_snapshot_consistent plus bs).1, (telemetry_snapshot_consistent plus' bs').1]
  congr 1
  clear plus plus'
  induction bs generalizing bs' with
  | nil => cases bs' with
    | nil => rfl
    | cons _ _ => simp at h
  | cons b bs ih =>
    cases bs' with
    | nil => simp at h
    | cons b' bs' =>
      simp only [List.map_cons, List.cons.injEq, Prod.mk.injEq] at h
      obtain ⟨⟨hc, hs⟩, ht⟩ := h
      simp only [lastSnapshot, ih bs' ht, hc, hs]

/-- every reported count is a set size of that ONE snapshot (the right-hand side is that of `counts_eq` in Props/C19) -/
theorem telemetry_counts_are_set_sizes (plus : Bool) (bs : List Batch) (s : Summary) (h : lastSnapshot bs = some s) :
    telemetryCounts (runBatches plus bs) = some
      { gatewayClass := s.ignoredGatewayClasses + (if s.hasGatewayClass then 1 else 0)
        gateway := s.ignoredGateways + (if s.hasGateway then 1 else 0)
        httpRoute := (s.routes.filter (· == .http)).length
        grpcRoute := (s.routes.filter (· == .grpc)).length
        tlsRoute := s.l4Routes
        secret := s.secrets
        service := s.services
        endpoint := ((s.upstreams.filter (fun u => !u.hasError)).map (·.endpoints)).sum
        backendTLSPolicy := s.backendTLSPolicies
        gwClientSettings := (s.policies.filter isGwCSP).length
        routeClientSettings := (s.policies.filter isRouteCSP).length
        observability := (s.policies.filter (·.kind == .observability)).length
        upstreamSettings := (s.policies.filter (·.kind == .upstreamSettings)).length
        nginxProxy := if s.hasNginxProxy then 1 else 0
        snippetsFilter := s.snippetsFilters.length } := by
  rw [(telemetry_snapshot_consistent plus bs).1, h]
  exact congrArg some (countResources_eq s)

/-- nothing is reported before the first batch that changes something -/
theorem telemetry_silent_before_first_change (plus : Bool) (bs : List Batch) (h : ∀ b ∈ bs, b.change = .noChange) :
    telemetryCounts (runBatches plus bs) = none := by
  rw [(telemetry_snapshot_consistent plus bs).1]
  suffices lastSnapshot bs = none by rw [this]; rfl
  induction bs with
  | nil => rfl
  | cons b bs ih =>
    simp only [lastSnapshot, ih (fun b' hb' => h b' (List.mem_cons_of_mem _ hb')), h b List.mem_cons_self, if_true]

/-- a snapshot with nothing in it -/
def emptySummary : Summary :=
  { hasGatewayClass := true, ignoredGatewayClasses := 0, hasGateway := true, ignoredGateways := 0, routes := [], l4Routes := 0,
    secrets := 0, services := 0, upstreams := [], backendTLSPolicies := 0, policies := [], hasNginxProxy := false,
    snippetsFilters := [] }

/-- one HTTPRoute to one Service with three endpoints -/
def oneRouteSummary : Summary :=
  { emptySummary with routes := [.http], services := 1, upstreams := [⟨false, 3⟩] }

/-- the history of seeded change C19-r4m2: a batch that applies fine, then the route is deleted and the reload fails -/
def witnessHistory : List Batch :=
  [⟨.clusterState, oneRouteSummary, .ok⟩, ⟨.clusterState, emptySummary, .reloadFails⟩]

-- non-vacuity: the current code on the witness history reports the counts of the second snapshot only …
example : telemetryCounts (runBatches false witnessHistory) = some (countResources emptySummary) := by decide
example : (telemetryCounts (runBatches false witnessHistory)).map (fun c => (c.httpRoute, c.service, c.endpoint)) = some (0, 0, 0) := by
  decide
example : (runBatches false witnessHistory).lastError = true ∧ (runBatches false witnessHistory).version = 2 := by decide
-- … and on a history with no-change and endpoints-only batches, Plus, failing API
example : (telemetryCounts (runBatches true
      [⟨.noChange, emptySummary, .ok⟩, ⟨.clusterState, emptySummary, .writeFails⟩, ⟨.noChange, oneRouteSummary, .ok⟩,
       ⟨.endpointsOnly, oneRouteSummary, .apiFails⟩, ⟨.noChange, emptySummary, .reloadFails⟩])).map
      (fun c => (c.httpRoute, c.service, c.endpoint)) = some (1, 1, 3) := by decide

/-- REFUTATION of the success-only variant (C19-r4m2): storing the configuration only after a successful update breaks the
statement — after the failed reload the report has the NEW graph's counts (0 routes, 0 services) and the OLD
configuration's 3 endpoints, which is the count of no snapshot at all. -/
theorem telemetry_snapshot_consistent_false_for_success_only :
    ¬ ∀ (plus : Bool) (bs : List Batch),
        telemetryCounts (runBatchesSuccessOnly plus bs) = (lastSnapshot bs).map countResources := by
  intro h
  exact absurd (h false witnessHistory) (by decide)

theorem witness_success_only_mixes_snapshots :
    (telemetryCounts (runBatchesSuccessOnly false witnessHistory)).map (fun c => (c.httpRoute, c.service, c.endpoint)) =
      some (0, 0, 3) ∧
    (telemetryCounts (runBatches false witnessHistory)).map (fun c => (c.httpRoute, c.service, c.endpoint)) =
      some (0, 0, 0) := by decide

/-- … and a failed FIRST update would leave the success-only variant without any report although a graph exists -/
theorem witness_success_only_first_batch :
    telemetryCounts (runBatchesSuccessOnly false [⟨.clusterState, oneRouteSummary, .writeFails⟩]) = none ∧
    telemetryCounts (runBatches false [⟨.clusterState, oneRouteSummary, .writeFails⟩]) =
      some (countResources oneRouteSummary) := by decide

/-- the error bit the handler remembers (`updateFails`, since fix c94173a): on Plus an endpoints-only change after a failed
write/reload goes through files + reload again, so a failing reload is recorded; the PRE-FIX arm (API alone) recorded success.
It never had any influence on the counts (`telemetry_counts_ignore_outcomes`). -/
theorem witness_plus_endpoints_only_after_failure :
    (runBatches true [⟨.clusterState, oneRouteSummary, .reloadFails⟩, ⟨.endpointsOnly, oneRouteSummary, .reloadFails⟩]).lastError = true ∧
    updateFails true true .endpointsOnly .reloadFails = true ∧ updateFailsPreFix true .endpointsOnly .reloadFails = false ∧
    (∀ ct o, updateFails true false ct o = updateFailsPreFix true ct o) ∧
    (∀ pe ct o, updateFails false pe ct o = updateFailsPreFix false ct o) := by
  refine ⟨by decide, by decide, by decide, ?_, ?_⟩
  · intro ct o; cases ct <;> cases o <;> rfl
  · intro pe ct o; cases pe <;> cases ct <;> cases o <;> rfl

/-! ## B. the platform string is a closed-form value -/

/-- FOR ALL node label sets, namespace lists and providerID strings: the reported platform is one of the eight constants, or
`other_<scheme>` where the providerID contains `://`, `<scheme>` is the (non-empty) white-space-trimmed text before its
first `://`. -/
theorem platform_value_closed (s : K8sState) :
    getPlatform s ∈ platformConstants ∨
    ∃ pre rest, cutScheme s.providerID = some (pre, rest) ∧ s.providerID = pre ++ schemeSep ++ rest ∧
      trimSpace pre ≠ [] ∧ getPlatform s = "other_".toList ++ trimSpace pre := by
  unfold getPlatform
  cases hf : firstPlatform platformExtractors s with
  | some p =>
    left
    obtain ⟨e, he, rfl, hne⟩ := firstPlatform_some _ _ _ hf
    rcases extractor_closed s e he with h | h
    · exact absurd h hne
    · exact h
  | none =>
    simp only [unknownProviderIDExtractor]
    cases hc : cutScheme s.providerID with
    | none => exact .inl other_mem_platformConstants
    | some pr =>
      obtain ⟨pre, rest⟩ := pr
      by_cases ht : trimSpace pre = []
      · left; simp only [ht]; exact other_mem_platformConstants
      · right
        refine ⟨pre, rest, rfl, cutScheme_some _ _ _ hc, ht, ?_⟩
        rw [if_neg (by simpa using ht), platformOther]
        repeat rw [String.toList_ofList]  -- literals as character lists, as in `decide_chars` (Proofs/CharLits)
        rfl

/-- what `<scheme>` can be: a contiguous piece of the providerID that lies entirely before its first `://` (so it contains no
`://` itself), cut off from the rest of that prefix at white space only -/
theorem platform_scheme_origin (pid pre rest : Str) (h : cutScheme pid = some (pre, rest)) :
    cutScheme pre = none ∧ (∀ a b, pre ≠ a ++ schemeSep ++ b) ∧
    ∃ a b, pre = a ++ trimSpace pre ++ b ∧ (∀ c ∈ a, isGoSpace c = true) ∧ (∀ c ∈ b, isGoSpace c = true) :=
  ⟨cutScheme_pre_none _ _ _ h, (cutScheme_none_iff pre).mp (cutScheme_pre_none _ _ _ h), trimSpace_spec pre⟩

/-- a providerID WITHOUT `://` (bare instance OCIDs, host ids, `openstack:/uuid`, the empty string) is never reported: the
platform is then one of the eight constants (seeded change C19-r4m3 reported `other_<providerID>`) -/
theorem platform_without_scheme_is_constant (s : K8sState) (h : ∀ a b, s.providerID ≠ a ++ schemeSep ++ b) :
    getPlatform s ∈ platformConstants := by
  rcases platform_value_closed s with hc | ⟨pre, rest, _, hs, _⟩
  · exact hc
  · exact absurd hs (h pre rest)

/-- nothing after the first `://` (the provider-specific node id: instance ids, zones, host names) influences the report -/
theorem platform_hides_node_id (s : K8sState) (pre rest : Str) (h : cutScheme s.providerID = some (pre, rest)) (rest' : Str) :
    getPlatform { s with providerID := pre ++ schemeSep ++ rest' } = getPlatform s := by
  have hagree := extractors_agree s pre rest rest' (cutScheme_some _ _ _ h)
  unfold getPlatform
  rw [firstPlatform_congr _ _ _ hagree]
  cases firstPlatform platformExtractors s with
  | some p => rfl
  | none =>
    simp only [unknownProviderIDExtractor, cutScheme_append_sep _ (cutScheme_pre_none _ _ _ h) rest', h]

-- non-vacuity / the shapes of the task
example : getPlatform ⟨[], "kind://docker/kind/kind-control-plane".toList, ["default".toList]⟩ = "kind".toList := by decide_chars
example : getPlatform ⟨[], "gce://my-project/us-central1-a/gke-node-1".toList, []⟩ = "gke".toList := by decide_chars
example : getPlatform ⟨[("node.openshift.io/os_id".toList, "rhcos".toList)], "aws:///us-east-1a/i-0abc".toList, []⟩ =
    "openshift".toList := by decide_chars
example : getPlatform ⟨[("node.openshift.io/os_id".toList, [])], "aws:///us-east-1a/i-0abc".toList, ["cattle-system".toList]⟩ =
    "rancher".toList := by decide_chars
example : getPlatform ⟨[], " oci ://ocid1.instance.oc1.phx.SECRET".toList, []⟩ = "other_oci".toList := by decide_chars
example : getPlatform ⟨[], "ocid1.instance.oc1.phx.anyhqljt".toList, []⟩ = "other".toList := by decide_chars
example : getPlatform ⟨[], "openstack:/6f1a-uuid".toList, []⟩ = "other".toList := by decide_chars
example : getPlatform ⟨[], "host-17.internal.corp.example.com".toList, []⟩ = "other".toList := by decide_chars
example : getPlatform ⟨[], "  ://x".toList, []⟩ = "other".toList := by decide_chars
example : getPlatform ⟨[], [], []⟩ = "other".toList := by decide_chars
example : getPlatform ⟨[], "a/b://c://d".toList, []⟩ = "other_a/b".toList := by decide_chars
example : cutScheme "vsphere://4230-uuid://x".toList = some ("vsphere".toList, "4230-uuid://x".toList) := by decide_chars

/-! ## C. a comment ends at LF only -/

/-- FOR ALL comment bodies without LF — whatever else they contain: CR (lone, CRLF, at the end), tabs, `;`, `{`, `}`, quotes,
backslashes — and all continuations: the code's tokenizer, in the gap state at `#`, is after `#body LF` in exactly the
state it was in before the `#`; the reference lexer yields ONE comment token and the LF.  At the end of the text (no
LF) the comment swallows everything. -/
theorem comment_ends_at_lf_only (body rest : Str) (h : '\n' ∉ body) :
    (∀ (d : Nat) (a : Bool) (ds : List Str),
        tokRun ⟨.gap, d, a, ds⟩ ('#' :: body ++ '\n' :: rest) = tokRun ⟨.gap, d, a, ds⟩ rest ∧
        tokRun ⟨.gap, d, a, ds⟩ ('#' :: body) = ⟨.comment, d, a, ds⟩) ∧
    lex ('#' :: body ++ '\n' :: rest) = .comment ('#' :: body) :: .ws '\n' :: lex rest ∧
    lex ('#' :: body) = [.comment ('#' :: body)] ∧
    parseSnippet ('#' :: body ++ '\n' :: rest) = parseSnippet rest ∧
    parseSnippet ('#' :: body) = [] ∧
    directiveNames ('#' :: body ++ '\n' :: rest) = directiveNames rest := by
  have htok := fun d a ds => And.intro (tokRun_comment body rest d a ds h) (tokRun_comment_end body d a ds h)
  have hp : parseSnippet ('#' :: body ++ '\n' :: rest) = parseSnippet rest :=
    congrArg TokState.directives (htok 0 true []).1
  refine ⟨htok, lex_comment body rest h, lex_comment_end body h, hp,
    congrArg TokState.directives (htok 0 true []).2, ?_⟩
  rw [← parseSnippet_eq_directiveNames, ← parseSnippet_eq_directiveNames]
  exact hp

/-- … at any place of a snippet where the tokenizer is between tokens (after `;`, `{`, `}`, white space, a closed quote): the
whole comment, CRs included, can be deleted without changing what is reported -/
theorem comment_removable (pre body rest : Str) (h : '\n' ∉ body) (hgap : (pre.foldl tokStep tokInit).st = .gap) :
    parseSnippet (pre ++ ('#' :: body ++ '\n' :: rest)) = parseSnippet (pre ++ rest) := by
  unfold parseSnippet
  rw [tokRun_append pre, tokRun_append pre]
  generalize pre.foldl tokStep tokInit = s at hgap
  obtain ⟨st, d, a, ds⟩ := s
  simp only at hgap
  subst hgap
  rw [((comment_ends_at_lf_only body rest h).1 d a ds).1]

-- non-vacuity: the snippet of seeded change C19-r4m1 (a lone CR inside a comment) and its neighbours
example : parseSnippet "# previously:\rinternal-billing.corp.example.com/v1/ledger token=x;\nproxy_buffering off;".toList =
    ["proxy_buffering".toList] := by decide_chars
example : directiveNames "aio on; # c\r\n# d\re { \"q ;\r\tf;\r\nallow all;# end\r".toList = ["aio".toList, "allow".toList] := by
  decide_chars
example : ("aio on; ".toList.foldl tokStep tokInit).st = .gap := by decide_chars
example : '\n' ∉ " previously:\rinternal-billing.corp.example.com/v1/ledger token=x;".toList := by decide_chars

/-! ## D. facts regenerated from the source -/

/-- platform.go is the code `getPlatform` / `platformExtractors` / `unknownProviderIDExtractor` were modelled from; its
constants are the model's -/
theorem facts_platform :
    Generated.TelemetryTruth.platformConsts =
      ["gkeIdentifier=gce", "awsIdentifier=aws", "azureIdentifier=azure", "kindIdentifier=kind", "k3sIdentifier=k3s",
       "openshiftIdentifier=node.openshift.io/os_id", "rancherIdentifier=cattle-system", "platformGKE=gke", "platformAWS=eks",
       "platformAzure=aks", "platformKind=kind", "platformK3S=k3s", "platformOpenShift=openshift", "platformRancher=rancher",
       "platformOther=other"] ∧
    Generated.TelemetryTruth.platformExtractors =
      ["openShiftExtractor", "rancherExtractor"] ++
        providerIDTable.map (fun p => "prefix:" ++ String.ofList p.1 ++ "=" ++ String.ofList p.2) ∧
    Generated.TelemetryTruth.getPlatformBody =
      ["state := k8sState{ node: node, namespaces: namespaces, }",
       "for _, extractor := range platformExtractors { if platform := extractor(state); platform != \"\" { return platform } }",
       "return unknownProviderIDExtractor(state)"] ∧
    Generated.TelemetryTruth.providerIDExtractorBody =
      ["return func(state k8sState) string { if strings.HasPrefix(state.node.Spec.ProviderID, id) { return platform } return \"\" }"] ∧
    Generated.TelemetryTruth.openShiftExtractorBody =
      ["if state.node.Labels[openshiftIdentifier] != \"\" { return platformOpenShift }", "return \"\""] ∧
    Generated.TelemetryTruth.rancherExtractorBody =
      ["for _, ns := range state.namespaces.Items { if ns.Name == rancherIdentifier { return platformRancher } }", "return \"\""] ∧
    Generated.TelemetryTruth.unknownProviderIDExtractorBody =
      ["var providerName string",
       "if prefix, _, found := strings.Cut(state.node.Spec.ProviderID, \"://\"); found { providerName = strings.TrimSpace(prefix) }",
       "if providerName == \"\" { return platformOther }",
       "return platformOther + \"_\" + providerName"] ∧
    Generated.TelemetryTruth.platformFlow =
      ["node := nodes.Items[0]", "clusterInfo.Platform = getPlatform(node, namespaces)", "ClusterPlatform: clusterInfo.Platform"] ∧
    openshiftIdentifier = "node.openshift.io/os_id".toList ∧ rancherIdentifier = "cattle-system".toList ∧
    String.ofList schemeSep = "://" :=
  ⟨rfl, by decide +kernel, rfl, rfl, rfl, rfl, rfl, rfl, rfl, rfl, rfl⟩

/-- the comment branch of the tokenizer is `if ch == '\n' { state = gap }` and nothing else; the function defines no
closure besides `endWord`, `punct`, `isSpace`; the switch of `case bare:` has no case for quotes (a quote inside a bare
word goes to `default`: appended to the word) -/
theorem facts_comment_branch :
    Generated.TelemetryTruth.commentBranch = ["if ch == '\\n' { state = gap }"] ∧
    Generated.TelemetryTruth.tokenizerClosures = ["endWord", "punct", "isSpace"] ∧
    Generated.TelemetryTruth.bareBranchCases =
      ["escaped", "ch == '{' && variable", "ch == '\\\\'", "ch == '$'", "isSpace(ch)", "ch == ';' || ch == '{'", "default"] :=
  ⟨rfl, rfl, rfl⟩

/-- manager.go gives the collector the change processor as GraphGetter and the event handler as ConfigurationGetter, and
the handler that same processor -/
theorem facts_collector_wiring :
    Generated.TelemetryTruth.collectorWiring =
      ["processor := state.NewChangeProcessorImpl", "eventHandler := newEventHandlerImpl", "processor: processor",
       "dataCollector := telemetry.NewDataCollectorImpl", "GraphGetter: processor", "ConfigurationGetter: eventHandler"] ∧
    Generated.TelemetryTruth.getLatestConfigurationBody =
      ["h.lock.Lock()", "defer h.lock.Unlock()", "return h.latestConfiguration"] ∧
    Generated.TelemetryTruth.getLatestGraphBody = ["c.lock.Lock()", "defer c.lock.Unlock()", "return c.latestGraph"] :=
  ⟨rfl, rfl, rfl⟩

/-- `HandleEventBatch` stores the configuration built from the batch's graph BEFORE it updates NGINX, in both changing cases,
and nowhere else; `Process` stores the graph it returns (`handleBatch` of the model) -/
theorem facts_handle_batch :
    Generated.TelemetryTruth.handleBatchCases =
      ["state.NoChange => if !h.cfg.nginxConfiguredOnStartChecker.ready && h.cfg.nginxConfiguredOnStartChecker.firstBatchError == nil { h.cfg.nginxConfiguredOnStartChecker.setAsReady() } ;; return",
       "state.EndpointsOnlyChange => h.version++ ;; cfg := dataplane.BuildConfiguration(ctx, gr, h.cfg.serviceResolver, h.version) ;; h.setLatestConfiguration(&cfg) ;; if h.cfg.plus && h.latestReloadResult.Error == nil { err = h.updateUpstreamServers(cfg) } else { err = h.updateNginxConf(ctx, cfg) }",
       "state.ClusterStateChange => h.version++ ;; cfg := dataplane.BuildConfiguration(ctx, gr, h.cfg.serviceResolver, h.version) ;; h.setLatestConfiguration(&cfg) ;; err = h.updateNginxConf(ctx, cfg)"] ∧
    Generated.TelemetryTruth.handleBatchAfterSwitch =
      ["var nginxReloadRes status.NginxReloadResult",
       "if err != nil { logger.Error(err, \"Failed to update NGINX configuration\") nginxReloadRes.Error = err if !h.cfg.nginxConfiguredOnStartChecker.ready { h.cfg.nginxConfiguredOnStartChecker.firstBatchError = err } } else { logger.Info(\"NGINX configuration was successfully updated\") if !h.cfg.nginxConfiguredOnStartChecker.ready { h.cfg.nginxConfiguredOnStartChecker.setAsReady() } }",
       "h.latestReloadResult = nginxReloadRes",
       "h.updateStatuses(ctx, logger, gr)"] ∧
    Generated.TelemetryTruth.setLatestConfigurationBody =
      ["h.lock.Lock()", "defer h.lock.Unlock()", "h.latestConfiguration = cfg"] ∧
    Generated.TelemetryTruth.latestConfigurationWrites = ["h.latestConfiguration = cfg"] ∧
    Generated.TelemetryTruth.setLatestConfigurationCalls = 2 ∧
    Generated.TelemetryTruth.processBody =
      ["c.lock.Lock()", "defer c.lock.Unlock()", "changeType := c.getAndResetClusterStateChanged()",
       "if changeType == NoChange { return NoChange, nil }",
       "c.latestGraph = graph.BuildGraph( c.clusterState, c.cfg.GatewayCtlrName, c.cfg.GatewayClassName, c.cfg.PlusSecrets, c.cfg.Validators, c.cfg.ProtectedPorts, )",
       "return changeType, c.latestGraph"] := ⟨rfl, rfl, rfl, rfl, rfl, rfl⟩

end NGF.Telemetry
