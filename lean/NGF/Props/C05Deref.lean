/-
C05 (task C05-nil) — obligations over the REGENERATED inventory of implicit panic sites
(`NGF.Generated.PanicSites.derefSites`, written by translator/gen_panics_deref.go from the type-checked
sources of the event-path packages on every run) and the decision of `NGF.Model.DerefSites`.

A nil check that is removed, a new unguarded dereference / index / map write, a caller that stops guarding the
pointer it passes, or a changed discriminator changes a row of the inventory; the row is then neither
`guarded` nor equal to a row of the hand-written `justified` table, so the unguarded rows differ from the table
(`unguarded_ids_eq_justifiedIds` fails) and with it `every_deref_guarded_or_justified`, which rests on it.  The
check (props/c05.py) asks the driver (`ngfdriver_C05 deref`, the same `siteOk`) which rows are responsible and
SEARCHES for a crashing admissible input focused on the functions they name.
-/
import NGF.Model.DerefSites
import NGF.Generated.PanicSites

namespace NGF.DerefSites

def derefTable : List DerefSite := Generated.PanicSites.derefSites.map ofTuple

/-- the inventory was computed with go/types over the type-checked packages and is not (nearly) empty:
a translator that cannot load the packages emits an empty table, which must not discharge anything -/
theorem deref_inventory_typed :
    Generated.PanicSites.derefTyped = true ∧ 300 ≤ derefTable.length
      ∧ 150 ≤ (derefTable.filter (fun s => s.cls == "field" || s.cls == "ptr-var")).length := by
  decide +kernel

/-- The rows of the inventory that no accepted guard dominates are, in the inventory's order, exactly the rows of the
hand-written table (which is kept in that order), identified by the translator's hash of all their columns.  One pass
along the inventory; both inclusions below are read off it. -/
theorem unguarded_ids_eq_justifiedIds :
    (derefTable.filter (fun s => !guarded s)).map (·.id) = justifiedIds := by
  decide +kernel

/-- EVERY implicit panic site of the event-path packages is dominated by a guard of the same expression, or is
listed — as the exact row, identified by the translator's hash of all its columns — in the justification table. -/
theorem every_deref_guarded_or_justified : ∀ s ∈ derefTable, siteOk s = true := by
  intro s hs
  unfold siteOk
  cases hg : guarded s with
  | true => rfl
  | false =>
    have : s.id ∈ justifiedIds :=
      unguarded_ids_eq_justifiedIds ▸ List.mem_map_of_mem (List.mem_filter.mpr ⟨hs, by rw [hg]; rfl⟩)
    exact List.contains_iff_mem.mpr this

def derefIds : List Nat := Generated.PanicSites.derefSites.map (·.1)

/-- the justification table has no stale rows: each one is a row of the current inventory (so a
justification cannot outlive the code it was written for) -/
theorem no_stale_justifications : ∀ i ∈ justifiedIds, i ∈ derefIds := by
  intro i hi
  rw [← unguarded_ids_eq_justifiedIds] at hi
  obtain ⟨s, hs, rfl⟩ := List.mem_map.mp hi
  obtain ⟨t, ht, rfl⟩ := List.mem_map.mp (List.mem_filter.mp hs).1
  exact List.mem_map_of_mem (f := (·.1)) ht

theorem justified_ids_distinct : justifiedIds.Nodup := by
  decide +kernel

theorem justified_rows_are_unguarded : ∀ j ∈ justified, guarded j.site = false := by
  decide +kernel

/-- non-vacuity: the decision rejects an unguarded row that is not listed, and a listed row whose use count
changed (the id column is whatever the translator computes for the changed row); the first justified row of the table
is accepted, and not because it is guarded -/
example : siteOk ⟨0, "internal/mode/static/state/graph/httproute.go", "validateFilterRedirect", "field",
    "redirect.Scheme", "none", "", 1⟩ = false := by decide +kernel
example : ∀ j ∈ justified.take 3, siteOk { j.site with n := j.site.n + 1, id := j.site.id + 1 } = false := by decide +kernel
example : ∀ j ∈ justified.take 3, verdict { j.site with n := j.site.n + 1 } = "justified-text-differs" := by decide +kernel
example : ∀ j ∈ justified.take 3, siteOk j.site = true ∧ guarded j.site = false := by decide +kernel
example : siteOk ⟨0, "x.go", "f", "field", "a.B", "early-exit", "a.B == nil", 1⟩ = true := by decide

/-! ## the functions mirrored in `NGF.Model.NilGuards` still read as mirrored (statement lists regenerated from the
source; a dropped check, a changed case list or a swapped member breaks the pin even when no generated input hits it) -/

theorem validateBackendRefBody_pinned : Generated.PanicSites.validateBackendRefBody =
  ["if ref.Group != nil && !(*ref.Group == \"core\" || *ref.Group == \"\") { valErr := field.NotSupported(path.Child(\"group\"), *ref.Group, []string{\"core\", \"\"}) return false, staticConds.NewRouteBackendRefInvalidKind(valErr.Error()) }",
   "if ref.Kind != nil && *ref.Kind != \"Service\" { valErr := field.NotSupported(path.Child(\"kind\"), *ref.Kind, []string{\"Service\"}) return false, staticConds.NewRouteBackendRefInvalidKind(valErr.Error()) }",
   "if ref.Namespace != nil && string(*ref.Namespace) != routeNs { refNsName := types.NamespacedName{Namespace: string(*ref.Namespace), Name: string(ref.Name)} if !refGrantResolver(toService(refNsName)) { msg := fmt.Sprintf(\"Backend ref to Service %s not permitted by any ReferenceGrant\", refNsName) return false, staticConds.NewRouteBackendRefRefNotPermitted(msg) } }",
   "if ref.Port == nil { valErr := field.Required(path.Child(\"port\"), \"port cannot be nil\") return false, staticConds.NewRouteBackendRefUnsupportedValue(valErr.Error()) }",
   "if ref.Weight != nil { if err := validateWeight(*ref.Weight); err != nil { valErr := field.Invalid(path.Child(\"weight\"), *ref.Weight, err.Error()) return false, staticConds.NewRouteBackendRefUnsupportedValue(valErr.Error()) } }",
   "return true, conditions.Condition{}"] := rfl

theorem getConfiguratorForListenerBody_pinned : Generated.PanicSites.getConfiguratorForListenerBody =
  ["switch l.Protocol { case v1.HTTPProtocolType: return f.http case v1.HTTPSProtocolType: return f.https case v1.TLSProtocolType: return f.tls default: return f.unsupportedProtocol }"] := rfl

theorem configureListenerBody_pinned : Generated.PanicSites.configureListenerBody =
  ["var conds []conditions.Condition",
   "attachable := true",
   "for _, validator := range c.validators { currConds, currAttachable := validator(listener) conds = append(conds, currConds...) attachable = attachable && currAttachable }",
   "valid := len(conds) == 0",
   "var allowedRouteSelector labels.Selector",
   "if selector := GetAllowedRouteLabelSelector(listener); selector != nil { var err error allowedRouteSelector, err = metav1.LabelSelectorAsSelector(selector) if err != nil { msg := fmt.Sprintf(\"invalid label selector: %s\", err.Error()) conds = append(conds, staticConds.NewListenerUnsupportedValue(msg)...) valid = false } }",
   "supportedKinds := getListenerSupportedKinds(listener)",
   "l := &Listener{ Name: string(listener.Name), Source: listener, Conditions: conds, AllowedRouteLabelSelector: allowedRouteSelector, Routes: make(map[RouteKey]*L7Route), L4Routes: make(map[L4RouteKey]*L4Route), Valid: valid, Attachable: attachable, SupportedKinds: supportedKinds, }",
   "if !l.Valid { return l }",
   "for _, resolver := range c.conflictResolvers { resolver(l) }",
   "for _, resolver := range c.externalReferenceResolvers { resolver(l) }",
   "return l"] := rfl

theorem createHTTPSListenerValidatorBody_pinned : Generated.PanicSites.createHTTPSListenerValidatorBody =
  ["return func(listener v1.Listener) (conds []conditions.Condition, attachable bool) { if err := validateListenerPort(listener.Port, protectedPorts); err != nil { path := field.NewPath(\"port\") valErr := field.Invalid(path, listener.Port, err.Error()) conds = append(conds, staticConds.NewListenerUnsupportedValue(valErr.Error())...) } if listener.TLS == nil { valErr := field.Required(field.NewPath(\"TLS\"), \"tls must be defined for HTTPS listener\") conds = append(conds, staticConds.NewListenerUnsupportedValue(valErr.Error())...) return conds, true } tlsPath := field.NewPath(\"tls\") if *listener.TLS.Mode != v1.TLSModeTerminate { valErr := field.NotSupported( tlsPath.Child(\"mode\"), *listener.TLS.Mode, []string{string(v1.TLSModeTerminate)}, ) conds = append(conds, staticConds.NewListenerUnsupportedValue(valErr.Error())...) } if len(listener.TLS.Options) > 0 { path := tlsPath.Child(\"options\") valErr := field.Forbidden(path, \"options are not supported\") conds = append(conds, staticConds.NewListenerUnsupportedValue(valErr.Error())...) } if len(listener.TLS.CertificateRefs) == 0 { msg := \"certificateRefs must be defined for TLS mode terminate\" valErr := field.Required(tlsPath.Child(\"certificateRefs\"), msg) conds = append(conds, staticConds.NewListenerInvalidCertificateRef(valErr.Error())...) return conds, true } certRef := listener.TLS.CertificateRefs[0] certRefPath := tlsPath.Child(\"certificateRefs\").Index(0) if certRef.Kind != nil && *certRef.Kind != \"Secret\" { path := certRefPath.Child(\"kind\") valErr := field.NotSupported(path, *certRef.Kind, []string{\"Secret\"}) conds = append(conds, staticConds.NewListenerInvalidCertificateRef(valErr.Error())...) } if certRef.Group != nil && *certRef.Group != \"\" { path := certRefPath.Child(\"group\") valErr := field.NotSupported(path, *certRef.Group, []string{\"\"}) conds = append(conds, staticConds.NewListenerInvalidCertificateRef(valErr.Error())...) } if l := len(listener.TLS.CertificateRefs); l > 1 { path := tlsPath.Child(\"certificateRefs\") valErr := field.TooMany(path, l, 1) conds = append(conds, staticConds.NewListenerUnsupportedValue(valErr.Error())...) } return conds, true }"] := rfl

theorem tlsSecretsResolverBody_pinned : Generated.PanicSites.tlsSecretsResolverBody =
  ["return func(l *Listener) { certRef := l.Source.TLS.CertificateRefs[0] certRefNs := gwNs if certRef.Namespace != nil { certRefNs = string(*certRef.Namespace) } certRefNsName := types.NamespacedName{ Namespace: certRefNs, Name: string(certRef.Name), } if certRefNs != gwNs { if !refGrantResolver.refAllowed(toSecret(certRefNsName), fromGateway(gwNs)) { msg := fmt.Sprintf(\"Certificate ref to secret %s not permitted by any ReferenceGrant\", certRefNsName) l.Conditions = append(l.Conditions, staticConds.NewListenerRefNotPermitted(msg)...) l.Valid = false return } } if err := secretResolver.resolve(certRefNsName); err != nil { path := field.NewPath(\"tls\", \"certificateRefs\").Index(0) valErr := field.Invalid(path, certRefNsName, err.Error()) l.Conditions = append(l.Conditions, staticConds.NewListenerInvalidCertificateRef(valErr.Error())...) l.Valid = false } else { l.ResolvedSecret = &certRefNsName } }"] := rfl

theorem processBackendTLSPoliciesBody_pinned : Generated.PanicSites.processBackendTLSPoliciesBody =
  ["if len(backendTLSPolicies) == 0 || gateway == nil { return nil }",
   "processedBackendTLSPolicies := make(map[types.NamespacedName]*BackendTLSPolicy, len(backendTLSPolicies))",
   "for nsname, backendTLSPolicy := range backendTLSPolicies { var caCertRef types.NamespacedName valid, ignored, conds := validateBackendTLSPolicy(backendTLSPolicy, configMapResolver, ctlrName) if valid && !ignored && len(backendTLSPolicy.Spec.Validation.CACertificateRefs) > 0 { caCertRef = types.NamespacedName{ Namespace: backendTLSPolicy.Namespace, Name: string(backendTLSPolicy.Spec.Validation.CACertificateRefs[0].Name), } } processedBackendTLSPolicies[nsname] = &BackendTLSPolicy{ Source: backendTLSPolicy, Valid: valid, Conditions: conds, Gateway: types.NamespacedName{ Namespace: gateway.Source.Namespace, Name: gateway.Source.Name, }, CaCertRef: caCertRef, Ignored: ignored, } }",
   "return processedBackendTLSPolicies"] := rfl

theorem validateFilterHeaderModifierBody_pinned : Generated.PanicSites.validateFilterHeaderModifierBody =
  ["if headerModifier == nil { return field.ErrorList{field.Required(filterPath, \"cannot be nil\")} }",
   "return validateFilterHeaderModifierFields(validator, headerModifier, filterPath)"] := rfl

theorem validateFilterRedirectBody_pinned : Generated.PanicSites.validateFilterRedirectBody =
  ["var allErrs field.ErrorList",
   "redirectPath := filterPath.Child(\"requestRedirect\")",
   "if redirect == nil { return field.ErrorList{field.Required(redirectPath, \"requestRedirect cannot be nil\")} }",
   "if redirect.Scheme != nil { if valid, supportedValues := validator.ValidateRedirectScheme(*redirect.Scheme); !valid { valErr := field.NotSupported(redirectPath.Child(\"scheme\"), *redirect.Scheme, supportedValues) allErrs = append(allErrs, valErr) } }",
   "if redirect.Hostname != nil { if err := validator.ValidateHostname(string(*redirect.Hostname)); err != nil { valErr := field.Invalid(redirectPath.Child(\"hostname\"), *redirect.Hostname, err.Error()) allErrs = append(allErrs, valErr) } }",
   "if redirect.Port != nil { if err := validator.ValidateRedirectPort(int32(*redirect.Port)); err != nil { valErr := field.Invalid(redirectPath.Child(\"port\"), *redirect.Port, err.Error()) allErrs = append(allErrs, valErr) } }",
   "if redirect.Path != nil { var path string switch redirect.Path.Type { case v1.FullPathHTTPPathModifier: path = *redirect.Path.ReplaceFullPath case v1.PrefixMatchHTTPPathModifier: path = *redirect.Path.ReplacePrefixMatch default: msg := fmt.Sprintf(\"requestRedirect path type %s not supported\", redirect.Path.Type) valErr := field.Invalid(redirectPath.Child(\"path\"), *redirect.Path, msg) return append(allErrs, valErr) } if err := validator.ValidatePath(path); err != nil { valErr := field.Invalid(redirectPath.Child(\"path\"), *redirect.Path, err.Error()) allErrs = append(allErrs, valErr) } }",
   "if redirect.StatusCode != nil { if valid, supportedValues := validator.ValidateRedirectStatusCode(*redirect.StatusCode); !valid { valErr := field.NotSupported(redirectPath.Child(\"statusCode\"), *redirect.StatusCode, supportedValues) allErrs = append(allErrs, valErr) } }",
   "return allErrs"] := rfl

theorem validateFilterRewriteBody_pinned : Generated.PanicSites.validateFilterRewriteBody =
  ["var allErrs field.ErrorList",
   "rewritePath := filterPath.Child(\"urlRewrite\")",
   "if rewrite == nil { return field.ErrorList{field.Required(rewritePath, \"urlRewrite cannot be nil\")} }",
   "if rewrite.Hostname != nil { if err := validator.ValidateHostname(string(*rewrite.Hostname)); err != nil { valErr := field.Invalid(rewritePath.Child(\"hostname\"), *rewrite.Hostname, err.Error()) allErrs = append(allErrs, valErr) } }",
   "if rewrite.Path != nil { var path string switch rewrite.Path.Type { case v1.FullPathHTTPPathModifier: path = *rewrite.Path.ReplaceFullPath case v1.PrefixMatchHTTPPathModifier: path = *rewrite.Path.ReplacePrefixMatch default: msg := fmt.Sprintf(\"urlRewrite path type %s not supported\", rewrite.Path.Type) valErr := field.Invalid(rewritePath.Child(\"path\"), *rewrite.Path, msg) allErrs = append(allErrs, valErr) } if err := validator.ValidatePath(path); err != nil { valErr := field.Invalid(rewritePath.Child(\"path\"), *rewrite.Path, err.Error()) allErrs = append(allErrs, valErr) } }",
   "return allErrs"] := rfl

theorem convertPathModifierBody_pinned : Generated.PanicSites.convertPathModifierBody =
  ["if path != nil { switch path.Type { case v1.FullPathHTTPPathModifier: return &HTTPPathModifier{ Type: ReplaceFullPath, Replacement: *path.ReplaceFullPath, } case v1.PrefixMatchHTTPPathModifier: return &HTTPPathModifier{ Type: ReplacePrefixMatch, Replacement: *path.ReplacePrefixMatch, } } }",
   "return nil"] := rfl

theorem createHTTPFiltersBody_pinned : Generated.PanicSites.createHTTPFiltersBody =
  ["var result HTTPFilters",
   "for _, f := range filters { switch f.FilterType { case graph.FilterRequestRedirect: if result.RequestRedirect == nil { result.RequestRedirect = convertHTTPRequestRedirectFilter(f.RequestRedirect) } case graph.FilterURLRewrite: if result.RequestURLRewrite == nil { result.RequestURLRewrite = convertHTTPURLRewriteFilter(f.URLRewrite) } case graph.FilterRequestHeaderModifier: if result.RequestHeaderModifiers == nil { result.RequestHeaderModifiers = convertHTTPHeaderFilter(f.RequestHeaderModifier) } case graph.FilterResponseHeaderModifier: if result.ResponseHeaderModifiers == nil { result.ResponseHeaderModifiers = convertHTTPHeaderFilter(f.ResponseHeaderModifier) } case graph.FilterExtensionRef: if f.ResolvedExtensionRef != nil && f.ResolvedExtensionRef.SnippetsFilter != nil { result.SnippetsFilters = append( result.SnippetsFilters, convertSnippetsFilter(f.ResolvedExtensionRef.SnippetsFilter), ) } } }",
   "return result"] := rfl

theorem buildServersBody_pinned : Generated.PanicSites.buildServersBody =
  ["rulesForProtocol := map[v1.ProtocolType]portPathRules{ v1.HTTPProtocolType: make(portPathRules), v1.HTTPSProtocolType: make(portPathRules), }",
   "for _, l := range g.Gateway.Listeners { if l.Source.Protocol == v1.TLSProtocolType { continue } if l.Valid { rules := rulesForProtocol[l.Source.Protocol][l.Source.Port] if rules == nil { rules = newHostPathRules() rulesForProtocol[l.Source.Protocol][l.Source.Port] = rules } rules.upsertListener(l) } }",
   "httpRules := rulesForProtocol[v1.HTTPProtocolType]",
   "sslRules := rulesForProtocol[v1.HTTPSProtocolType]",
   "httpServers, sslServers := httpRules.buildServers(), sslRules.buildServers()",
   "pols := buildPolicies(g.Gateway.Policies)",
   "for i := range httpServers { httpServers[i].Policies = pols }",
   "for i := range sslServers { sslServers[i].Policies = pols }",
   "return httpServers, sslServers"] := rfl

end NGF.DerefSites
