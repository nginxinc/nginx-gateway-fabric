/-
C08 — status writes: idempotent, retry-safe, foreign entries preserved, within the CRD limits.

Model: `NGF.Model.StatusWrite` (setter closures with their captured status, equality helpers, retry
loop) and `NGF.Model.StatusLimits`. `Setter.invoke` is the code in the tree (since fix 4e76cf1 the
closures never change their captured status); `Setter.invokeMutating` is the pre-fix behaviour, kept
with its witnesses as a regression detector (section C'). Vocabulary (defined in `NGF.Proofs.StatusWrite`):
  `Fresh s`    the captured status holds own entries only (how the Prepare*Requests functions build it)
  `Merging s`  route / policy / snippets-filter setter (status merged with foreign entries)
  `ekey k e`   what the equality helper of kind `k` compares: controller, compared reference fields,
               conditions without lastTransitionTime
  `SameOwn k c prev cap`  own entries of `prev` and `cap` are the same set of `ekey`s
Every theorem quantifies over all previous statuses (own, foreign, stale, duplicated, any order), all
computed statuses and — for the loop — all step counts and all get/update failure schedules.
-/
import NGF.Proofs.StatusRetry
import NGF.Proofs.StatusLimits
import NGF.Props.C08Drift
import NGF.Generated.StatusFacts
import NGF.Proofs.CharLits

namespace NGF.StatusWrite
open NGF.Generated

/-! ## A. One invocation of a setter: every previous status, every computed status -/

/-- Foreign entries are left intact: same content, same order, same multiplicity. -/
theorem setter_preserves_foreign (s : Setter) (hm : Merging s) (hf : Fresh s) (prev : Status) :
    foreign s.ctlr (s.invoke prev).2.1 = foreign s.ctlr prev := by
  rw [invoke_snd]
  split
  · rfl
  · exact merged_foreign hm hf prev

/-- Exactly this controller's entries are replaced: whatever `prev` held for us (stale, duplicated,
permuted), the written status holds precisely the computed entries, in their order. -/
theorem setter_replaces_own (s : Setter) (hm : Merging s) (hf : Fresh s) (prev : Status)
    (h : (s.invoke prev).2.2 = true) : own s.ctlr (s.invoke prev).2.1 = s.cap := by
  rw [invoke_status_of_wasSet s prev h]; exact merged_own hm hf prev

/-- The written list is the computed entries followed by the foreign ones (routes) or the foreign
ones followed by the computed entries (policies, snippets filters). -/
theorem setter_result_order (s : Setter) (prev : Status) (h : (s.invoke prev).2.2 = true) :
    (s.kind.mode = .ownFirst → (s.invoke prev).2.1 = s.cap ++ foreign s.ctlr prev) ∧
    (s.kind.mode = .foreignFirst → (s.invoke prev).2.1 = foreign s.ctlr prev ++ s.cap) := by
  rw [invoke_status_of_wasSet s prev h]
  constructor <;> intro hk <;> simp [merged, hk]

/-- No write ⇔ the own entries are unchanged modulo lastTransitionTime (as sets of compared keys:
the reading of DESIGN §8). -/
theorem setter_noop_iff (s : Setter) (hm : Merging s) (hf : Fresh s) (prev : Status) :
    (s.invoke prev).2.2 = false ↔ SameOwn s.kind s.ctlr prev s.cap :=
  invoke_wasSet_false_iff hm hf prev

/-- A no-op leaves the fetched object as it was. -/
theorem setter_noop_leaves_object (s : Setter) (prev : Status) (h : (s.invoke prev).2.2 = false) :
    (s.invoke prev).2.1 = prev := by
  rw [invoke_snd] at *
  split at h <;> simp_all

/-- In particular: if only transition times differ (entry by entry), nothing is written. -/
theorem setter_noop_of_equal_mod_time (s : Setter) (hm : Merging s) (hf : Fresh s) (prev : Status)
    (h : (own s.ctlr prev).map (ekey s.kind) = s.cap.map (ekey s.kind)) : (s.invoke prev).2.2 = false := by
  have half : ∀ {a b : Status}, a.map (ekey s.kind) = b.map (ekey s.kind) →
      ∀ p ∈ a, ∃ x ∈ b, ekey s.kind p = ekey s.kind x := by
    intro a b hab p hp
    obtain ⟨x, hx, hk⟩ := List.mem_map.1 (hab ▸ List.mem_map_of_mem hp)
    exact ⟨x, hx, hk.symm⟩
  exact (setter_noop_iff s hm hf prev).2 ⟨half h, half h.symm⟩

/-- …and any difference other than the time in some own entry (reason, message, status, type,
observedGeneration, compared reference field, an entry missing or added) forces a write. -/
theorem setter_writes_when_key_missing (s : Setter) (hm : Merging s) (hf : Fresh s) (prev : Status)
    (x : Entry) (hx : x ∈ s.cap) (h : ∀ p ∈ own s.ctlr prev, ekey s.kind x ≠ ekey s.kind p) :
    (s.invoke prev).2.2 = true := by
  cases hw : (s.invoke prev).2.2 with
  | true => rfl
  | false =>
    obtain ⟨p, hp, hk⟩ := ((setter_noop_iff s hm hf prev).1 hw).2 x hx
    exact absurd hk (h p hp)

/-- Gateway / GatewayClass / NginxGateway: no write ⇔ equal modulo time, entry by entry, in order;
a write stores exactly the computed status. -/
theorem whole_setter_spec (s : Setter) (h : s.kind.mode = .whole) (prev : Status) :
    ((s.invoke prev).2.2 = false ↔ prev.map wkey = s.cap.map wkey) ∧
    ((s.invoke prev).2.2 = true → (s.invoke prev).2.1 = s.cap) ∧ (s.invoke prev).1 = s := by
  refine ⟨?_, ?_, invoke_fst s prev⟩
  · rw [invoke_snd, ← wholeEq_iff]
    simp only [equalCheck, merged, h]
    split <;> simp_all
  · intro hw
    rw [invoke_status_of_wasSet s prev hw]; simp [merged, h]

/-! ## B. Re-invocation of the same closure (what the retry loop does): full strength, all k -/

/-- The closure state never changes. -/
theorem setter_state_after_invoke (s : Setter) (prev : Status) : (s.invoke prev).1 = s :=
  invoke_fst s prev

/-- IDEMPOTENT UNDER RE-INVOCATION, for every number k of earlier invocations on arbitrary fetched
statuses `prevs` (the retry loop after conflicts / failed updates): the next invocation behaves
exactly like the first one of a freshly built setter. -/
theorem setter_reinvocation_idempotent (s : Setter) (prevs : List Status) (p : Status) :
    (prevs.foldl (fun t q => (t.invoke q).1) s).invoke p = s.invoke p := by
  have : ∀ (l : List Status) (t : Setter), l.foldl (fun t q => (t.invoke q).1) t = t := by
    intro l
    induction l with
    | nil => intro t; rfl
    | cons q l ih => intro t; rw [List.foldl_cons, invoke_fst]; exact ih t
  rw [this]

/-- Hence after any k earlier invocations: foreign entries preserved, own entries replaced, no-op ⇔
own entries unchanged modulo time. -/
theorem setter_reinvocation_full_clause (s : Setter) (hm : Merging s) (hf : Fresh s)
    (prevs : List Status) (p : Status) :
    let r := (prevs.foldl (fun t q => (t.invoke q).1) s).invoke p
    foreign s.ctlr r.2.1 = foreign s.ctlr p ∧ (r.2.2 = true → own s.ctlr r.2.1 = s.cap) ∧
      (r.2.2 = false ↔ SameOwn s.kind s.ctlr p s.cap) := by
  simp only [setter_reinvocation_idempotent]
  exact ⟨setter_preserves_foreign s hm hf p, setter_replaces_own s hm hf p, setter_noop_iff s hm hf p⟩

/-! ## C. The retry loop: every step count, every store, every failure schedule -/

/-- RETRY-SAFE, all schedules, all k: every status ever submitted (also after conflicts, failed
updates and failed gets, also when other writers changed the object in between) keeps the foreign
entries of the object it was computed from (content, order, multiplicity), holds exactly the computed
own entries, and is only submitted when the own entries differ modulo time. -/
theorem retry_every_submission (s : Setter) (hm : Merging s) (hf : Fresh s) (n : Nat)
    (store : Status) (sched : List Op) :
    ∀ prev sub ok, Call.update prev sub ok ∈ (runRetry Setter.invoke n (Run.init s store) sched).calls →
      foreign s.ctlr sub = foreign s.ctlr prev ∧ own s.ctlr sub = s.cap ∧
        ¬ SameOwn s.kind s.ctlr prev s.cap :=
  fun prev sub ok h => (submission_spec hm hf (retry_submissions s n store sched prev sub ok h)).2

/-- No-op under retry, all schedules: when the own entries are unchanged modulo time nothing is ever
submitted and the stored object is untouched, whatever get errors precede. -/
theorem retry_noop_all_schedules (s : Setter) (hm : Merging s) (hf : Fresh s) (n : Nat) (store : Status)
    (sched : List Op) (h : SameOwn s.kind s.ctlr store s.cap) :
    let r := runRetry Setter.invoke n (Run.init s store) sched
    r.store = store ∧ r.writes = 0 ∧ ∀ p sub ok, Call.update p sub ok ∉ r.calls :=
  retry_noop_gen Setter.invoke s n store sched ((setter_noop_iff s hm hf store).2 h)

/-- When something has to change and the first attempt meets no failure, exactly one write stores
the merged status (non-vacuity of the two theorems above, and "own entries == computed" for the
stored object). -/
theorem retry_first_try_success (s : Setter) (hm : Merging s) (hf : Fresh s) (n : Nat) (store : Status)
    (h : ¬ SameOwn s.kind s.ctlr store s.cap) :
    let r := runRetry Setter.invoke (n + 1) (Run.init s store) []
    r.writes = 1 ∧ own s.ctlr r.store = s.cap ∧ foreign s.ctlr r.store = foreign s.ctlr store := by
  have hw : (Setter.invoke (Run.init s store).setter (Run.init s store).store).2.2 = true := by
    cases hb : (s.invoke store).2.2 with
    | true => simpa [Run.init] using hb
    | false => exact absurd ((setter_noop_iff s hm hf store).1 hb) h
  simp only [runRetry_succ, List.headD_nil, attempt_ok_set Setter.invoke _ hw, if_true]
  refine ⟨rfl, ?_, ?_⟩
  · exact setter_replaces_own s hm hf store (by simpa [Run.init] using hw)
  · exact setter_preserves_foreign s hm hf store

/-- Whole-status kinds (Gateway, GatewayClass, NginxGateway), all schedules: every submission is
exactly the computed status and is made only when it differs modulo time. -/
theorem retry_whole_every_submission (s : Setter) (h : s.kind.mode = .whole) (n : Nat) (store : Status)
    (sched : List Op) :
    ∀ prev sub ok, Call.update prev sub ok ∈ (runRetry Setter.invoke n (Run.init s store) sched).calls →
      sub = s.cap ∧ prev.map wkey ≠ s.cap.map wkey :=
  fun prev sub ok hc => whole_submission_spec h (retry_submissions s n store sched prev sub ok hc)

/-- At most `steps` attempts (one Get each), whatever the invocation function. -/
theorem retry_attempts_bounded (inv : Invoke) (n : Nat) (s : Setter) (store : Status) (sched : List Op) :
    (runRetry inv n (Run.init s store) sched).gets ≤ n := by
  simpa [Run.init, Run.gets] using retry_gets_le inv n (Run.init s store) sched

/-- At most one successful write; it is the last call and what it submitted is what is stored. -/
theorem retry_at_most_one_write (inv : Invoke) (n : Nat) (s : Setter) (store : Status) (sched : List Op) :
    let r := runRetry inv n (Run.init s store) sched
    r.writes = 0 ∨ (r.writes = 1 ∧ ∃ prev, r.calls.getLast? = some (.update prev r.store true)) :=
  retry_writes inv n (Run.init s store) sched rfl

private def wOwn : Entry := ⟨"ngf", ["~", "~", "ns", "gw", "~", "~"], [⟨"Accepted", "True", "Accepted", "ok", 2, 9⟩]⟩
private def wFor : Entry := ⟨"other", ["~", "~", "ns", "gw2", "~", "~"], [⟨"Accepted", "True", "Accepted", "ok", 1, 5⟩]⟩

/-- the code in the tree on the two schedules that broke the pre-fix code (see C') -/
theorem retry_on_regression_schedules :
    (runRetry Setter.invoke 4 (Run.init ⟨routeKind, "ngf", [wOwn]⟩ [wFor]) [.updFail none]).store
      = [wOwn, wFor] ∧
    (runRetry Setter.invoke 4 (Run.init ⟨routeKind, "ngf", [wOwn]⟩ [wFor]) [.updFail (some [])]).store
      = [wOwn] := by decide +kernel

/-! ## C'. The pre-fix variant `invokeMutating` (regression detector for commit 4e76cf1)

A tree whose setters store the merged status in their captured variable again behaves like
`invokeMutating`; the correspondence then matches only this variant and the judge reports
`retry-duplicates-foreign` with the failing input. The statements below say exactly what that variant
does: what is lost (idempotence) and what is not (own entries, no foreign entry dropped). -/

/-- one invocation gives the same object status and verdict as the code in the tree … -/
theorem mutating_same_result (s : Setter) (p : Status) : (s.invokeMutating p).2 = (s.invoke p).2 :=
  invokeMutating_snd s p

/-- … but stores the merged status in the closure -/
theorem mutating_state_after_invoke (s : Setter) (prev : Status) :
    (s.invokeMutating prev).1 = { s with cap := merged s prev } := invokeMutating_fst s prev

/-- WITNESS (was reproduced on all six real merging setters before the fix): re-invocation of the
mutating closure writes the foreign entry twice. -/
theorem mutating_reinvocation_idempotent_false :
    ¬ ∀ (s : Setter) (p1 p2 : Status), Merging s → Fresh s →
        foreign s.ctlr ((s.invokeMutating p1).1.invokeMutating p2).2.1 = foreign s.ctlr p2 := by
  intro h
  exact absurd (h ⟨routeKind, "ngf", [wOwn]⟩ [wFor] [wFor] (by decide) (by decide)) (by decide +kernel)

theorem mutating_reinvocation_idempotent_false_policy :
    ((Setter.mk policyKind "ngf" [wOwn]).invokeMutating [wFor]).1.invokeMutating [wFor] =
      (⟨policyKind, "ngf", [wFor, wFor, wOwn]⟩, [wFor, wFor, wOwn], true) := by decide +kernel

/-- the mutating variant is harmless only when the earlier fetched status held no foreign entry -/
theorem mutating_reinvocation_partial (s : Setter) (p1 p2 : Status) (h : foreign s.ctlr p1 = []) :
    (s.invokeMutating p1).1.invokeMutating p2 = s.invokeMutating p2 := by
  have : (s.invokeMutating p1).1 = s := by
    rw [invokeMutating_fst]; cases s with | mk k c cap =>
    simp only [merged] at *
    cases hk : k.mode <;> simp_all
  rw [this]

/-- mutating variant, all schedules, all k: own entries exact and no foreign entry lost or reordered
(this is what distinguishes `retry-duplicates-foreign` from `foreign-not-preserved` in the judge) -/
theorem mutating_retry_own_replaced_nothing_lost (s : Setter) (hm : Merging s) (hf : Fresh s) (n : Nat)
    (store : Status) (sched : List Op) :
    ∀ prev sub ok, Call.update prev sub ok ∈
        (runRetry Setter.invokeMutating n (Run.init s store) sched).calls →
      own s.ctlr sub = s.cap ∧ (foreign s.ctlr prev).Sublist (foreign s.ctlr sub) :=
  (retry_invariant s hm hf n store sched).subs

/-- mutating variant with a single invocation (k = 1): indistinguishable from the code in the tree -/
theorem mutating_retry_submission_partial (s : Setter) (hm : Merging s) (hf : Fresh s) (n : Nat)
    (store : Status) (sched : List Op)
    (hk : (runRetry Setter.invokeMutating n (Run.init s store) sched).invocations ≤ 1) :
    ∀ prev sub ok, Call.update prev sub ok ∈
        (runRetry Setter.invokeMutating n (Run.init s store) sched).calls →
      foreign s.ctlr sub = foreign s.ctlr prev ∧ own s.ctlr sub = s.cap ∧
        ¬ SameOwn s.kind s.ctlr prev s.cap :=
  fun prev sub ok h =>
    (submission_spec hm hf ((retry_invariant s hm hf n store sched).single hk prev sub ok h)).2

/-- WITNESS: one failed Update, then success — the mutating variant stores the foreign parent twice … -/
theorem mutating_retry_duplicates_foreign_witness :
    (runRetry Setter.invokeMutating 4 (Run.init ⟨routeKind, "ngf", [wOwn]⟩ [wFor]) [.updFail none]).store
      = [wOwn, wFor, wFor] := by decide +kernel

/-- … and after a conflict in which the other controller REMOVED its entry, resurrects it. -/
theorem mutating_retry_resurrects_foreign_witness :
    (runRetry Setter.invokeMutating 4 (Run.init ⟨routeKind, "ngf", [wOwn]⟩ [wFor]) [.updFail (some [])]).store
      = [wOwn, wFor] := by decide +kernel

example : Merging ⟨routeKind, "ngf", [wOwn]⟩ ∧ Fresh ⟨routeKind, "ngf", [wOwn]⟩ := by
  constructor <;> decide

/-- a run with a get error, a conflict that changes the store, then success: two invocations -/
example :
    let r := runRetry Setter.invoke 4 (Run.init ⟨routeKind, "ngf", [wOwn]⟩ [wFor, { wOwn with conds := [] }])
      [.getErr, .updFail (some [wFor]), .ok]
    r.invocations = 2 ∧ r.writes = 1 ∧ r.gets = 3 ∧ r.store = [wOwn, wFor] := by decide +kernel

/-- no-op: previous own entry differs only in time; duplicated own entries are still a no-op -/
example :
    let old : Entry := { wOwn with conds := [⟨"Accepted", "True", "Accepted", "ok", 2, 1⟩] }
    (Setter.invoke ⟨routeKind, "ngf", [wOwn]⟩ [wFor, old]).2.2 = false ∧
    (Setter.invoke ⟨routeKind, "ngf", [wOwn]⟩ [old, wFor, old]).2.2 = false ∧
    (Setter.invoke ⟨routeKind, "ngf", [wOwn]⟩ [wFor, { old with ref := ["~", "~", "ns", "gw", "l1", "~"] }]).2.2 = true := by
  decide +kernel

/-! ## D. CRD limits -/

/-- all condition types any constructor can produce -/
def tableTypes : List String := (Status.condTable.map (·.2.1)).eraseDups

theorem table_types_le_maxConds : tableTypes.length ≤ Status.maxConds := by decide +kernel

theorem table_types_cover : ∀ row ∈ Status.condTable, row.2.1 ∈ tableTypes := by decide +kernel

/-- Conditions built from the repository's constructors and passed through
`DeduplicateConditions` number at most 8 (the CRD's maxItems) and have pairwise distinct types
(the CRD's list-map key), so `conditions` never violates the schema. -/
theorem conditions_le_8_unique (cs : List Cond)
    (h : ∀ c ∈ cs, ∃ row ∈ Status.condTable, row.2.1 = c.type) :
    (dedup cs).length ≤ Status.maxConds ∧ ((dedup cs).map (·.type)).Nodup ∧
      hasDupTypes (dedup cs) = false := by
  refine ⟨Nat.le_trans (dedup_length_le cs tableTypes ?_) table_types_le_maxConds,
    dedup_types_nodup cs, (hasDupTypes_false_iff _).2 (dedup_types_nodup cs)⟩
  intro c hc
  obtain ⟨row, hr, he⟩ := h c hc
  exact he ▸ table_types_cover row hr

/-- `DeduplicateConditions` keeps only conditions of the input and loses no type. -/
theorem dedup_sound_complete (cs : List Cond) :
    (∀ c ∈ dedup cs, c ∈ cs) ∧ (∀ c ∈ cs, ∃ d ∈ dedup cs, d.type = c.type) :=
  ⟨dedup_subset cs, dedup_complete cs⟩

/-- the last condition of a type wins and the survivors keep their relative order (example) -/
example :
    dedup [⟨"A", "True", "r1", "", 0, 0⟩, ⟨"B", "True", "r2", "", 0, 0⟩, ⟨"A", "False", "r3", "", 0, 0⟩]
      = [⟨"B", "True", "r2", "", 0, 0⟩, ⟨"A", "False", "r3", "", 0, 0⟩] := by decide +kernel

/-- Every (type, status, reason) a constructor can emit satisfies the CRD patterns and lengths. -/
theorem reason_pattern_ok : ∀ row ∈ Status.condTable,
    reasonOk row.2.2.2 = true ∧ row.2.2.2.length ≤ Status.maxReason ∧
    typeOk row.2.1 = true ∧ row.2.1.length ≤ Status.maxType ∧ statusOk row.2.2.1 = true := by
  -- the table's texts as character lists, cf. `NGF.Proofs.CharLits`
  have h : ∀ p ∈ Status.condTable.map (fun row => (row.2.2.2.toList, row.2.1.toList, row.2.2.1)),
      reasonOkL p.1 = true ∧ p.1.length ≤ Status.maxReason ∧
      typeOkL p.2.1 = true ∧ p.2.1.length ≤ Status.maxType ∧ statusOk p.2.2 = true := by
    simp only [Status.condTable, List.map_cons, List.map_nil]
    decide_chars
  exact fun row hrow => h _ (List.mem_map_of_mem hrow)

/-- PARTIAL: within the limit whenever own + foreign entries fit. -/
theorem parents_le_32_partial (s : Setter) (hm : Merging s) (prev : Status) (lim : Nat)
    (hprev : prev.length ≤ lim) (hroom : s.cap.length + (foreign s.ctlr prev).length ≤ lim) :
    (s.invoke prev).2.1.length ≤ lim := by
  cases hw : (s.invoke prev).2.2 with
  | false => rw [setter_noop_leaves_object s prev hw]; exact hprev
  | true => rw [invoke_status_of_wasSet s prev hw, merged_length hm]; exact hroom

/-- NGF policies, graph built from `snap`, write landing on `live`: when other controllers did not add
foreign ancestors in between, the submitted ancestor list has at most `maxItems` entries. -/
theorem ancestors_le_16_of_snapshot (c : String) (snap live : Status) (targets : List Entry)
    (hsnap : snap.length ≤ Status.maxAncestors) (hlive : live.length ≤ Status.maxAncestors)
    (hnogrow : (foreign c live).length ≤ (foreign c snap).length) :
    let s : Setter := ⟨policyKind, c, ngfAttach Status.maxAncestorsConst c snap targets []⟩
    (s.invoke live).2.1.length ≤ Status.maxAncestors := by
  intro s
  have h1 := ngfAttach_length Status.maxAncestorsConst c snap targets []
  have h2 := foreign_length_le c snap
  have h3 : Status.maxAncestorsConst ≤ Status.maxAncestors := by decide
  simp only [List.length_nil, Nat.zero_add] at h1
  refine parents_le_32_partial s (by show policyKind.mode ≠ .whole; decide) live _ hlive ?_
  show (ngfAttach Status.maxAncestorsConst c snap targets []).length + (foreign c live).length ≤ _
  omega

/-- NGF policies: with the ancestors collected through `ngfPolicyAncestorsFull` against the status
the setter then sees — EXPLICIT hypothesis `hsame`: the live object the retry function fetches is the
snapshot the graph was built from — the submitted ancestor list has at most `maxItems` entries.
Without `hsame` the statement is false: `ancestors_le_16_needs_same_snapshot`. -/
theorem ancestors_le_16 (c : String) (snap live : Status) (targets : List Entry) (hsame : live = snap)
    (hcur : snap.length ≤ Status.maxAncestors) :
    let s : Setter := ⟨policyKind, c, ngfAttach Status.maxAncestorsConst c snap targets []⟩
    (s.invoke live).2.1.length ≤ Status.maxAncestors := by
  subst hsame
  exact ancestors_le_16_of_snapshot c live live targets hcur hcur (Nat.le_refl _)

/-- BackendTLSPolicy: when `backendTLSPolicyAncestorsFull` says "not full", the one own ancestor fits. -/
theorem btp_ancestors_le_16 (c : String) (snap cur : Status) (e : Entry) (hsame : cur = snap)
    (hfull : btpFull Status.maxAncestorsConst c snap = false) (hcur : snap.length ≤ Status.maxAncestors) :
    let s : Setter := ⟨policyKind, c, [e]⟩
    (s.invoke cur).2.1.length ≤ Status.maxAncestors := by
  subst hsame
  intro s
  have h3 : Status.maxAncestorsConst = Status.maxAncestors := by decide
  have := btp_room Status.maxAncestorsConst c cur hfull (h3 ▸ hcur)
  refine parents_le_32_partial s (by show policyKind.mode ≠ .whole; decide) cur _ hcur ?_
  show 1 + (foreign c cur).length ≤ _
  omega

/-- non-vacuity: 14 foreign ancestors, 5 targets → 2 own ancestors are admitted, 16 submitted;
a full list of 16 foreign ancestors blocks a BackendTLSPolicy, 15 foreign + 1 own does not -/
example :
    let cur : Status := (List.range 14).map fun i => ⟨"other", ["g", "k", "ns", toString i, "~", "~"], wFor.conds⟩
    let ts : List Entry := (List.range 5).map fun i => ⟨"ngf", ["g", "k", "ns", toString i, "~", "~"], wOwn.conds⟩
    (ngfAttach Status.maxAncestorsConst "ngf" cur ts []).length = 2 ∧
    ((Setter.mk policyKind "ngf" (ngfAttach Status.maxAncestorsConst "ngf" cur ts [])).invoke cur).2.1.length = 16 ∧
    btpFull Status.maxAncestorsConst "ngf" ((List.range 16).map fun i => ⟨"other", [toString i], []⟩) = true ∧
    btpFull Status.maxAncestorsConst "ngf" (⟨"ngf", [], []⟩ :: (List.range 15).map fun i => ⟨"other", [toString i], []⟩) = false := by
  decide +kernel

private def manyForeign (n : Nat) : Status :=
  (List.range n).map fun i => ⟨"other", ["~", "~", "ns", toString i, "~", "~"], wFor.conds⟩

/-- WITNESS OF FALSITY under LIVE DRIFT (reproduced on the real policy setters, known findings
`C08:entries-exceed-maxItems:{NGFPolicy,BackendTLSPolicy}:live-drift`): the graph was built from a cached
policy with 15 foreign ancestors (both "ancestor list is full" checks say: room for one), another
controller adds a 16th before the write lands; both objects are admissible, the setter runs on the live
one and submits 17 ancestors. So `ancestors_le_16` / `btp_ancestors_le_16` need `live = snap`. -/
theorem ancestors_le_16_needs_same_snapshot :
    ¬ (∀ (c : String) (snap live : Status) (targets : List Entry),
        snap.length ≤ Status.maxAncestors → live.length ≤ Status.maxAncestors →
        ((Setter.mk policyKind c (ngfAttach Status.maxAncestorsConst c snap targets [])).invoke live).2.1.length
          ≤ Status.maxAncestors) ∧
    btpFull Status.maxAncestorsConst "ngf" (manyForeign 15) = false ∧
    ((Setter.mk policyKind "ngf" [wOwn]).invoke (manyForeign 16)).2.1.length = Status.maxAncestors + 1 ∧
    -- …and the foreign entries of the live object are all still there (the write is rejected, nothing is lost)
    foreign "ngf" ((Setter.mk policyKind "ngf" [wOwn]).invoke (manyForeign 16)).2.1 = manyForeign 16 := by
  have hattach : ngfAttach Status.maxAncestorsConst "ngf" (manyForeign 15) [wOwn] [] = [wOwn] := by decide +kernel
  have hlive : ((Setter.mk policyKind "ngf" [wOwn]).invoke (manyForeign 16)).2.1.length = Status.maxAncestors + 1 ∧
      foreign "ngf" ((Setter.mk policyKind "ngf" [wOwn]).invoke (manyForeign 16)).2.1 = manyForeign 16 := by
    decide +kernel
  refine ⟨fun h => ?_, by decide +kernel, hlive⟩
  have := h "ngf" (manyForeign 15) (manyForeign 16) [wOwn] (by decide +kernel) (by decide +kernel)
  rw [hattach, hlive.1] at this
  exact Nat.not_succ_le_self _ this

/-- WITNESS OF FALSITY (reproduced on the real route and snippets-filter setters): `parents`
(`controllers`) may exceed the CRD's maxItems — a previous status that is itself admissible (32
foreign parents) makes the setter submit 33. There is no "full" check for routes or snippets filters. -/
theorem parents_le_32_false :
    ((Setter.mk routeKind "ngf" [wOwn]).invoke (manyForeign Status.maxParents)).2.1.length
      = Status.maxParents + 1 ∧
    ((Setter.mk snippetsKind "ngf" [wOwn]).invoke (manyForeign Status.maxControllers)).2.1.length
      = Status.maxControllers + 1 := by decide +kernel

/-- `message` is NOT bounded by the setters: whatever message a computed condition carries is
submitted unchanged (messages are aggregated validation errors of unbounded length), so
`message ≤ 32768` cannot be proved; the judge reports `message-exceeds-maxLength` when it happens. -/
theorem message_le_32768_false (m : String) :
    ∃ (s : Setter) (prev : Status), Merging s ∧ Fresh s ∧ (s.invoke prev).2.2 = true ∧
      ∃ e ∈ (s.invoke prev).2.1, ∃ c ∈ e.conds, c.message = m := by
  refine ⟨⟨routeKind, "ngf", [{ wOwn with conds := [⟨"Accepted", "False", "UnsupportedValue", m, 1, 1⟩] }]⟩, [],
    by show routeKind.mode ≠ .whole; decide, ?_, ?_, ?_⟩
  · intro e he; simp at he; subst he; rfl
  · simp [Setter.invoke, merged, equalCheck, routeKind, statusEq, foreign]
  · simp [Setter.invoke, merged, equalCheck, routeKind, statusEq, foreign]

theorem message_limit_detected (L : Limits) (c : Cond) (h : c.message.length > L.maxMessage) :
    condViolation L c = some "message-exceeds-maxLength" := by
  simp [condViolation, h]

/-! ## E. Tie to the source: facts regenerated by the translator on every run -/

/-- CRD figures: one consistent value per figure over all 15 CRD files/versions; the patterns are
the ones `reasonOk` / `typeOk` implement; the code's `maxAncestors` does not exceed the CRD's. -/
theorem crd_limits_as_modelled :
    Status.limitsConsistent = true ∧ Status.crdFilesRead = 15 ∧
    Status.minCondsPerEntry = 1 ∧ Status.maxConds = 8 ∧
    Status.maxAncestorsConst ≤ Status.maxAncestors ∧
    Status.reasonPatterns = ["^[A-Za-z]([A-Za-z0-9_,:]*[A-Za-z0-9_])?$"] ∧
    Status.typePatterns =
      ["^([a-z0-9]([-a-z0-9]*[a-z0-9])?(\\.[a-z0-9]([-a-z0-9]*[a-z0-9])?)*/)?(([A-Za-z0-9][-A-Za-z0-9_.]*)?[A-Za-z0-9])$"] :=
  ⟨rfl, rfl, rfl, rfl, by decide, rfl, rfl⟩

/-- `NewRetryUpdateFunc`: Get (NotFound ⇒ done, other error ⇒ retry) → setter (false ⇒ done) →
Update (error ⇒ retry) → done; driven by exactly one ExponentialBackoff of 4 steps. -/
theorem retry_function_as_modelled :
    Status.backoffCalls = 1 ∧ Status.backoffSteps = 4 ∧
    Status.retrySkeleton =
      ["if err := getter.Get(ctx, nsname, obj); err != nil => if apierrors.IsNotFound(err) | return true, nil | return false, nil",
       "if !statusSetter(obj) => return true, nil",
       "if err := updater.Update(ctx, obj); err != nil => return false, nil",
       "return true, nil"] :=
  ⟨rfl, rfl, rfl⟩

/-- The merging setters (since 4e76cf1): copy the captured status into a local `newStatus`, append the
foreign entries of the fetched object to the copy, compare with the set-like helper and only then
overwrite the object's status; none of them assigns to its captured parameter (`mutates_… = false`,
computed by the translator from the closure's assignments). A setter that assigns to its captured
status again breaks this obligation and behaves like `invokeMutating`. -/
theorem setters_as_modelled :
    Status.mutates_newHTTPRouteStatusSetter = false ∧
    Status.body_newHTTPRouteStatusSetter =
      ["hr := helpers.MustCastObject[*gatewayv1.HTTPRoute](object)",
       "newStatus := status",
       "newStatus.Parents = slices.Clone(status.Parents)",
       "for _, os := range hr.Status.Parents { if string(os.ControllerName) != gatewayCtlrName { newStatus.Parents = append(newStatus.Parents, os) } }",
       "if routeStatusEqual(gatewayCtlrName, hr.Status.Parents, newStatus.Parents) { return false }",
       "hr.Status = newStatus",
       "return true"] ∧
    Status.mutates_newGRPCRouteStatusSetter = false ∧
    Status.body_newGRPCRouteStatusSetter =
      ["gr := helpers.MustCastObject[*gatewayv1.GRPCRoute](object)",
       "newStatus := status",
       "newStatus.Parents = slices.Clone(status.Parents)",
       "for _, os := range gr.Status.Parents { if string(os.ControllerName) != gatewayCtlrName { newStatus.Parents = append(newStatus.Parents, os) } }",
       "if routeStatusEqual(gatewayCtlrName, gr.Status.Parents, newStatus.Parents) { return false }",
       "gr.Status = newStatus",
       "return true"] ∧
    Status.mutates_newTLSRouteStatusSetter = false ∧
    Status.body_newTLSRouteStatusSetter =
      ["tr := helpers.MustCastObject[*v1alpha2.TLSRoute](object)",
       "newStatus := status",
       "newStatus.Parents = slices.Clone(status.Parents)",
       "for _, os := range tr.Status.Parents { if string(os.ControllerName) != gatewayCtlrName { newStatus.Parents = append(newStatus.Parents, os) } }",
       "if routeStatusEqual(gatewayCtlrName, tr.Status.Parents, newStatus.Parents) { return false }",
       "tr.Status = newStatus",
       "return true"] ∧
    Status.mutates_newNGFPolicyStatusSetter = false ∧
    Status.body_newNGFPolicyStatusSetter =
      ["policy := helpers.MustCastObject[policies.Policy](object)",
       "prevStatus := policy.GetPolicyStatus()",
       "maxAncestors := len(status.Ancestors) + len(prevStatus.Ancestors)",
       "ancestors := make([]v1alpha2.PolicyAncestorStatus, 0, maxAncestors)",
       "for _, as := range prevStatus.Ancestors { if string(as.ControllerName) != gatewayCtlrName { ancestors = append(ancestors, as) } }",
       "ancestors = append(ancestors, status.Ancestors...)",
       "newStatus := v1alpha2.PolicyStatus{Ancestors: ancestors}",
       "if policyStatusEqual(gatewayCtlrName, prevStatus, newStatus) { return false }",
       "policy.SetPolicyStatus(newStatus)",
       "return true"] ∧
    Status.mutates_newBackendTLSPolicyStatusSetter = false ∧
    Status.body_newBackendTLSPolicyStatusSetter =
      ["btp := helpers.MustCastObject[*v1alpha3.BackendTLSPolicy](object)",
       "maxAncestors := 1 + len(btp.Status.Ancestors)",
       "ancestors := make([]v1alpha2.PolicyAncestorStatus, 0, maxAncestors)",
       "for _, os := range btp.Status.Ancestors { if string(os.ControllerName) != gatewayCtlrName { ancestors = append(ancestors, os) } }",
       "ancestors = append(ancestors, status.Ancestors...)",
       "newStatus := v1alpha2.PolicyStatus{Ancestors: ancestors}",
       "if policyStatusEqual(gatewayCtlrName, btp.Status, newStatus) { return false }",
       "btp.Status = newStatus",
       "return true"] ∧
    Status.mutates_newSnippetsFilterStatusSetter = false ∧
    Status.body_newSnippetsFilterStatusSetter =
      ["sf := helpers.MustCastObject[*ngfAPI.SnippetsFilter](obj)",
       "maxControllerStatus := 1 + len(sf.Status.Controllers)",
       "controllerStatuses := make([]ngfAPI.ControllerStatus, 0, maxControllerStatus)",
       "for _, status := range sf.Status.Controllers { if string(status.ControllerName) != gatewayCtlrName { controllerStatuses = append(controllerStatuses, status) } }",
       "controllerStatuses = append(controllerStatuses, snippetsFilterStatus.Controllers...)",
       "newStatus := ngfAPI.SnippetsFilterStatus{Controllers: controllerStatuses}",
       "if snippetsFilterStatusEqual(gatewayCtlrName, newStatus.Controllers, sf.Status.Controllers) { return false }",
       "sf.Status = newStatus",
       "return true"] :=
  ⟨rfl, rfl, rfl, rfl, rfl, rfl, rfl, rfl, rfl, rfl, rfl, rfl⟩

/-- The whole-status setters compare, then assign the captured status (never mutated). -/
theorem whole_setters_as_modelled :
    Status.mutates_newGatewayStatusSetter = false ∧ Status.mutates_newGatewayClassStatusSetter = false ∧
    Status.mutates_newNginxGatewayStatusSetter = false ∧
    Status.body_newGatewayStatusSetter =
      ["gw := helpers.MustCastObject[*gatewayv1.Gateway](obj)",
       "if gwStatusEqual(gw.Status, status) { return false }", "gw.Status = status", "return true"] ∧
    Status.body_newGatewayClassStatusSetter =
      ["gc := helpers.MustCastObject[*gatewayv1.GatewayClass](obj)",
       "if frameworkStatus.ConditionsEqual(gc.Status.Conditions, status.Conditions) { return false }",
       "gc.Status = status", "return true"] ∧
    Status.body_newNginxGatewayStatusSetter =
      ["ng := helpers.MustCastObject[*ngfAPI.NginxGateway](obj)",
       "if frameworkStatus.ConditionsEqual(ng.Status.Conditions, status.Conditions) { return false }",
       "ng.Status = status", "return true"] :=
  ⟨rfl, rfl, rfl, rfl, rfl, rfl⟩

/-- What the equality helpers compare (= `Kind.idx` of the model plus the conditions; `condEq`). -/
theorem equality_helpers_as_modelled :
    Status.cmp_routeParentStatusEqual =
      ["p1.ControllerName != p2.ControllerName", "p1.ParentRef.Name != p2.ParentRef.Name",
       "!helpers.EqualPointers(p1.ParentRef.Namespace, p2.ParentRef.Namespace)",
       "!helpers.EqualPointers(p1.ParentRef.SectionName, p2.ParentRef.SectionName)",
       "return frameworkStatus.ConditionsEqual(p1.Conditions, p2.Conditions)"] ∧
    Status.cmp_ancestorStatusEqual =
      ["p1.ControllerName != p2.ControllerName", "p1.AncestorRef.Name != p2.AncestorRef.Name",
       "!helpers.EqualPointers(p1.AncestorRef.Namespace, p2.AncestorRef.Namespace)",
       "!helpers.EqualPointers(p1.AncestorRef.Group, p2.AncestorRef.Group)",
       "!helpers.EqualPointers(p1.AncestorRef.Kind, p2.AncestorRef.Kind)",
       "return frameworkStatus.ConditionsEqual(p1.Conditions, p2.Conditions)"] ∧
    Status.cmp_snippetsStatusEqual =
      ["status1.ControllerName != status2.ControllerName",
       "return frameworkStatus.ConditionsEqual(status1.Conditions, status2.Conditions)"] ∧
    Status.cmp_ConditionsEqual =
      ["c1.ObservedGeneration != c2.ObservedGeneration", "c1.Type != c2.Type", "c1.Status != c2.Status",
       "c1.Message != c2.Message", "return c1.Reason == c2.Reason"] :=
  ⟨rfl, rfl, rfl, rfl⟩

/-- The ancestor-full checks as modelled by `ngfFull` / `btpFull`. -/
theorem ancestor_full_checks_as_modelled :
    Status.ngfFullBody =
      ["currAncestors := policy.Source.GetPolicyStatus().Ancestors", "var nonNGFControllerCount int",
       "for _, ancestor := range currAncestors { if ancestor.ControllerName != v1.GatewayController(ctlrName) { nonNGFControllerCount++ } }",
       "return nonNGFControllerCount+len(policy.Ancestors) >= maxAncestors"] ∧
    Status.btpFullBody =
      ["if len(ancestors) < maxAncestors { return false }",
       "for _, ancestor := range ancestors { if string(ancestor.ControllerName) == ctlrName { return false } }",
       "return true"] :=
  ⟨rfl, rfl⟩

end NGF.StatusWrite
