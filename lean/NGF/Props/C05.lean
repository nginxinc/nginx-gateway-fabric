/-
C05 — the control plane never crashes on admissible resources, in any order.

Theorems over the mirrors of `NGF.Model.PanicSites` (the functions `NGF/Driver/C05.lean` runs on the views
extracted from the REAL pipeline): each mirrored site is unreachable under the invariant that admissible resources
guarantee, for all inputs and, for the binding, for all event histories.  Where a site was reachable and has since
been repaired in /repo, the pre-fix mirror (`…Pre`) stays with its witness and with the partial theorem that held
before, as a regression detector.  The reporting half of the property is still open (`buildSectionNameRefs`): witness + partial.
The tie to the source is `NGF.Generated.PanicSites`, regenerated from /repo on every run: the inventory of every
`panic(` (each entry accounted for in `handledSites`), the closed enumerations, and the statement lists of the
mirrored functions.
-/
import NGF.Model.PanicSites
import NGF.Proofs.PanicSites
import NGF.Generated.PanicSites
import NGF.Props.C05Deref
import NGF.Props.C05Guards

namespace NGF.PanicSites

/-- the input class of the repaired defect (corpus/C05/01-…): Gateway `default/gw0` with a listener
`allowedRoutes.namespaces.from=Selector`, a route in `team-a` referring to it; `nss` = the Namespace
objects in the store. -/
def witnessView (nss : List String) : BindView :=
  { namespaces := nss,
    gw := some { ns := "default", name := "gw0", valid := true,
                 listeners := [{ name := "l0", attachable := true, from_ := .selector, hasSelector := true }] },
    routes := [{ ns := "team-a", attachable := true, refs := [⟨"default", "gw0", "", false⟩] }] }

def wGw : Option Gateway := (witnessView []).gw
def wRoutes : List Route := (witnessView []).routes

/-! ### the current code (commit d734bd5): FULL STRENGTH -/

theorem nsAllowed_total (m : String → String → Bool) (l : Listener) (routeNS gwNS : String)
    (nss : List String) (hf : l.from_ ≠ .nilPtr) : ∃ b, nsAllowed m l routeNS gwNS nss = .ok b := by
  unfold nsAllowed
  cases hfr : l.from_ with
  | nilPtr => exact absurd hfr hf
  | selector => exact ok_ite (fun _ => ⟨_, rfl⟩) fun _ => ok_ite (fun _ => ⟨_, rfl⟩) fun _ => ⟨_, rfl⟩
  | _ => exact ⟨_, rfl⟩

theorem tryAttach_total (m : String → String → Bool) (routeNS gwNS : String) (nss : List String) :
    ∀ ls, FromSet ls → tryAttach m routeNS gwNS nss ls = .ok ()
  | [], _ => rfl
  | l :: ls, hf => by
    obtain ⟨b, hb⟩ := nsAllowed_total m l routeNS gwNS nss (hf l (List.mem_cons_self ..))
    simp only [tryAttach, hb]
    exact tryAttach_total m routeNS gwNS nss ls (fun x hx => hf x (List.mem_cons_of_mem _ hx))

theorem bindRefs_total (m : String → String → Bool) (gw : Gateway) (nss : List String) (routeNS : String)
    (hf : FromSet gw.listeners) : ∀ refs, bindRefs m gw nss routeNS refs = .ok ()
  | [] => rfl
  | ref :: rest => by
    unfold bindRefs
    cases hv : validateParentRef ref gw with
    | none => exact bindRefs_total m gw nss routeNS hf rest
    | some att =>
      simp only [tryAttach_total m routeNS gw.ns nss att fun l hl => hf l (validateParentRef_sub hv l hl)]
      exact bindRefs_total m gw nss routeNS hf rest

theorem bindRoutes_total (m : String → String → Bool) (gw : Gateway) (nss : List String)
    (hf : FromSet gw.listeners) : ∀ rs, bindRoutes m gw nss rs = .ok ()
  | [] => rfl
  | r :: rs => by
    simp only [bindRoutes, bindRefs_total m gw nss r.ns hf r.refs, ite_self]
    exact bindRoutes_total m gw nss hf rs

/-- binding is total for EVERY view: no hypothesis on which Namespace objects are in the store -/
theorem bind_total (m : String → String → Bool) (v : BindView)
    (hfrom : ∀ gw, v.gw = some gw → FromSet gw.listeners) : bindAll m v = .ok () := by
  unfold bindAll
  cases hg : v.gw with
  | none => rfl
  | some gw => exact bindRoutes_total m gw v.namespaces (hfrom gw hg) v.routes

/-- every Gateway an event can bring has `From` set (CRD defaulting) -/
def EvAdm : Ev → Prop
  | .setGw (some g) => FromSet g.listeners
  | _ => True

/-- MAIN THEOREM for the namespace site: for every history of admissible events (Namespace upserts and
deletes, any Gateway, any routes), in any order and any batching, starting from any non-crashed state, the
controller never crashes in `bindRoutesToListeners`. -/
theorem no_panic_any_order (m : String → String → Bool) :
    ∀ (evs : List Ev) (c : Ctl), (∀ e ∈ evs, EvAdm e) → c.crashed = none →
      (∀ gw, c.view.gw = some gw → FromSet gw.listeners) →
      (Ctl.run (bindAll m) c evs).crashed = none := by
  intro evs c ha hc hg
  refine Ctl.run_crashed_none (fun c evs => (∀ e ∈ evs, EvAdm e) ∧ ∀ gw, c.view.gw = some gw → FromSet gw.listeners)
    ?_ (fun c _ hp => bind_total m c.view hp.2) evs c ⟨ha, hg⟩ hc
  intro c e es hc ⟨ha, hg⟩
  refine ⟨fun x hx => ha x (List.mem_cons_of_mem _ hx), ?_⟩
  cases e with
  | setGw g => intro gw hgw; cases hgw; exact ha _ (List.mem_cons_self ..)
  | apply => rw [Ctl.step_apply_of_ok hc (bind_total m c.view hg)]; exact hg
  | _ => exact hg

example : (Ctl.run (bindAll fun _ _ => true) Ctl.init
    [.setGw wGw, .setRoutes wRoutes, .apply, .upsertNs "team-a", .apply]).crashed = none := by decide +kernel

/-- the regression input is harmless on the current code, Namespace present or not -/
theorem ns_witness_now_ok : bindAll (fun _ _ => true) (witnessView []) = .ok ()
    ∧ bindAll (fun _ _ => true) (witnessView ["team-a"]) = .ok () := by decide +kernel

/-- all six delivery orders of {Namespace, Gateway, route}, one event per batch: none crashes -/
theorem all_orders_of_three :
    let run := fun evs => (Ctl.run (bindAll fun _ _ => true) Ctl.init (withApplies evs)).crashed
    let n := Ev.upsertNs "team-a"; let g := Ev.setGw wGw; let r := Ev.setRoutes wRoutes
    run [n, g, r] = none ∧ run [n, r, g] = none ∧ run [g, n, r] = none ∧ run [r, n, g] = none
      ∧ run [g, r, n] = none ∧ run [r, g, n] = none := by decide +kernel

/-! ### regression detectors: the PRE-FIX mirror (code before d734bd5). These theorems document the old
defect and keep the old signature meaningful: a revert of the commit makes the real code behave like
`bindAllPre` again, which the harness recognises through `preSites`. -/

/-- what could be proved before the repair (all views, all selector-match oracles): if every attachable
route's namespace has its Namespace object in the store and `From` is set, the pre-fix binding cannot panic. -/
theorem pre_bind_total_of_nsClosed (m : String → String → Bool) (v : BindView)
    (hns : NsClosed v.namespaces v.routes)
    (hfrom : ∀ gw, v.gw = some gw → FromSet gw.listeners) :
    bindAllPre m v = .ok () := by
  unfold bindAllPre
  cases hg : v.gw with
  | none => rfl
  | some gw => exact bindRoutesPre_ok (hfrom gw hg) v.routes hns

example : NsClosed ["team-a"] [{ ns := "team-a", attachable := true, refs := [⟨"default", "gw0", "", false⟩] }] := by
  intro r hr _; simp at hr; subst hr; simp

/-- before d734bd5 an admissible state panicked -/
theorem pre_ns_lookup_witness : bindAllPre (fun _ _ => true) (witnessView []) = .error .nsLookup := by decide +kernel

theorem pre_ns_lookup_witness_ok_with_namespace :
    bindAllPre (fun _ _ => true) (witnessView ["team-a"]) = .ok () := by decide +kernel

/-- the selector-match result never decides whether binding panics -/
theorem pre_bind_indep_of_match (m m' : String → String → Bool) (v : BindView) :
    bindAllPre m v = bindAllPre m' v := by
  unfold bindAllPre
  cases v.gw with
  | none => rfl
  | some gw => exact bindRoutesPre_indep m m' gw v.namespaces v.routes

def ClosedAt (c : Ctl) : Ev → Prop
  | .apply => NsClosed c.view.namespaces c.view.routes ∧ ∀ gw, c.view.gw = some gw → FromSet gw.listeners
  | _ => True

inductive SafeHist : List Ev → Ctl → Prop
  | nil (c : Ctl) : SafeHist [] c
  | cons (e : Ev) (es : List Ev) (c : Ctl) :
      ClosedAt c e → SafeHist es (c.step (bindAllPre fun _ _ => true) e) → SafeHist (e :: es) c

/-- history level, partial: whatever the order and batching of events, if at every `apply` the store is
namespace-closed (and `From` is set), the controller does not crash. -/
theorem pre_no_panic_history_partial :
    ∀ (evs : List Ev) (c : Ctl), c.crashed = none → SafeHist evs c →
      (Ctl.run (bindAllPre fun _ _ => true) c evs).crashed = none := by
  intro evs c hc hs
  refine Ctl.run_crashed_none (fun c evs => SafeHist evs c) ?_ ?_ evs c hs hc
  · intro c e es _ hs; cases hs; assumption
  · intro c es hs
    cases hs with
    | cons _ _ _ h _ => exact pre_bind_total_of_nsClosed _ c.view h.1 h.2

example : SafeHist [.upsertNs "team-a", .setGw wGw, .setRoutes wRoutes, .apply] Ctl.init := by
  refine .cons _ _ _ trivial (.cons _ _ _ trivial (.cons _ _ _ trivial (.cons _ _ _ ⟨?_, ?_⟩ (.nil _))))
  · intro r hr _; simp [Ctl.step, Ctl.init, wRoutes, witnessView] at hr; subst hr; simp [Ctl.step, Ctl.init, addKey]
  · intro gw hg l hl; simp [Ctl.step, Ctl.init, wGw, witnessView] at hg; subst hg; simp at hl; subst hl; simp

/-- before d734bd5: the same events in two orders — dependants before the Namespace crashed, Namespace
first did not -/
theorem pre_order_matters :
    (Ctl.run (bindAllPre fun _ _ => true) Ctl.init
        [.setGw wGw, .setRoutes wRoutes, .apply, .upsertNs "team-a", .apply]).crashed = some .nsLookup
    ∧ (Ctl.run (bindAllPre fun _ _ => true) Ctl.init
        [.upsertNs "team-a", .setGw wGw, .setRoutes wRoutes, .apply, .apply]).crashed = none := by
  decide +kernel

/-- exhaustive small scope (the Lean twin of the harness's `-perms` run): of the six delivery orders of
{Namespace, Gateway, route}, processed one event per batch, exactly the two in which the Namespace comes
last crash. -/
theorem pre_all_orders_of_three :
    let run := fun evs => (Ctl.run (bindAllPre fun _ _ => true) Ctl.init (withApplies evs)).crashed
    let n := Ev.upsertNs "team-a"; let g := Ev.setGw wGw; let r := Ev.setRoutes wRoutes
    run [n, g, r] = none ∧ run [n, r, g] = none ∧ run [g, n, r] = none ∧ run [r, n, g] = none
      ∧ run [g, r, n] = some .nsLookup ∧ run [r, g, n] = some .nsLookup := by decide +kernel

/-- …and so does deleting the Namespace while the route stays. -/
theorem pre_delete_namespace_crashes :
    (Ctl.run (bindAllPre fun _ _ => true) Ctl.init
        [.upsertNs "team-a", .setGw wGw, .setRoutes wRoutes, .apply, .deleteNs "team-a", .apply]).crashed
      = some .nsLookup := by decide +kernel

/-- for EVERY sequence of `upsertRoute` calls (any listeners, routes, hostnames, order) the hostname
lookup of `buildServers` finds a listener. -/
theorem buildServers_total (ops : List (List String)) : (Hpr.upsertAll {} ops).buildServers = .ok () := by
  unfold Hpr.buildServers
  apply lookupAll_ok
  exact Hpr.inv_upsertAll ops {} (by intro h hh; simp at hh)

theorem buildAllServers_total : ∀ (ports : List (List (List String))), buildAllServers ports = .ok ()
  | [] => rfl
  | ops :: rest => by simp only [buildAllServers, buildServers_total]; exact buildAllServers_total rest

example : ((Hpr.upsertAll {} [["a.example.com", "~^"], [], ["a.example.com"]]).rulesPerHost).length = 2 := by decide +kernel

/-- every match of the rule has a `path` (what the CRD default `{type: PathPrefix, value: "/"}` and
`ConvertGRPCMatches` guarantee) -/
def PathsPresent (ms : List Match) : Prop := ∀ m ∈ ms, m.path ≠ none

theorem rulePathTypes_total (valueOk : String → Bool) :
    ∀ (ms : List Match), PathsPresent ms → validMatches valueOk ms = true → ∃ ts, rulePathTypes ms = .ok ts
  | [], _, _ => ⟨[], rfl⟩
  | ⟨none, _⟩ :: _, hp, _ => absurd rfl (hp _ (List.mem_cons_self ..))
  | ⟨some pm, k⟩ :: ms, hp, hv => by
    simp only [validMatches, List.all_cons, Bool.and_eq_true, beq_iff_eq] at hv
    obtain ⟨ts, hts⟩ := rulePathTypes_total valueOk ms (fun x hx => hp x (List.mem_cons_of_mem _ hx)) hv.2
    obtain ⟨p, hp⟩ := matchPathType_ok (k := k) (Nat.eq_zero_of_add_eq_zero_right hv.1)
    exact ⟨p :: ts, by simp only [rulePathTypes, hp, hts]⟩

/-- `upsertRoute`'s rule loop never reaches the panic of `convertPathType` (nor the nil dereference
of `*m.Path.Type`) for admissible routes: any validator, any matches. -/
theorem upsertRule_total (valueOk : String → Bool) (ms : List Match) (hp : PathsPresent ms) :
    ∃ ts, upsertRule valueOk ms = .ok ts :=
  ok_ite (fun _ => ⟨_, rfl⟩) fun hv => rulePathTypes_total valueOk ms hp (by simpa using hv)

example : PathsPresent [{ path := some ⟨some "RegularExpression", some "/a.*"⟩, otherErrs := 0 }] := by
  intro m hm; simp at hm; subst hm; simp

/-- a RegularExpression match is admissible, is reported (ValidMatches = false) and skipped -/
example : upsertRule (fun _ => true) [{ path := some ⟨some "RegularExpression", some "/a.*"⟩, otherErrs := 0 }] = .ok [] := by
  decide +kernel

/-- why admissibility (CRD defaulting) is needed: `validatePathMatch` accepts a nil path, `upsertRoute`
dereferences it. Not reachable through the API server, which defaults `path`. -/
theorem nil_path_witness :
    validMatches (fun _ => true) [{ path := none, otherErrs := 0 }] = true
      ∧ upsertRule (fun _ => true) [{ path := none, otherErrs := 0 }] = .error .nilPath := by decide +kernel

/-- GRPCRoute matches are converted to matches with a path of a supported type -/
theorem grpc_rule_total : ∀ (flags : List Bool), ∃ ts, rulePathTypes (flags.map convertGRPCMatch) = .ok ts
  | [] => ⟨[], rfl⟩
  | f :: fs => by
    obtain ⟨ts, hts⟩ := grpc_rule_total fs
    have : matchPathType (convertGRPCMatch f) = .ok (if f then .exact else .prefix_) := by
      cases f <;> decide +kernel
    exact ⟨(if f then .exact else .prefix_) :: ts, by simp only [List.map_cons, rulePathTypes, this, hts]⟩

/-- admissible backendRef in an admissible route: names are non-empty (minLength 1), ports ≥ 1 -/
structure RefAdm (ref : BackendRefIn) (routeNs : String) : Prop where
  name : ref.name ≠ ""
  routeNs : routeNs ≠ ""
  ns : ∀ n, ref.nsOpt = some n → n ≠ ""
  port : ∀ p, ref.port = some p → p ≠ 0

theorem createBackendRef_resolvePre (ref : BackendRefIn) (routeNs : String) (svcs : List Service)
    (ha : RefAdm ref routeNs) :
    let b := createBackendRef ref routeNs svcs
    b.valid = true → resolvePre b.ns b.name b.port = .ok () := by
  have hns : ref.nsOpt.getD routeNs ≠ "" := by
    cases hn : ref.nsOpt with
    | none => exact ha.routeNs
    | some n => exact ha.ns n hn
  -- every arm but the last is marked invalid; the last carries the namespace, the name and the port found
  unfold createBackendRef
  split
  · nofun
  split
  · nofun
  rename_i p hp
  dsimp only
  split
  · nofun
  split
  · nofun
  rename_i sp hsp
  have hport : sp.port = p := by simpa using List.find?_some hsp
  intro _
  simp [resolvePre, hport, ha.port p hp, ha.name, hns]
/-- `buildUpstreams` calls `Resolve` for the refs marked valid only -/
theorem resolveAll_of_valid :
    ∀ (bs : List BackendRef), (∀ b ∈ bs, b.valid = true → resolvePre b.ns b.name b.port = .ok ()) → resolveAll bs = .ok ()
  | [], _ => rfl
  | b :: bs, h => by
    have hr := resolveAll_of_valid bs (fun x hx => h x (List.mem_cons_of_mem _ hx))
    unfold resolveAll
    by_cases hv : b.valid = true
    · rw [if_pos hv, h b (List.mem_cons_self ..) hv]; exact hr
    · rw [if_neg hv]; exact hr

/-- `buildUpstreams`: every call of `Resolve` satisfies its precondition -/
theorem resolveAll_total (routeNs : String) (svcs : List Service) :
    ∀ (refs : List BackendRefIn), (∀ r ∈ refs, RefAdm r routeNs) →
      resolveAll (refs.map fun r => createBackendRef r routeNs svcs) = .ok () := by
  intro refs ha
  refine resolveAll_of_valid _ fun b hb => ?_
  obtain ⟨r, hr, rfl⟩ := List.mem_map.mp hb
  exact createBackendRef_resolvePre r routeNs svcs (ha r hr)

example : (createBackendRef ⟨"svc0", none, some 80, true, true⟩ "default" [⟨"default", "svc0", [⟨80⟩]⟩]).valid = true := by
  decide +kernel

/-- `generateMgmtFiles` finds the token whenever the JWT secret file is registered, which
`createPlusSecretMetadata` always does in Plus mode — whether or not the Secret has arrived. -/
theorem generateMgmtFiles_total (plus : Bool) (fs : List PlusFile) (h : plus = true → ∃ f ∈ fs, f.type = jwtTokenType) :
    generateMgmtFiles plus fs = .ok () := by
  unfold generateMgmtFiles
  by_cases hp : plus = true
  · obtain ⟨f, hf, ht⟩ := h hp
    have : jwtTokenType ∈ auxSecretKeys fs := by
      unfold auxSecretKeys; exact List.mem_map.mpr ⟨f, hf, ht⟩
    simp [hp, this]
  · simp [hp]

/-- MAIN THEOREM for the Plus secret site (commit 02715d5): `setPlusSecretContent` is total — any
registered files, Secret present or not, field present or not. -/
theorem setPlusSecretContent_total : ∀ (fs : List PlusFile), setPlusSecretContent fs = .ok ()
  | [] => rfl
  | f :: fs => by simp only [setPlusSecretContent, ite_self]; exact setPlusSecretContent_total fs

/-! regression detector: the pre-fix mirror (before 02715d5) -/

/-- before the repair only this could be proved: no panic if every registered file's field is present
in its Secret whenever the Secret is there -/
theorem pre_setPlusSecretContent_partial :
    ∀ (fs : List PlusFile), (∀ f ∈ fs, f.secretPresent = true → f.fieldPresent = true) →
      setPlusSecretContentPre fs = .ok ()
  | [], _ => rfl
  | f :: fs, h => by
    have hf := h f (List.mem_cons_self ..)
    have : (f.secretPresent && !f.fieldPresent) = false := by
      cases hs : f.secretPresent with
      | false => rfl
      | true => rw [hf hs]; rfl
    simp only [setPlusSecretContentPre, this]
    exact pre_setPlusSecretContent_partial fs (fun x hx => h x (List.mem_cons_of_mem _ hx))

/-- the old defect: an admissible update of the license Secret that drops the `license.jwt` key
(corpus/C05/02-…) crashed the pre-fix code and is harmless on the current code -/
theorem pre_plus_field_witness :
    setPlusSecretContentPre [{ secretPresent := true, fieldPresent := false, type := 0 }] = .error .plusField
      ∧ setPlusSecretContent [{ secretPresent := true, fieldPresent := false, type := 0 }] = .ok () := by decide +kernel

theorem btpMessage_total (valid : Bool) (n : Nat) : ∃ msg, btpMessage valid n = .ok msg :=
  ok_ite (fun _ => ⟨_, rfl⟩) fun _ => ⟨_, rfl⟩

/-- MAIN THEOREM for the `Conditions[0]` access (commit 72dccd7): the lookup is total for every policy —
ancestors full or not, any number of spec errors. -/
theorem btpLookup_total (b : Btp) : ∃ msg, btpLookup b = .ok msg :=
  btpMessage_total _ _

/-- the full-ancestors policy yields the fixed message instead of an index panic -/
example : btpLookup { ancestorsFull := true, specErrs := 0 } = .ok "its ancestor status list is full" := by decide +kernel

/-! regression detector: the pre-fix mirror (before 72dccd7) -/

/-- the old defect: a BackendTLSPolicy whose status.ancestors holds 16 entries of other controllers
(admissible: maxItems 16) and whose spec is fine is marked invalid without a condition; the first
backendRef that resolved to it indexed `Conditions[0]` (corpus/C05/03-…). -/
theorem pre_btp_full_witness : btpLookupPre { ancestorsFull := true, specErrs := 0 } = .error .btpCondIndex := by decide +kernel

/-- exact characterisation of the old panic over the mirror of `validateBackendTLSPolicy` -/
theorem pre_btpLookup_error_iff (b : Btp) :
    btpLookupPre b = .error .btpCondIndex ↔ (b.ancestorsFull = true ∧ b.specErrs = 0) := by
  unfold btpLookupPre btpMessagePre validateBtp
  cases hf : b.ancestorsFull <;> cases he : b.specErrs <;> simp

theorem pre_btpLookup_partial (b : Btp) (h : b.ancestorsFull = false) : btpLookupPre b = .ok () := by
  unfold btpLookupPre btpMessagePre validateBtp
  cases he : b.specErrs <;> simp [h]

theorem newUpdater_supported (cfgs : List KindCfg) : (newUpdater cfgs).supported = cfgs.map (·.kind) := by
  induction cfgs with
  | nil => rfl
  | cons c cs ih => simp [newUpdater, ih]

/-- by construction of `newChangeTrackingUpdater`, every persisted kind has a store -/
theorem newUpdater_persisted_has_store (cfgs : List KindCfg) :
    (newUpdater cfgs).persisted = (newUpdater cfgs).stores := by
  induction cfgs with
  | nil => rfl
  | cons c cs ih => cases hc : c.hasStore <;> simp [newUpdater, hc, ih]

/-- an event of ANY configured kind passes `assertSupportedGVK` and `mustFindStoreForObj` -/
theorem capture_total (cfgs : List KindCfg) (k : String) (hk : k ∈ cfgs.map (·.kind)) :
    (newUpdater cfgs).capture k = .ok () := by
  unfold Updater.capture
  have hs : k ∈ (newUpdater cfgs).supported := by rw [newUpdater_supported]; exact hk
  rw [← newUpdater_persisted_has_store]
  by_cases hp : k ∈ (newUpdater cfgs).persisted <;> simp [hs, hp]

theorem captureAll_total (cfgs : List KindCfg) :
    ∀ (ks : List String), (∀ k ∈ ks, k ∈ cfgs.map (·.kind)) → (newUpdater cfgs).captureAll ks = .ok ()
  | [], _ => rfl
  | k :: ks, h => by
    simp only [Updater.captureAll, capture_total cfgs k (h k (List.mem_cons_self ..))]
    exact captureAll_total cfgs ks (fun x hx => h x (List.mem_cons_of_mem _ hx))

/-- every kind the manager registers a controller for (except NginxGateway, which the handler's object
filter keeps away from the processor) is configured in the store: its events cannot hit
"unsupported GVK". Breaks when a watch is added without a store entry. -/
theorem watched_kinds_configured :
    ∀ k ∈ Generated.PanicSites.watchedKinds, k ≠ "NginxGateway" → k ∈ Generated.PanicSites.storeKinds := by decide +kernel

/-- `validateFilter`'s switch has a case for every type `validateFilterType` lets through -/
theorem supportedHTTPFilters_sub_filterCases : ∀ t ∈ supportedHTTPFilters, t ∈ filterCases := by decide +kernel

theorem validateFilterType_mem {grpc : Bool} {t : String} (h : validateFilterType grpc t = true) :
    t ∈ supportedHTTPFilters := by
  unfold validateFilterType at h
  split at h
  · cases h
  · exact List.contains_iff_mem.mp h

theorem validateFilter_total (grpc : Bool) (t : String) : ∃ b, validateFilter grpc t = .ok b := by
  unfold validateFilter
  refine ok_ite (fun _ => ⟨_, rfl⟩) fun hv => ok_ite (fun _ => ⟨_, rfl⟩) fun hc => absurd ?_ hc
  have hv : validateFilterType grpc t = true := by simpa using hv
  exact List.contains_iff_mem.mpr (supportedHTTPFilters_sub_filterCases t (validateFilterType_mem hv))

theorem validateFilters_total : ∀ (fs : List (Bool × String)), validateFilters fs = .ok ()
  | [] => rfl
  | (g, t) :: fs => by
    obtain ⟨b, hb⟩ := validateFilter_total g t
    simp only [validateFilters, hb]; exact validateFilters_total fs

/-- the model's lists are the source's lists -/
theorem filter_lists_match_source :
    Generated.PanicSites.supportedHTTPFilterTypes = supportedHTTPFilters ∧ Generated.PanicSites.supportedGRPCFilterTypes = supportedGRPCFilters
      ∧ Generated.PanicSites.validateFilterCases = filterCases := ⟨rfl, rfl, rfl⟩

/-- RouteType is closed: the graph only ever assigns the two constants, and each switch over it has a
case for both (so `convertRouteType`, `getRefGrantFromResourceForRoute`, `PrepareRouteRequests` cannot
reach their default arm); `routeKeyForKind` is only called under a case that fixes the kind. -/
theorem routeType_closed :
    Generated.PanicSites.routeTypeConsts = ["RouteTypeHTTP=http", "RouteTypeGRPC=grpc"]
      ∧ (∀ v ∈ Generated.PanicSites.routeTypeAssigned, v = "RouteTypeHTTP" ∨ v = "RouteTypeGRPC")
      ∧ (∀ c ∈ ["RouteTypeHTTP", "RouteTypeGRPC"],
          c ∈ Generated.PanicSites.convertRouteTypeCases ∧ c ∈ Generated.PanicSites.refGrantFromCases ∧ c ∈ Generated.PanicSites.prepareRouteRequestsCases)
      ∧ Generated.PanicSites.routeKeyForKindCases = ["kinds.HTTPRoute", "kinds.GRPCRoute"]
      ∧ Generated.PanicSites.routeKeyForKindCallGuards =
          ["Graph.attachPolicies: case kinds.HTTPRoute, kinds.GRPCRoute",
           "Graph.gatewayAPIResourceExist: case kinds.HTTPRoute, kinds.GRPCRoute",
           "processPolicies: case hrGroupKind, grpcGroupKind"] :=
  ⟨rfl, by decide +kernel, by decide +kernel, rfl, rfl⟩

theorem switchRouteTypes_total : ∀ (ts : List String), (∀ t ∈ ts, t = "http" ∨ t = "grpc") → switchRouteTypes ts = .ok ()
  | [], _ => rfl
  | t :: ts, h => by
    have : switchRouteType t = .ok () := by
      rcases h t (List.mem_cons_self ..) with rfl | rfl <;> decide +kernel
    simp only [switchRouteTypes, this]
    exact switchRouteTypes_total ts (fun x hx => h x (List.mem_cons_of_mem _ hx))

theorem pathType_cases_match_source : Generated.PanicSites.convertPathTypeCases = ["PathMatchPathPrefix", "PathMatchExact"] := rfl

/-- how a site is discharged -/
inductive Disp
  | mirrored (s : Site) (thm : String)     -- mirrored in the model; unreachable for admissible inputs by the named theorem
  | finding (s : Site) (sig : String)      -- mirrored; REACHABLE by admissible histories: witness + partial theorem + known finding
                                           -- (no row of the table: the two sites that were discharged this way are repaired in /repo, d734bd5 / 02715d5)
  | closedEnum (thm : String)              -- default arm of a switch over a closed enumeration, by the named fact theorem
  | typeInv (why : String)                 -- Go type assertion / nil check on values whose type is fixed by registration;
                                           -- argued from the call sites and exercised by the exploration, not modelled
  | offPath (why : String)                 -- start-up, test helper or another subsystem: not on the event path of C05
  deriving Repr

def handledSites : List ((String × String × String) × Disp) :=
  [(("internal/framework/controller/index/endpointslice.go", "ServiceNameIndexFunc", "if !ok"),
      .typeInv "the index is registered for EndpointSlice only (manager.go); exercised through the fake client index"),
   (("internal/framework/controller/reconciler.go", "Reconciler.mustCreateNewObject", "if !ok"),
      .typeInv "reflect.New of the registered object type, which is a client.Object"),
   (("internal/framework/controller/register.go", "Register", "if objectType.GetObjectKind().GroupVersionKind().Empty()"),
      .offPath "start-up: registering a metadata-only controller without GVK"),
   (("internal/framework/helpers/helpers.go", "MustCastObject", "unconditional"),
      .typeInv "upsertRoute casts route.Source by route.RouteType; both are set together by buildHTTPRoute/buildGRPCRoute (routeType_closed)"),
   (("internal/framework/helpers/helpers.go", "MustExecuteTemplate", "if err != nil"),
      .typeInv "template execution over the generator's own structs; every template runs in every explored case"),
   (("internal/framework/helpers/helpers.go", "PrepareTimeForFakeClient", "if err != nil"),
      .offPath "test helper"),
   (("internal/framework/kinds/kinds.go", "NewMustExtractGKV", "if err != nil"),
      .typeInv "objects of the manager's scheme; watched kinds are registered in the scheme (watched_kinds_configured)"),
   (("internal/framework/status/leader_aware_group_updater.go", "LeaderAwareGroupUpdater.Enable", "if u.enabled"),
      .offPath "leader election callback, once per process (property C09)"),
   (("internal/framework/status/updater.go", "Updater.writeStatuses", "if !ok"),
      .typeInv "UpdateRequest.ResourceType values are the typed objects of prepare_requests.go"),
   (("internal/mode/static/handler.go", "eventHandlerImpl.nginxGatewayCRDUpsert", "if !ok"),
      .typeInv "objectFilters key is built from the NginxGateway type"),
   (("internal/mode/static/handler.go", "eventHandlerImpl.nginxGatewayServiceUpsert", "if !ok"),
      .typeInv "objectFilters key is built from the Service type"),
   (("internal/mode/static/handler.go", "eventHandlerImpl.parseAndCaptureEvent", "switch e := event.(type) default"),
      .typeInv "the reconciler emits only *UpsertEvent and *DeleteEvent"),
   (("internal/mode/static/nginx/config/main_config.go", "GeneratorImpl.generateMgmtFiles", "if !ok"),
      .mirrored .mgmtToken "generateMgmtFiles_total"),
   (("internal/mode/static/nginx/config/policies/validator.go", "CompositeValidator.Conflicts", "if !ok"),
      .typeInv "validators are registered for the three policy kinds that share the policy store"),
   (("internal/mode/static/nginx/config/policies/validator.go", "CompositeValidator.Validate", "if !ok"),
      .typeInv "validators are registered for the three policy kinds that share the policy store"),
   (("internal/mode/static/nginx/config/servers.go", "GeneratorImpl.executeServers", "if err != nil"),
      .typeInv "json.Marshal of plain structs"),
   (("internal/mode/static/state/changed_predicate.go", "annotationChangedPredicate.upsert", "if newObject == nil"),
      .typeInv "changeTrackingUpdater.upsert passes the event's object"),
   (("internal/mode/static/state/changed_predicate.go", "funcPredicate.upsert", "if newObject == nil"),
      .typeInv "changeTrackingUpdater.upsert passes the event's object"),
   (("internal/mode/static/state/dataplane/configuration.go", "hostPathRules.buildServers", "if !ok"),
      .mirrored .noListenerForHost "buildServers_total"),
   (("internal/mode/static/state/dataplane/convert.go", "convertPathType", "switch pathType default"),
      .mirrored .pathType "upsertRule_total"),
   (("internal/mode/static/state/graph/backend_refs.go", "getRefGrantFromResourceForRoute", "switch routeType default"),
      .closedEnum "routeType_closed"),
   (("internal/mode/static/state/graph/common_filter.go", "validateFilter", "switch filter.FilterType default"),
      .mirrored .filterType "validateFilter_total"),
   (("internal/mode/static/state/graph/graph.go", "Graph.IsNGFPolicyRelevant", "if policy == nil"),
      .typeInv "called with the event's object or the bare typed object of a delete event, never nil"),
   (("internal/mode/static/state/graph/route_common.go", "CreateRouteKey", "switch obj.(type) default"),
      .typeInv "called on values of the HTTPRoute / GRPCRoute maps and on L7Route.Source"),
   (("internal/mode/static/state/graph/route_common.go", "convertRouteType", "switch routeType default"),
      .closedEnum "routeType_closed"),
   (("internal/mode/static/state/graph/route_common.go", "routeKeyForKind", "switch kind default"),
      .closedEnum "routeType_closed"),
   (("internal/mode/static/state/resolver/resolver.go", "ServiceResolverImpl.Resolve",
      "if svcPort.Port == 0 || svcNsName.Name == \"\" || svcNsName.Namespace == \"\""),
      .mirrored .resolvePre "resolveAll_total"),
   (("internal/mode/static/state/store.go", "changeTrackingUpdater.assertSupportedGVK", "if !s.supportedGVKs.contains(gvk)"),
      .mirrored .storeGVK "capture_total"),
   (("internal/mode/static/state/store.go", "multiObjectStore.mustFindStoreForObj", "if !exist"),
      .mirrored .storeFind "capture_total"),
   (("internal/mode/static/state/store.go", "ngfPolicyObjectStore.upsert", "if !ok"),
      .typeInv "the policy store is configured for the three policy kinds only"),
   (("internal/mode/static/state/store.go", "objectStoreMapAdapter.upsert", "if !ok"),
      .typeInv "each map adapter is configured under the GVK of its own element type (since ecaa5d2 also EndpointSlice); CRDs arrive as PartialObjectMetadata (explored)"),
   (("internal/mode/static/status/prepare_requests.go", "PrepareRouteRequests", "switch r.RouteType default"),
      .closedEnum "routeType_closed")]

/-- The regenerated inventory is the key column of `handledSites`, in the table's order; only the test helper
`PrepareTimeForFakeClient` (row 6) panics twice under the same guard and is therefore listed twice.  Stated as an
equation the comparison is one of literals; both inclusions below are read off it. -/
theorem panicSites_eq :
    Generated.PanicSites.panicSites = (handledSites.map (·.1)).take 6 ++ (handledSites.map (·.1)).drop 5 := rfl

/-- EVERY explicit `panic(` of the control-plane packages is accounted for. A new panic site, a moved
one, or one whose guard text changes makes this fail. -/
theorem every_site_has_lemma : ∀ s ∈ Generated.PanicSites.panicSites, s ∈ handledSites.map (·.1) :=
  fun _ hs => (List.mem_append.mp (panicSites_eq ▸ hs)).elim List.mem_of_mem_take List.mem_of_mem_drop

/-- …and the inventory has no stale entries. -/
theorem no_stale_sites : ∀ s ∈ handledSites.map (·.1), s ∈ Generated.PanicSites.panicSites := by
  intro s hs
  rw [← List.take_append_drop 5 (handledSites.map (·.1)), List.mem_append] at hs
  rw [panicSites_eq, List.mem_append]
  exact hs.imp (List.take_subset_take_left _ (by decide) ·) id

/-- no `x[i] = …` into a slice created with `make([]T, 0, n)` anywhere in the scanned packages
(the defect repaired by commit d04c841: `C05:panic:backendref-filters-index`). -/
theorem no_zero_length_index_writes : Generated.PanicSites.zeroLenIndexWrites = [] := rfl

/-! the mirrored functions still read as mirrored -/

theorem nsAllowedBody_pinned : Generated.PanicSites.nsAllowedBody =
  ["if listener.Source.AllowedRoutes != nil && listener.Source.AllowedRoutes.Namespaces != nil { switch *listener.Source.AllowedRoutes.Namespaces.From { case v1.NamespacesFromAll: return true case v1.NamespacesFromSame: return routeNS == gwNS case v1.NamespacesFromSelector: if listener.AllowedRouteLabelSelector == nil { return false } ns, exists := namespaces[types.NamespacedName{Name: routeNS}] if !exists { return false } return listener.AllowedRouteLabelSelector.Matches(labels.Set(ns.Labels)) } }",
   "return true"] := rfl

theorem validateParentRefBody_pinned : Generated.PanicSites.validateParentRefBody =
  ["attachment := &ParentRefAttachmentStatus{ AcceptedHostnames: make(map[string][]string), }",
   "ref.Attachment = attachment",
   "path := field.NewPath(\"spec\").Child(\"parentRefs\").Index(ref.Idx)",
   "attachableListeners, listenerExists := findAttachableListeners( getSectionName(ref.SectionName), gw.Listeners, )",
   "if !listenerExists { attachment.FailedCondition = staticConds.NewRouteNoMatchingParent() return attachment, nil }",
   "if ref.Port != nil { valErr := field.Forbidden(path.Child(\"port\"), \"cannot be set\") attachment.FailedCondition = staticConds.NewRouteUnsupportedValue(valErr.Error()) return attachment, attachableListeners }",
   "referencesWinningGw := ref.Gateway.Namespace == gw.Source.Namespace && ref.Gateway.Name == gw.Source.Name",
   "if !referencesWinningGw { attachment.FailedCondition = staticConds.NewRouteNotAcceptedGatewayIgnored() return attachment, attachableListeners }",
   "if !gw.Valid { attachment.FailedCondition = staticConds.NewRouteInvalidGateway() return attachment, attachableListeners }",
   "return attachment, attachableListeners"] := rfl

theorem findAttachableBody_pinned : Generated.PanicSites.findAttachableBody =
  ["if sectionName != \"\" { for _, l := range listeners { if l.Name == sectionName { if l.Attachable { return []*Listener{l}, true } return nil, true } } return nil, false }",
   "attachableListeners := make([]*Listener, 0, len(listeners))",
   "for _, l := range listeners { if !l.Attachable { continue } attachableListeners = append(attachableListeners, l) }",
   "return attachableListeners, true"] := rfl

theorem bindL7Body_pinned : Generated.PanicSites.bindL7Body =
  ["if !route.Attachable { return }",
   "for i := range route.ParentRefs { ref := &(route.ParentRefs)[i] attachment, attachableListeners := validateParentRef(ref, gw) if attachment.FailedCondition != (conditions.Condition{}) { continue } cond, attached := tryToAttachL7RouteToListeners( ref.Attachment, attachableListeners, route, gw, namespaces, ) if !attached { attachment.FailedCondition = cond continue } if cond != (conditions.Condition{}) { route.Conditions = append(route.Conditions, cond) } attachment.Attached = true }"] := rfl

theorem bindL4Body_pinned : Generated.PanicSites.bindL4Body =
  ["if !route.Attachable { return }",
   "for i := range route.ParentRefs { ref := &(route.ParentRefs)[i] attachment, attachableListeners := validateParentRef(ref, gw) if attachment.FailedCondition != (conditions.Condition{}) { continue } cond, attached := tryToAttachL4RouteToListeners( ref.Attachment, attachableListeners, route, gw, namespaces, portHostnamesMap, ) if !attached { attachment.FailedCondition = cond continue } if cond != (conditions.Condition{}) { route.Conditions = append(route.Conditions, cond) } attachment.Attached = true }"] := rfl

theorem validatePathMatchBody_pinned : Generated.PanicSites.validatePathMatchBody =
  ["var allErrs field.ErrorList",
   "if path == nil { return allErrs }",
   "if path.Type == nil { return field.ErrorList{field.Required(fieldPath.Child(\"type\"), \"path type cannot be nil\")} }",
   "if path.Value == nil { return field.ErrorList{field.Required(fieldPath.Child(\"value\"), \"path value cannot be nil\")} }",
   "if strings.HasPrefix(*path.Value, http.InternalRoutePathPrefix) { msg := fmt.Sprintf( \"path cannot start with %s. This prefix is reserved for internal use\", http.InternalRoutePathPrefix, ) return field.ErrorList{field.Invalid(fieldPath.Child(\"value\"), *path.Value, msg)} }",
   "if *path.Type != v1.PathMatchPathPrefix && *path.Type != v1.PathMatchExact { valErr := field.NotSupported( fieldPath.Child(\"type\"), *path.Type, []string{string(v1.PathMatchExact), string(v1.PathMatchPathPrefix)}, ) allErrs = append(allErrs, valErr) }",
   "if err := validator.ValidatePathInMatch(*path.Value); err != nil { valErr := field.Invalid(fieldPath.Child(\"value\"), *path.Value, err.Error()) allErrs = append(allErrs, valErr) }",
   "return allErrs"] := rfl

theorem setPlusSecretContentBody_pinned : Generated.PanicSites.setPlusSecretContentBody =
  ["for name, plusSecretFiles := range plusSecrets { if secret, ok := clusterSecrets[name]; ok { for idx, file := range plusSecretFiles { content, ok := secret.Data[file.FieldName] if !ok { continue } file.Content = content plusSecrets[name][idx] = file } } }"] := rfl

theorem buildAuxiliarySecretsBody_pinned : Generated.PanicSites.buildAuxiliarySecretsBody =
  ["auxSecrets := make(map[graph.SecretFileType][]byte)",
   "for _, secretFiles := range secrets { for _, file := range secretFiles { auxSecrets[file.Type] = file.Content } }",
   "return auxSecrets"] := rfl

theorem storeUpsertOuterBody_pinned : Generated.PanicSites.storeUpsertOuterBody =
  ["s.assertSupportedGVK(s.extractGVK(obj))",
   "changingUpsert := s.upsert(obj)",
   "s.setChangeType(obj, changingUpsert)"] := rfl

theorem storeDeleteOuterBody_pinned : Generated.PanicSites.storeDeleteOuterBody =
  ["s.assertSupportedGVK(s.extractGVK(objType))",
   "changingDelete := s.delete(objType, nsname)",
   "s.setChangeType(objType, changingDelete)"] := rfl

theorem storeUpsertBody_pinned : Generated.PanicSites.storeUpsertBody =
  ["objTypeGVK := s.extractGVK(obj)",
   "var oldObj client.Object",
   "if s.store.persists(objTypeGVK) { oldObj = s.store.get(obj, client.ObjectKeyFromObject(obj)) s.store.upsert(obj) }",
   "stateChanged, ok := s.stateChangedPredicates[objTypeGVK]",
   "if !ok { return true }",
   "return stateChanged.upsert(oldObj, obj)"] := rfl

theorem storeDeleteBody_pinned : Generated.PanicSites.storeDeleteBody =
  ["objTypeGVK := s.extractGVK(objType)",
   "subject := client.Object(objType)",
   "if s.store.persists(objTypeGVK) { old := s.store.get(objType, nsname) if old == nil { return false } subject = old s.store.delete(objType, nsname) }",
   "stateChanged, ok := s.stateChangedPredicates[objTypeGVK]",
   "if !ok { return true }",
   "return stateChanged.delete(subject, nsname)"] := rfl

theorem upsertRouteHostLoop_pinned : Generated.PanicSites.upsertRouteHostLoop =
  ["if prevListener, exists := hpr.listenersForHost[h]; exists { if listenerHostnameMoreSpecific(listener.Source.Hostname, prevListener.Source.Hostname) { hpr.listenersForHost[h] = listener } } else { hpr.listenersForHost[h] = listener }",
   "if _, exist := hpr.rulesPerHost[h]; !exist { hpr.rulesPerHost[h] = make(map[pathAndType]PathRule) }"] := rfl

theorem upsertRouteRuleGuard_pinned : Generated.PanicSites.upsertRouteRuleGuard =
  ["if !rule.ValidMatches { continue }"] := rfl

theorem validateFilterTypeBody_pinned : Generated.PanicSites.validateFilterTypeBody =
  ["if filter.RouteType == RouteTypeGRPC && !slices.Contains(supportedGRPCFilterTypes, filter.FilterType) { return field.NotSupported(filterPath.Child(\"type\"), filter.FilterType, supportedGRPCFilterTypes) }",
   "if !slices.Contains(supportedHTTPFilterTypes, filter.FilterType) { return field.NotSupported(filterPath.Child(\"type\"), filter.FilterType, supportedHTTPFilterTypes) }",
   "return nil"] := rfl


theorem findBackendTLSPolicyForServiceBody_pinned : Generated.PanicSites.findBackendTLSPolicyForServiceBody =
  ["var beTLSPolicy *BackendTLSPolicy",
   "var err error",
   "refNs := routeNamespace",
   "if refNamespace != nil { refNs = string(*refNamespace) }",
   "for _, btp := range backendTLSPolicies { btpNs := btp.Source.Namespace for _, targetRef := range btp.Source.Spec.TargetRefs { if string(targetRef.Name) == refName && btpNs == refNs { if beTLSPolicy != nil { if sort.LessClientObject(btp.Source, beTLSPolicy.Source) { beTLSPolicy = btp } } else { beTLSPolicy = btp } } } }",
   "if beTLSPolicy != nil { beTLSPolicy.IsReferenced = true if !beTLSPolicy.Valid { msg := \"its ancestor status list is full\" if len(beTLSPolicy.Conditions) > 0 { msg = beTLSPolicy.Conditions[0].Message } err = fmt.Errorf(\"the backend TLS policy is invalid: %s\", msg) } else { beTLSPolicy.Conditions = append(beTLSPolicy.Conditions, staticConds.NewPolicyAccepted()) } }",
   "return beTLSPolicy, err"] := rfl

theorem funcPredicateUpsertBody_pinned : Generated.PanicSites.funcPredicateUpsertBody =
  ["if newObject == nil { panic(\"new object cannot be nil\") }",
   "nsname := client.ObjectKeyFromObject(newObject)",
   "return f.stateChanged(newObject, nsname) || (oldObject != nil && f.stateChanged(oldObject, nsname))"] := rfl

theorem funcPredicateDeleteBody_pinned : Generated.PanicSites.funcPredicateDeleteBody =
  ["return f.stateChanged(object, nsname)"] := rfl

theorem getServicePortBody_pinned : Generated.PanicSites.getServicePortBody =
  ["for _, p := range svc.Spec.Ports { if p.Port == port { return p, nil } }",
   "return v1.ServicePort{}, fmt.Errorf(\"no matching port for Service %s and port %d\", svc.Name, port)"] := rfl

theorem getIPFamilyAndPortFromRefBody_pinned : Generated.PanicSites.getIPFamilyAndPortFromRefBody =
  ["svc, ok := services[svcNsName]",
   "if !ok { return []v1.IPFamily{}, v1.ServicePort{}, field.NotFound(refPath.Child(\"name\"), ref.Name) }",
   "svcPort, err := getServicePort(svc, int32(*ref.Port))",
   "if err != nil { return []v1.IPFamily{}, v1.ServicePort{}, err }",
   "return svc.Spec.IPFamilies, svcPort, nil"] := rfl

/-- FULL STRENGTH FAILS ("inconsistent features are reported through status conditions"): two parentRefs to
one Gateway that differ only in `port` are admitted by the CRD, yet `buildSectionNameRefs` reports a
duplicate and the route becomes invalid with no condition and no parent status (reproduced on the real
pipeline: known finding `C05:unreported:parentrefs-same-section-different-port`). -/
theorem dup_port_witness :
    celParentRefsOK [⟨"default/gw0", "", some 80⟩, ⟨"default/gw0", "", some 443⟩] = true
      ∧ buildSectionNameRefs [] [⟨"default/gw0", "", some 80⟩, ⟨"default/gw0", "", some 443⟩] = .error ()
      ∧ classifySilent [⟨"default/gw0", "", some 80⟩, ⟨"default/gw0", "", some 443⟩]
          = "parentrefs-same-section-different-port" := by decide +kernel

/-- partial: when the (gateway, sectionName) pairs are pairwise distinct the function succeeds -/
theorem buildSectionNameRefs_partial :
    ∀ (refs : List SpecRef) (seen : List (String × String)),
      (refs.map fun r => (r.gw, r.section_)).Nodup → (∀ r ∈ refs, (r.gw, r.section_) ∉ seen) →
      ∃ l, buildSectionNameRefs seen refs = .ok l
  | [], _, _, _ => ⟨[], rfl⟩
  | r :: rs, seen, hnd, hs => by
    have hr : (r.gw, r.section_) ∉ seen := hs r (List.mem_cons_self ..)
    simp only [List.map_cons, List.nodup_cons] at hnd
    obtain ⟨l, hl⟩ := buildSectionNameRefs_partial rs ((r.gw, r.section_) :: seen) hnd.2 (by
      intro q hq hmem
      simp only [List.mem_cons] at hmem
      rcases hmem with h | h
      · exact hnd.1 (List.mem_map.mpr ⟨q, hq, h⟩)
      · exact hs q (List.mem_cons_of_mem _ hq) h)
    exact ⟨r :: l, by simp [buildSectionNameRefs, hr, hl]⟩

example : (([⟨"default/gw0", "http", none⟩, ⟨"default/gw0", "https", none⟩] : List SpecRef).map
    fun r => (r.gw, r.section_)).Nodup := by decide +kernel

/-- what holds of the views of admissible inputs at an `apply` -/
structure StepInv (cfgs : List KindCfg) (v : StepView) : Prop where
  events   : ∀ k ∈ v.events, k ∈ cfgs.map (·.kind)
  fromSet  : ∀ gw, v.bind.gw = some gw → FromSet gw.listeners
  routeTs  : ∀ t ∈ v.routeTypes, t = "http" ∨ t = "grpc"
  jwt      : v.plus = true → ∃ f ∈ v.plusFiles, f.type = jwtTokenType
  paths    : ∀ t ∈ v.pathTypes, t = "PathPrefix" ∨ t = "Exact"
  backends : ∀ b ∈ v.backends, b.port ≠ 0 ∧ b.name ≠ "" ∧ b.ns ≠ ""

theorem convertAll_total : ∀ (ts : List String), (∀ t ∈ ts, t = "PathPrefix" ∨ t = "Exact") → convertAll ts = .ok ()
  | [], _ => rfl
  | t :: ts, h => by
    have : ∃ p, pathTypeOf t = .ok p := by
      rcases h t (List.mem_cons_self ..) with rfl | rfl
      · exact ⟨.prefix_, by decide +kernel⟩
      · exact ⟨.exact, by decide +kernel⟩
    obtain ⟨p, hp⟩ := this
    simp only [convertAll, hp]
    exact convertAll_total ts (fun x hx => h x (List.mem_cons_of_mem _ hx))

theorem resolveAll_of_nonempty (bs : List BackendRef) (h : ∀ b ∈ bs, b.port ≠ 0 ∧ b.name ≠ "" ∧ b.ns ≠ "") :
    resolveAll bs = .ok () :=
  resolveAll_of_valid bs fun b hb _ => by
    obtain ⟨h1, h2, h3⟩ := h b hb
    simp [resolvePre, h1, h2, h3]

/-- no mirrored site fires in a step whose views satisfy the invariants: for every step view, every
updater configuration and every selector-match oracle. -/
theorem step_no_panic (cfgs : List KindCfg) (m : String → String → Bool) (v : StepView) (h : StepInv cfgs v) :
    stepSites (newUpdater cfgs) m v = [] := by
  unfold stepSites
  simp only [captureAll_total cfgs v.events h.events, validateFilters_total,
    bind_total m v.bind h.fromSet, switchRouteTypes_total v.routeTypes h.routeTs,
    setPlusSecretContent_total v.plusFiles, convertAll_total v.pathTypes h.paths,
    buildAllServers_total, resolveAll_of_nonempty v.backends h.backends, generateMgmtFiles_total v.plus v.plusFiles h.jwt]
  by_cases hc : v.changed = true <;> simp [hc]

end NGF.PanicSites
