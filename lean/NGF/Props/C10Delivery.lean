/-
C10 (delivery) — the producer side of the event loop and the start-up batch.

`Sys` (`NGF.Model.Delivery`) runs any number of reconcilers (`Reconciler.Reconcile`, one worker per
controller) against the loop model of `NGF.Model.Loop`; every theorem quantifies over ALL schedules
(lists of `SAct`, disabled actions skipped), i.e. all interleavings of workers starting requests,
rendezvous on the channel, handler completion, acknowledgement and cancellation of the manager's
context.  `deadline = false` is the code as it is; `deadline = true` is the refuted variant in which
the final select of `Reconcile` may time out on its own.

The second half is `FirstEventBatchPreparerImpl.Prepare` as a function, its completeness
(`first_batch_complete`), and the refuted variant that stops at the first missing object.
-/
import NGF.Props.C10
import NGF.Model.Delivery
import NGF.Proofs.Delivery
import NGF.Proofs.DeliveryDrain
import NGF.Generated.DeliveryFacts

namespace NGF.Delivery
open NGF.Loop

/-! ### Reconcilers never drop -/

/-- **reconciler_never_drops.** For every schedule, as long as the manager's context is live: no
reconcile request has been given up (`dropped = []`), and for every reconciler what the loop received
from it, followed by the event it is parked with, followed by the events of the requests it has not
started yet, is exactly — each once, in queue order — the events its requests demand. -/
theorem reconciler_never_drops (first : List Ev) (qs : List (List Req)) (as : List SAct) :
    let s := run false (Sys.init first qs) as
    s.ctxDone = false →
    ∀ (i : Nat) (r : Rec) (q : List Req), s.recs[i]? = some r → qs[i]? = some q →
      r.dropped = [] ∧
      s.seenFrom i ++ r.offering.toList ++ r.pending = q.filterMap Req.ev := by
  intro s hc i r q hr hq
  have hi := sinv_reach false first qs as
  have hd := hi.nodrop rfl hc i r hr
  refine ⟨hd, ?_⟩
  have := hi.cons i r hr q hq
  unfold Cons at this
  rw [hi.order i r hr, Rec.delivered_of_no_drop hd]
  exact this

/-- A parked reconciler can always hand its event over while the context is live: the loop is at its
`select` (every arm body is non-blocking), so the rendezvous is enabled. -/
theorem offer_enabled_while_live (first : List Ev) (qs : List (List Req)) (as : List SAct) (i : Nat) :
    let s := run false (Sys.init first qs) as
    s.ctxDone = false → (s.offering i).isSome = true → enabled false s (.deliver i) = true := by
  intro s hc ho
  have hp : s.loop.phase = .select := (sinv_reach false first qs as).live hc
  simp [enabled, ho, hp]

/-- … and the ONLY way out of the select while the context is live is that rendezvous: a parked
reconciler stays parked with the same event under every other action (it blocks, it never gives up). -/
theorem parked_until_taken (s : Sys) (i : Nat) (e : Ev) (a : SAct) (ho : s.offering i = some e)
    (hc : s.ctxDone = false) (ha : a ≠ .deliver i) (he : enabled false s a = true) :
    (step s a).offering i = some e := by
  -- every other action leaves reconciler `i`'s record alone
  have keep : ∀ {s' : Sys}, s'.recs[i]? = s.recs[i]? → s'.offering i = some e := fun h => by
    rw [Sys.offering, h]; exact ho
  cases a with
  | «begin» j =>
    by_cases hji : i = j
    · subst hji
      obtain ⟨r, hr, hro⟩ := offering_eq_some.1 ho
      simp [enabled, hr, hro] at he
    · exact keep (getElem?_updAt_ne _ _ hji)
  | deliver j =>
    have hji : i ≠ j := fun h => ha (by rw [h])
    cases hoj : s.offering j with
    | none => exact keep (by simp only [step, hoj])
    | some e' => exact keep (by simp only [step, hoj]; exact getElem?_updAt_ne _ _ hji)
  | giveup j => simp [enabled, hc] at he
  | cancelCtx => exact keep rfl
  | loop a => exact keep rfl

/-- Taking the event: it is appended to what the loop has received and to the reconciler's deliveries. -/
theorem deliver_takes (s : Sys) (i : Nat) (e : Ev) (ho : s.offering i = some e) :
    (step s (.deliver i)).loop.seen = s.loop.seen ++ [e] ∧
    (step s (.deliver i)).seenBy = s.seenBy ++ [(i, e)] ∧
    (step s (.deliver i)).offering i = none := by
  obtain ⟨r, hr, hro⟩ := offering_eq_some.1 ho
  simp [step, seen_recv, Sys.offering, getElem?_updAt_eq, hr, Rec.finish, hro]

/-- Once every worker is done (nothing queued, nobody parked) with the context still live, the loop has
received from every reconciler exactly the events its requests demand, each once, in queue order. -/
theorem quiet_all_delivered (first : List Ev) (qs : List (List Req)) (as : List SAct) :
    let s := run false (Sys.init first qs) as
    s.ctxDone = false → s.quiet = true →
    ∀ (i : Nat) (q : List Req), qs[i]? = some q → s.seenFrom i = q.filterMap Req.ev := by
  intro s hc hq i q hqi
  have hi := sinv_reach false first qs as
  have hlt : i < s.recs.length := by
    rw [hi.len]
    exact (List.getElem?_eq_some_iff.mp hqi).1
  have hr : s.recs[i]? = some s.recs[i] := List.getElem?_eq_getElem hlt
  have hqt : s.recs[i].quiet = true := List.all_eq_true.mp hq s.recs[i] (List.getElem_mem hlt)
  have h := (reconciler_never_drops first qs as hc i _ q hr hqi).2
  simp only [Rec.quiet, Bool.and_eq_true, List.isEmpty_iff, Option.isNone_iff_eq_none] at hqt
  simpa [Rec.pending, hqt.1, hqt.2] using h

/-- **request_handled_exactly_once** (composition with `exactly_once_in_order`). For every schedule:
the handled batches followed by the pending buffer are the start-up batch followed by everything the
reconcilers delivered; and once every worker is done and the handler idle, with the context still live,
the handled batches are exactly the start-up batch followed by an interleaving `seenBy` whose projection
on each reconciler is the full list of events its requests demand — each exactly once, in order. -/
theorem request_handled_exactly_once (first : List Ev) (qs : List (List Req)) (as : List SAct) :
    let s := run false (Sys.init first qs) as
    s.loop.log.flatten ++ s.loop.next = first ++ s.seenBy.map (·.2) ∧
    (s.ctxDone = false → s.quiet = true → s.loop.handling = false →
      s.loop.log.flatten = first ++ s.seenBy.map (·.2) ∧
      ∀ (i : Nat) (q : List Req), qs[i]? = some q → s.seenFrom i = q.filterMap Req.ev) := by
  intro s
  have hi := sinv_reach false first qs as
  have hcons := hi.loopInv.conserve
  rw [← hi.seen] at hcons
  refine ⟨hcons, ?_⟩
  intro hc hq hh
  have hn := (hi.loopInv.idle_empty hh).1
  rw [hn, List.append_nil] at hcons
  exact ⟨hcons, quiet_all_delivered first qs as hc hq⟩

/-- **can_always_drain** (the reconciler "never gives up", as a possibility-of-progress statement). From
EVERY reachable state in which the manager's context is live — however long the loop has not been
receiving, whatever was scheduled before — there is a continuation consisting only of workers starting
requests and the loop receiving (`drainSchedule`) after which every worker is done, the context is
still live, and the loop has received from every reconciler exactly what its requests demand. (The
deadline variant has reachable states from which no continuation achieves this: `deadline_variant_drops`.) -/
theorem can_always_drain (first : List Ev) (qs : List (List Req)) (as : List SAct) :
    (run false (Sys.init first qs) as).ctxDone = false →
    ∃ more : List SAct,
      (run false (Sys.init first qs) (as ++ more)).ctxDone = false ∧
      (run false (Sys.init first qs) (as ++ more)).quiet = true ∧
      ∀ (i : Nat) (q : List Req), qs[i]? = some q →
        (run false (Sys.init first qs) (as ++ more)).seenFrom i = q.filterMap Req.ev := by
  intro hc
  have hi := sinv_reach false first qs as
  have hl : Live (run false (Sys.init first qs) as) := ⟨hc, hi.live hc⟩
  obtain ⟨hl', hq'⟩ := drain_quiet _ _ hl (fun j r h => mu_le_work _ j r h)
  refine ⟨drainSchedule (run false (Sys.init first qs) as).recs.length (run false (Sys.init first qs) as).work, ?_⟩
  have happ := run_append false as
    (drainSchedule (run false (Sys.init first qs) as).recs.length (run false (Sys.init first qs) as).work)
    (Sys.init first qs)
  have hc' := hl'.1
  rw [← happ] at hc' hq'
  exact ⟨hc', hq', quiet_all_delivered first qs _ hc' hq'⟩

/-- The harness replays observed executions with `runOps` (a delivery op also names the event that was
received): whatever it accepts is a run of the model, so every theorem above applies to its result. -/
theorem driver_run_is_model_run (ops : List DOp) (s : Sys) (n : Nat) :
    ∃ as, (runOps s n ops).1 = run false s as :=
  runOps_is_run ops s n

/-- The loop inside `Sys` is the loop of `NGF.Model.Loop`: all its clauses hold under every schedule of
the composed system (with either variant of the reconciler). -/
theorem loop_clauses_in_system (deadline : Bool) (first : List Ev) (qs : List (List Req)) (as : List SAct) :
    let s := run deadline (Sys.init first qs) as
    Inv first s.loop ∧ s.seenBy.map (·.2) = s.loop.seen :=
  ⟨(sinv_reach deadline first qs as).loopInv, (sinv_reach deadline first qs as).seen⟩

/-- While nobody cancels the manager's context it stays live (so the theorems above apply). -/
theorem ctx_live_without_cancel (deadline : Bool) (first : List Ev) (qs : List (List Req)) (as : List SAct)
    (h : SAct.cancelCtx ∉ as) : (run deadline (Sys.init first qs) as).ctxDone = false :=
  ctx_live_runCount as _ 0 h rfl

/-! Non-vacuity: two reconcilers (upserts, a delete, a filtered name, a failed Get), a schedule that
interleaves them with handler completion; everything demanded is handled, in per-reconciler order. -/

private def q0 : List Req := [⟨1, true, .found⟩, ⟨2, true, .notFound⟩, ⟨3, false, .found⟩]
private def q1 : List Req := [⟨7, true, .error⟩, ⟨8, true, .found⟩]

example :
    let s := run false (Sys.init [upsert 100] [q0, q1])
      [.begin 0, .begin 1, .begin 1, .deliver 1, .deliver 0, .loop .hreturn, .begin 0, .loop .ack,
       .deliver 0, .begin 0, .loop .hreturn, .loop .ack, .loop .hreturn, .loop .ack]
    s.ctxDone = false ∧ s.quiet = true ∧ s.loop.handling = false ∧
    s.loop.log = [[200], [16, 2], [5]] ∧ s.seenFrom 0 = [upsert 1, delete 2] ∧ s.seenFrom 1 = [upsert 8] ∧
    q0.filterMap Req.ev = [2, 5] ∧ q1.filterMap Req.ev = [16] := by decide +kernel

/-- Requeue on error (controller-runtime re-invokes `Reconcile` for a request whose Get failed — whatever the
error wraps, `context.DeadlineExceeded` included — until it returns nil) is a run of entries with the same id:
the failed attempts are recorded as `failed`, and the request still ends in exactly one event. -/
example :
    let q : List Req := [⟨4, true, .error⟩, ⟨4, true, .error⟩, ⟨4, true, .found⟩, ⟨5, true, .error⟩, ⟨5, true, .notFound⟩]
    let s := run false (Sys.init [] [q]) [.begin 0, .begin 0, .begin 0, .deliver 0, .begin 0, .begin 0, .deliver 0]
    q.filterMap Req.ev = [upsert 4, delete 5] ∧ s.seenFrom 0 = [upsert 4, delete 5] ∧
    s.recs.map (·.failed) = [[4, 4, 5]] ∧ s.quiet = true := by decide +kernel

/-- a parked reconciler, context live: `parked_until_taken`'s hypotheses are satisfiable -/
example :
    let s := run false (Sys.init [] [q0, q1]) [.begin 0, .begin 1, .begin 1]
    s.offering 0 = some 2 ∧ s.offering 1 = some 16 ∧ s.ctxDone = false ∧
    enabled false s (.deliver 0) = true ∧ enabled false s (.giveup 0) = false := by decide +kernel

/-- `can_always_drain` on a concrete mid-way state: two workers parked, work left; the drain schedule finishes it -/
example :
    let s := run false (Sys.init [] [q0, q1]) [.begin 0, .begin 1, .begin 1, .loop .hreturn]
    s.ctxDone = false ∧ s.quiet = false ∧ s.work = 5 ∧
    (run false s (drainSchedule s.recs.length s.work)).quiet = true ∧
    (run false s (drainSchedule s.recs.length s.work)).seenFrom 0 = [2, 5] := by decide +kernel

/-- after cancellation the `<-ctx.Done()` arm may be taken: the request is dropped, as the code intends -/
example :
    let s := run false (Sys.init [] [q0]) [.begin 0, .cancelCtx, .giveup 0]
    s.ctxDone = true ∧ (s.recs.map Rec.dropped) = [[2]] ∧ s.seenFrom 0 = [] := by decide +kernel

/-! ### Refuted variant: the select gives up after a deadline -/

/-- **deadline_variant_drops.** If the select of `Reconcile` may time out by itself (`deadline = true`,
what a derived `context.WithTimeout` shadowing `ctx` does), there is a schedule WITHOUT any cancellation
in which the loop is merely late: the request's event is dropped, the worker is done, and the event is
never handled — `reconciler_never_drops` fails for this variant. -/
theorem deadline_variant_drops :
    ∃ (qs : List (List Req)) (as : List SAct),
      SAct.cancelCtx ∉ as ∧
      let s := run true (Sys.init [] qs) as
      s.ctxDone = false ∧ s.quiet = true ∧ s.loop.handling = false ∧
      s.seenFrom 0 ≠ (qs[0]!).filterMap Req.ev ∧
      (s.recs.map Rec.dropped) = [[upsert 1]] :=
  ⟨[[⟨1, true, .found⟩, ⟨2, true, .found⟩]],
   [.begin 0, .giveup 0, .begin 0, .deliver 0, .loop .hreturn, .loop .ack, .loop .hreturn, .loop .ack],
   by decide +kernel, by decide +kernel⟩

/-- The same schedule in the model of the code as it is: `giveup` is not enabled (skipped), the
reconciler stays parked and both events are handled. -/
theorem same_schedule_as_is_delivers :
    let s := run false (Sys.init [] [[⟨1, true, .found⟩, ⟨2, true, .found⟩]])
      [.begin 0, .giveup 0, .begin 0, .deliver 0, .loop .hreturn, .loop .ack, .begin 0, .deliver 0]
    s.seenFrom 0 = [upsert 1, upsert 2] ∧ (s.recs.map Rec.dropped) = [[]] := by decide +kernel

/-! ### The loop never stops reading, and an idle loop handles an offered event at once -/

/-- Until the loop takes its `<-ctx.Done()` arm it is at its `select` with the `eventCh` arm enabled:
no buffer state, batch size or history disables receiving (there is no back-pressure in the loop). -/
theorem loop_always_receives (first : List Ev) (as : List Act) (h : Act.cancel ∉ as) (e : Ev) :
    Loop.enabled (Loop.run (Loop.init first) as) (.recv e) = true := by
  simp [Loop.enabled, phase_run_of_no_cancel as (Loop.init first) h rfl]

/-- **idle_event_handled_at_once** ("no event waits once the handler is idle", the step form of
`idle_implies_empty_next`). In every reachable state in which the handler is idle and the loop has not
stopped, an offered event is received and IMMEDIATELY handed to the handler as a batch of its own —
whatever the sizes of the batches handled before (also after a start-up batch or a burst of any size). -/
theorem idle_event_handled_at_once (first : List Ev) (as : List Act) (e : Ev) :
    let s := Loop.run (Loop.init first) as
    s.phase = .select → s.handling = false →
    Loop.enabled s (.recv e) = true ∧ (Loop.step s (.recv e)).log = s.log ++ [[e]] ∧
    (Loop.step s (.recv e)).h = .running ∧ (Loop.step s (.recv e)).next = [] := by
  intro s hp hh
  have hn : s.next = [] := (idle_implies_empty_next first as hh).1
  clear_value s
  refine ⟨by simp [Loop.enabled, hp], ?_⟩
  rw [step_recv, hh]
  simp [hn]

/-- non-vacuity: start-up batch of 1030 events handled, loop idle, then an event; and an EMPTY start-up
batch is still the handler's first batch -/
example :
    let s := Loop.run (Loop.init (List.range 1030)) [.hreturn, .ack]
    s.phase = .select ∧ s.handling = false ∧ (Loop.step s (.recv 5000)).log = [List.range 1030, [5000]] := by
  -- the loop never looks into the start-up batch, so this holds for every one
  have h : ∀ first : List Ev, let s := Loop.run (Loop.init first) [.hreturn, .ack]
      s.phase = .select ∧ s.handling = false ∧ (Loop.step s (.recv 5000)).log = [first, [5000]] :=
    fun _ => ⟨rfl, rfl, rfl⟩
  exact h _

example : (Loop.run (Loop.init []) [.hreturn, .ack, .recv 7]).log = [[], [7]] := by decide +kernel

/-- `prepare` returns exactly: the present individually-fetched objects in configuration order, then the
items of every list in order, one `UpsertEvent` each. -/
theorem first_batch_exact {objs : List (Nat × GetRes)} {lists : List ListRes} {b : List Ev}
    (h : prepare objs lists = some b) : b = (present objs ++ items lists).map upsert := by
  unfold prepare at h
  cases hl : listAll lists with
  | none => simp [hl] at h
  | some it =>
    cases hg : getAll objs with
    | none => simp [hl, hg] at h
    | some os =>
      simp only [hl, hg, Option.some.injEq] at h
      rw [← h, getAll_eq_present hg, listAll_eq_items hl]

/-- **first_batch_complete.** Whenever `Prepare` succeeds, the batch it returns contains exactly one
`UpsertEvent` for every object that is present (individually fetched or listed) and nothing else —
the start-up batch is a complete view of the cluster (what C01's `start build w₀` assumes). -/
theorem first_batch_complete {objs : List (Nat × GetRes)} {lists : List ListRes} {b : List Ev}
    (h : prepare objs lists = some b) : firstBatchComplete objs lists b = true := by
  rw [first_batch_exact h]
  simp only [firstBatchComplete, Bool.and_eq_true, List.all_eq_true, beq_iff_eq, List.any_eq_true]
  refine ⟨fun id _ => count_map_upsert _ id, ?_⟩
  intro e he
  obtain ⟨id, hid, rfl⟩ := List.mem_map.mp he
  exact ⟨id, hid, rfl⟩

/-- In particular every present object is in the batch (membership form). -/
theorem first_batch_has_every_present {objs : List (Nat × GetRes)} {lists : List ListRes} {b : List Ev}
    (h : prepare objs lists = some b) (id : Nat)
    (hp : (id, GetRes.found) ∈ objs ∨ id ∈ items lists) : upsert id ∈ b := by
  rw [first_batch_exact h]
  apply List.mem_map.mpr
  refine ⟨id, ?_, rfl⟩
  rcases hp with hp | hp
  · apply List.mem_append_left
    simp only [present, List.mem_filterMap]
    exact ⟨(id, .found), hp, by simp⟩
  · exact List.mem_append_right _ hp

/-- `Prepare` fails exactly when some List fails or some Get fails with an error other than NotFound;
a missing object never aborts it. -/
theorem prepare_aborts_iff (objs : List (Nat × GetRes)) (lists : List ListRes) :
    prepare objs lists = none ↔ (ListRes.error ∈ lists ∨ ∃ id, (id, GetRes.error) ∈ objs) := by
  unfold prepare
  cases hl : listAll lists with
  | none => simp [(listAll_none_iff lists).mp hl]
  | some it =>
    have hnl : ListRes.error ∉ lists := by
      intro hm; rw [(listAll_none_iff lists).mpr hm] at hl; cases hl
    cases hg : getAll objs with
    | none =>
      simp only [true_iff]
      exact .inr ((getAll_none_iff objs).mp hg)
    | some os =>
      simp only [reduceCtorEq, false_iff, not_or]
      refine ⟨hnl, ?_⟩
      intro hm; rw [(getAll_none_iff objs).mpr hm] at hg; cases hg

/-- `EventLoop.Start`: the prepared batch is what the handler sees first, whatever happens afterwards. -/
theorem startup_batch_handled_first {objs : List (Nat × GetRes)} {lists : List ListRes} {l : Loop}
    (h : startup objs lists = some l) (as : List Act) :
    ∃ b, prepare objs lists = some b ∧ firstBatchComplete objs lists b = true ∧
      (Loop.run l as).log.head? = some b := by
  unfold startup at h
  cases hp : prepare objs lists with
  | none => simp [hp] at h
  | some b =>
    simp only [hp, Option.map_some, Option.some.injEq] at h
    subst h
    exact ⟨b, rfl, first_batch_complete hp, first_batch_first b as⟩

/-- non-vacuity: four objects (two missing), three lists -/
example :
    prepare [(1, .found), (2, .notFound), (3, .notFound), (4, .found)] [.ok [10, 11], .ok [], .ok [12]]
      = some [2, 8, 20, 22, 24] ∧
    prepareCalls [(1, .found), (2, .notFound), (3, .notFound), (4, .found)] [.ok [10, 11], .ok [], .ok [12]]
      = [1, 3, 5, 2, 4, 6, 8] ∧
    prepare [(1, .found), (2, .error), (3, .found)] [.ok [10]] = none ∧
    prepareCalls [(1, .found), (2, .error), (3, .found)] [.ok [10]] = [1, 2, 4] := by decide +kernel

/-- **break_variant_incomplete.** The variant whose per-object loop leaves at the first missing object
returns a batch that is NOT complete: a present object after a missing one is left out. -/
theorem break_variant_incomplete :
    ∃ (objs : List (Nat × GetRes)) (lists : List ListRes) (b : List Ev),
      prepareBreak objs lists = some b ∧ firstBatchComplete objs lists b = false ∧
      (2, GetRes.found) ∈ objs ∧ upsert 2 ∉ b :=
  ⟨[(1, .notFound), (2, .found)], [.ok [10]], [20], by decide +kernel, by decide +kernel, by decide +kernel, by decide +kernel⟩

/-- … and on inputs without a missing object before a present one the two agree (why the repo's tests,
which configure a single object, cannot tell them apart). -/
theorem break_variant_agrees_on_single (o : Nat × GetRes) (lists : List ListRes) :
    prepareBreak [o] lists = prepare [o] lists := by
  obtain ⟨id, g⟩ := o
  cases g <;> simp [prepareBreak, prepare, getAllBreak, getAll]

/-! ### Tie to the source: statement texts regenerated by the translator -/

/-- `Reconcile` as modelled: filter → Get (NotFound ⇒ delete, other error ⇒ return err) → build the event →
ONE top-level select whose arms are `<-ctx.Done()` (return nil) and the send; `ctx` is the function's own
parameter, never re-bound, and nothing from package `context` or `time` is used (no derived timeout,
deadline or timer); no goroutine, no loop. -/
theorem reconcile_as_modelled :
    Generated.Delivery.reconcileStmts =
      ["if r.cfg.NamespacedNameFilter != nil { if shouldProcess, msg := r.cfg.NamespacedNameFilter(req.NamespacedName); !shouldProcess { return reconcile.Result{}, nil } }",
       "obj := r.mustCreateNewObject(r.cfg.ObjectType)",
       "if err := r.cfg.Getter.Get(ctx, req.NamespacedName, obj); err != nil { if !apierrors.IsNotFound(err) { return reconcile.Result{}, err } obj = nil }",
       "var e interface{}",
       "var op string",
       "if obj == nil { e = &events.DeleteEvent{ Type: r.cfg.ObjectType, NamespacedName: req.NamespacedName, } op = \"Deleted\" } else { e = &events.UpsertEvent{ Resource: obj, } op = \"Upserted\" }",
       "select { case <-ctx.Done(): return reconcile.Result{}, nil case r.cfg.EventCh <- e: }",
       "return reconcile.Result{}, nil"] ∧
    Generated.Delivery.reconcileCtxParam = "ctx" ∧
    Generated.Delivery.reconcileCtxRebinds = [] ∧
    Generated.Delivery.reconcileContextUses = [] ∧
    Generated.Delivery.reconcileSelectCount = 1 ∧
    Generated.Delivery.reconcileSelectTopLevel = true ∧
    Generated.Delivery.reconcileSelectArms = ["<-ctx.Done()", "r.cfg.EventCh <- e"] ∧
    Generated.Delivery.reconcileArmBody0 = ["return reconcile.Result{}, nil"] ∧
    Generated.Delivery.reconcileArmBody1 = [] ∧
    Generated.Delivery.reconcileGoCount = 0 ∧
    Generated.Delivery.reconcileLoopCount = 0 :=
  ⟨rfl, rfl, rfl, rfl, rfl, rfl, rfl, rfl, rfl, rfl, rfl⟩

/-- `Prepare` as modelled: List every list (error aborts), Get every object (NotFound skipped through the
if/else, other errors abort), append the list items; no break/continue/goto anywhere. `Start` calls it
before the loop and hands its result to the first handler goroutine. -/
theorem prepare_as_modelled :
    Generated.Delivery.prepareStmts =
      ["total := 0",
       "for _, list := range p.objectLists { if err := p.reader.List(ctx, list); err != nil { return nil, err } total += meta.LenList(list) }",
       "batch := make([]interface{}, 0, total+len(p.objects))",
       "for _, obj := range p.objects { key := types.NamespacedName{Namespace: obj.GetNamespace(), Name: obj.GetName()} if err := p.reader.Get(ctx, key, obj); err != nil { if !apierrors.IsNotFound(err) { return nil, err } } else { batch = append(batch, &UpsertEvent{Resource: obj}) } }",
       "for _, list := range p.objectLists { err := p.eachListItem(list, func(object runtime.Object) error { clientObj, ok := object.(client.Object) if !ok { return fmt.Errorf(\"cannot cast %T to client.Object\", object) } batch = append(batch, &UpsertEvent{Resource: clientObj}) return nil }) if err != nil { return nil, err } }",
       "return batch, nil"] ∧
    Generated.Delivery.prepareBranchStmts = [] ∧
    Generated.Delivery.startPrologue =
      ["var handling bool",
       "handlingDone := make(chan struct{})",
       "var err error",
       "el.currentBatch, err = el.preparer.Prepare(ctx)",
       "if err != nil { return fmt.Errorf(\"failed to prepare the first batch: %w\", err) }",
       "handleBatch()",
       "handling = true"] :=
  ⟨rfl, rfl, rfl⟩

end NGF.Delivery
