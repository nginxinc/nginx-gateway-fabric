/-
C01 — applied configuration and statuses converge to the cluster state for every event history.

`NGF.Model.Store` models the change-tracking store, `Process` and the handler's dispatch, for an
arbitrary `build` (BuildGraph ∘ BuildConfiguration ∘ Generate ∘ Prepare*Requests) and arbitrary
relevance / watch predicates. The theorems quantify over ALL histories: any list of cluster mutations,
batch cuts and restarts.
-/
import NGF.Model.Store
import NGF.Model.StoreMini
import NGF.Proofs.Store
import NGF.Proofs.StoreMini
import NGF.Generated.StoreFacts

namespace NGF.Store

variable {K Key Obj C G : Type}

/-- Convergence for the histories whose mutations are all admissible (`adm`: a decidable exclusion, used where the
current predicates are unsound). After the last `cut` nothing is pending, so the invariant of the reachable state says that
the applied output is the fresh one. -/
theorem converges_of_sound_partial (O : Ops K Key Obj C) (build : C → G)
    (rel : Option G → Option Obj → Event K Key Obj → Bool) (watch : C → Event K Key Obj → Bool)
    (R : C → C → Prop) (adm : C → Event K Key Obj → Bool) (hs : Sound O build rel watch R adm)
    (w₀ : C) (hist : List (Step K Key Obj)) (ha : Admissible O adm w₀ hist) :
    (run O build rel watch (start build w₀) (hist ++ [.cut])).applied
      = fresh build (finalWorld O w₀ hist) := by
  rw [run_append]
  have hi := inv_reachable O hs w₀ hist ha
  have hd := (inv_step O hs hi .cut (fun _ h => nomatch h)).drained (cut_drains O build rel watch _)
  show (step O build rel watch _ .cut).applied = _
  rw [hd, step_world, world_run]
  rfl

/-- **Convergence.** If the watch predicates and the relevance predicates are sound for `build`
(`Sound`, with every mutation admissible), then for every initial cluster and every history — any
mutations, any batching, any restart points — once the queue is drained (`cut`) the output last
applied is what a freshly started controller derives from the final cluster. -/
theorem converges_of_sound (O : Ops K Key Obj C) (build : C → G)
    (rel : Option G → Option Obj → Event K Key Obj → Bool) (watch : C → Event K Key Obj → Bool)
    (R : C → C → Prop) (hs : Sound O build rel watch R (fun _ _ => true))
    (w₀ : C) (hist : List (Step K Key Obj)) :
    (run O build rel watch (start build w₀) (hist ++ [.cut])).applied
      = fresh build (finalWorld O w₀ hist) :=
  converges_of_sound_partial O build rel watch R _ hs w₀ hist (admissible_true O w₀ hist)

/-- At EVERY instant at which nothing is pending — not only at the end — the applied output is the fresh one. -/
theorem drained_applied_is_fresh (O : Ops K Key Obj C) (build : C → G)
    (rel : Option G → Option Obj → Event K Key Obj → Bool) (watch : C → Event K Key Obj → Bool)
    (R : C → C → Prop) (hs : Sound O build rel watch R (fun _ _ => true))
    (w₀ : C) (hist : List (Step K Key Obj)) :
    let σ := run O build rel watch (start build w₀) hist
    σ.proc.ct = .none → σ.applied = fresh build σ.world :=
  (inv_reachable O hs w₀ hist (admissible_true O w₀ hist)).drained

/-- A batch without a relevant event (NoChange) emits nothing and leaves the processor as it is. -/
theorem nochange_emits_nothing (build : C → G) (p : Proc C G) (h : p.ct = .none) :
    process build p = (p, .none, none) := by
  simp [process, h]

/-- … so the applied output is untouched by such a batch. -/
theorem nochange_batch_inert (O : Ops K Key Obj C) (build : C → G) (rel watch) (σ : Sim C G)
    (h : σ.proc.ct = .none) : (step O build rel watch σ .cut).applied = σ.applied := by
  simp [step, process, h]

/-- No event by itself alters the applied output: only `Process` of a batch with a change does. -/
theorem mutation_never_alters_applied (O : Ops K Key Obj C) (build : C → G) (rel watch) (σ : Sim C G)
    (e : Event K Key Obj) : (step O build rel watch σ (.mutate e)).applied = σ.applied := rfl

/-- An event judged irrelevant (or filtered by the watch predicates) leaves the pending change type as it is. -/
theorem irrelevant_event_inert (O : Ops K Key Obj C) (rel) (p : Proc C G) (e : Event K Key Obj)
    (h : verdict O rel p.latest p.store e = false) : (capture O rel p e).ct = p.ct := by
  simp [capture, h, setCT_unchanged]

/-- A relevant event always leaves a rebuild pending. -/
theorem relevant_event_pending (O : Ops K Key Obj C) (rel) (p : Proc C G) (e : Event K Key Obj)
    (h : verdict O rel p.latest p.store e = true) : (capture O rel p e).ct ≠ .none := by
  intro hn
  have := (setCT_none (by simpa [capture] using hn)).2
  rw [h] at this; cases this

/-- Persisted kinds are stored whatever the predicate says (store-then-predicate). -/
theorem store_independent_of_verdict (O : Ops K Key Obj C) (rel rel' : Option G → Option Obj → Event K Key Obj → Bool)
    (p : Proc C G) (e : Event K Key Obj) : (capture O rel p e).store = (capture O rel' p e).store := rfl

/-- The change type of a batch is `EndpointsOnlyChange` only if no non-EndpointSlice event was relevant. -/
theorem endpoints_only_lattice (ct : ChangeType) (ep v : Bool) :
    setCT ct ep v = .endpoints → (ct = .endpoints ∧ (v = false ∨ ep = true)) ∨ (ct = .none ∧ v = true ∧ ep = true) := by
  cases ct <;> cases ep <;> cases v <;> simp [setCT]

theorem change_type_monotone (ct : ChangeType) (ep v : Bool) : ct.toNat ≤ (setCT ct ep v).toNat :=
  setCT_mono ct ep v

/-- `Process` resets the change type (`getAndResetChangedStatus`). -/
theorem process_resets (build : C → G) (p : Proc C G) : (process build p).1.ct = .none := by
  by_cases h : p.ct = .none <;> simp [process, h]

open Mini in
/-- PRE-FIX code (before /repo ecaa5d2; regression detector): the full-strength statement is FALSE: deleting a slice of a referenced Service is judged
irrelevant (bare type, no label), the applied upstream keeps the endpoint, a fresh controller has none. -/
theorem mini_current_diverges_on_slice_delete :
    let w₀ : Cl := { routes := [(0, 7)], svcs := upd (fun _ => none) 7 (some 80),
                     slices := upd (fun _ => none) 3 (some (7, 55)) }
    let σ := run ops build rel watchAll (start build w₀) [.mutate ⟨.slice, 3, none, false⟩, .cut]
    (σ.applied.map fun g => g.ep 0 3) = some (some 55) ∧
    ((fresh build σ.world).map fun g => g.ep 0 3) = some none := by
  decide +kernel

open Mini in
/-- … and so is moving a slice to an unreferenced Service (the predicate reads the NEW label only). -/
theorem mini_current_diverges_on_owner_relabel :
    let w₀ : Cl := { routes := [(0, 7)], svcs := upd (fun _ => none) 7 (some 80),
                     slices := upd (fun _ => none) 3 (some (7, 55)) }
    let σ := run ops build rel watchAll (start build w₀) [.mutate ⟨.slice, 3, some ⟨9, 55⟩, false⟩, .cut]
    (σ.applied.map fun g => g.ep 0 3) = some (some 55) ∧
    ((fresh build σ.world).map fun g => g.ep 0 3) = some none := by
  decide +kernel

open Mini in
/-- PRE-FIX code, `_partial`: convergence for every history in which no slice is taken away from a
referenced Service (`Mini.adm`). -/
theorem mini_current_converges_partial (w₀ : Cl) (hist : List (Step Mini.Kind Nat Mini.Obj))
    (ha : Admissible ops adm w₀ hist) :
    (run ops build rel watchAll (start build w₀) (hist ++ [.cut])).applied
      = fresh build (finalWorld ops w₀ hist) :=
  converges_of_sound_partial ops build rel watchAll Eq adm sound_current w₀ hist ha

open Mini in
/-- **The code in the tree** (since ecaa5d2: slices persisted; predicate sees the stored and the new object):
convergence for EVERY history — full strength, no exclusion. -/
theorem mini_repaired_converges (w₀ : Cl) (hist : List (Step Mini.Kind Nat Mini.Obj)) :
    (run opsR build relR watchAll (start build w₀) (hist ++ [.cut])).applied
      = fresh build (finalWorld opsR w₀ hist) :=
  converges_of_sound opsR build relR watchAll Eq sound_repaired w₀ hist

open Mini in
/-- The code in the tree: no change that affects the derived output is discarded as irrelevant. -/
theorem mini_repaired_no_relevant_change_discarded (s : Cl) (e : Ev)
    (h : build (storeAfter opsR s e) ≠ build s) :
    verdict opsR relR (some (build s)) s e = true := by
  cases hv : verdict opsR relR (some (build s)) s e with
  | true => rfl
  | false => exact absurd (sound_repaired.rel_sound s s e rfl rfl rfl hv) h

open Mini in
/-- Non-vacuity of the admissibility hypothesis and of the theorems: a history with relevant and
irrelevant events, several batches and a restart, in which the applied output really changes. -/
example :
    let w₀ : Cl := { routes := [], svcs := fun _ => none, slices := fun _ => none }
    let hist : List (Step Mini.Kind Nat Mini.Obj) :=
      [.mutate ⟨.svc, 7, some ⟨0, 80⟩, false⟩,        -- unreferenced Service: irrelevant, but stored
       .cut,
       .mutate ⟨.route, 0, some ⟨7, 0⟩, false⟩,        -- route referencing it: relevant
       .mutate ⟨.slice, 3, some ⟨7, 55⟩, false⟩,       -- slice of the (not yet rebuilt) Service: judged on the stale graph
       .cut, .restart,
       .mutate ⟨.slice, 4, some ⟨7, 56⟩, false⟩, .cut,
       .mutate ⟨.svc, 7, some ⟨0, 81⟩, false⟩]
    Admissible ops adm w₀ hist ∧
    ((run ops build rel watchAll (start build w₀) (hist ++ [.cut])).applied.map
        fun g => (g.rv 0, g.ep 0 3, g.ep 0 4)) = some (some (7, some 81), some 55, some 56) := by
  intro w₀ hist
  refine ⟨?_, by decide +kernel⟩
  simp only [hist, Admissible]
  decide +kernel

/-- Which kinds have a store and which a predicate in `NewChangeProcessorImpl` — as in the model's table. -/
theorem store_table_as_modelled :
    ((Generated.Store.cfgKinds.zip Generated.Store.cfgStores).filter (·.2 != "none")).map (·.1) = persistedKinds ∧
    ((Generated.Store.cfgKinds.zip Generated.Store.cfgStores).filter (·.2 == "none")).map (·.1) = [] ∧
    ((Generated.Store.cfgKinds.zip Generated.Store.cfgPredicates).filter (·.2 != "nil")).map (·.1) = predKinds ∧
    Generated.Store.cfgKinds.length = Generated.Store.cfgStores.length ∧
    Generated.Store.cfgKinds.length = Generated.Store.cfgPredicates.length ∧
    Generated.Store.changeTypes = ["NoChange", "EndpointsOnlyChange", "ClusterStateChange"] :=
  ⟨rfl, rfl, rfl, rfl, rfl, rfl⟩

/-- `upsert`/`delete`/`setChangeType`/`getAndResetChangedStatus`/`Process` are the statements the model follows. -/
theorem updater_as_modelled :
    Generated.Store.updater_upsert =
      ["objTypeGVK := s.extractGVK(obj)",
       "var oldObj client.Object",
       "if s.store.persists(objTypeGVK) { oldObj = s.store.get(obj, client.ObjectKeyFromObject(obj)) s.store.upsert(obj) }",
       "stateChanged, ok := s.stateChangedPredicates[objTypeGVK]",
       "if !ok { return true }",
       "return stateChanged.upsert(oldObj, obj)"] ∧
    Generated.Store.updater_delete =
      ["objTypeGVK := s.extractGVK(objType)",
       "subject := client.Object(objType)",
       "if s.store.persists(objTypeGVK) { old := s.store.get(objType, nsname) if old == nil { return false } subject = old s.store.delete(objType, nsname) }",
       "stateChanged, ok := s.stateChangedPredicates[objTypeGVK]",
       "if !ok { return true }",
       "return stateChanged.delete(subject, nsname)"] ∧
    Generated.Store.updater_Upsert =
      ["s.assertSupportedGVK(s.extractGVK(obj))", "changingUpsert := s.upsert(obj)", "s.setChangeType(obj, changingUpsert)"] ∧
    Generated.Store.updater_Delete =
      ["s.assertSupportedGVK(s.extractGVK(objType))", "changingDelete := s.delete(objType, nsname)",
       "s.setChangeType(objType, changingDelete)"] ∧
    Generated.Store.updater_setChangeType =
      ["if changed && s.changeType != ClusterStateChange { if _, ok := obj.(*discoveryV1.EndpointSlice); ok { s.changeType = EndpointsOnlyChange } else { s.changeType = ClusterStateChange } }"] ∧
    Generated.Store.updater_getAndResetChangedStatus =
      ["changeType := s.changeType", "s.changeType = NoChange", "return changeType"] ∧
    Generated.Store.processBody =
      ["c.lock.Lock()", "defer c.lock.Unlock()", "changeType := c.getAndResetClusterStateChanged()",
       "if changeType == NoChange { return NoChange, nil }",
       "c.latestGraph = graph.BuildGraph( c.clusterState, c.cfg.GatewayCtlrName, c.cfg.GatewayClassName, c.cfg.PlusSecrets, c.cfg.Validators, c.cfg.ProtectedPorts, )",
       "return changeType, c.latestGraph"] :=
  ⟨rfl, rfl, rfl, rfl, rfl, rfl, rfl⟩

/-- The predicates are evaluated against the LATEST graph; a funcPredicate judges the new AND the stored object
on upsert; on delete the updater hands it the stored object (the Reconciler puts nothing but the bare registered
type and the name into a DeleteEvent). -/
theorem predicates_as_modelled :
    Generated.Store.isReferencedBody =
      ["return processor.latestGraph != nil && processor.latestGraph.IsReferenced(obj, nsname)"] ∧
    Generated.Store.funcPredicate_upsert =
      ["if newObject == nil { panic(\"new object cannot be nil\") }",
       "nsname := client.ObjectKeyFromObject(newObject)",
       "return f.stateChanged(newObject, nsname) || (oldObject != nil && f.stateChanged(oldObject, nsname))"] ∧
    Generated.Store.funcPredicate_delete = ["return f.stateChanged(object, nsname)"] ∧
    Generated.Store.annotationPredicate_delete = ["return true"] ∧
    Generated.Store.reconcilerDeleteEvent =
      "events.DeleteEvent{ Type: r.cfg.ObjectType, NamespacedName: req.NamespacedName, }" ∧
    Generated.Store.reconcilerUpsertEvent = "events.UpsertEvent{ Resource: obj, }" :=
  ⟨rfl, rfl, rfl, rfl, rfl, rfl⟩

/-- `HandleEventBatch`: capture every event, `Process`, NoChange ⇒ return before any file, reload or status
call; both other change types rebuild the configuration and fall through to the status update. (Since /repo c94173a the
NGINX Plus arm of EndpointsOnlyChange uses the API alone only while the remembered reload result is clean; the store model
has no Plus flag — the harness runs OSS, where both arms are `updateNginxConf`.) -/
theorem handler_dispatch_as_modelled :
    Generated.Store.handlerBeforeSwitch =
      ["for _, event := range batch { h.parseAndCaptureEvent(ctx, logger, event) }",
       "changeType, gr := h.cfg.processor.Process()", "var err error"] ∧
    Generated.Store.handlerCases = ["state.NoChange", "state.EndpointsOnlyChange", "state.ClusterStateChange"] ∧
    Generated.Store.handlerBodies.head? =
      some "if !h.cfg.nginxConfiguredOnStartChecker.ready && h.cfg.nginxConfiguredOnStartChecker.firstBatchError == nil { h.cfg.nginxConfiguredOnStartChecker.setAsReady() } ; return" ∧
    Generated.Store.handlerBodies.tail =
      ["h.version++ ; cfg := dataplane.BuildConfiguration(ctx, gr, h.cfg.serviceResolver, h.version) ; depCtx, getErr := h.getDeploymentContext(ctx) ; if getErr != nil { logger.Error(getErr, \"error getting deployment context for usage reporting\") } ; cfg.DeploymentContext = depCtx ; h.setLatestConfiguration(&cfg) ; if h.cfg.plus && h.latestReloadResult.Error == nil { err = h.updateUpstreamServers(cfg) } else { err = h.updateNginxConf(ctx, cfg) }",
       "h.version++ ; cfg := dataplane.BuildConfiguration(ctx, gr, h.cfg.serviceResolver, h.version) ; depCtx, getErr := h.getDeploymentContext(ctx) ; if getErr != nil { logger.Error(getErr, \"error getting deployment context for usage reporting\") } ; cfg.DeploymentContext = depCtx ; h.setLatestConfiguration(&cfg) ; err = h.updateNginxConf(ctx, cfg)"] ∧
    Generated.Store.handlerAfterSwitch.getLast? = some "h.updateStatuses(ctx, logger, gr)" :=
  ⟨rfl, rfl, rfl, rfl, rfl⟩

end NGF.Store
