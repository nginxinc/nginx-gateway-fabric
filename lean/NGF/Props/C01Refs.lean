/-
C01 — Service relevance soundness over the pipeline model (C06's `Model/PipelineRefs`).

`Graph.IsReferenced` answers for a Service with `ReferencedServices` (graph/service.go: `buildReferencedServices` — the
`SvcNsName` of the backendRefs of the VALID routes that belong to the winning Gateway; modelled by
`PipelineRefs.referencedServices`). The change tracker drops a Service event whose key is not referenced
(`funcPredicate{stateChanged: isReferenced}`), i.e. it does not rebuild. `service_irrelevant_inert_gen`: that is sound
for the generated configuration — upserting (any ports) or deleting a Service that is not referenced leaves
`gen (resolve c)` unchanged, for ALL clusters of the fragment. `service_event_skipped_soundly` says the same in the
vocabulary of the store model (`NGF.Model.Store`): a Service event judged irrelevant against an up-to-date graph leaves
the processor in a state whose rebuild would produce the configuration already applied. The converse witness: the
deletion of a referenced Service is judged relevant and does change the configuration.
-/
import NGF.Proofs.Store
import NGF.Proofs.PipelineRefs
import NGF.Generated.RefGrantFacts

namespace NGF.PipelineRefs
open NGF.Pipeline

/-- `service_irrelevant_inert_gen`: upserting (with ANY ports) or deleting a Service that no backendRef of a valid
route of the winning Gateway names (`ReferencedServices`, the `Graph.IsReferenced` reading) leaves the generated
configuration unchanged — for all clusters, grants, other Services. -/
theorem service_irrelevant_inert_gen (c : ScenarioR) (ns name : String) (h : (ns, name) ∉ referencedServices c) :
    (∀ s : Service, s.ns = ns → s.name = name → genR { c with services := upsertSvc c.services s } = genR c) ∧
    genR { c with services := deleteSvc c.services ns name } = genR c := by
  constructor
  · intro s h1 h2
    apply genR_services_congr c _ ns name h
    intro ns' name' hne
    exact lookupSvc_upsertSvc_other (by rw [h1, h2]; exact hne)
  · apply genR_services_congr c _ ns name h
    intro ns' name' hne
    exact lookupSvc_deleteSvc_other hne

open NGF.Generated in
/-- `buildReferencedServices` as `referencedServices` transcribes it (valid routes, `belongsToWinningGw` by parentRef,
non-empty `SvcNsName` of every graph backendRef — valid or not) -/
theorem referencedServices_as_modelled :
    RefGrant.buildReferencedServicesBody =
      ["if gw == nil { return nil }",
       "referencedServices := make(map[types.NamespacedName]*ReferencedService)",
       "belongsToWinningGw := func(refs []ParentRef) bool { for _, ref := range refs { if ref.Gateway == client.ObjectKeyFromObject(gw.Source) { return true } } return false }",
       "addServicesForL7Routes := func(routeRules []RouteRule) { for _, rule := range routeRules { for _, ref := range rule.BackendRefs { if ref.SvcNsName != (types.NamespacedName{}) { referencedServices[ref.SvcNsName] = &ReferencedService{ Policies: nil, } } } } }",
       "addServicesForL4Routes := func(route *L4Route) { nsname := route.Spec.BackendRef.SvcNsName if nsname != (types.NamespacedName{}) { referencedServices[nsname] = &ReferencedService{ Policies: nil, } } }",
       "for _, route := range l7routes { if !route.Valid { continue } if !belongsToWinningGw(route.ParentRefs) { continue } addServicesForL7Routes(route.Spec.Rules) }",
       "for _, route := range l4Routes { if !route.Valid { continue } if !belongsToWinningGw(route.ParentRefs) { continue } addServicesForL4Routes(route) }",
       "if len(referencedServices) == 0 { return nil }",
       "return referencedServices"] := rfl

open NGF.Store in
/-- the Service arm of `NewChangeProcessorImpl`: persisted, with `funcPredicate{stateChanged: isReferenced}` -/
def svcOps : Ops Unit (String × String) Service ScenarioR where
  persisted _ := true
  hasPred _ := true
  isEndpoints _ := false
  get c _ k := lookupSvc c.services k.1 k.2
  store e c := match e.obj with
    | some s => { c with services := upsertSvc c.services s }
    | none => { c with services := deleteSvc c.services e.key.1 e.key.2 }
  cache _ c := c
  delSeesOld := true

/-- what one rebuild derives, as far as this statement needs it: the configuration and `ReferencedServices` -/
structure Built where
  conf : Conf
  referenced : List (String × String)

def buildR (c : ScenarioR) : Built := ⟨genR c, referencedServices c⟩

open NGF.Store in
/-- `isReferenced` for a Service: `latestGraph != nil && latestGraph.IsReferenced(obj, nsname)` — new and stored
object have the same namespace/name, so `upsert(old, new)` and `delete(old)` ask the same question -/
def svcRel (latest : Option Built) (_old : Option Service) (e : Event Unit (String × String) Service) : Bool :=
  match latest with
  | none => false
  | some b => b.referenced.contains e.key

open NGF.Store in
/-- `service_event_skipped_soundly`: the processor holds an up-to-date graph (`latest` was built from its store). A
Service event that the relevance predicate judges irrelevant does not mark the state changed, and rightly so: a rebuild
from the store after the event would generate the configuration that is already applied. -/
theorem service_event_skipped_soundly (p : Proc ScenarioR Built) (hsync : p.latest = some (buildR p.store))
    (e : Event Unit (String × String) Service) (hkey : ∀ s, e.obj = some s → (s.ns, s.name) = e.key)
    (hirr : verdict svcOps svcRel p.latest p.store e = false) :
    (capture svcOps svcRel p e).ct = p.ct ∧ genR (capture svcOps svcRel p e).store = genR p.store := by
  refine ⟨by simp [capture, hirr, setCT_unchanged], ?_⟩
  show genR (storeAfter svcOps p.store e) = genR p.store
  rw [hsync] at hirr
  rcases verdict_false (fun _ => rfl) rfl hirr with ⟨ho, hn⟩ | ⟨_, hr⟩
  · rw [storeAfter_delete_absent svcOps _ _ rfl ho hn]
  · have hnot : e.key ∉ referencedServices p.store := fun hm => by
      rw [show svcRel _ _ e = (referencedServices p.store).contains e.key from rfl, List.contains_iff_mem.2 hm] at hr
      cases hr
    rcases storeAfter_cases svcOps p.store e with h | h
    · rw [h]
    · rw [h]
      show genR (match e.obj with
        | some s => { p.store with services := upsertSvc p.store.services s }
        | none => { p.store with services := deleteSvc p.store.services e.key.1 e.key.2 }) = genR p.store
      cases hobj : e.obj with
      | some s => exact (service_irrelevant_inert_gen p.store s.ns s.name (by rw [hkey s hobj]; exact hnot)).1 s rfl rfl
      | none => exact (service_irrelevant_inert_gen p.store e.key.1 e.key.2 hnot).2

/-! ### non-vacuity and the converse witness (by evaluation: `gen` sorts by well-founded recursion) -/

def wGw : Gateway :=
  { ns := "default".toList, name := "gw".toList, cls := "nginx".toList, age := 1,
    listeners := [{ name := "http".toList, port := 80, host := [], fromAll := true }] }

def wRoute (name : String) (gw : String) (svc : String) : RouteR :=
  { ns := "app", name := name, age := 2, parents := [{ ns := "default".toList, name := gw.toList, sectionName := none }],
    hostnames := [],
    rules := [{ ms := [{ exact := false, path := "/".toList, method := [], headers := [], query := [] }],
                action := .forward [⟨none, none, none, svc, some 80, none, 0⟩] }],
    valid := true }

/-- `app/web` is referenced by the attached route; `app/idle` exists but nobody names it; `app/elsewhere` is named only
by a route of a Gateway that does not exist -/
def wC : ScenarioR :=
  { cls := "nginx".toList, ctlr := "ctl".toList, classes := [⟨"nginx".toList, "ctl".toList⟩], gateways := [wGw],
    routes := [wRoute "hr" "gw" "web", wRoute "other" "no-such-gw" "elsewhere"],
    services := [⟨"app", "web", [80]⟩, ⟨"app", "idle", [80]⟩, ⟨"app", "elsewhere", [80]⟩], grants := [] }

#guard referencedServices wC == [("app", "web")]
#guard confTargets (genR wC) == [("app_web_80".toList, 10000)]
-- unreferenced Services (never named / named by an unattached route only): delete or re-port them, nothing changes
#guard confTargets (genR { wC with services := deleteSvc wC.services "app" "idle" }) == confTargets (genR wC)
#guard confTargets (genR { wC with services := upsertSvc wC.services ⟨"app", "elsewhere", [9090]⟩ }) == confTargets (genR wC)
-- CONVERSE WITNESS: the referenced Service's deletion (or losing the port) is judged relevant and changes the configuration
#guard confTargets (genR { wC with services := deleteSvc wC.services "app" "web" }) == [(invalidBackendRef, 10000)]
#guard confTargets (genR { wC with services := upsertSvc wC.services ⟨"app", "web", [8080]⟩ }) == [(invalidBackendRef, 10000)]
#guard NGF.Store.verdict svcOps svcRel (some (buildR wC)) wC { kind := (), key := ("app", "web"), obj := none } == true
#guard NGF.Store.verdict svcOps svcRel (some (buildR wC)) wC { kind := (), key := ("app", "idle"), obj := none } == false
#guard NGF.Store.verdict svcOps svcRel (some (buildR wC)) wC
    { kind := (), key := ("app", "elsewhere"), obj := some ⟨"app", "elsewhere", [9090]⟩ } == false

/-- the witness at the level `decide` reaches: the resolved backend of the attached route flips from valid to invalid -/
theorem referenced_service_deletion_changes_backend :
    (resolveRef wC.grants wC.services "app" ⟨none, none, none, "web", some 80, none, 0⟩).valid = true ∧
    (resolveRef wC.grants (deleteSvc wC.services "app" "web") "app" ⟨none, none, none, "web", some 80, none, 0⟩).valid = false := by
  decide +kernel

end NGF.PipelineRefs
