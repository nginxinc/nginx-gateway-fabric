/-
C07 — reported status tells the truth about what is programmed.
Property theorems over `NGF.Model.StatusPrep` (the functions the driver runs and the correspondence
compares with the real `status.Prepare*Requests` + setters), for ALL graph summaries, plus the
expectation lemmas over the facts regenerated from /repo (`NGF.Generated.ConditionFacts`).

The end-to-end clauses that involve `dataplane.Configuration` ("Accepted ⇔ served", attachedRoutes against
an independent reading of binding) are evaluated by `NGF.Model.StatusJudge` on the real outputs, and proved over the
pipeline model in `NGF.Props.C07Fragment` (HTTP fragment) and `NGF.Props.C07Tls` (TLS layer); here the decision core is
proved, including witnesses for the two places where the core itself departs from
"Accepted=True ⇔ the parentRef's attachment succeeded and the reload succeeded".
-/
import NGF.Model.StatusPrep
import NGF.Model.StatusJudge
import NGF.Model.HandlerStatus
import NGF.Model.PolicyAttach
import NGF.Model.PipelineStatusTls
import NGF.Proofs.StatusPrep
import NGF.Proofs.StatusPrepExpected
import NGF.Generated.ConditionFacts

namespace NGF.StatusPrep

/-- "last": nothing of the same type follows -/
theorem lastOfType_spec (t : String) (cs : List Cond) (c : Cond) :
    lastOfType t cs = some c ↔
      c.type = t ∧ ∃ pre post, cs = pre ++ c :: post ∧ ∀ d ∈ post, d.type ≠ t := by
  unfold lastOfType
  rw [List.find?_eq_some_iff_append]
  simp only [decide_eq_true_eq, Bool.not_eq_eq_eq_not, Bool.not_true, decide_eq_false_iff_not]
  constructor
  · rintro ⟨hc, as, bs, hrev, hno⟩
    exact ⟨hc, bs.reverse, as.reverse, by simpa using congrArg List.reverse hrev,
      fun d hd => hno d (List.mem_reverse.mp hd)⟩
  · rintro ⟨hc, pre, post, rfl, hno⟩
    exact ⟨hc, post.reverse, pre.reverse, by simp, fun d hd => hno d (List.mem_reverse.mp hd)⟩

/-- `DeduplicateConditions`: types become unique, the kept conditions are exactly the last occurrence of each
type, the input order is preserved, and no type is lost. -/
theorem dedup_last_wins (cs : List Cond) :
    ((dedup cs).map (·.type)).Nodup ∧
    (dedup cs).Sublist cs ∧
    (∀ c, c ∈ dedup cs ↔ lastOfType c.type cs = some c) ∧
    (∀ c ∈ cs, ∃ d ∈ dedup cs, d.type = c.type) := by
  refine ⟨dedup_nodup cs, dedup_sublist cs, fun c => mem_dedup, ?_⟩
  intro c hc
  cases h : lastOfType c.type cs with
  | none => exact absurd rfl (lastOfType_none_iff.mp h c hc)
  | some d =>
    have ht := lastOfType_type h
    exact ⟨d, mem_dedup.mpr (ht ▸ h), ht⟩

example : dedup [⟨"A", "True", "x"⟩, ⟨"B", "True", "y"⟩, ⟨"A", "False", "z"⟩] =
    [⟨"B", "True", "y"⟩, ⟨"A", "False", "z"⟩] := by decide +kernel

/-- keeping the FIRST occurrence instead would give a different answer on this input -/
example : dedup [⟨"A", "True", "x"⟩, ⟨"A", "False", "z"⟩] ≠ [⟨"A", "True", "x"⟩] := by decide +kernel

theorem one_entry_per_parent (ctlr : String) (refs : List ParentRef) (conds : List Cond) (e : Bool) (gen : Int) :
    (prepareRouteStatus ctlr refs conds e gen).length = refs.length ∧
    (prepareRouteStatus ctlr refs conds e gen).map (fun p => (p.ns, p.name, p.sectionName)) =
      refs.map (fun r => (r.gwNs, r.gwName, r.sectionName)) ∧
    (∀ p ∈ prepareRouteStatus ctlr refs conds e gen, p.controller = ctlr ∧ ∀ a ∈ p.conds, a.gen = gen) := by
  refine ⟨by simp [prepareRouteStatus], ?_, ?_⟩
  · simp [prepareRouteStatus, prepareParent, Function.comp_def]
  · intro p hp
    simp only [prepareRouteStatus, List.mem_map] at hp
    obtain ⟨r, _, rfl⟩ := hp
    exact ⟨rfl, fun a ha => convert_gen ha⟩

/-- every entry carries exactly one Accepted and exactly one ResolvedRefs condition -/
theorem entry_types (ctlr : String) (conds : List Cond) (e : Bool) (gen : Int) (ref : ParentRef) :
    ((prepareParent ctlr conds e gen ref).conds.map (·.type)).Nodup ∧
    "Accepted" ∈ (prepareParent ctlr conds e gen ref).conds.map (·.type) ∧
    "ResolvedRefs" ∈ (prepareParent ctlr conds e gen ref).conds.map (·.type) := by
  have hmap : (prepareParent ctlr conds e gen ref).conds.map (·.type) =
      (dedup (routeAllConds conds ref e)).map (·.type) := by
    simp [prepareParent, convert, Function.comp_def]
  rw [hmap]
  obtain ⟨hn, _, _, hall⟩ := dedup_last_wins (routeAllConds conds ref e)
  have hdef : ∀ c ∈ defaultRouteConds, c.type ∈ (dedup (routeAllConds conds ref e)).map (·.type) := fun c hc => by
    obtain ⟨d, hd, ht⟩ := hall c (by simp [routeAllConds, hc])
    exact List.mem_map.mpr ⟨d, hd, ht⟩
  exact ⟨hn, hdef routeAccepted (.head _), hdef routeResolvedRefs (.tail _ (.head _))⟩

example : (prepareRouteStatus "c" [⟨"ns", "gw", some "l0", none⟩, ⟨"ns", "gw", some "l1", none⟩] [] false 7).length = 2 := by
  decide +kernel

/-- the parent entry reports `Accepted=True` -/
def acceptedTrue (conds : List Cond) (e : Bool) (ref : ParentRef) : Bool :=
  hasCond (prepareParent "c" conds e 0 ref).conds "Accepted" "True"

theorem acceptedTrue_any (ctlr : String) (gen : Int) (conds : List Cond) (e : Bool) (ref : ParentRef) :
    hasCond (prepareParent ctlr conds e gen ref).conds "Accepted" "True" = acceptedTrue conds e ref := by
  have h := hasCond_convert_dedup (routeAllConds conds ref e)
  rw [Bool.eq_iff_iff]
  simp only [acceptedTrue, prepareParent]
  rw [h gen, h 0]

/-- a failed reload puts `NewRouteGatewayNotProgrammed` (type Accepted, status False, reason
GatewayNotProgrammed) last, so it is the Accepted condition of every parent entry -/
theorem reload_failed_route_not_accepted (ctlr : String) (conds : List Cond) (gen : Int) (ref : ParentRef) :
    (⟨"Accepted", "False", "GatewayNotProgrammed", gen⟩ : ApiCond) ∈ (prepareParent ctlr conds true gen ref).conds ∧
    acceptedTrue conds true ref = false := by
  have hall : routeAllConds conds ref true =
      (defaultRouteConds ++ conds ++ failedConds ref) ++ [routeGatewayNotProgrammed] := rfl
  constructor
  · have : routeGatewayNotProgrammed ∈ dedup (routeAllConds conds ref true) :=
      mem_dedup.mpr (hall ▸ lastOfType_snoc rfl _)
    exact List.mem_map.mpr ⟨_, this, rfl⟩
  · unfold acceptedTrue prepareParent
    rw [hall]
    exact hasCond_snoc_false rfl rfl _ 0

/-- what the code does (under the well-formedness the graph guarantees): a parent is reported Accepted=True
exactly when the reload succeeded, the parentRef has no failed attachment, and the route carries no
route-wide Accepted condition. -/
theorem accepted_iff_attached (conds : List Cond) (e : Bool) (ref : ParentRef)
    (hc : condsFalse "Accepted" conds = true) (hr : ref.wf = true) :
    acceptedTrue conds e ref = true ↔
      e = false ∧ (∀ a, ref.attachment = some a → a.attached = true) ∧ (∀ c ∈ conds, c.type ≠ "Accepted") := by
  have ht := routeTail_spec hr e
  have hneg : condsFalse "Accepted" (conds ++ routeTail ref e) = true := by
    rw [condsFalse_append, hc]
    exact condsFalse_iff.mpr fun c hc _ => (ht c hc).2
  have hdef : hasCond (convert (dedup defaultRouteConds) 0) "Accepted" "True" = true := by decide +kernel
  unfold acceptedTrue prepareParent
  rw [routeAllConds_eq, hasCond_append_condsFalse hneg, ← and_assoc, ← routeTail_nil_iff]
  rw [hdef, List.forall_mem_append]
  -- everything in the tail has type Accepted, so "none of type Accepted" says the tail is empty
  constructor
  · rintro (⟨_, h⟩ | ⟨⟨h1, h2⟩, _⟩)
    · exact absurd h (by decide)
    · exact ⟨List.eq_nil_iff_forall_not_mem.mpr fun c hc => h2 c hc (ht c hc).1, h1⟩
  · rintro ⟨h1, h2⟩
    exact .inr ⟨⟨h2, by rw [h1]; exact fun _ h => nomatch h⟩, rfl⟩

/-- the property's reading of the decision core: Accepted=True ⇔ reload ok ∧ the attachment of this parentRef
succeeded -/
def AcceptedSpec (e : Bool) (ref : ParentRef) : Prop :=
  e = false ∧ ∃ a, ref.attachment = some a ∧ a.attached = true

/-- `AcceptedSpec` holds of the code where (i) the attachment of the parentRef was attempted and (ii) the route
carries no route-wide Accepted condition; the two excluded regions are inhabited, see the witnesses below. -/
theorem accepted_iff_attached_partial (conds : List Cond) (e : Bool) (ref : ParentRef)
    (hc : condsFalse "Accepted" conds = true) (hr : ref.wf = true)
    (hattempted : ref.attachment ≠ none) (hnowide : ∀ c ∈ conds, c.type ≠ "Accepted") :
    acceptedTrue conds e ref = true ↔ AcceptedSpec e ref := by
  rw [accepted_iff_attached conds e ref hc hr]
  obtain ⟨a, ha⟩ := Option.ne_none_iff_exists'.mp hattempted
  simp only [AcceptedSpec, ha, Option.some.injEq, forall_eq', exists_eq_left']
  exact ⟨fun h => ⟨h.1, h.2.1⟩, fun h => ⟨h.1, h.2, hnowide⟩⟩

/-- WITNESS (finding C07:…tlsroute-backend-count): a parentRef whose attachment was never attempted (route not
attachable) is reported Accepted=True unless the route carries its own Accepted condition — here the route only
carries ResolvedRefs=False/UnsupportedValue, as `buildTLSRoute` produces for a TLSRoute with two backendRefs. -/
theorem accepted_spec_fails_when_attachment_not_attempted :
    ∃ conds ref, condsFalse "Accepted" conds = true ∧ ref.wf = true ∧
      acceptedTrue conds false ref = true ∧ ¬ AcceptedSpec false ref :=
  ⟨[⟨"ResolvedRefs", "False", "UnsupportedValue"⟩], ⟨"ns", "gw", none, none⟩, by decide +kernel, by decide +kernel, by decide +kernel,
    by simp [AcceptedSpec]⟩

/-- WITNESS (finding C07:…InvalidListener-from-other-parent): the attachment of this parentRef succeeded and the
reload succeeded, but a route-wide `Accepted=False/InvalidListener` (appended by another parentRef that attached
only to invalid listeners) makes this parent Accepted=False. -/
theorem accepted_spec_fails_with_route_wide_condition :
    ∃ conds ref, condsFalse "Accepted" conds = true ∧ ref.wf = true ∧
      AcceptedSpec false ref ∧ acceptedTrue conds false ref = false :=
  ⟨[⟨"Accepted", "False", "InvalidListener"⟩], ⟨"ns", "gw", some "l0", some ⟨true, default⟩⟩, by decide +kernel, by decide +kernel,
    ⟨rfl, _, rfl, rfl⟩, by decide⟩

example : acceptedTrue [] false ⟨"ns", "gw", none, some ⟨true, default⟩⟩ = true := by decide +kernel
example : acceptedTrue [] false ⟨"ns", "gw", none, some ⟨false, ⟨"Accepted", "False", "NotAllowedByListeners"⟩⟩⟩ = false := by
  decide +kernel

def resolvedRefsFalse (conds : List Cond) (e : Bool) (ref : ParentRef) : Bool :=
  hasCond (prepareParent "c" conds e 0 ref).conds "ResolvedRefs" "False"

/-- ResolvedRefs=False on a parent ⇔ the route carries a ResolvedRefs condition (one is appended for every
invalid backendRef and for unresolved extension filters); independent of attachment and reload. -/
theorem resolvedrefs_iff (conds : List Cond) (e : Bool) (ref : ParentRef)
    (hc : condsFalse "ResolvedRefs" conds = true) (hr : ref.wf = true) :
    resolvedRefsFalse conds e ref = true ↔ ∃ c ∈ conds, c.type = "ResolvedRefs" := by
  have ht : ∀ c ∈ routeTail ref e, c.type ≠ "ResolvedRefs" :=
    fun c hc => by rw [(routeTail_spec hr e c hc).1]; decide
  have hneg : condsFalse "ResolvedRefs" (conds ++ routeTail ref e) = true := by
    rw [condsFalse_append, hc]
    exact condsFalse_iff.mpr fun c hc h => absurd h (ht c hc)
  have hdef : hasCond (convert (dedup defaultRouteConds) 0) "ResolvedRefs" "False" = false := by decide +kernel
  unfold resolvedRefsFalse prepareParent
  rw [routeAllConds_eq, hasCond_append_condsFalse hneg, hdef]
  constructor
  · rintro (⟨⟨c, hm, hct⟩, _⟩ | ⟨_, h⟩)
    · exact ⟨c, (List.mem_append.mp hm).resolve_right fun h => ht c h hct, hct⟩
    · cases h
  · rintro ⟨c, hm, hct⟩
    exact .inl ⟨⟨c, List.mem_append_left _ hm, hct⟩, rfl⟩

example : resolvedRefsFalse [⟨"ResolvedRefs", "False", "BackendNotFound"⟩] true ⟨"n", "g", none, none⟩ = true := by decide +kernel
example : resolvedRefsFalse [⟨"Accepted", "False", "UnsupportedValue"⟩] false ⟨"n", "g", none, none⟩ = false := by decide +kernel

/-- attachedRoutes of every listener = size of its Routes map + size of its L4Routes map -/
theorem attached_count (gw : Gateway) (e : Bool) (h : gw.valid = true) :
    (prepareGateway gw e).listeners.map (fun l => (l.name, l.attachedRoutes)) =
      gw.listeners.map (fun l => (l.name, l.routes.length + l.l4routes.length)) := by
  simp [prepareGateway, h, prepareListener, Function.comp_def]

/-- counting only the L7 routes would differ on a TLS listener with one attached TLSRoute -/
example : (prepareGateway ⟨"n", "g", 1, true, [], [⟨"l", true, [], [], ["TLSRoute/n/t"]⟩]⟩ false).listeners.map
    (·.attachedRoutes) = [1] := by decide +kernel

theorem listener_not_programmed (gen : Int) (l : Listener) :
    hasCond (prepareListener gen true l).conds "Programmed" "True" = false :=
  hasCond_snoc_false (c := listenerNotProgrammedInvalid) rfl rfl _ gen

theorem gateway_not_programmed (gw : Gateway) :
    hasCond (convert (dedup (gatewayConds gw true)) gw.gen) "Programmed" "True" = false :=
  hasCond_snoc_false (c := gatewayNotProgrammedInvalid) rfl rfl _ gw.gen

/-- When NGINX failed to load the configuration, nothing is reported Programmed: neither the winning Gateway,
nor any of its listeners, nor an ignored Gateway. (For a Gateway the graph found invalid the conditions come
from the graph; `Gateway.wf` — no Programmed=True among them — is checked on every real graph and follows from
the constructor table, see `facts_invalid_gateway_constructors`.) -/
theorem reload_failed_nothing_programmed (s : Summary) (h : s.reloadErr = true) (hwf : s.wf = true) :
    (prepare s).noProgrammedTrue = true := by
  simp only [Prepared.noProgrammedTrue, prepare, List.all_append, Bool.and_eq_true, h]
  constructor
  · cases hg : s.gateway with
    | none => rfl
    | some gw =>
      simp only [List.all_cons, List.all_nil, Bool.and_true]
      cases hv : gw.valid with
      | true =>
        simp only [GatewayStatus.noProgrammedTrue, prepareGateway, hv, if_true, Bool.and_eq_true,
          Bool.not_eq_true', List.all_map, List.all_eq_true, Function.comp]
        exact ⟨gateway_not_programmed gw, fun l _ => listener_not_programmed gw.gen l⟩
      | false =>
        have hcf : condsFalse "Programmed" gw.conds = true := by
          simp only [Summary.wf, hg, Gateway.wf, hv, Bool.and_eq_true] at hwf
          exact hwf.2
        simp only [GatewayStatus.noProgrammedTrue, prepareGateway, hv, Bool.false_eq_true, if_false,
          List.all_nil, Bool.and_true, Bool.not_eq_true']
        exact hasCond_of_condsFalse hcf gw.gen
  · simp only [List.all_map, List.all_eq_true, Function.comp]
    intro g _
    simp [prepareIgnored, GatewayStatus.noProgrammedTrue, hasCond, convert, gatewayConflictConds]

/-- non-vacuity: with a successful reload the same summary does report Programmed=True -/
example : (prepare ⟨"c", false, some ⟨"n", "g", 1, true, [], [⟨"l", true, [], [], []⟩]⟩, [], [], [], []⟩).noProgrammedTrue = false := by
  decide +kernel
example : (prepare ⟨"c", true, some ⟨"n", "g", 1, true, [], [⟨"l", true, [], [], []⟩]⟩, [⟨"n", "h", 2⟩], [], [], []⟩).noProgrammedTrue = true := by
  decide +kernel

/-- with a successful reload a listener is reported Programmed=True exactly when the graph found it valid -/
theorem listener_programmed_iff (gen : Int) (l : Listener) (hwf : l.wf = true) :
    hasCond (prepareListener gen false l).conds "Programmed" "True" = true ↔ l.valid = true := by
  simp only [prepareListener, listenerConds, Bool.false_eq_true, if_false, List.append_nil]
  cases hv : l.valid with
  | true =>
    simp only [if_true, iff_true]
    exact (hasCond_convert_dedup _ _ _ _).mpr ⟨listenerProgrammed, by decide +kernel, rfl⟩
  | false =>
    have hcf : condsFalse "Programmed" l.conds = true := by
      simp only [Listener.wf, hv, Bool.false_or, Bool.and_eq_true] at hwf
      exact hwf.2
    simp [hasCond_of_condsFalse hcf gen]

/-- every condition of the Gateway status carries the Gateway's generation -/
theorem gateway_generation_current (gw : Gateway) (e : Bool) :
    (∀ a ∈ (prepareGateway gw e).conds, a.gen = gw.gen) ∧
    (∀ l ∈ (prepareGateway gw e).listeners, ∀ a ∈ l.conds, a.gen = gw.gen) := by
  unfold prepareGateway
  split
  · refine ⟨fun a ha => convert_gen ha, ?_⟩
    intro l hl a ha
    simp only [List.mem_map] at hl
    obtain ⟨x, _, rfl⟩ := hl
    exact convert_gen ha
  · exact ⟨fun a ha => convert_gen ha, by simp⟩

/-- exactly one ancestor entry per ancestor of the graph policy, in order, with our controller name and the
policy's current generation -/
theorem policy_one_entry_per_ancestor (ctlr : String) (p : Policy) :
    (preparePolicy ctlr p).ancestors.map (·.ref) = p.ancestors.map (·.ref) ∧
    (∀ a ∈ (preparePolicy ctlr p).ancestors, a.controller = ctlr ∧ ∀ c ∈ a.conds, c.gen = p.gen) := by
  constructor
  · simp [preparePolicy, prepareAncestor, Function.comp_def]
  · intro a ha
    simp only [preparePolicy, List.mem_map] at ha
    obtain ⟨x, _, rfl⟩ := ha
    exact ⟨rfl, fun c hc => convert_gen hc⟩

/-- a BackendTLSPolicy gets at most one ancestor entry — the winning Gateway — and only when it is referenced
and not ignored -/
theorem btp_one_ancestor (ctlr : String) (b : BTP) :
    ((prepareBTP ctlr b).ancestors.length = if b.referenced && !b.ignored then 1 else 0) ∧
    (∀ a ∈ (prepareBTP ctlr b).ancestors,
      a.ref = ⟨gatewayGroup, "Gateway", b.gwNs, b.gwName⟩ ∧ a.controller = ctlr ∧ ∀ c ∈ a.conds, c.gen = b.gen) := by
  unfold prepareBTP
  cases b.referenced <;> cases b.ignored <;> simp
  intro c hc
  exact convert_gen hc

/-- policy conditions override ancestor conditions, which override the default Accepted=True -/
theorem policy_accepted_iff (ctlr : String) (p : Policy) (a : Ancestor) :
    hasCond (prepareAncestor ctlr p a).conds "Accepted" "True" = true ↔
      match lastOfType "Accepted" p.conds, lastOfType "Accepted" a.conds with
      | some c, _ => c.status = "True"
      | none, some c => c.status = "True"
      | none, none => True := by
  simp only [prepareAncestor]
  rw [hasCond_convert_dedup]
  simp only [lastOfType_append]
  cases lastOfType "Accepted" p.conds <;> cases lastOfType "Accepted" a.conds <;>
    simp [lastOfType_singleton, policyAccepted]

example : (preparePolicy "c" ⟨"ClientSettingsPolicy", "n", "p", 3, [],
    [⟨⟨gatewayGroup, "Gateway", "n", "g"⟩, []⟩, ⟨⟨gatewayGroup, "HTTPRoute", "n", "r"⟩, []⟩]⟩).ancestors.length = 2 := by
  decide +kernel

end NGF.StatusPrep

/-! ## the handler: the reload result that reaches status preparation (`NGF.Model.HandlerStatus`) -/
namespace NGF.HandlerStatus
open NGF.StatusPrep

theorem step_applying (plus : Bool) (s : HState) {ct : ChangeType} (o : Outcome) (hct : ct ≠ .noChange) :
    (step plus s ct o).2 = some (applyErr plus s.latestErr ct o) ∧
    (step plus s ct o).1.latestErr = applyErr plus s.latestErr ct o ∧
    (step plus s ct o).1.lastFail = applyErr plus s.latestErr ct o := by
  cases ct with
  | noChange => exact absurd rfl hct
  | endpointsOnly => exact ⟨rfl, rfl, rfl⟩
  | clusterState => exact ⟨rfl, rfl, rfl⟩

/-- a batch without changes neither touches the recorded result nor issues statuses -/
theorem nochange_is_silent (plus : Bool) (s : HState) (o : Outcome) : step plus s .noChange o = (s, none) := rfl

theorem run_noChange (plus : Bool) (idle : List Outcome) (s : HState) :
    run plus s (idle.map fun x => (ChangeType.noChange, x)) = s := by
  induction idle with
  | nil => rfl
  | cons x xs ih => exact ih

/-- For every change type that applies something, a failing apply (files, reload, or Plus upstream update) is what
`updateStatuses` receives and what `latestReloadResult` keeps. -/
theorem failure_surfaces_for_every_change_type (plus : Bool) (s : HState) (ct : ChangeType) (o : Outcome)
    (hct : ct ≠ .noChange) (hfail : applyErr plus s.latestErr ct o = true) :
    (step plus s ct o).2 = some true ∧ (step plus s ct o).1.latestErr = true ∧ (step plus s ct o).1.lastFail = true := by
  rw [← hfail]
  exact step_applying plus s o hct

/-- … and what the statuses written after such a batch say, for every graph summary: nothing is Programmed=True
and no route parent is Accepted=True. -/
theorem failed_batch_statuses (plus : Bool) (s : HState) (ct : ChangeType) (o : Outcome) (su : Summary)
    (hct : ct ≠ .noChange) (hfail : applyErr plus s.latestErr ct o = true) (hwf : su.wf = true) :
    ∃ e, (step plus s ct o).2 = some e ∧
      (prepare { su with reloadErr := e }).noProgrammedTrue = true ∧
      ∀ r ∈ su.routes, ∀ ref ∈ r.parentRefs, acceptedTrue r.conds e ref = false :=
  ⟨true, (failure_surfaces_for_every_change_type plus s ct o hct hfail).1,
    reload_failed_nothing_programmed { su with reloadErr := true } rfl hwf,
    fun r _ ref _ => (reload_failed_route_not_accepted "c" r.conds 0 ref).2⟩

/-- each failure kind is a failure for each applying change type where it is exercised -/
theorem applyErr_cases (plus prevErr : Bool) (o : Outcome) :
    (applyErr plus prevErr .clusterState o = (!o.writeOk || !o.reloadOk || (plus && !o.apiOk))) ∧
    (applyErr false prevErr .endpointsOnly o = (!o.writeOk || !o.reloadOk)) ∧
    (applyErr true false .endpointsOnly o = !o.apiOk) ∧
    -- since c94173a: with Plus, after a remembered failure, an endpoints-only change is a full apply
    (applyErr true true .endpointsOnly o = (!o.writeOk || !o.reloadOk || !o.apiOk)) := by
  simp [applyErr, apiOnly, nginxConfErr, upstreamsErr, Bool.or_assoc]

/-- The invariant of the handler: the recorded result is the failure of the last apply, and a stale configuration implies such a
failure (an endpoints-only change uses the Plus API alone only when nothing is remembered, so it cannot clear one). -/
theorem step_invariant (plus : Bool) (s : HState) (ct : ChangeType) (o : Outcome)
    (h1 : s.latestErr = s.lastFail) (h2 : s.stale = true → s.lastFail = true) :
    (step plus s ct o).1.latestErr = (step plus s ct o).1.lastFail ∧
    ((step plus s ct o).1.stale = true → (step plus s ct o).1.lastFail = true) := by
  obtain ⟨w, r, a⟩ := o
  cases ct with
  | noChange => exact ⟨h1, h2⟩
  | clusterState =>
    refine ⟨rfl, ?_⟩
    simp only [step, stepWith, fullApply, applyErr, nginxConfErr, if_true]
    cases w <;> cases r <;> simp
  | endpointsOnly =>
    refine ⟨rfl, ?_⟩
    cases hap : apiOnly plus s.latestErr with
    | true =>
      simp only [step, stepWith, fullApply, applyErr, hap, Bool.not_true, Bool.false_eq_true, if_false, if_true]
      intro hst
      have hl := h2 hst
      rw [← h1] at hl
      simp [apiOnly, hl] at hap
    | false =>
      simp only [step, stepWith, fullApply, applyErr, hap, Bool.not_false, if_true, Bool.false_eq_true, if_false, nginxConfErr]
      cases w <;> cases r <;> simp

theorem run_invariant (plus : Bool) (bs : List (ChangeType × Outcome)) (s : HState)
    (h1 : s.latestErr = s.lastFail) (h2 : s.stale = true → s.lastFail = true) :
    (run plus s bs).latestErr = (run plus s bs).lastFail ∧
    ((run plus s bs).stale = true → (run plus s bs).lastFail = true) := by
  induction bs generalizing s with
  | nil => exact ⟨h1, h2⟩
  | cons b rest ih =>
    obtain ⟨h1', h2'⟩ := step_invariant plus s b.1 b.2 h1 h2
    exact ih _ h1' h2'

/-- the recorded result is the TRUTH for every batch history, with or without NGINX Plus (full strength since /repo c94173a; before the
fix the Plus case had an exception, see `prefix_plus_reports_success_while_stale`): the handler remembers a failure exactly when
NGINX does not run the last applied configuration. -/
theorem reload_result_is_truth (plus : Bool) (bs : List (ChangeType × Outcome)) :
    (run plus init bs).latestErr = (run plus init bs).failed := by
  obtain ⟨h1, h2⟩ := run_invariant plus bs init rfl (fun h => nomatch h)
  cases hs : (run plus init bs).stale with
  | false => simp [HState.failed, hs, h1]
  | true => simp [HState.failed, hs, h1, h2 hs]

theorem oss_reload_result_is_truth (bs : List (ChangeType × Outcome)) :
    (run false init bs).latestErr = (run false init bs).failed := reload_result_is_truth false bs

/-- PRE-FIX WITNESS (regression detector; fixed by /repo c94173a, formerly finding C07:…stale-after-plus-endpoints-only-update):
with the old EndpointsOnlyChange arm (`if h.cfg.plus`), a cluster-state batch whose reload fails followed by an endpoints-only
batch whose API update succeeds leaves `latestReloadResult` empty although NGINX never loaded the configuration — statuses
turned Programmed=True / Accepted=True. With the repaired arm the same history keeps the failure. -/
theorem prefix_plus_reports_success_while_stale :
    (let s := runPreFix true init [(.clusterState, ⟨true, false, true⟩), (.endpointsOnly, ⟨true, true, true⟩)]
     s.latestErr = false ∧ s.failed = true) ∧
    (let s := run true init [(.clusterState, ⟨true, false, true⟩), (.endpointsOnly, ⟨true, true, false⟩)]
     s.latestErr = true ∧ s.failed = true) ∧
    (let s := run true init [(.clusterState, ⟨true, false, true⟩), (.endpointsOnly, ⟨true, true, true⟩)]
     s.latestErr = false ∧ s.failed = false) := by decide +kernel

/-- `failure_surfaces_for_out_of_batch_writes`: after a batch whose apply failed (any applying change type, any failure kind),
every Gateway status write done outside batch processing — in any later batch that carries an NGF-Service event, whatever
else it carries, until the next applying batch — uses the failure: NoChange batches in between do not clear it, and the
write of a batch that itself applies something happens before that apply, so it still uses the failure. -/
theorem failure_surfaces_for_out_of_batch_writes (plus : Bool) (s : HState) (ct : ChangeType) (o : Outcome)
    (hct : ct ≠ .noChange) (hfail : applyErr plus s.latestErr ct o = true)
    (idle : List Outcome) (ct' : ChangeType) (o' : Outcome) :
    (stepSvc plus (run plus (step plus s ct o).1 (idle.map fun x => (ChangeType.noChange, x))) true ct' o').2.1 = some true := by
  rw [run_noChange]
  exact congrArg some (failure_surfaces_for_every_change_type plus s ct o hct hfail).2.1

/-- … and what such a write says, for every graph summary: nothing is Programmed=True (the Gateway, its listeners, ignored
Gateways), composed with `reload_failed_nothing_programmed` -/
theorem out_of_batch_write_after_failure_not_programmed (plus : Bool) (s : HState) (ct : ChangeType) (o : Outcome)
    (su : Summary) (hct : ct ≠ .noChange) (hfail : applyErr plus s.latestErr ct o = true) (hwf : su.wf = true) :
    (prepare { su with reloadErr := outOfBatchWrite (step plus s ct o).1 }).noProgrammedTrue = true := by
  have h : outOfBatchWrite (step plus s ct o).1 = true :=
    (failure_surfaces_for_every_change_type plus s ct o hct hfail).2.1
  rw [h]
  exact reload_failed_nothing_programmed { su with reloadErr := true } rfl hwf

/-- an out-of-batch write always uses the truth, for every batch history, with or without NGINX Plus (unconditional since c94173a) -/
theorem out_of_batch_write_is_truth (plus : Bool) (bs : List (ChangeType × Outcome)) :
    outOfBatchWrite (run plus init bs) = (run plus init bs).failed := reload_result_is_truth plus bs

/-- a batch that only carries the NGF-Service event (NoChange) leaves the Gateway status the callback wrote; a batch that
applies something overwrites it with its own result -/
theorem lastGatewayWrite_cases (plus : Bool) (s : HState) (o : Outcome) (ct : ChangeType) (hct : ct ≠ .noChange) :
    lastGatewayWrite plus s true .noChange o = some s.latestErr ∧ lastGatewayWrite plus s false .noChange o = none ∧
    lastGatewayWrite plus s true ct o = some (applyErr plus s.latestErr ct o) := by
  refine ⟨rfl, rfl, ?_⟩
  cases ct with
  | noChange => exact absurd rfl hct
  | endpointsOnly => rfl
  | clusterState => rfl

/-- REFUTED VARIANT (seeded change C07-r3m1): remembering the by-value result BEFORE the error is recorded in it makes every
out-of-batch write after a failed apply claim success, for every change type and failure kind — the batch's own statuses (they
get the result as a parameter) stay right, which is why only the callbacks show it -/
theorem by_value_before_error_refuted (plus : Bool) (s : HState) (ct : ChangeType) (o : Outcome)
    (hct : ct ≠ .noChange) (hfail : applyErr plus s.latestErr ct o = true) :
    (stepStoreBeforeError plus s ct o).2 = some true ∧
    outOfBatchWrite (stepStoreBeforeError plus s ct o).1 = false ∧
    (stepStoreBeforeError plus s ct o).1.failed = true ∧
    outOfBatchWrite (step plus s ct o).1 = true := by
  obtain ⟨h1, h2, h3⟩ := failure_surfaces_for_every_change_type plus s ct o hct hfail
  have hv : stepStoreBeforeError plus s ct o = ({ (step plus s ct o).1 with latestErr := false }, (step plus s ct o).2) := by
    cases ct with
    | noChange => exact absurd rfl hct
    | endpointsOnly => rfl
    | clusterState => rfl
  rw [hv]
  exact ⟨h1, rfl, by simp [HState.failed, h3], h2⟩

/-- `success_clears_failure`: for EVERY batch history (with or without NGINX Plus), whenever NGINX runs the last applied
configuration (`failed = false`) the remembered result is "no error" — so the statuses of the last applying batch and every
out-of-batch Gateway status write after it are those of a fresh handler with a nil reload result. -/
theorem success_clears_failure (plus : Bool) (bs : List (ChangeType × Outcome))
    (hok : (run plus init bs).failed = false) :
    (run plus init bs).latestErr = false ∧ outOfBatchWrite (run plus init bs) = false := by
  have h := (reload_result_is_truth plus bs).trans hok
  exact ⟨h, h⟩

/-- fail → succeed → (NoChange)* → a batch with the NGF-Service event: the out-of-batch write and, if the batch itself applies
nothing, the Gateway status that stands afterwards use "no error" -/
theorem success_clears_failure_for_out_of_batch_writes (plus : Bool) (s : HState) (ct ct' : ChangeType) (o o' : Outcome)
    (hct' : ct' ≠ .noChange) (hok : applyErr plus (step plus s ct o).1.latestErr ct' o' = false) (idle : List Outcome) (o'' : Outcome) :
    let t := run plus (step plus (step plus s ct o).1 ct' o').1 (idle.map fun x => (ChangeType.noChange, x))
    (stepSvc plus t true .noChange o'').2.1 = some false ∧ lastGatewayWrite plus t true .noChange o'' = some false := by
  have h : (step plus (step plus s ct o).1 ct' o').1.latestErr = false :=
    (step_applying plus _ o' hct').2.1.trans hok
  simp only [run_noChange]
  exact ⟨congrArg some h, congrArg some h⟩

theorem applyErr_oss (p : Bool) (ct : ChangeType) (o : Outcome) : applyErr false p ct o = applyErr false false ct o := by
  cases ct <;> rfl

theorem stepStickyError_applying (plus : Bool) (s : HState) {ct : ChangeType} (o : Outcome) (hct : ct ≠ .noChange) :
    stepStickyError plus s ct o =
      ({ (step plus s ct o).1 with latestErr := s.latestErr || applyErr plus s.latestErr ct o },
        some (s.latestErr || applyErr plus s.latestErr ct o)) := by
  cases ct with
  | noChange => exact absurd rfl hct
  | endpointsOnly => rfl
  | clusterState => rfl

/-- REFUTED VARIANT (seeded change C01-r4m3): writing the failure into the remembered field and never overwriting it after a
success: after fail → succeed (any applying change types, any failure kind) the batch's own statuses and every later
out-of-batch write still say "failed" although NGINX runs the last applied configuration -/
theorem sticky_error_refuted (s : HState) (ct ct' : ChangeType) (o o' : Outcome)
    (hct : ct ≠ .noChange) (hct' : ct' ≠ .noChange) (hfail : applyErr false false ct o = true) (hok : applyErr false false ct' o' = false) :
    let t := (stepStickyError false (stepStickyError false s ct o).1 ct' o')
    t.2 = some true ∧ outOfBatchWrite t.1 = true ∧
    (step false (step false s ct o).1 ct' o').2 = some false := by
  -- without Plus the error of an apply does not depend on what is remembered (`applyErr_oss`)
  have h1 : (stepStickyError false s ct o).1.latestErr = true := by
    rw [stepStickyError_applying false s o hct, applyErr_oss, hfail, Bool.or_true]
  refine ⟨?_, ?_, ?_⟩
  · rw [stepStickyError_applying false _ o' hct', h1]; rfl
  · rw [stepStickyError_applying false _ o' hct']
    show (_ || _) = true
    rw [h1]; rfl
  · rw [(step_applying false _ o' hct').1, applyErr_oss, hok]

/-- concrete: reload fails, the next cluster-state batch reloads fine: truth "runs the last configuration", the sticky variant
still remembers the failure, the real step does not -/
example :
    (run false init [(.clusterState, ⟨true, false, true⟩), (.clusterState, ⟨true, true, true⟩)]).failed = false ∧
    (run false init [(.clusterState, ⟨true, false, true⟩), (.clusterState, ⟨true, true, true⟩)]).latestErr = false ∧
    (stepStickyError false (stepStickyError false init .clusterState ⟨true, false, true⟩).1 .clusterState ⟨true, true, true⟩).1.latestErr = true := by
  decide +kernel

/-- concrete witness: reload fails in a cluster-state batch, then the LoadBalancer address of the NGF Service arrives alone -/
example : (stepSvc false (step false init .clusterState ⟨true, false, true⟩).1 true .noChange ⟨true, true, true⟩).2.1 = some true ∧
    outOfBatchWrite (stepStoreBeforeError false init .clusterState ⟨true, false, true⟩).1 = false := by decide +kernel

example : (step false init .endpointsOnly ⟨true, false, true⟩).2 = some true := by decide +kernel
example : (step true init .endpointsOnly ⟨true, true, false⟩).2 = some true := by decide +kernel
example : (step false init .clusterState ⟨false, true, true⟩).2 = some true := by decide +kernel

end NGF.HandlerStatus

/-! ## policy ancestors of Service-targeting policies (`NGF.Model.PolicyAttach`, mirror of `attachPolicyToService`) -/
namespace NGF.PolicyAttach
open NGF.StatusPrep

theorem attachToService_of_contains (gw : AncRef) (v : Bool) (as : List Ancestor) (h : containsRef as gw = true) :
    attachToService gw v as = as := by
  cases v <;> simp [attachToService, h]

theorem attachServices_of_contains (gw : AncRef) (v : Bool) (n : Nat) (as : List Ancestor) (h : containsRef as gw = true) :
    attachServices gw v n as = as := by
  induction n with
  | zero => rfl
  | succ k ih => simp [attachServices, attachToService_of_contains gw v as h, ih]

/-- `policy_service_targets_one_gateway_ancestor`: a Service-targeting policy whose targetRefs name ANY number n ≥ 1 of referenced
Services gets EXACTLY ONE ancestor entry, for the winning Gateway — Accepted by default when the Gateway is valid,
TargetNotFound when it is invalid; and none when no targetRef names a referenced Service -/
theorem policy_service_targets_one_gateway_ancestor (gw : AncRef) (v : Bool) (n : Nat) :
    attachServices gw v (n + 1) [] = [⟨gw, if v then [] else [targetNotFound]⟩] ∧ attachServices gw v 0 [] = [] := by
  refine ⟨?_, rfl⟩
  have h1 : attachToService gw v [] = [⟨gw, if v then [] else [targetNotFound]⟩] := by
    cases v <;> simp [attachToService, containsRef]
  have hc : containsRef [⟨gw, if v then [] else [targetNotFound]⟩] gw = true := by simp [containsRef]
  simp only [attachServices, h1]
  exact attachServices_of_contains gw v n _ hc

/-- … hence `preparePolicy` writes exactly one ancestor status for it (composition with `policy_one_entry_per_ancestor`'s map) -/
theorem policy_service_targets_one_status_entry (ctlr : String) (p : Policy) (gw : AncRef) (v : Bool) (n : Nat)
    (hp : p.ancestors = attachServices gw v (n + 1) []) :
    (preparePolicy ctlr p).ancestors.map (·.ref) = [gw] := by
  rw [preparePolicy, hp, (policy_service_targets_one_gateway_ancestor gw v n).1]
  simp [prepareAncestor]

theorem attachServicesNoDedup_invalid (gw : AncRef) (n : Nat) (as : List Ancestor) :
    attachServicesNoDedup gw false n as = as ++ List.replicate n ⟨gw, [targetNotFound]⟩ := by
  induction n generalizing as with
  | zero => simp [attachServicesNoDedup]
  | succ k ih => simp [attachServicesNoDedup, attachToServiceNoDedup, ih, List.replicate_succ]

/-- REFUTED VARIANT (seeded change C07-r4m1): without the `ancestorsContainsAncestorRef` test in the invalid-Gateway branch a
policy on n referenced Services gets n identical entries -/
theorem no_dedup_invalid_gateway_refuted (gw : AncRef) (n : Nat) :
    (attachServicesNoDedup gw false n []).length = n ∧ ∀ a ∈ attachServicesNoDedup gw false n [], a.ref = gw := by
  rw [attachServicesNoDedup_invalid, List.nil_append]
  exact ⟨List.length_replicate, fun a ha => by rw [(List.mem_replicate.mp ha).2]⟩

example : (attachServices ⟨"g", "Gateway", "d", "gw"⟩ false 3 []).length = 1 ∧
    (attachServicesNoDedup ⟨"g", "Gateway", "d", "gw"⟩ false 3 []).length = 3 := by decide +kernel

end NGF.PolicyAttach

/-! ## the independent binding oracle of the judge: sanity theorems -/
namespace NGF.StatusJudge

/-- a listener without hostname intersects every route hostname; an exact listener does not intersect another name -/
theorem hostMatch_any (r : String) : hostMatch "" r = true := by simp [hostMatch]

example : hostMatch "*.example.com" "foo.example.com" = true := by decide +kernel
example : hostMatch "*.example.com" "example.com" = false := by decide +kernel
example : hostMatch "foo.example.com" "*.example.com" = true := by decide +kernel
example : hostMatch "foo.example.com" "bar.org" = false := by decide +kernel
example : acceptedHosts "*.example.com" ["foo.example.com", "bar.org"] = ["foo.example.com"] := by decide +kernel
example : acceptedHosts "" [] = ["~^"] := by decide +kernel

/-- a route without hostnames is always accepted on exactly one name -/
theorem acceptedHosts_no_route_hostnames (l : String) : (acceptedHosts l []).length = 1 := by
  simp [acceptedHosts]

/-- a parentRef with a `port` selects no listener (not supported by this implementation) -/
theorem selectsListener_port (p : OParentRef) (l : OListener) (h : p.port ≠ none) : selectsListener p l = false := by
  unfold selectsListener
  cases hp : p.port with
  | none => exact absurd hp h
  | some n => simp

end NGF.StatusJudge

namespace NGF.StatusPrep
open NGF.Generated.Conditions

def lookup (name : String) : Option (List Cond) :=
  (table.find? (·.1 = name)).map fun e => e.2.map fun t => ⟨t.1, t.2.1, t.2.2⟩

/-- constructors that may report something positive -/
def positiveConstructors : List String :=
  ["NewDefaultGatewayClassConditions", "NewDefaultGatewayConditions", "NewDefaultListenerConditions",
   "NewDefaultRouteConditions", "NewGatewayAccepted", "NewGatewayAcceptedListenersNotValid",
   "NewGatewayClassInvalidParameters", "NewGatewayClassResolvedRefs", "NewGatewayProgrammed", "NewListenerAccepted",
   "NewListenerProgrammed", "NewListenerResolvedRefs", "NewPolicyAccepted", "NewRouteAccepted", "NewRouteResolvedRefs",
   "NewSnippetsFilterAccepted", "NewNginxGatewayValid"]

def programmedFalseOnly (names : List String) : Bool :=
  names.all fun n => (lookup n).any fun cs =>
    cs.any (fun c => c.type = "Programmed" && c.status = "False") && condsFalse "Programmed" cs

def singleWith (p : Cond → Bool) (names : List String) : Bool :=
  names.all fun n => (lookup n).any fun cs => cs.length == 1 && cs.all p

/-! What the models of C07, of the fragment stage and of the TLS stage rely on in the constructor table, kind by kind. The
statements are evaluated together (`constructors`): a lookup compares string literals with every earlier name of the table,
which is slow to evaluate, and within one evaluation each name is read once. -/

def GatewayConstructors : Prop :=
    lookup "NewDefaultGatewayConditions" = some defaultGatewayConds ∧
    lookup "NewGatewayNotProgrammedInvalid" = some [gatewayNotProgrammedInvalid] ∧
    lookup "NewGatewayNotAcceptedListenersNotValid" = some gatewayNotAcceptedListenersNotValid ∧
    lookup "NewGatewayAcceptedListenersNotValid" = some [gatewayAcceptedListenersNotValid] ∧
    lookup "NewGatewayConflict" = some gatewayConflictConds ∧
    lookup "NewGatewayInvalid" = some NGF.PipelineStatus.gatewayInvalid ∧
    programmedFalseOnly ["NewGatewayInvalid", "NewGatewayUnsupportedValue", "NewGatewayConflict"] = true

def ListenerConstructors : Prop :=
    lookup "NewDefaultListenerConditions" = some defaultListenerConds ∧
    lookup "NewListenerNotProgrammedInvalid" = some [listenerNotProgrammedInvalid] ∧
    lookup "NewListenerInvalidCertificateRef" = some NGF.PipelineStatusTls.invalidCertificateRef ∧
    lookup "NewListenerRefNotPermitted" = some NGF.PipelineStatusTls.refNotPermitted ∧
    lookup "NewListenerProtocolConflict" = some NGF.PipelineStatusTls.protocolConflict ∧
    programmedFalseOnly ["NewListenerUnsupportedValue", "NewListenerInvalidCertificateRef", "NewListenerInvalidRouteKinds",
      "NewListenerProtocolConflict", "NewListenerHostnameConflict", "NewListenerUnsupportedProtocol",
      "NewListenerRefNotPermitted"] = true

open NGF.PipelineStatus in
def RoutePolicyConstructors : Prop :=
    lookup "NewDefaultRouteConditions" = some defaultRouteConds ∧
    lookup "NewRouteGatewayNotProgrammed" = some [routeGatewayNotProgrammed] ∧
    lookup "NewPolicyAccepted" = some [policyAccepted] ∧
    lookup "NewPolicyTargetNotFound" = some [NGF.PolicyAttach.targetNotFound] ∧
    lookup "NewRouteNoMatchingParent" = some [noMatchingParent] ∧
    lookup "NewRouteNotAcceptedGatewayIgnored" = some [gatewayIgnored] ∧
    lookup "NewRouteInvalidGateway" = some [invalidGateway] ∧
    lookup "NewRouteInvalidListener" = some [invalidListener] ∧
    lookup "NewRouteNotAllowedByListeners" = some [notAllowedByListeners] ∧
    lookup "NewRouteNoMatchingListenerHostname" = some [noMatchingListenerHostname] ∧
    lookup "NewRouteUnsupportedValue" = some [routeUnsupportedValue] ∧
    singleWith (fun c => c.type = "Accepted" && c.status = "False")
      ["NewRouteNoMatchingParent", "NewRouteUnsupportedValue", "NewRouteNotAcceptedGatewayIgnored",
       "NewRouteInvalidGateway", "NewRouteInvalidListener", "NewRouteNotAllowedByListeners",
       "NewRouteNoMatchingListenerHostname", "NewRouteHostnameConflict"] = true ∧
    singleWith (fun c => c.type = refsUnresolved.type && c.status = refsUnresolved.status)
      ["NewRouteBackendRefInvalidKind", "NewRouteBackendRefRefBackendNotFound", "NewRouteBackendRefRefNotPermitted",
       "NewRouteBackendRefUnsupportedValue"] = true

/-- the conditions are tested before the name, so that only the constructors that fail the test are looked up in the list -/
def NegativeUnlessListed : Prop :=
    table.all (fun e =>
      (e.2.all fun t => (t.1 ≠ "Accepted" && t.1 ≠ "ResolvedRefs" && t.1 ≠ "Programmed") || t.2.1 = "False") ||
        positiveConstructors.contains e.1) = true

theorem constructors :
    GatewayConstructors ∧ ListenerConstructors ∧ RoutePolicyConstructors ∧ NegativeUnlessListed := by
  unfold GatewayConstructors ListenerConstructors RoutePolicyConstructors NegativeUnlessListed
  decide +kernel

theorem gateway_constructors : GatewayConstructors := constructors.1
theorem listener_constructors : ListenerConstructors := constructors.2.1
theorem route_policy_constructors : RoutePolicyConstructors := constructors.2.2.1

/-- the conditions added on reload failure are the ones the model appends -/
theorem facts_reload_conditions :
    lookup "NewRouteGatewayNotProgrammed" = some [routeGatewayNotProgrammed] ∧
    lookup "NewListenerNotProgrammedInvalid" = some [listenerNotProgrammedInvalid] ∧
    lookup "NewGatewayNotProgrammedInvalid" = some [gatewayNotProgrammedInvalid] :=
  ⟨route_policy_constructors.2.1, listener_constructors.2.1, gateway_constructors.2.1⟩

theorem facts_default_conditions :
    lookup "NewDefaultRouteConditions" = some defaultRouteConds ∧
    lookup "NewDefaultListenerConditions" = some defaultListenerConds ∧
    lookup "NewDefaultGatewayConditions" = some defaultGatewayConds ∧
    lookup "NewPolicyAccepted" = some [policyAccepted] :=
  ⟨route_policy_constructors.1, listener_constructors.1, gateway_constructors.1, route_policy_constructors.2.2.1⟩

theorem facts_gateway_conditions :
    lookup "NewGatewayNotAcceptedListenersNotValid" = some gatewayNotAcceptedListenersNotValid ∧
    lookup "NewGatewayAcceptedListenersNotValid" = some [gatewayAcceptedListenersNotValid] ∧
    lookup "NewGatewayConflict" = some gatewayConflictConds :=
  have ⟨_, _, hnot, hacc, hconflict, _⟩ := gateway_constructors
  ⟨hnot, hacc, hconflict⟩

/-- `Route.wf` / `Listener.wf` / `Gateway.wf` from the source: outside the explicit list of positive constructors
(none of which the graph appends to `route.Conditions`, `FailedCondition`, an invalid listener's or an invalid
gateway's conditions) every condition of type Accepted, ResolvedRefs or Programmed is negative -/
theorem facts_only_listed_constructors_positive :
    table.all (fun e =>
      positiveConstructors.contains e.1 ||
        e.2.all fun t => (t.1 ≠ "Accepted" && t.1 ≠ "ResolvedRefs" && t.1 ≠ "Programmed") || t.2.1 = "False") = true := by
  simp only [Bool.or_comm (positiveConstructors.contains _)]
  exact constructors.2.2.2

/-- every constructor that invalidates a listener carries Programmed=False -/
theorem facts_invalid_listener_constructors :
    (["NewListenerUnsupportedValue", "NewListenerInvalidCertificateRef", "NewListenerInvalidRouteKinds",
      "NewListenerProtocolConflict", "NewListenerHostnameConflict", "NewListenerUnsupportedProtocol",
      "NewListenerRefNotPermitted"].all fun n =>
      match lookup n with
      | some cs => cs.any (fun c => c.type = "Programmed" && c.status = "False") && condsFalse "Programmed" cs
      | none => false) = true := by
  have ⟨_, _, _, _, _, h⟩ := listener_constructors
  rw [← h]
  exact List.all_congr rfl fun n => by cases lookup n <;> rfl

/-- every attachment failure is an Accepted=False condition -/
theorem facts_failed_attachment_constructors :
    (["NewRouteNoMatchingParent", "NewRouteUnsupportedValue", "NewRouteNotAcceptedGatewayIgnored",
      "NewRouteInvalidGateway", "NewRouteInvalidListener", "NewRouteNotAllowedByListeners",
      "NewRouteNoMatchingListenerHostname", "NewRouteHostnameConflict"].all fun n =>
      match lookup n with
      | some [c] => c.type = "Accepted" && c.status = "False"
      | _ => false) = true := by
  have ⟨_, _, _, _, _, _, _, _, _, _, _, h, _⟩ := route_policy_constructors
  rw [← h]
  exact List.all_congr rfl fun n => by rcases lookup n with _ | _ | ⟨c, _ | _⟩ <;> simp

/-- `Gateway.wf` from the source: the constructors `validateGateway` uses carry Programmed=False only -/
theorem facts_invalid_gateway_constructors :
    (["NewGatewayInvalid", "NewGatewayUnsupportedValue", "NewGatewayConflict"].all fun n =>
      match lookup n with
      | some cs => cs.any (fun c => c.type = "Programmed" && c.status = "False") && condsFalse "Programmed" cs
      | none => false) = true := by
  have ⟨_, _, _, _, _, _, h⟩ := gateway_constructors
  rw [← h]
  exact List.all_congr rfl fun n => by cases lookup n <;> rfl

/-- the functions the model mirrors are the ones it was written against -/
theorem facts_prepareRouteStatus_body :
    prepareRouteStatusBody = Expected.prepareRouteStatusBody ∧
    prepareRouteStatusCalls = Expected.prepareRouteStatusCalls := ⟨rfl, rfl⟩

theorem facts_prepareGatewayRequest_body :
    prepareGatewayRequestBody = Expected.prepareGatewayRequestBody ∧
    prepareGatewayRequestsBody = Expected.prepareGatewayRequestsBody := ⟨rfl, rfl⟩

theorem facts_policy_requests_body :
    prepareNGFPolicyRequestsBody = Expected.prepareNGFPolicyRequestsBody ∧
    prepareBackendTLSPolicyRequestsBody = Expected.prepareBackendTLSPolicyRequestsBody := ⟨rfl, rfl⟩

theorem facts_conditions_body :
    deduplicateConditionsBody = Expected.deduplicateConditionsBody ∧
    convertConditionsBody = Expected.convertConditionsBody := ⟨rfl, rfl⟩

theorem facts_reload_error_branches : reloadErrorBranches = Expected.reloadErrorBranches := rfl

/-- HandleEventBatch assigns the error of every applying case to the one `err` that becomes
`latestReloadResult` (a shadowed `err` in a case would be a different text) -/
theorem facts_handler_body :
    handleEventBatchBody = Expected.handleEventBatchBody ∧
    updateNginxConfBody = Expected.updateNginxConfBody := ⟨rfl, rfl⟩

end NGF.StatusPrep
