/-
C07, fragment stage — status truth as THEOREMS over one model: the statuses are computed by `NGF.Model.PipelineStatus` from the
SAME `Pipeline.Scenario` that `Pipeline.gen` turns into the NGINX configuration (`Conf`), so "Accepted ⇔ served",
"attachedRoutes = bound routes", "one entry per parentRef" and "no Gateway ⇒ no status" are statements about
`routeParentStatuses` / `listenerStatuses` on one side and `acceptedAt` / `entries` / `hostsOf` / `serverOf` / `gen` on the other.
Both sides are tied to the real code on the same generated scenarios: `gen` by C02's translation validation
(`PipelineTie`), the statuses by the fragment stream of `props/c07.py` (`PipelineStatusTie.compareFragment`).
Helper lemmas: NGF/Proofs/PipelineStatus.lean, NGF/Proofs/PipelineStatusLoc.lean; the decision core of status preparation: NGF/Props/C07.lean.
-/
import NGF.Props.C07
import NGF.Proofs.PipelineStatus
import NGF.Proofs.PipelineStatusLoc
import NGF.Proofs.PipelineStatusExpected
import NGF.Generated.BindingFacts

namespace NGF.PipelineStatus
open NGF.Pipeline

/-- `one_entry_per_parent_fragment`: a route gets exactly one entry per parentRef that names a Gateway of our class (the
served one or an ignored one), in parentRef order, carrying that parentRef's (namespace, name, sectionName), our controller
name and the route's generation; parentRefs to anything else get no entry, and a route with no such parentRef gets no status
request at all. (`noDupRefs` excludes the known finding duplicate-parentref; see `duplicate_parentref_no_entries`.) -/
theorem one_entry_per_parent_fragment (s : Scenario) (gw : Gateway) (v e : Bool) (n : Int) (r : Route)
    (hgg : graphGateway s = some (gw, v)) (hnd : noDupRefs s r = true) :
    (r.parents.filter (namesOurs s) = [] → routeParentStatuses s e n r = none) ∧
    (r.parents.filter (namesOurs s) ≠ [] →
      routeParentStatuses s e n r = some ((r.parents.filter (namesOurs s)).map (parentStatus s gw v e n r)) ∧
      ((r.parents.filter (namesOurs s)).map (parentStatus s gw v e n r)).map (fun x => (x.ns, x.name, x.sectionName)) =
        (r.parents.filter (namesOurs s)).map (fun p => (str p.ns, str p.name, p.sectionName.map str)) ∧
      ∀ x ∈ (r.parents.filter (namesOurs s)).map (parentStatus s gw v e n r),
        x.controller = str s.ctlr ∧ ∀ a ∈ x.conds, a.gen = n) := by
  have hrefs := sectionNameRefs_of_noDup hnd
  constructor
  · intro hnil
    simp [routeParentStatuses, hgg, hrefs, hnil]
  · intro hne
    refine ⟨?_, ?_, ?_⟩
    · unfold routeParentStatuses
      simp only [hgg, hrefs]
      cases hf : r.parents.filter (namesOurs s) with
      | nil => exact absurd hf hne
      | cons x xs =>
        simp [NGF.StatusPrep.prepareRouteStatus, parentStatus, Function.comp_def]
    · simp [parentStatus, NGF.StatusPrep.prepareParent, toPrepRef, Function.comp_def]
    · intro x hx
      obtain ⟨p, _, rfl⟩ := List.mem_map.mp hx
      exact ⟨rfl, fun a ha => NGF.StatusPrep.convert_gen ha⟩

theorem statuses_of_served_gateway (s : Scenario) (g : Gateway) (e : Bool) (n : Int) (r : Route)
    (hw : winner s = some g) (hnd : noDupRefs s r = true) (hne : r.parents.filter (namesOurs s) ≠ []) :
    routeParentStatuses s e n r = some ((r.parents.filter (namesOurs s)).map (parentStatus s g true e n r)) :=
  ((one_entry_per_parent_fragment s g true e n r (graphGateway_of_winner hw) hnd).2 hne).1

/-- WITNESS of the excluded region (known finding C07:entries:missing:duplicate-parentref): two parentRefs naming the served
Gateway with the same section name ⇒ the route gets a status with NO parent entry -/
theorem duplicate_parentref_no_entries :
    ∃ (s : Scenario) (r : Route), noDupRefs s r = false ∧ (∃ g, winner s = some g) ∧ routeParentStatuses s false 1 r = some [] :=
  ⟨{ cls := ['n'], ctlr := ['c'], classes := [⟨['n'], ['c']⟩],
     gateways := [⟨['d'], ['g'], ['n'], 0, [⟨['l'], 80, [], true⟩]⟩], routes := [] },
   { ns := ['d'], name := ['r'], age := 1, parents := [⟨['d'], ['g'], none⟩, ⟨['d'], ['g'], none⟩], hostnames := [], rules := [],
     valid := true },
   by decide +kernel, ⟨⟨['d'], ['g'], ['n'], 0, [⟨['l'], 80, [], true⟩]⟩, by decide +kernel⟩, by decide +kernel⟩

/-- the decision core on the fragment: an entry says Accepted=True exactly when the reload succeeded, the route is valid and
the parentRef's attachment succeeded (composition of `StatusPrep.accepted_iff_attached` with `routeConds` / `attachment`) -/
theorem parent_accepted_iff (s : Scenario) (gw : Gateway) (v e : Bool) (n : Int) (r : Route) (p : Parent) :
    acceptedTrue (parentStatus s gw v e n r p) = true ↔
      e = false ∧ r.valid = true ∧ (attachment gw v r p).attached = true := by
  unfold acceptedTrue parentStatus
  rw [NGF.StatusPrep.acceptedTrue_any,
    NGF.StatusPrep.accepted_iff_attached _ _ _ (routeConds_condsFalse "Accepted" r) (toPrepRef_wf gw v r p),
    routeConds_no_accepted]
  simp [toPrepRef, and_comm]

/-- `accepted_iff_served_fragment`, graph level: the entry of parentRef `p` of a VALID route reports Accepted=True (reload ok)
⇔ `p` names the served Gateway and some listener it selects has `acceptedAt g l r ≠ []` -/
theorem accepted_iff_attached_fragment (s : Scenario) (g : Gateway) (n : Int) (r : Route) (p : Parent)
    (hg : gatewayOK g = true) (hpo : parentsOK r = true) (hp : p ∈ r.parents) (hv : r.valid = true) :
    acceptedTrue (parentStatus s g true false n r p) = true ↔
      names g p = true ∧ ∃ l ∈ g.listeners, selects p l = true ∧ acceptedAt g l r ≠ [] := by
  rw [parent_accepted_iff, ← boundListeners_ne_nil]
  simp only [hv, true_and]
  have hps := parentsOK_spec hpo hp
  have hu := listener_names_unique hg
  constructor
  · intro hne
    obtain ⟨l, hl⟩ := List.exists_mem_of_ne_nil _ hne
    obtain ⟨h1, h2, h3, h4⟩ := (bound_iff_acceptedAt hps hu hp).mp hl
    exact ⟨h2, l, h1, h3, h4⟩
  · rintro ⟨hn, l, hl, hs, ha⟩
    exact List.ne_nil_of_mem ((bound_iff_acceptedAt hps hu hp).mpr ⟨hl, hn, hs, ha⟩)

/-- an invalid route never reports Accepted=True, a failed reload neither -/
theorem invalid_route_not_accepted (s : Scenario) (gw : Gateway) (v e : Bool) (n : Int) (r : Route) (p : Parent)
    (h : r.valid = false ∨ e = true) : acceptedTrue (parentStatus s gw v e n r p) = false := by
  rw [Bool.eq_false_iff]
  intro ha
  obtain ⟨h1, h2, _⟩ := (parent_accepted_iff s gw v e n r p).mp ha
  rcases h with h | h
  · rw [h] at h2; cases h2
  · rw [h] at h1; cases h1

/-- entry level: for a valid route with at least one rule and match, the entry of parentRef `p` reports
Accepted=True ⇔ `p` names the served Gateway and, for some listener `l` it selects and some hostname `h` accepted there,
the generated configuration `gen s` has the server (`l.port`, `h`) — built by `serverOf` from `entries` — and `entries` holds
the match rule of that route's match `m` (its key, its action) for exactly that port and server name. -/
theorem accepted_iff_entries_fragment (s : Scenario) (g : Gateway) (n : Int) (r : Route) (p : Parent)
    (hw : winner s = some g) (hg : gatewayOK g = true) (hpo : parentsOK r = true) (hr : r ∈ s.routes) (hp : p ∈ r.parents)
    (hv : r.valid = true) (rule : Rule) (hrule : rule ∈ r.rules) (m : Match) (hm : m ∈ rule.ms) :
    acceptedTrue (parentStatus s g true false n r p) = true ↔
      names g p = true ∧ ∃ l ∈ g.listeners, selects p l = true ∧ ∃ h ∈ acceptedAt g l r,
        (∃ sv ∈ (Pipeline.gen s).servers, sv.port = l.port ∧ sv.name = h ∧ sv.locs = (serverOf (entries g s.routes) l.port h).locs) ∧
        ∃ e ∈ entries g s.routes, e.port = l.port ∧ e.host = h ∧ e.m = m ∧ e.key = keyOf r m ∧ e.action = rule.action := by
  rw [accepted_iff_attached_fragment s g n r p hg hpo hp hv]
  constructor
  · rintro ⟨hn, l, hl, hs, ha⟩
    obtain ⟨h, hh⟩ := List.exists_mem_of_ne_nil _ ha
    refine ⟨hn, l, hl, hs, h, hh, ⟨serverOf (entries g s.routes) l.port h, ?_, rfl, rfl, rfl⟩, ?_⟩
    · rw [servers_of_winner hw]
      exact List.mem_map.mpr ⟨(l.port, h), mem_hostsOf hl hr hv hh, rfl⟩
    · exact ⟨_, mem_entries_iff.mpr ⟨l, hl, r, hr, hv, rule, hrule, h, hh, m, hm, rfl⟩, rfl, rfl, rfl, rfl, rfl⟩
  · rintro ⟨hn, l, hl, hs, h, hh, _, _⟩
    exact ⟨hn, l, hl, hs, List.ne_nil_of_mem hh⟩

/-- `accepted_iff_served_fragment`: for every scenario of the fragment, a valid route `r` of it with a rule `rule` and a
match `m`: the entry of parentRef `p` reports Accepted=True (reload ok) ⇔ `p` names the served Gateway and, for some
listener `l` it selects and some hostname `h` accepted at `l`, the generated configuration `gen s` contains a server on
`l.port` named `h` one of whose LOCATIONS — at the match's path, or path + `/` for a prefix — carries that match with the
rule's action (as the direct action of a path-only match or as an element of the njs match list). -/
theorem accepted_iff_served_fragment (s : Scenario) (g : Gateway) (n : Int) (r : Route) (p : Parent)
    (hf : inFragment s = true) (hw : winner s = some g) (hpo : parentsOK r = true) (hr : r ∈ s.routes) (hp : p ∈ r.parents)
    (hv : r.valid = true) (rule : Rule) (hrule : rule ∈ r.rules) (m : Match) (hm : m ∈ rule.ms) :
    acceptedTrue (parentStatus s g true false n r p) = true ↔
      names g p = true ∧ ∃ l ∈ g.listeners, selects p l = true ∧ ∃ h ∈ acceptedAt g l r,
        ∃ sv ∈ (Pipeline.gen s).servers, sv.port = l.port ∧ sv.name = h ∧
          ∃ cl ∈ sv.locs, locCarries l.port cl m rule.action ∧ (cl.path = m.path ∨ cl.path = m.path ++ ['/']) := by
  obtain ⟨hg, hro⟩ := inFragment_spec hf hw
  rw [accepted_iff_entries_fragment s g n r p hw hg hpo hr hp hv rule hrule m hm]
  constructor
  · rintro ⟨hn, l, hl, hs, h, hh, ⟨sv, hsv, hport, hname, hlocs⟩, e, he, hep, heh, hem, _, hea⟩
    refine ⟨hn, l, hl, hs, h, hh, sv, hsv, hport, hname, ?_⟩
    rw [hlocs]
    have hok : ∀ x ∈ entries g s.routes, x.m.exact = false → x.m.path ≠ e.m.path ++ ['/'] :=
      fun x hx hpre => no_slash_sibling (entry_matchOK hro hx) (entry_matchOK hro he) hpre
    obtain ⟨cl, hcl, hc, hpath⟩ := serverOf_carries (entries g s.routes) l.port h e he hep heh hok
    rw [hem, hea] at hc
    rw [hem] at hpath
    exact ⟨cl, hcl, hc, hpath⟩
  · rintro ⟨hn, l, hl, hs, h, hh, _⟩
    have hne : acceptedAt g l r ≠ [] := List.ne_nil_of_mem hh
    exact (accepted_iff_entries_fragment s g n r p hw hg hpo hr hp hv rule hrule m hm).mp
      ((accepted_iff_attached_fragment s g n r p hg hpo hp hv).mpr ⟨hn, l, hl, hs, hne⟩)

/-- conversely, nothing is served behind the statuses' back: every match rule of the configuration (`entries`, from which
`gen` builds all locations) stems from a VALID route of the scenario one of whose parent entries reports Accepted=True -/
theorem served_rule_has_accepted_parent (s : Scenario) (g : Gateway) (n : Int) (hw : winner s = some g)
    (hg : gatewayOK g = true) (hs : statusOK s = true) (e : Entry) (he : e ∈ entries g s.routes) :
    ∃ r ∈ s.routes, r.valid = true ∧ e.key.ns = bytes r.ns ∧ e.key.name = bytes r.name ∧ e.key.age = r.age ∧
      ∃ p ∈ r.parents.filter (namesOurs s), acceptedTrue (parentStatus s g true false n r p) = true := by
  obtain ⟨l, hl, r, hr, hv, rule, _, h, hh, m, _, rfl⟩ := mem_entries_iff.mp he
  have hne : acceptedAt g l r ≠ [] := List.ne_nil_of_mem hh
  obtain ⟨⟨p, hp, hn, hsel⟩, _, _⟩ := acceptedAt_ne_nil.mp hne
  obtain ⟨hpo, _⟩ := statusOK_spec hs hr
  refine ⟨r, hr, hv, rfl, rfl, rfl, p, ?_, ?_⟩
  · refine List.mem_filter.mpr ⟨hp, ?_⟩
    exact List.any_eq_true.mpr ⟨g, winner_mem_ours hw, hn⟩
  · exact (accepted_iff_attached_fragment s g n r p hg hpo hp hv).mpr ⟨hn, l, hl, hsel, hne⟩

/-- ResolvedRefs=False on an entry ⇔ the route is valid and one of its forwarding rules has an invalid backendRef — the
`Backend.valid` flags `Pipeline.distOf` reads when it sends that share to `invalid-backend-ref` -/
theorem resolvedrefs_iff_fragment (s : Scenario) (gw : Gateway) (v e : Bool) (n : Int) (r : Route) (p : Parent) :
    resolvedFalse (parentStatus s gw v e n r p) = true ↔
      r.valid = true ∧ ∃ rule ∈ r.rules, ∃ bs, rule.action = .forward bs ∧ ∃ b ∈ bs, b.valid = false := by
  rw [← routeConds_resolvedRefs_iff,
    ← NGF.StatusPrep.resolvedrefs_iff (routeConds r) e (toPrepRef gw v r p) (routeConds_condsFalse "ResolvedRefs" r) (toPrepRef_wf gw v r p)]
  unfold resolvedFalse parentStatus NGF.StatusPrep.resolvedRefsFalse
  simp only [NGF.StatusPrep.prepareParent]
  rw [NGF.StatusPrep.hasCond_convert_dedup, NGF.StatusPrep.hasCond_convert_dedup]

/-- the key set of `Listener.Routes` is the set of routes with `acceptedAt g l r ≠ []` -/
theorem listenerRoutes_eq (s : Scenario) (g : Gateway) (l : Listener) (hw : winner s = some g) (hg : gatewayOK g = true)
    (hs : statusOK s = true) (hl : l ∈ g.listeners) :
    listenerRoutes s g l = s.routes.filter fun r => !(acceptedAt g l r).isEmpty := by
  unfold listenerRoutes
  apply List.filter_congr
  intro r hr
  obtain ⟨hpo, hnd⟩ := statusOK_spec hs hr
  rw [sectionNameRefs_of_noDup hnd]
  simp only
  rw [Bool.eq_iff_iff]
  have hu := listener_names_unique hg
  constructor
  · intro h
    obtain ⟨p, hp, hb⟩ := List.any_eq_true.mp h
    obtain ⟨l', hl', heq⟩ := List.any_eq_true.mp hb
    simp only [beq_iff_eq] at heq
    subst heq
    have hpr := (List.mem_filter.mp hp).1
    have := ((bound_iff_acceptedAt (parentsOK_spec hpo hpr) hu hpr).mp hl').2.2.2
    simpa [List.isEmpty_iff] using this
  · intro h
    have hne : acceptedAt g l r ≠ [] := by simpa [List.isEmpty_iff] using h
    obtain ⟨⟨p, hp, hn, hsel⟩, _, _⟩ := acceptedAt_ne_nil.mp hne
    refine List.any_eq_true.mpr ⟨p, List.mem_filter.mpr ⟨hp, List.any_eq_true.mpr ⟨g, winner_mem_ours hw, hn⟩⟩, ?_⟩
    exact List.any_eq_true.mpr ⟨l, (bound_iff_acceptedAt (parentsOK_spec hpo hp) hu hp).mpr ⟨hl, hn, hsel, hne⟩, by simp⟩

/-- `attached_count_fragment`: the listener statuses of the served Gateway are those of its listeners, in order, and
attachedRoutes(l) = number of routes with `acceptedAt g l r ≠ []` — valid or not (DESIGN §8 reading), whatever the reload did -/
theorem attached_count_fragment (s : Scenario) (g : Gateway) (e : Bool) (n : Int) (hw : winner s = some g)
    (hg : gatewayOK g = true) (hs : statusOK s = true) :
    (listenerStatuses s e n).map (fun l => (l.name, l.attachedRoutes)) =
      g.listeners.map fun l => (str l.name, (s.routes.filter fun r => !(acceptedAt g l r).isEmpty).length) := by
  unfold listenerStatuses gatewayStatus
  rw [graphGateway_of_winner hw]
  simp only [Option.map_some, NGF.StatusPrep.prepareGateway, toPrepGateway, graphListeners, if_true, List.map_map]
  apply List.map_congr_left
  intro l hl
  simp [NGF.StatusPrep.prepareListener, listenerRoutes_eq s g l hw hg hs hl]

/-- an invalid route that binds is counted although none of its rules is served -/
example : ∃ (s : Scenario) (g : Gateway), winner s = some g ∧
    (listenerStatuses s false 1).map (·.attachedRoutes) = [1] ∧ entries g s.routes = [] :=
  ⟨{ cls := ['n'], ctlr := ['c'], classes := [⟨['n'], ['c']⟩],
     gateways := [⟨['d'], ['g'], ['n'], 0, [⟨['l'], 80, [], true⟩]⟩],
     routes := [{ ns := ['d'], name := ['r'], age := 1, parents := [⟨['d'], ['g'], none⟩], hostnames := [],
                  rules := [⟨[⟨false, ['/'], [], [], []⟩], .forward []⟩], valid := false }] },
   ⟨['d'], ['g'], ['n'], 0, [⟨['l'], 80, [], true⟩]⟩, by decide +kernel, by decide +kernel, by decide +kernel⟩

/-- `no_gateway_no_status`: when no Gateway is served and the GatewayClass object is not missing (it names another
controller, or no Gateway names the class), no route parent status is issued -/
theorem no_gateway_no_status (s : Scenario) (e : Bool) (n : Int) (r : Route) (hw : winner s = none)
    (hc : classState s ≠ .missing) : routeParentStatuses s e n r = none := by
  rcases graphGateway_of_winner_none hw with h | ⟨h, _⟩
  · simp [routeParentStatuses, h]
  · exact absurd h hc

/-- … and in every case, including the missing class object (the code then builds the graph around an INVALID Gateway and
reports Accepted=False/InvalidGateway or NoMatchingParent), no entry says Accepted=True -/
theorem no_gateway_never_accepted (s : Scenario) (e : Bool) (n : Int) (r : Route) (hw : winner s = none)
    (es : List NGF.StatusPrep.ParentStatus) (h : routeParentStatuses s e n r = some es) : ∀ x ∈ es, acceptedTrue x = false := by
  rcases graphGateway_of_winner_none hw with hg | ⟨_, g, hg⟩
  · simp [routeParentStatuses, hg] at h
  · unfold routeParentStatuses at h
    simp only [hg] at h
    cases hrefs : sectionNameRefs s r with
    | none => rw [hrefs] at h; simp only [Option.some.injEq] at h; subst h; simp
    | some refs =>
      rw [hrefs] at h
      cases refs with
      | nil => simp at h
      | cons p ps =>
        simp only [Option.some.injEq] at h
        subst h
        intro x hx
        simp only [NGF.StatusPrep.prepareRouteStatus, List.map_map, List.mem_map, Function.comp] at hx
        obtain ⟨q, _, rfl⟩ := hx
        rw [Bool.eq_false_iff]
        intro ha
        have := (parent_accepted_iff s g false e n r q).mp ha
        have hat := (attachment_attached_iff.mp this.2.2).1
        cases hat

/-- WITNESS: with the class object missing, `winner s = none` and yet a status IS issued (Accepted=False/InvalidGateway) -/
theorem missing_class_status_issued :
    ∃ (s : Scenario) (r : Route), winner s = none ∧ classState s = .missing ∧
      (routeParentStatuses s false 1 r).map (fun es => es.map fun x => x.conds.map fun c => (c.type, c.status, c.reason)) =
        some [[("ResolvedRefs", "True", "ResolvedRefs"), ("Accepted", "False", "InvalidGateway")]] :=
  ⟨{ cls := ['n'], ctlr := ['c'], classes := [],
     gateways := [⟨['d'], ['g'], ['n'], 0, [⟨['l'], 80, [], true⟩]⟩], routes := [] },
   { ns := ['d'], name := ['r'], age := 1, parents := [⟨['d'], ['g'], none⟩], hostnames := [], rules := [], valid := true },
   by decide +kernel, by decide +kernel, by decide +kernel⟩

/-- WHAT THE CODE DOES (documentation; NOT a violation of C07, which does not prescribe the reason of an Accepted=False
condition — both entries truthfully say Accepted=False): the Gateway is invalid (here: no class
object), so the graph holds no listeners and `validateParentRef` looks the section name up among none: the parentRef that
names the EXISTING listener `l` is reported NoMatchingParent, the one without section name InvalidGateway -/
theorem invalid_gateway_section_reports_no_matching_parent :
    ∃ (s : Scenario) (r : Route) (g : Gateway) (l : Listener), graphGateway s = some (g, false) ∧ l ∈ g.listeners ∧
      r.parents = [⟨g.ns, g.name, some l.name⟩, ⟨g.ns, g.name, none⟩] ∧
      (routeParentStatuses s false 1 r).map (fun es => es.map fun x => x.conds.map fun c => (c.type, c.status, c.reason)) =
        some [[("ResolvedRefs", "True", "ResolvedRefs"), ("Accepted", "False", "NoMatchingParent")],
              [("ResolvedRefs", "True", "ResolvedRefs"), ("Accepted", "False", "InvalidGateway")]] :=
  ⟨{ cls := ['n'], ctlr := ['c'], classes := [],
     gateways := [⟨['d'], ['g'], ['n'], 0, [⟨['l'], 80, [], true⟩]⟩], routes := [] },
   { ns := ['d'], name := ['r'], age := 1, parents := [⟨['d'], ['g'], some ['l']⟩, ⟨['d'], ['g'], none⟩], hostnames := [],
     rules := [], valid := true },
   ⟨['d'], ['g'], ['n'], 0, [⟨['l'], 80, [], true⟩]⟩, ⟨['l'], 80, [], true⟩, by decide +kernel, by decide +kernel, rfl, by decide +kernel⟩

/-- WHAT THE CODE DOES (documentation; NOT a violation of C07, which does not prescribe the reason of an Accepted=False
condition): a parentRef to the IGNORED Gateway `y`
naming ITS listener `w` is reported NoMatchingParent (the section name is looked up among the winner's listeners); the
parentRef to `y` without section name is reported GatewayIgnored -/
theorem ignored_gateway_section_reports_no_matching_parent :
    ∃ (s : Scenario) (r : Route) (y : Gateway) (l : Listener), y ∈ ignoredGateways s ∧ l ∈ y.listeners ∧
      r.parents = [⟨y.ns, y.name, some l.name⟩, ⟨y.ns, y.name, none⟩] ∧
      (routeParentStatuses s false 1 r).map (fun es => es.map fun x => x.conds.map fun c => (c.type, c.status, c.reason)) =
        some [[("ResolvedRefs", "True", "ResolvedRefs"), ("Accepted", "False", "NoMatchingParent")],
              [("ResolvedRefs", "True", "ResolvedRefs"), ("Accepted", "False", "GatewayIgnored")]] :=
  ⟨{ cls := ['n'], ctlr := ['c'], classes := [⟨['n'], ['c']⟩],
     gateways := [⟨['d'], ['g'], ['n'], 0, [⟨['l'], 80, [], true⟩]⟩, ⟨['d'], ['y'], ['n'], 5, [⟨['w'], 8080, [], true⟩]⟩], routes := [] },
   { ns := ['d'], name := ['r'], age := 6, parents := [⟨['d'], ['y'], some ['w']⟩, ⟨['d'], ['y'], none⟩], hostnames := [],
     rules := [], valid := true },
   ⟨['d'], ['y'], ['n'], 5, [⟨['w'], 8080, [], true⟩]⟩, ⟨['w'], 8080, [], true⟩, by decide +kernel, by decide +kernel, rfl, by decide +kernel⟩

/-! ## non-vacuity: a scenario on which every hypothesis above holds and the statements have content -/

def demoMatch : Match := ⟨false, ['/', 'a'], [], [], []⟩
def demoRule : Rule := ⟨[demoMatch], .forward [⟨['t'], 1, false⟩]⟩
def demoParent : Parent := ⟨['d'], ['g'], some ['l', '0']⟩
def demoRoute : Route :=
  { ns := ['d'], name := ['r'], age := 1,
    parents := [demoParent, ⟨['x'], ['f'], none⟩, ⟨['d'], ['y'], none⟩, ⟨['d'], ['g'], some ['n', 'o']⟩],
    hostnames := [], rules := [demoRule], valid := true }

def demo : Scenario :=
  { cls := ['n'], ctlr := ['c'], classes := [⟨['n'], ['c']⟩],
    gateways := [⟨['d'], ['g'], ['n'], 0, [⟨['l', '0'], 80, [], true⟩, ⟨['l', '1'], 8080, ['a', '.', 'b'], false⟩]⟩,
                 ⟨['d'], ['y'], ['n'], 5, []⟩],
    routes := [demoRoute,
               { ns := ['e'], name := ['q'], age := 2, parents := [⟨['d'], ['g'], none⟩], hostnames := [['c', '.', 'd']],
                 rules := [], valid := true }] }

def demoGw : Gateway := ⟨['d'], ['g'], ['n'], 0, [⟨['l', '0'], 80, [], true⟩, ⟨['l', '1'], 8080, ['a', '.', 'b'], false⟩]⟩

example : winner demo = some demoGw ∧ gatewayOK demoGw = true ∧ statusOK demo = true ∧ inFragment demo = true := by
  refine ⟨by decide +kernel, by decide +kernel, by decide +kernel, by decide +kernel⟩

/-- route d/r: entries for parentRefs 0, 2, 3 (the foreign one is skipped): Accepted / GatewayIgnored / NoMatchingParent, all
ResolvedRefs=False; route e/q (other namespace): one entry, Accepted — l0 allows all namespaces and has no hostname, l1
allows its own namespace only (the values are in the `example` below) -/
def demoView : List (List (String × Bool × Bool)) :=
  demo.routes.map fun r =>
    match routeParentStatuses demo false 3 r with
    | some es => es.map fun x => (x.sectionName.getD "-", acceptedTrue x, resolvedFalse x)
    | none => []

def demoReasons : List (List String) :=
  demo.routes.map fun r =>
    match routeParentStatuses demo false 3 r with
    | some es => es.map fun x => ",".intercalate (x.conds.map fun c => c.type ++ "=" ++ c.status ++ "/" ++ c.reason)
    | none => []

example : demoView = [[("l0", true, true), ("-", false, true), ("no", false, true)], [("-", true, false)]] := by decide +kernel

example : demoReasons =
    [["Accepted=True/Accepted,ResolvedRefs=False/*", "ResolvedRefs=False/*,Accepted=False/GatewayIgnored",
      "ResolvedRefs=False/*,Accepted=False/NoMatchingParent"],
     ["Accepted=True/Accepted,ResolvedRefs=True/ResolvedRefs"]] := by decide +kernel

example : (listenerStatuses demo false 1).map (fun l => (l.name, l.attachedRoutes)) = [("l0", 2), ("l1", 0)] := by decide +kernel

/-- `accepted_iff_served_fragment` applied to `demo`: every hypothesis holds, the entry of parentRef 0 of route d/r says
Accepted=True, hence `gen demo` has a server on port 80 with a location for `/a` (here `/a/`) carrying the match -/
example : ∃ sv ∈ (Pipeline.gen demo).servers, sv.port = 80 ∧
    ∃ cl ∈ sv.locs, locCarries 80 cl demoMatch demoRule.action ∧ (cl.path = ['/', 'a'] ∨ cl.path = ['/', 'a', '/']) := by
  have h := (accepted_iff_served_fragment demo demoGw 1 demoRoute demoParent (by decide +kernel) (by decide +kernel) (by decide +kernel)
    List.mem_cons_self List.mem_cons_self rfl demoRule List.mem_cons_self demoMatch List.mem_cons_self).mp (by decide +kernel)
  obtain ⟨_, l, hl, hsel, h', _, sv, hsv, hport, _, cl, hcl, hc, hpath⟩ := h
  have hl0 : l.port = 80 := by
    have : l = ⟨['l', '0'], 80, [], true⟩ ∨ l = ⟨['l', '1'], 8080, ['a', '.', 'b'], false⟩ := by simpa [demoGw] using hl
    rcases this with rfl | rfl
    · rfl
    · exact absurd hsel (by decide +kernel)
  rw [hl0] at hport hc
  exact ⟨sv, hsv, hport, cl, hcl, hc, hpath⟩

/-- the conditions binding writes are the ones the model writes (`NGF.Generated.ConditionFacts`: constructor table of
`state/conditions`, constants resolved from gateway-api) -/
theorem facts_binding_conditions :
    NGF.StatusPrep.lookup "NewRouteNoMatchingParent" = some [noMatchingParent] ∧
    NGF.StatusPrep.lookup "NewRouteNotAcceptedGatewayIgnored" = some [gatewayIgnored] ∧
    NGF.StatusPrep.lookup "NewRouteInvalidGateway" = some [invalidGateway] ∧
    NGF.StatusPrep.lookup "NewRouteInvalidListener" = some [invalidListener] ∧
    NGF.StatusPrep.lookup "NewRouteNotAllowedByListeners" = some [notAllowedByListeners] ∧
    NGF.StatusPrep.lookup "NewRouteNoMatchingListenerHostname" = some [noMatchingListenerHostname] ∧
    NGF.StatusPrep.lookup "NewRouteUnsupportedValue" = some [routeUnsupportedValue] ∧
    NGF.StatusPrep.lookup "NewGatewayInvalid" = some gatewayInvalid :=
  have ⟨_, _, _, _, h1, h2, h3, h4, h5, h6, h7, _⟩ := NGF.StatusPrep.route_policy_constructors
  have ⟨_, _, _, _, _, hgw, _⟩ := NGF.StatusPrep.gateway_constructors
  ⟨h1, h2, h3, h4, h5, h6, h7, hgw⟩

/-- every backendRef failure is ResolvedRefs=False (the reason is what the model leaves open) -/
theorem facts_backendref_conditions :
    (["NewRouteBackendRefInvalidKind", "NewRouteBackendRefRefBackendNotFound", "NewRouteBackendRefRefNotPermitted",
      "NewRouteBackendRefUnsupportedValue"].all fun n =>
      match NGF.StatusPrep.lookup n with
      | some [c] => c.type = refsUnresolved.type && c.status = refsUnresolved.status
      | _ => false) = true := by
  have ⟨_, _, _, _, _, _, _, _, _, _, _, _, h⟩ := NGF.StatusPrep.route_policy_constructors
  rw [← h]
  exact List.all_congr rfl fun n => by rcases NGF.StatusPrep.lookup n with _ | _ | ⟨c, _ | _⟩ <;> simp

section bodies
open NGF.Generated.Binding

/-- which Gateway the graph is built for: `processGatewayClasses`, the head of `BuildGraph` (class exists but is not ours ⇒
empty graph), `processGateways` / `GetAllNsNames`, `buildGateway` / `validateGateway` — mirrored by `classState`, `ours`,
`graphGateway` -/
theorem facts_binding_gateway_bodies :
    processGatewayClassesBody = Expected.processGatewayClassesBody ∧ buildGraphHead = Expected.buildGraphHead ∧
    processGatewaysBody = Expected.processGatewaysBody ∧ getAllNsNamesBody = Expected.getAllNsNamesBody ∧
    buildGatewayBody = Expected.buildGatewayBody ∧ validateGatewayBody = Expected.validateGatewayBody :=
  ⟨rfl, rfl, rfl, rfl, rfl, rfl⟩

/-- `buildSectionNameRefs` / `findGatewayForParentRef` (→ `sectionNameRefs`, `namesOurs`), `validateParentRef` /
`findAttachableListeners` / `bindL7RouteToListeners` / `tryToAttachL7RouteToListeners` (→ `attachment`, `attachable`,
`bindOne`, `tryAttach`, `boundListeners`) -/
theorem facts_binding_parentref_bodies :
    buildSectionNameRefsBody = Expected.buildSectionNameRefsBody ∧
    findGatewayForParentRefBody = Expected.findGatewayForParentRefBody ∧
    validateParentRefBody = Expected.validateParentRefBody ∧
    findAttachableListenersBody = Expected.findAttachableListenersBody ∧
    bindL7RouteToListenersBody = Expected.bindL7RouteToListenersBody ∧
    tryToAttachL7RouteToListenersBody = Expected.tryToAttachL7RouteToListenersBody :=
  ⟨rfl, rfl, rfl, rfl, rfl, rfl⟩

/-- route validity and route-wide conditions (`buildHTTPRoute`, `processHTTPRouteRules`, `addBackendRefsToRules` → `routeConds`)
and the shape of `PrepareRouteRequests` (→ `routeParentStatuses`) -/
theorem facts_binding_route_bodies :
    buildHTTPRouteBody = Expected.buildHTTPRouteBody ∧ processHTTPRouteRulesBody = Expected.processHTTPRouteRulesBody ∧
    addBackendRefsToRulesBody = Expected.addBackendRefsToRulesBody ∧
    prepareRouteRequestsBody = Expected.prepareRouteRequestsBody :=
  ⟨rfl, rfl, rfl, rfl⟩

/-- policy ancestors of Service-targeting policies: `Graph.attachPolicies`, `attachPolicyToService` (with the
`ancestorsContainsAncestorRef` test in BOTH branches), `ancestorsContainsAncestorRef` — mirrored by `NGF.Model.PolicyAttach` -/
theorem facts_policy_attach_bodies :
    attachPoliciesBody = Expected.attachPoliciesBody ∧ attachPolicyToServiceBody = Expected.attachPolicyToServiceBody ∧
    ancestorsContainsAncestorRefBody = Expected.ancestorsContainsAncestorRefBody ∧
    NGF.StatusPrep.lookup "NewPolicyTargetNotFound" = some [NGF.PolicyAttach.targetNotFound] :=
  ⟨rfl, rfl, rfl, NGF.StatusPrep.route_policy_constructors.2.2.2.1⟩

end bodies

end NGF.PipelineStatus
